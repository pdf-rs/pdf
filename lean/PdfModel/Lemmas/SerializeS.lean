import PdfModel.Lemmas.ParserS
import PdfModel.Lemmas.Serialize

/-! The writer only produces conformant spellings — also for values with stream objects anywhere (`SpellsS`). -/

namespace PdfLex
open PdfSyntax (Gap Bnd NatTok Spells SpellsS SpellsElemsS SpellsEntriesS needsBnd Reads LengthOK
  WF WFL WFE vdepth need keysOf)

variable {R : Type}

mutual
/-- every value of the object model whose numbers fit their Rust types, whose reals satisfy the `f32` text
    hypotheses and whose streams (anywhere) are `Pending` with a `/Length` that is the length of their data -/
def Storable (fmt : R → List UInt8) (env : Env R) : Prim R → Prop
  | .int i => -2147483648 ≤ i ∧ i ≤ 2147483647
  | .real r => PdfSyntax.RealTok (serializeReal (fmt r)) ∧ env.parseReal (serializeReal (fmt r)) = some r
  | .ref id gen => id ≤ 18446744073709551615 ∧ gen ≤ 18446744073709551615
  | .arr xs => StorableL fmt env xs
  | .dict kvs => StorableE fmt env kvs
  | .stream info inner => ∃ data, inner = .pending data ∧ StorableE fmt env info ∧ LengthOK env info data.length
  | _ => True
def StorableL (fmt : R → List UInt8) (env : Env R) : List (Prim R) → Prop
  | [] => True
  | x :: xs => Storable fmt env x ∧ StorableL fmt env xs
def StorableE (fmt : R → List UInt8) (env : Env R) : List (List UInt8 × Prim R) → Prop
  | [] => True
  | (_, v) :: rest => Storable fmt env v ∧ StorableE fmt env rest
end

theorem serialisable_of_atom (fmt : R → List UInt8) (env : Env R) {v : Prim R} (hv : isAtomP v = true)
    (h : Storable fmt env v) : Serialisable fmt env.parseReal v := by
  cases v with
  | arr _ | dict _ | stream _ _ => cases hv
  | _ => simp only [Storable, Serialisable] at h ⊢ <;> exact h

theorem bnd_trail_sep (trail sep r : List UInt8) (h3 : trail = [] ∨ trail = [10]) (hs : sep = [] ∨ sep = [32])
    (hr : sep = [] → Bnd r) : Bnd ((trail ++ sep) ++ r) := by
  rcases h3 with rfl | rfl
  · rcases hs with rfl | rfl
    · simpa using hr rfl
    · simp [Bnd]; decide
  · simp [Bnd]; decide

mutual

theorem serialize_spellsS (fmt : R → List UInt8) (env : Env R) (v : Prim R) :
    Storable fmt env v → ∃ txt trail, serialize fmt v = .ok (txt ++ trail) ∧ SpellsS env v txt ∧
      (trail = [] ∨ trail = [10]) := by
  intro h
  have atom : isAtomP v = true →
      ∃ txt trail, serialize fmt v = .ok (txt ++ trail) ∧ SpellsS env v txt ∧ (trail = [] ∨ trail = [10]) := by
    intro hv
    obtain ⟨txt, trail, h1, h2, h3, _⟩ := serialize_spells fmt env.parseReal v (serialisable_of_atom fmt env hv h)
    exact ⟨txt, trail, h1, (spellsS_atom env hv txt).mpr h2, h3⟩
  cases v with
  | null => exact atom rfl
  | bool b => exact atom rfl
  | str s => exact atom rfl
  | name s => exact atom rfl
  | int i => exact atom rfl
  | real r => exact atom rfl
  | ref a b => exact atom rfl
  | arr xs =>
    simp only [Storable] at h
    obtain ⟨r, hr, hs⟩ := serializeList_spellsS fmt env xs h true
    refine ⟨91 :: r, [], ?_, ?_, Or.inl rfl⟩
    · simp [serialize, hs]
    · simp only [SpellsS]; exact ⟨[], r, rfl, Gap.nil, hr⟩
  | dict kvs =>
    simp only [Storable] at h
    obtain ⟨d, hd, hs⟩ := serializeEntries_spellsS fmt env kvs h
    refine ⟨60 :: 60 :: ([10] ++ (d ++ [62, 62])), [10], ?_, ?_, Or.inr rfl⟩
    · simp [serialize, hs]
    · simp only [SpellsS]; exact ⟨[10], d ++ [62, 62], rfl, Gap.ws 10 [] (by decide) Gap.nil, hd⟩
  | stream info inner =>
    simp only [Storable] at h
    obtain ⟨data, rfl, hinfo, hlen⟩ := h
    obtain ⟨d, hd, hs⟩ := serializeEntries_spellsS fmt env info hinfo
    have hnl : Gap [10] := Gap.ws 10 [] (by decide) Gap.nil
    refine ⟨60 :: 60 :: ([10] ++ (d ++ [62, 62]) ++ [10] ++ kwStream ++ [10] ++ data ++ [10] ++ kwEndstream),
      [10], ?_, ?_, Or.inr rfl⟩
    · simp [serialize, hs]
    · simp only [SpellsS]
      exact ⟨data, rfl, [10], d ++ [62, 62], [10], [10], [10], rfl, hnl, hd, hnl, Or.inl rfl, hnl, hlen⟩

theorem serializeList_spellsS (fmt : R → List UInt8) (env : Env R) (xs : List (Prim R)) :
    StorableL fmt env xs → ∀ (first : Bool), ∃ r, SpellsElemsS env xs r ∧
      serializeList fmt xs first = .ok ((if first || xs.isEmpty then [] else [32]) ++ r) := by
  intro h first
  cases xs with
  | nil => exact ⟨[93], by simp [SpellsElemsS], by simp [serializeList]⟩
  | cons x xs =>
    simp only [StorableL] at h
    obtain ⟨tx, trail, h1, h2, h3⟩ := serialize_spellsS fmt env x h.1
    obtain ⟨r', hr', hs'⟩ := serializeList_spellsS fmt env xs h.2 false
    refine ⟨tx ++ (trail ++ (if xs.isEmpty then [] else [32])) ++ r', ?_, ?_⟩
    · simp only [SpellsElemsS]
      refine ⟨tx, trail ++ (if xs.isEmpty then [] else [32]), r', rfl, h2, ?_, hr', ?_⟩
      · apply gap_append (gap_trail h3)
        split
        · exact Gap.nil
        · exact Gap.ws 32 [] (by decide) Gap.nil
      · intro _
        apply bnd_trail_sep trail _ r' h3
        · split
          · exact Or.inl rfl
          · exact Or.inr rfl
        · intro he
          cases xs with
          | nil => simp only [SpellsElemsS] at hr'; subst hr'; simp [Bnd]; decide
          | cons y ys => simp at he
    · simp only [serializeList, h1, Out.bind_ok, hs']
      cases first <;> simp

theorem serializeEntries_spellsS (fmt : R → List UInt8) (env : Env R) (kvs : List (List UInt8 × Prim R)) :
    StorableE fmt env kvs → ∃ d, SpellsEntriesS env kvs (d ++ [62, 62]) ∧ serializeEntries fmt kvs = .ok d := by
  intro h
  cases kvs with
  | nil => exact ⟨[], by simp [SpellsEntriesS], by simp [serializeEntries]⟩
  | cons kv kvs =>
    obtain ⟨k, v⟩ := kv
    simp only [StorableE] at h
    obtain ⟨tv, trail, h1, h2, h3⟩ := serialize_spellsS fmt env v h.1
    obtain ⟨d', hd', hs'⟩ := serializeEntries_spellsS fmt env kvs h.2
    refine ⟨serializeName k ++ [32] ++ (tv ++ trail) ++ [10] ++ d', ?_, ?_⟩
    · simp only [SpellsEntriesS]
      refine ⟨k.flatMap nameEscape, [32], tv, trail ++ [10], d' ++ [62, 62], by simp [serializeName], serializeName_body k,
        Gap.ws 32 [] (by decide) Gap.nil, by simp [Bnd]; decide, h2, ?_, hd', ?_⟩
      · exact gap_append (gap_trail h3) (Gap.ws 10 [] (by decide) Gap.nil)
      · intro _
        rcases h3 with rfl | rfl <;> (simp [Bnd]; decide)
    · simp only [serializeEntries, h1, Out.bind_ok, hs']

end


/-! ### `Serialisable` values are `Storable` values without streams -/

mutual
theorem storable_of_serialisable (fmt : R → List UInt8) (env : Env R) :
    ∀ v : Prim R, Serialisable fmt env.parseReal v → Storable fmt env v ∧ noStreams v = true
  | .stream info inner => fun h => by simp [Serialisable] at h
  | .arr xs => fun h => by
      simp only [Serialisable] at h; simpa [Storable, noStreams] using storableL_of_serialisable fmt env xs h
  | .dict kvs => fun h => by
      simp only [Serialisable] at h; simpa [Storable, noStreams] using storableE_of_serialisable fmt env kvs h
  | .null => fun _ => ⟨trivial, rfl⟩
  | .int i => fun h => ⟨h, rfl⟩
  | .real r => fun h => ⟨h, rfl⟩
  | .bool b => fun _ => ⟨trivial, rfl⟩
  | .str s => fun _ => ⟨trivial, rfl⟩
  | .ref a b => fun h => ⟨h, rfl⟩
  | .name n => fun _ => ⟨trivial, rfl⟩
theorem storableL_of_serialisable (fmt : R → List UInt8) (env : Env R) :
    ∀ xs : List (Prim R), SerialisableL fmt env.parseReal xs → StorableL fmt env xs ∧ noStreamsL xs = true
  | [] => fun _ => by simp [StorableL, noStreamsL]
  | x :: xs => fun h => by
      simp only [SerialisableL] at h
      have h1 := storable_of_serialisable fmt env x h.1
      have h2 := storableL_of_serialisable fmt env xs h.2
      simp [StorableL, noStreamsL, h1.1, h1.2, h2.1, h2.2]
theorem storableE_of_serialisable (fmt : R → List UInt8) (env : Env R) :
    ∀ kvs : List (List UInt8 × Prim R), SerialisableE fmt env.parseReal kvs → StorableE fmt env kvs ∧ noStreamsE kvs = true
  | [] => fun _ => by simp [StorableE, noStreamsE]
  | (k, v) :: rest => fun h => by
      simp only [SerialisableE] at h
      have h1 := storable_of_serialisable fmt env v h.1
      have h2 := storableE_of_serialisable fmt env rest h.2
      simp [StorableE, noStreamsE, h1.1, h1.2, h2.1, h2.2]
end

end PdfLex
