import PdfModel.Lemmas.Parser
import PdfModel.Spec.ContentSyntax

/-! C08 byte level: what the lexer / object parser of the shared models do at the two places of a content
    stream that are not objects: after the last token (nothing but white-space and comments: `EOF`) and at an
    operator keyword (`parse_with_lexer` fails, without a panic, and leaves the position alone). -/

namespace PdfLex
open PdfSyntax (Gap Bnd)

variable {R : Type}

/-- nothing but a gap up to the end of the buffer: the skipping part of `next_word` reports EOF -/
theorem skip_gap_end {buf : Buf} (g : List UInt8) (hg : Gap g) :
    ∀ (pos fuel : Nat), Suffix buf pos g → g.length ≤ fuel →
    (skipWhitespace buf pos).bind (fun p0 => skipComments buf fuel p0) = .err := by
  induction hg with
  | nil =>
    intro pos fuel h _
    rw [skipWhitespace_nil h]; rfl
  | ws b g hb hg ih =>
    intro pos fuel h hf
    rw [skipWhitespace_ws h (by rw [isWhitespace_eq]; exact hb)]
    exact ih (pos + 1) fuel h.tail (by simp at hf; omega)
  | comment body e g hbody he hg ih =>
    intro pos fuel h hf
    have h' : Suffix buf pos (37 :: (body ++ e :: g)) := by simpa using h
    rw [skipWhitespace_stop h' (by decide)]
    simp only [Out.bind_ok]
    cases fuel with
    | zero => simp at hf
    | succ fuel =>
      have hlt := h'.lt
      simp only [skipComments, h'.get0, beq_self_eq_true, if_true]
      rw [if_neg (by omega)]
      rw [findEol_body body e g (pos + 1) h'.tail hbody he]
      simp only []
      have h2 : Suffix buf (pos + 1 + body.length + 1) g := by
        have := Suffix.drop (buf := buf) (pos := pos + 1) (a := body ++ [e]) (s := g) (by simpa using h'.tail)
        simpa [Nat.add_assoc] using this
      exact ih (pos + 1 + body.length + 1) fuel h2 (by simp at hf; omega)

theorem next_gap_end {buf : Buf} (g : List UInt8) (hg : Gap g) (pos : Nat) (h : Suffix buf pos g) :
    next buf pos = .err := by
  unfold next nextWord
  by_cases he : pos = buf.size
  · simp [he]
  · have : (pos == buf.size) = false := by simpa using he
    rw [this]
    simp only [Bool.false_eq_true, if_false]
    unfold tokenStart
    rw [skip_gap_end g hg pos buf.size h (by have := h.size_eq; omega)]
    rfl

/-- at the end of the data (white-space and comments only) `parse_with_lexer` fails: `Err`, no panic -/
theorem parseWithLexer_gap_end (env : Env R) {buf : Buf} (g : List UInt8) (hg : Gap g) (pos : Nat)
    (h : Suffix buf pos g) (fuel flags : Nat) (hf : 2 ≤ fuel) :
    parseWithLexer env buf fuel pos flags = .err := by
  obtain ⟨f, rfl⟩ : ∃ f, fuel = f + 2 := ⟨fuel - 2, by omega⟩
  unfold parseWithLexer
  simp only [parseCtx, parseInner, remainingStart_ok h.le, Out.bind_ok, next_gap_end g hg pos h, Out.bind_err]
  rw [setPos_ok h.le h.le]
  rfl


theorem readN_returns {buf : Buf} (p n : Nat) (hp : p ≤ buf.size) (hpos : 0 < buf.size) (hsz : buf.size ≤ 2147483647)
    (hn : n ≤ 2147483647) : ∃ r, readN buf p n = .ok r := by
  unfold readN
  have m : min (p + n) usizeMax = p + n := Nat.min_eq_left (by unfold usizeMax; omega)
  rw [m]
  by_cases h2 : p + n ≥ buf.size
  · simp only [h2, if_true]
    by_cases h4 : p < buf.size
    · simp only [h4, if_true]
      unfold newSubstr
      have : ¬ (p > buf.size - 1) := by omega
      have h5 : ¬ (buf.size < buf.size - 1) := by omega
      simp [this, h5, Out.bind]
    · simp only [h4, if_false]
      unfold newSubstr
      simp [Out.bind]
  · simp only [h2, if_false]
    have h4 : p < buf.size := by omega
    simp only [h4, if_true]
    unfold newSubstr
    have : ¬ (p > p + n) := by omega
    have h5 : ¬ (buf.size < p + n) := by omega
    simp [this, h5, Out.bind]

theorem head_ne_beq {b d : UInt8} (t l : List UInt8) (h : b ≠ d) : ((b :: t) == (d :: l)) = false := by
  simp [h]

/-- the bytes that open a dictionary or hexadecimal string, a name, an array, a literal string are delimiters -/
theorem regular_not_delims (b : UInt8) (h : isRegular b = true) : b ≠ 60 ∧ b ≠ 47 ∧ b ≠ 91 ∧ b ≠ 40 := by
  refine ⟨?_, ?_, ?_, ?_⟩ <;> (rintro rfl; exact absurd h (by decide))

open ContentSyntax in
/-- what `kwOK` says, clause by clause -/
theorem kwOK_spec {t : List UInt8} (h : kwOK t = true) :
    t ≠ [] ∧ (∀ b ∈ t, isRegular b = true) ∧ isInteger t = false ∧ realNumber t = none ∧ t ≠ [82] ∧
      t ≠ PdfSyntax.kwStream ∧ t ≠ PdfSyntax.kwTrue ∧ t ≠ PdfSyntax.kwFalse ∧ t ≠ PdfSyntax.kwNull ∧
      t ≠ ContentBytes.kwBI := by
  simp only [kwOK, Bool.and_eq_true, Bool.not_eq_true', List.all_eq_true, bne_iff_ne, ne_eq,
    Option.isNone_iff_eq_none, List.isEmpty_eq_false_iff] at h
  obtain ⟨⟨⟨⟨⟨⟨⟨⟨⟨hne, hreg⟩, hint⟩, hreal⟩, hR⟩, hS⟩, hT⟩, hF⟩, hN⟩, hBI⟩ := h
  exact ⟨hne, hreg, hint, hreal, hR, hS, hT, hF, hN, hBI⟩

open ContentSyntax in
/-- at an operator keyword `parse_with_lexer` fails with `Err` (the `UnknownType` arm; no panic), the lexer is
    where it was, and `next` returns the keyword -/
theorem parseWithLexer_keyword (env : Env R) {buf : Buf} (g t rest : List UInt8) (pos : Nat) (hg : Gap g)
    (hs : Suffix buf pos (g ++ t ++ rest)) (hk : kwOK t = true) (hb : Bnd rest) (hsz : buf.size ≤ 2147483647)
    (fuel : Nat) (hf : 2 ≤ fuel) :
    parseWithLexer env buf fuel pos Flags.any = .err ∧
    next buf pos = .ok (pos + g.length, pos + g.length + t.length) ∧
    slice buf (pos + g.length) (pos + g.length + t.length) = t := by
  obtain ⟨hne, hreg, hint, hreal, hR, hS, hT, hF, hN, hBI⟩ := kwOK_spec hk
  obtain ⟨hn, hsl⟩ := next_regular g t rest pos hg hs hne hreg hb
  refine ⟨?_, hn, hsl⟩
  obtain ⟨f, rfl⟩ : ∃ f, fuel = f + 2 := ⟨fuel - 2, by omega⟩
  have hend : pos + g.length + t.length ≤ buf.size := by
    have := hs.size_eq; simp at this; omega
  have hpos : 0 < buf.size := by
    cases t with
    | nil => exact absurd rfl hne
    | cons b t' => simp at hend; omega
  obtain ⟨b0, t', rfl⟩ : ∃ b0 t', t = b0 :: t' := by
    cases t with
    | nil => exact absurd rfl hne
    | cons b t' => exact ⟨b, t', rfl⟩
  obtain ⟨d60, d47, d91, d40⟩ := regular_not_delims b0 (hreg b0 (by simp))
  obtain ⟨r, hr⟩ := readN_returns (buf := buf) (pos + g.length + (b0 :: t').length) 50 hend hpos hsz (by decide)
  unfold parseWithLexer
  simp only [parseCtx, parseInner, remainingStart_ok hs.le, Out.bind_ok, hn, hsl]
  have c1 : ((b0 :: t') == [60, 60]) = false := head_ne_beq _ _ d60
  have c2 : ((b0 :: t').head? == some 47) = false := by simp [d47]
  have c3 : ((b0 :: t') == [91]) = false := head_ne_beq _ _ d91
  have c4 : ((b0 :: t') == [40]) = false := head_ne_beq _ _ d40
  have c5 : ((b0 :: t') == [60]) = false := head_ne_beq _ _ d60
  have c6 : ((b0 :: t') == kwTrue) = false := by simpa [kwTrue, PdfSyntax.kwTrue] using hT
  have c7 : ((b0 :: t') == kwFalse) = false := by simpa [kwFalse, PdfSyntax.kwFalse] using hF
  have c8 : ((b0 :: t') == kwNull) = false := by simpa [kwNull, PdfSyntax.kwNull] using hN
  simp only [c1, hint, hreal, c2, c3, c4, c5, c6, c7, c8, Bool.false_eq_true, if_false, hr, Out.bind_ok]
  rw [setPos_ok hs.le hs.le]
  rfl

end PdfLex
