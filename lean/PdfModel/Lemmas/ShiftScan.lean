import PdfModel.Model.ScanLoop
import PdfModel.Lemmas.SuffixConcrete

/-! The item loop of `Storage::scan` (`Model/ScanLoop.lean`) under a change of the lexer's file offset, and
    `scanC` under a prefix. -/

namespace ScanLoop
open PdfLex PdfShift XrefTable Offsets

variable {R : Type}

/-- move every `file_range` inside an item by `k` -/
def shiftItem (k : Nat) : Item R → Item R
  | .obj id gen v => .obj id gen (shiftR k v)
  | .trailer d => .trailer (shiftRE k d)
  | .error => .error

def mapStep (k : Nat) (r : Option (Item R) × Nat) : Option (Item R) × Nat := (r.1.map (shiftItem k), r.2)

theorem trailerDict_offset (env : Env R) (k : Nat) (buf : Buf) (pfuel pos : Nat) :
    trailerDict (env.shiftOffset k) buf pfuel pos = omap (mapD k) (trailerDict env buf pfuel pos) := by
  unfold trailerDict parseWithLexer
  rw [parseCtx_offset]
  cases parseCtx env buf pfuel pos none Flags.dict maxDepth with
  | ok r =>
    obtain ⟨v, q⟩ := r
    cases v with
    | dict d => simp [omap, mapV, mapD, shiftR]
    | stream info inner => cases inner <;> simp [omap, mapV, shiftR]
    | _ => simp [omap, mapV, shiftR]
  | _ => rfl

theorem step_offset (env : Env R) (k : Nat) (buf : Buf) (pfuel : Nat) : ∀ (fuel pos : Nat),
    step (env.shiftOffset k) buf pfuel fuel pos = omap (mapStep k) (step env buf pfuel fuel pos) := by
  intro fuel
  induction fuel with
  | zero => intro pos; rfl
  | succ fuel ih =>
    intro pos
    simp only [step]
    rw [parseIndirectObject_offset]
    cases parseIndirectObject env buf pfuel pos 1023 with
    | ok r =>
      obtain ⟨⟨⟨id, gen⟩, v⟩, q⟩ := r
      rfl
    | panic => rfl
    | oof => rfl
    | err =>
      simp only [omap]
      split
      · rfl
      · cases next buf pos with
        | ok w =>
          simp only
          split
          · cases skipXref buf (buf.size + 1) w.2 with
            | ok q =>
              simp only
              rw [trailerDict_offset]
              cases trailerDict env buf pfuel q with
              | ok dq => obtain ⟨d, q2⟩ := dq; rfl
              | _ => rfl
            | _ => rfl
          · split
            · cases next buf w.2 with
              | ok w2 => exact ih w2.2
              | _ => rfl
            · rfl
        | _ => rfl

theorem items_offset (env : Env R) (k : Nat) (buf : Buf) (pfuel : Nat) : ∀ (fuel pos : Nat),
    items (env.shiftOffset k) buf pfuel fuel pos = omap (List.map (shiftItem k)) (items env buf pfuel fuel pos) := by
  intro fuel
  induction fuel with
  | zero => intro pos; rfl
  | succ fuel ih =>
    intro pos
    simp only [items]
    rw [step_offset]
    cases step env buf pfuel (buf.size + 2) pos with
    | ok r =>
      obtain ⟨it, q⟩ := r
      cases it with
      | none => rfl
      | some it =>
        simp only [omap, mapStep, Option.map_some]
        rw [ih q]
        cases items env buf pfuel fuel q <;> rfl
    | _ => rfl

/-- **`scan` under a prefix, concrete.** The same slice is scanned; the lexer offset is the header position,
    so every stream range the items carry is `p.length` further on and nothing else changes. -/
theorem scanC_append (env : Env R) (p f : List UInt8) (s k : Nat) (hfit : Fits p f)
    (hk : OffLex.findLast startxrefKw (f.take (f.length - 1)) = some k) :
    scanC env (p ++ f) (p.length + s) = omap (List.map (shiftItem p.length)) (scanC env f s) := by
  unfold Fits at hfit
  unfold scanC
  rw [locateXrefC_append p f k hk]
  cases locateXrefC f with
  | ok x =>
    simp only [checkedAdd]
    by_cases h1 : s + x > OffLex.usizeMax
    · have h2 : p.length + s + x > OffLex.usizeMax := by omega
      simp [h1, h2, omap]
    · by_cases h2 : p.length + s + x > OffLex.usizeMax
      · have : ¬ (s + x ≤ f.length) := by omega
        simp [h1, h2, readRange, this, omap]
      · simp only [h1, h2, if_false]
        rw [Nat.add_assoc, readRange_append]
        cases readRange f s (s + x) with
        | ok sl =>
          simp only
          have e : ({ env with fileOffset := p.length + s } : Env R) = ({ env with fileOffset := s } : Env R).shiftOffset p.length := by
            simp [Env.shiftOffset, Nat.add_comm]
          rw [e, items_offset]
        | _ => rfl
  | _ => rfl

end ScanLoop
