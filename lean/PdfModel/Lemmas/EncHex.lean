import PdfModel.Lemmas.EncBasic

/-! ASCIIHex: per-byte facts (checked by kernel evaluation over all 256 bytes) and the digit loop. -/

namespace Enc
open Codecs

theorem hexWs_eq_isWs : hexWs = isWs := rfl
theorem ws85_eq_isWs : ws85 = isWs := rfl

theorem digit_sweep : ∀ n : UInt8,
    (n < 10 → decodeNibble (48 + n) = some n ∧ isWs (48 + n) = false ∧ (48 + n != 62) = true) ∧
    (10 ≤ n → n < 16 → (decodeNibble (87 + n) = some n ∧ isWs (87 + n) = false ∧ (87 + n != 62) = true) ∧
      (decodeNibble (55 + n) = some n ∧ isWs (55 + n) = false ∧ (55 + n != 62) = true)) := by decide +kernel

/-- a hexadecimal digit `c` of value `n`: `decode_nibble` returns `n`, and `c` is neither white-space nor the EOD marker -/
theorem digitFacts {c n : UInt8} (h : IsHexDigit c n) : decodeNibble c = some n ∧ isWs c = false ∧ (c != 62) = true := by
  rcases h with ⟨h1, rfl⟩ | ⟨h1, h2, rfl | rfl⟩
  · exact (digit_sweep n).1 h1
  · exact ((digit_sweep n).2 h1 h2).1
  · exact ((digit_sweep n).2 h1 h2).2

theorem decodeNibble_of_isHexDigit {c n : UInt8} (h : IsHexDigit c n) : decodeNibble c = some n := (digitFacts h).1

theorem isHexDigit_clean {c n : UInt8} (h : IsHexDigit c n) : isWs c = false ∧ (c != 62) = true := (digitFacts h).2

/-- the two nibbles of a byte -/
theorem nibbles : ∀ b : UInt8, b >>> 4 < 16 ∧ b &&& 15 < 16 ∧ ((b >>> 4) <<< 4 ||| (b &&& 15)) = b := by decide +kernel

theorem hi_lt (b : UInt8) : b >>> 4 < 16 := (nibbles b).1
theorem lo_lt (b : UInt8) : b &&& 15 < 16 := (nibbles b).2.1
theorem byte_join (b : UInt8) : ((b >>> 4) <<< 4 ||| (b &&& 15)) = b := (nibbles b).2.2
theorem nibble_zero : decodeNibble 48 = some 0 := by decide

theorem ws_not_gt (c : UInt8) (h : isWs c = true) : (c != 62) = true := by
  rw [bne_iff_ne]; rintro rfl; exact absurd h (by decide)

theorem hexPair_of_digits {h l b : UInt8} (hh : IsHexDigit h (b >>> 4)) (hl : IsHexDigit l (b &&& 15)) :
    hexPair h l = .ok b := by
  simp [hexPair, decodeNibble_of_isHexDigit hh, decodeNibble_of_isHexDigit hl, byte_join]

theorem hexBody_clean {bs body : Bytes} (h : HexBody bs body) :
    ∀ c ∈ body, isWs c = false ∧ (c != 62) = true := by
  induction h with
  | nil => intro c hc; simp at hc
  | byte hh hl _ ih =>
    intro c hc
    simp only [List.mem_cons] at hc
    rcases hc with rfl | rfl | hc
    · exact isHexDigit_clean hh
    · exact isHexDigit_clean hl
    · exact ih c hc
  | oddLast hh _ =>
    intro c hc
    simp only [List.mem_cons, List.not_mem_nil, or_false] at hc
    subst hc
    exact isHexDigit_clean hh

theorem decodeHexDigits_of_body {bs body : Bytes} (h : HexBody bs body) : decodeHexDigits body = .ok bs := by
  induction h with
  | nil => rfl
  | byte hh hl _ ih =>
    simp [decodeHexDigits, hexPair_of_digits hh hl, ih]
  | @oddLast b h hh hz =>
    have h0 : IsHexDigit 48 (b &&& 15) := by
      left; rw [hz]; decide
    simp [decodeHexDigits, hexPair_of_digits hh h0]

end Enc
