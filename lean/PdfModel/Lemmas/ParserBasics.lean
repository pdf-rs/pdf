import PdfModel.Lemmas.Lexer
import PdfModel.Lemmas.Numbers
import PdfModel.Lemmas.Names
import PdfModel.Lemmas.Strings
import PdfModel.Model.Parser

/-! Building blocks for the parser theorems: bounds of lexemes, `set_pos`, flags, gaps as boundaries,
    the integer / reference branch. -/

namespace PdfLex
open PdfSyntax (Gap Bnd NatTok IntTok)

theorem newSubstr_bounds {buf : Buf} {a b : Nat} {w : Nat × Nat} (h : newSubstr buf a b = .ok w) :
    w.1 ≤ w.2 ∧ w.2 ≤ buf.size := by
  unfold newSubstr at h
  generalize (if a > b then (b + 1, a + 1) else (a, b)) = r at h
  simp only [] at h
  split at h
  · cases h
  · rename_i hc
    cases h
    simpa using hc

theorem lexemeAt_bounds {buf : Buf} {p : Nat} {w : Nat × Nat} (h : lexemeAt buf p = .ok w) :
    w.1 ≤ w.2 ∧ w.2 ≤ buf.size := by
  unfold lexemeAt at h
  split at h
  · split at h
    · cases h
    · split at h
      · obtain ⟨_, _, h⟩ := Out.bind_eq_ok h
        exact newSubstr_bounds h
      · obtain ⟨_, _, h⟩ := Out.bind_eq_ok h
        obtain ⟨_, _, h⟩ := Out.bind_eq_ok h
        exact newSubstr_bounds h
  · exact newSubstr_bounds h

theorem nextWord_bounds {buf : Buf} {p : Nat} {w : Nat × Nat} (h : nextWord buf p = .ok w) :
    w.1 ≤ w.2 ∧ w.2 ≤ buf.size := by
  unfold nextWord at h
  split at h
  · cases h
  · obtain ⟨_, _, h⟩ := Out.bind_eq_ok h
    exact lexemeAt_bounds h

theorem setPos_ok {buf : Buf} {cur p : Nat} (h1 : cur ≤ buf.size) (h2 : p ≤ buf.size) : setPos buf cur p = .ok p := by
  rw [setPos_spec buf cur p h1, Nat.min_eq_left h2]

theorem offsetPos_ok {buf : Buf} {pos k : Nat} (h : pos + k ≤ buf.size) (hs : buf.size ≤ 2147483647) :
    offsetPos buf pos k = .ok (pos + k) := by
  unfold offsetPos
  have : (pos + k) % (usizeMax + 1) = pos + k := by
    apply Nat.mod_eq_of_lt; unfold usizeMax; omega
  rw [this]
  exact setPos_ok (by omega) h

theorem check_ok {flags x : Nat} (h : flags &&& x ≠ 0) : check flags x = .ok () := by
  simp [check, h]

theorem check_any (x : Nat) (h : Flags.any &&& x ≠ 0) : check Flags.any x = .ok () := check_ok h

theorem remainingStart_ok {buf : Buf} {pos : Nat} (h : pos ≤ buf.size) : remainingStart buf pos = .ok pos :=
  remainingStart_spec buf pos h

/-! ### gaps and boundaries -/

theorem gap_bnd {g : List UInt8} (hg : Gap g) (hne : g ≠ []) (s : List UInt8) : Bnd (g ++ s) := by
  cases hg with
  | nil => exact absurd rfl hne
  | ws b g hb _ => simp [Bnd, PdfSyntax.isReg, hb]
  | comment body e g _ _ _ => exact (by decide : PdfSyntax.isReg 37 = false)

theorem regular_startsTok (b : UInt8) (h : isRegular b = true) : isWhitespace b = false ∧ b ≠ 37 :=
  ⟨regular_not_ws h, regular_ne h rfl⟩

theorem startsTok_of_regular (b : UInt8) (r : List UInt8) (h : isRegular b = true) : StartsTok (b :: r) :=
  ⟨b, r, rfl, regular_startsTok b h⟩

theorem gap_append {g1 g2 : List UInt8} (h1 : Gap g1) (h2 : Gap g2) : Gap (g1 ++ g2) := by
  induction h1 with
  | nil => simpa using h2
  | ws b g hb _ ih => simpa using Gap.ws b _ hb ih
  | comment body e g hb he _ ih =>
    have := Gap.comment body e _ hb he ih
    simpa using this

/-- lexeme after a gap -/
theorem next_gap {buf : Buf} (g s : List UInt8) (hg : Gap g) (hs : StartsTok s) (pos : Nat)
    (h : Suffix buf pos (g ++ s)) : next buf pos = lexemeAt buf (pos + g.length) :=
  nextWord_gap g s hg hs pos h

theorem peek_ok {buf : Buf} {pos : Nat} {w : Nat × Nat} (h : nextWord buf pos = .ok w) : peek buf pos = .ok w := by
  simp [peek, h]

/-! ### `dictInsert` -/

variable {R : Type}

theorem dictGet_dictInsert (d : Dict R) (k k' : List UInt8) (v : Prim R) :
    dictGet (dictInsert d k v) k' = if k' = k then some v else dictGet d k' := by
  induction d with
  | nil => simp only [dictInsert, dictGet]; split <;> simp_all [eq_comm]
  | cons hd t ih =>
    obtain ⟨a, b⟩ := hd
    simp only [dictInsert]
    split
    · rename_i h; subst h
      simp only [dictGet]; split <;> simp_all [eq_comm]
    · rename_i h
      simp only [dictGet, ih]
      split
      · rename_i h2; subst h2; rw [if_neg (fun e => h e)]
      · rfl

theorem mem_dictInsert {k : List UInt8} {v : Prim R} {kv : List UInt8 × Prim R} :
    ∀ {d : Dict R}, kv ∈ dictInsert d k v → kv ∈ d ∨ kv = (k, v)
  | [], h => Or.inr (List.mem_singleton.mp h)
  | (a, b) :: t, h => by
    simp only [dictInsert] at h
    split at h
    · subst a
      rcases List.mem_cons.mp h with h | h
      · exact Or.inr h
      · exact Or.inl (List.mem_cons_of_mem _ h)
    · rcases List.mem_cons.mp h with h | h
      · exact Or.inl (h ▸ List.mem_cons_self ..)
      · exact (mem_dictInsert h).imp_left (List.mem_cons_of_mem _)

end PdfLex
