import PdfModel.Lemmas.DeriveStruct

/-! From the decidable well-formedness of a schema to the hypotheses of the field loops; the struct laws. -/

namespace Derive

theorem chase_nonref (env : Env) (n : Nat) {p : Prim} (h : p.isRef = false) : chase env n p = .ok p := by
  cases n <;> simp [chase, h]

/-! ## what `Schema.WF` gives -/

theorem fieldKeys_eq_fkeys (ps : List String) :
    ∀ fs : List Field, (∀ f ∈ fs, Field.wf ps f = true) →
      (fs.filter fun f => !f.other && !f.skip).filterMap (·.key) = fkeys fs := by
  intro fs
  induction fs with
  | nil => intro _; rfl
  | cons f fs ih =>
    intro h
    have hf := h f (by simp)
    have ih' := ih (fun g hg => h g (by simp [hg]))
    simp only [Field.wf, Bool.and_eq_true] at hf
    have hkey : f.key.isSome = (!f.other && !f.skip) := by simpa using hf.1.1.1.1.1.1
    cases ho : f.other <;> cases hs : f.skip
    · simp [ho, hs] at hkey
      obtain ⟨k, hk⟩ := Option.isSome_iff_exists.1 hkey
      simp [List.filter, fkeys, ho, hs, hk, keyOf, ih']
    · simp [List.filter, fkeys, ho, hs, ih']
    · simp [List.filter, fkeys, ho, hs, ih']
    · simp [List.filter, fkeys, ho, hs, ih']

/-- what the loop lemmas need of a well-formed struct schema that derives its reader (`structFacts`). `noSkip` makes the
    `f.skip` branch of every loop dead: a skipped field has no value to construct, only write-only models have one. -/
structure StructFacts (S : Schema) : Prop where
  noSkip : ∀ f ∈ S.fields, f.skip = false
  last : lastIsOther S.fields = true
  keysEq : S.fieldKeys = fkeys S.fields
  distinctKeys : distinct (fkeys S.fields) = true
  distinctTags : distinct S.tagKeys = true
  disjoint : ∀ k ∈ S.tagKeys, k ∉ fkeys S.fields

theorem structFacts {S : Schema} (hk : S.kind = .struct) (hrd : S.derivesRead = true) (wf : S.WF) :
    StructFacts S := by
  have h : S.structWf = true := by simpa [Schema.WF, Schema.wf, hk] using wf
  simp only [Schema.structWf, Bool.and_eq_true, hrd] at h
  obtain ⟨⟨⟨⟨⟨hall, hdist⟩, _⟩, hlast⟩, hskip⟩, _⟩ := h
  have hall' : ∀ f ∈ S.fields, Field.wf S.params f = true := by simpa using hall
  have hkeys : S.fieldKeys = fkeys S.fields := by
    simp only [Schema.fieldKeys, Schema.keyed]; exact fieldKeys_eq_fkeys S.params S.fields hall'
  obtain ⟨h1, h2, h3⟩ := distinct_append hdist
  refine ⟨?_, by simpa using hlast, hkeys, by rw [← hkeys]; exact h2, h1, ?_⟩
  · intro f hf
    have hs' : ∀ x ∈ S.fields, x.skip = false := by simpa using hskip
    exact hs' f hf
  · intro k hk; rw [← hkeys]; exact h3 k hk

/-! ## the base dictionary -/

theorem dget_writeBase_foreign (S : Schema) (other : Dict) (k : String) (hk : k ∉ S.tagKeys) :
    dget k (writeBase S other) = dget k (if S.hasOther then other else []) := by
  simp only [writeBase]
  have hc : k ∉ S.checks.map (·.1) := fun h => hk (by simp [Schema.tagKeys]; exact Or.inr (by simpa using h))
  rw [dget_insertChecks_foreign k S.checks _ hc]
  cases ht : S.typeName with
  | none => rfl
  | some t =>
    simp only
    exact dget_dinsert_ne (fun h => hk (by simp [Schema.tagKeys, ht, ← h])) _ _

theorem writeBase_type (S : Schema) (other : Dict) (hd : distinct S.tagKeys = true) (t : String)
    (ht : S.typeName = some t) : dget "Type" (writeBase S other) = some (.name t) := by
  simp only [writeBase, ht]
  have : "Type" ∉ S.checks.map (·.1) := by
    simp only [Schema.tagKeys, ht] at hd
    have := (distinct_cons "Type" _).1 (by simpa using hd)
    exact this.1
  rw [dget_insertChecks_foreign "Type" S.checks _ this]; simp

theorem writeBase_checks (S : Schema) (other : Dict) (hd : distinct S.tagKeys = true) :
    ∀ k v, (k, v) ∈ S.checks → dget k (writeBase S other) = some (.name v) := by
  intro k v hm
  simp only [writeBase]
  have hdc : distinct (S.checks.map (·.1)) = true := by
    cases ht : S.typeName with
    | none => simpa [Schema.tagKeys, ht] using hd
    | some t =>
      simp only [Schema.tagKeys, ht] at hd
      exact ((distinct_cons "Type" _).1 (by simpa using hd)).2
  exact dget_insertChecks_mem S.checks _ hdc k v hm

theorem writeBase_idem (S : Schema) (other : Dict) (hd : distinct S.tagKeys = true) (ho : S.hasOther = true) :
    writeBase S (writeBase S other) = writeBase S other := by
  have hc := writeBase_checks S other hd
  have e : ∀ o, writeBase S o = insertChecks S.checks
      (match S.typeName with | some t => dinsert "Type" (.name t) o | none => o) := by
    intro o; simp only [writeBase, ho, if_true]; cases S.typeName <;> rfl
  rw [e (writeBase S other)]
  cases ht : S.typeName with
  | none => simp only; exact insertChecks_idem S.checks _ hc
  | some t =>
    simp only
    rw [dinsert_idem (writeBase_type S other hd t ht)]
    exact insertChecks_idem S.checks _ hc

theorem writeBase_noOther (S : Schema) (o1 o2 : Dict) (ho : S.hasOther = false) :
    writeBase S o1 = writeBase S o2 := by
  simp [writeBase, ho]

/-! ## the struct laws -/

/-- what the catch-all is after `read ∘ write`: the catch-all of the value plus the type tag and the checked
    entries (a model without a catch-all field drops everything) -/
def otherAfter (S : Schema) (other : Dict) : Dict := if S.hasOther then writeBase S other else []

theorem writeBase_otherAfter (S : Schema) (other : Dict) (hd : distinct S.tagKeys = true) :
    writeBase S (otherAfter S other) = writeBase S other := by
  cases ho : S.hasOther with
  | true => simp only [otherAfter, ho, if_true]; exact writeBase_idem S other hd ho
  | false => exact writeBase_noOther S _ _ ho

/-- the dictionary the derived writer produces carries the type tag and every checked entry, whatever the value
    (also one whose catch-all does not hold them already) -/
theorem written_has_tags (sem : Sem) (S : Schema)
    (hk : S.kind = .struct) (hrd : S.derivesRead = true) (wf : S.WF)
    (vals : List Val) (other : Dict) (D : Dict)
    (hw : writeStruct sem S (.struct vals other) = .ok (.dict D)) :
    (∀ k v, (k, v) ∈ S.checks → dget k D = some (.name v)) ∧
    (∀ t, S.typeName = some t → dget "Type" D = some (.name t)) := by
  have F := structFacts hk hrd wf
  obtain ⟨D', hD, hDD⟩ := writeStruct_ok.1 hw
  cases hDD
  have htag : ∀ k ∈ S.tagKeys, dget k D = dget k (writeBase S other) := fun k hk' =>
    writeFields_foreign sem k S.fields vals _ D hD (F.disjoint k hk')
  refine ⟨?_, ?_⟩
  · intro k v hm
    rw [htag k (by simp [Schema.tagKeys]; exact Or.inr ⟨v, hm⟩)]
    exact writeBase_checks S other F.distinctTags k v hm
  · intro t ht
    rw [htag "Type" (by simp [Schema.tagKeys, ht]), writeBase_type S other F.distinctTags t ht]

/-- both struct laws in one: what the derived writer of a well-formed schema produces is read back, each keyed field
    as a value that stands in relation `P` to the one written, the catch-all as `otherAfter` -/
theorem struct_read_written (cfg : Cfg) (sem : Sem) (env : Env) (S : Schema)
    (hk : S.kind = .struct) (hrd : S.derivesRead = true) (wf : S.WF) (P : Field → Val → Val → Prop)
    (vals : List Val) (other : Dict)
    (hoth : S.hasOther = true → otherUnrecognised S other)
    (hok : FieldsOk (fun f v => ReadsAs cfg sem env P f v ∧ DefaultedNonNull sem f v) S.fields vals) :
    ∀ p, writeStruct sem S (.struct vals other) = .ok p →
      ∃ vs', readStruct cfg sem env S p = .ok (.struct vs' (otherAfter S other)) ∧ FieldsRel P S.fields vals vs' := by
  intro p hw
  have F := structFacts hk hrd wf
  obtain ⟨D, hD, rfl⟩ := writeStruct_ok.1 hw
  -- the keys of the fields are fresh in the base dictionary
  have hfresh : ∀ k ∈ fkeys S.fields, dget k (writeBase S other) = none := by
    intro k hkm
    have hnt : k ∉ S.tagKeys := fun h => F.disjoint k h hkm
    rw [dget_writeBase_foreign S other k hnt]
    cases ho : S.hasOther with
    | false => simp [dget]
    | true => simp only [if_true]; exact hoth ho k (by rw [F.keysEq]; exact hkm)
  obtain ⟨vs', hrdF, hrel⟩ := read_written cfg sem env P S.fields (writeBase S other) vals D [] none
    F.noSkip F.last F.distinctKeys hfresh hD hok
  obtain ⟨hchecks, htype⟩ := written_has_tags sem S hk hrd wf vals other D hw
  have hany : (S.fields.any fun f => f.other) = S.hasOther := rfl
  refine ⟨vs', ?_, hrel⟩
  simp only [readStruct, readStructD, asDict, chase_nonref env env.depth (p := .dict D) rfl, otherAfter]
  cases ht : S.typeName with
  | none =>
    simp only [expectAll_ok D S.checks hchecks, hrdF, hany]
    cases S.hasOther <;> simp
  | some t =>
    have hexp : expect D "Type" t S.typeRequired = .ok () := by simp [expect, htype t ht]
    simp only [hexp, expectAll_ok D S.checks hchecks, hrdF, hany]
    cases S.hasOther <;> simp

/-- the first law: the value read back writes to the same dictionary -/
theorem struct_law (cfg : Cfg) (sem : Sem) (env : Env) (S : Schema)
    (hk : S.kind = .struct) (hrd : S.derivesRead = true) (wf : S.WF)
    (vals : List Val) (other : Dict)
    (hoth : S.hasOther = true → otherUnrecognised S other)
    (hok : FieldsOk (fun f v => FieldLaw cfg sem env f v ∧ DefaultedNonNull sem f v) S.fields vals) :
    RoundTrips (readStruct cfg sem env S) (writeStruct sem S) (.struct vals other) := by
  intro p hw
  obtain ⟨vs', hr, hrel⟩ := struct_read_written cfg sem env S hk hrd wf
    (fun f v v' => emit sem f v' = emit sem f v) vals other hoth
    (FieldsOk_mono (fun f v ⟨hl, hn⟩ => ⟨fun e he => let ⟨v', h1, h2⟩ := hl e he; ⟨v', h1, h2.trans he.symm⟩, hn⟩)
      S.fields vals hok) p hw
  obtain ⟨D, hD, rfl⟩ := writeStruct_ok.1 hw
  refine ⟨_, hr, writeStruct_ok.2 ⟨D, ?_, rfl⟩⟩
  rw [writeBase_otherAfter S other (structFacts hk hrd wf).distinctTags]
  exact writeFields_emitsEq sem S.fields vals vs' _ D hrel hD

/-- **read ∘ write = id** on the keyed fields, for any value of the struct — it need not have come out of the
    reader: its catch-all may be empty, or hold unknown keys only -/
theorem struct_reads_back (cfg : Cfg) (sem : Sem) (env : Env) (S : Schema)
    (hk : S.kind = .struct) (hrd : S.derivesRead = true) (wf : S.WF)
    (vals : List Val) (other : Dict)
    (hoth : S.hasOther = true → otherUnrecognised S other)
    (hok : FieldsOk (fun f v => FieldLawV cfg sem env f v ∧ DefaultedNonNull sem f v) S.fields vals) :
    ∀ p, writeStruct sem S (.struct vals other) = .ok p →
      readStruct cfg sem env S p = .ok (.struct vals (otherAfter S other)) := by
  intro p hw
  obtain ⟨vs', hr, hrel⟩ := struct_read_written cfg sem env S hk hrd wf (fun _ v v' => v' = v) vals other hoth
    (FieldsOk_mono (fun f v ⟨hl, hn⟩ => ⟨fun e he => ⟨v, hl e he, rfl⟩, hn⟩) S.fields vals hok) p hw
  rw [hr, FieldsRel_eq S.fields vals vs' hok hrel]

/-! ## from the shape law to the field law -/

theorem fieldLaw_of_roundTrips (cfg : Cfg) (sem : Sem) (env : Env) (f : Field) (v : Val)
    (hind : f.indirect = false)
    (h : RoundTrips (readShape cfg sem env f.shape) (writeShape sem f.shape) v) :
    FieldLaw cfg sem env f v := by
  intro e he
  simp only [emit] at he
  cases hw : writeShape sem f.shape v with
  | error err => simp [hw] at he
  | ok p =>
    simp only [hw] at he
    obtain ⟨v', hr, hw'⟩ := h p hw
    cases hp : p.isNull with
    | true =>
      simp [hp] at he; subst he
      have : p = .null := by cases p <;> simp [Prim.isNull] at hp; rfl
      subst this
      exact ⟨v', by simpa using hr, by simp [emit, hw', Prim.isNull]⟩
    | false =>
      simp [hp] at he; subst he
      simp only [indirectOf, hind]
      exact ⟨v', by simpa using hr, by simp [emit, hw', hp, indirectOf, hind]⟩

end Derive
