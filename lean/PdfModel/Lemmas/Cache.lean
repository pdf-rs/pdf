import PdfModel.Model.Cache

/-! Helper definitions and lemmas for `Props/C12` (and the sequential core of `Props/C13`).

* `Fine filt P p` : every `get` of the load `p` goes to a reference satisfying `P`, every
  `get_data_or_decode` for reference `r` passes the filter list `filt r` (the filters are a function of
  the stream object, `Stream::data` always passes all of them), and `p` does not return `oof` by itself.
* `WF d filt rank` : the typed-load dependency relation of the document is well founded (`rank`
  decreases along every nested `get` of a body and of the re-resolve `relog`), and `decode` never runs out of fuel.
* `Inv` : "every cache entry equals the uncached answer for its key".
-/

namespace Cache
variable {V E : Type}

/-- a look-up after an insertion finds the new entry or an old one -/
theorem lookup_cons_some {β : Type} {l : List (Nat × β)} {k k' : Nat} {v v' : β} (h : ((k, v) :: l).lookup k' = some v') :
    (k' = k ∧ v' = v) ∨ (k' ≠ k ∧ l.lookup k' = some v') := by
  rw [List.lookup_cons] at h
  split at h
  · next e => exact .inl ⟨by simpa using e, (Option.some.inj h).symm⟩
  · next e => exact .inr ⟨by simpa using e, h⟩

inductive Fine (filt : Nat → List Nat) (P : Nat → Prop) : Prog V E → Prop
  | ret (x : Res V E) : x ≠ .oof → Fine filt P (.ret x)
  | get (T r : Nat) (k : Res V E → Prog V E) :
      P r → (∀ x, x ≠ .oof → Fine filt P (k x)) → Fine filt P (.get T r k)
  | data (r : Nat) (fs : List Nat) (k : Res V E → Prog V E) :
      fs = filt r → (∀ x, x ≠ .oof → Fine filt P (k x)) → Fine filt P (.data r fs k)

variable {d : Doc V E} {filt : Nat → List Nat} {rank : Nat → Nat} {P : Nat → Prop} {a : Nat → Nat → Res V E}

theorem Fine.get_inv {T r : Nat} {k : Res V E → Prog V E}
    (h : Fine filt P (.get T r k)) : P r ∧ ∀ x, x ≠ .oof → Fine filt P (k x) := by
  cases h with
  | get _ _ _ hr hk => exact ⟨hr, hk⟩

theorem Fine.mono {Q : Nat → Prop} (h : ∀ r, P r → Q r) {p : Prog V E}
    (hp : Fine filt P p) : Fine filt Q p := by
  induction hp with
  | ret x hx => exact .ret x hx
  | get T r k hr _ ih => exact .get T r k (h r hr) ih
  | data r fs k hf _ ih => exact .data r fs k hf ih

/-- `Fine` for a `get` / a `get_data_or_decode`, continuation by continuation: the out-of-fuel answer is never passed on -/
theorem Fine.get' {T r : Nat} {k : Res V E → Prog V E} (hr : P r) (hok : ∀ v, Fine filt P (k (.ok v)))
    (herr : ∀ e, Fine filt P (k (.err e))) : Fine filt P (.get T r k) :=
  .get T r k hr fun x hx => by
    cases x with
    | ok v => exact hok v
    | err e => exact herr e
    | oof => exact absurd rfl hx

theorem Fine.data' {r : Nat} {fs : List Nat} {k : Res V E → Prog V E} (hf : fs = filt r) (hok : ∀ v, Fine filt P (k (.ok v)))
    (herr : ∀ e, Fine filt P (k (.err e))) : Fine filt P (.data r fs k) :=
  .data r fs k hf fun x hx => by
    cases x with
    | ok v => exact hok v
    | err e => exact herr e
    | oof => exact absurd rfl hx

theorem Fine.ite {c : Prop} [Decidable c] {p q : Prog V E} (hp : Fine filt P p) (hq : Fine filt P q) :
    Fine filt P (if c then p else q) := by
  split <;> assumption

theorem Fine.discard {q : Prog V E} (hq : Fine filt P q)
    (x : Res V E) (hx : x ≠ .oof) : Fine filt P (discard q x) := by
  induction hq with
  | ret y _ => exact .ret x hx
  | get T r k hr _ ih => exact .get T r _ hr fun y hy => ih y hy
  | data r fs k hf _ ih => exact .data r fs _ hf fun y hy => ih y hy

theorem Fine.orLog {p q : Prog V E} (hp : Fine filt P p)
    (hq : Fine filt P q) : Fine filt P (orLog p q) := by
  induction hp with
  | ret x hx =>
    cases x with
    | ok v => exact .ret _ hx
    | err e => exact hq.discard _ (by simp)
    | oof => exact absurd rfl hx
  | get T r k hr _ ih => exact .get T r _ hr fun y hy => ih y hy
  | data r fs k hf _ ih => exact .data r fs _ hf fun y hy => ih y hy

structure WF (d : Doc V E) (filt : Nat → List Nat) (rank : Nat → Nat) : Prop where
  body : ∀ T r, Fine filt (fun r' => rank r' < rank r) (d.body T r)
  relog : ∀ r, Fine filt (fun r' => rank r' < rank r) (d.relog r)
  dec : ∀ r fs, d.decode r fs ≠ .oof

/-- the uncached, unguarded answer of `get::<T>(r)` -/
def ans (d : Doc V E) (rank : Nat → Nat) (T r : Nat) : Res V E := ansF d (rank r + 1) T r

/-- `canon` passes an answer that is not out of fuel on to the continuation -/
theorem canon_get (d : Doc V E) (a : Nat → Nat → Res V E) (T r : Nat) (k : Res V E → Prog V E)
    (h : a T r ≠ .oof) : canon a d (.get T r k) = canon a d (k (a T r)) := by
  cases hx : a T r with
  | oof => exact absurd hx h
  | _ => simp only [canon, hx]

theorem canon_congr (d : Doc V E) (a1 a2 : Nat → Nat → Res V E)
    {p : Prog V E} (hp : Fine filt P p) (h : ∀ T r, P r → a1 T r = a2 T r) (hd : ∀ r fs, d.decode r fs ≠ .oof) :
    canon a1 d p = canon a2 d p := by
  induction hp with
  | ret x _ => rfl
  | get T r k hr _ ih =>
    simp only [canon]
    rw [h T r hr]
    cases hx : a2 T r with
    | oof => rfl
    | ok v => exact ih _ (by simp)
    | err e => exact ih _ (by simp)
  | data r fs k _ _ ih =>
    simp only [canon]
    exact ih _ (hd r fs)

/-- more fuel than the rank changes nothing -/
theorem ansF_stable (wf : WF d filt rank) {r f : Nat} (T : Nat) (hf : rank r < f) : ansF d f T r = ans d rank T r := by
  induction hn : rank r using Nat.strongRecOn generalizing r T f with
  | _ n ih =>
    subst hn
    cases f with
    | zero => omega
    | succ f =>
      simp only [ans, ansF]
      apply canon_congr d _ _ (wf.body T r) _ wf.dec
      intro T' r' hr'
      rw [ih _ hr' T' (by omega) rfl, ih _ hr' T' hr' rfl]

/-- the answer of a typed load is the evaluation of its body over the answers of the nested loads -/
theorem ans_eq (wf : WF d filt rank) (T r : Nat) :
    ans d rank T r = canon (ans d rank) d (d.body T r) := by
  show ansF d (rank r + 1) T r = _
  simp only [ansF]
  apply canon_congr d _ _ (wf.body T r) _ wf.dec
  intro T' r' hr'
  exact ansF_stable wf T' hr'

theorem canon_ne_oof (d : Doc V E) (a : Nat → Nat → Res V E)
    {p : Prog V E} (hp : Fine filt P p) (h : ∀ T r, P r → a T r ≠ .oof) (hd : ∀ r fs, d.decode r fs ≠ .oof) :
    canon a d p ≠ .oof := by
  induction hp with
  | ret x hx => exact hx
  | get T r k hr _ ih => rw [canon_get d a T r k (h T r hr)]; exact ih _ (h T r hr)
  | data r fs k _ _ ih => exact ih _ (hd r fs)

theorem canon_discard (d : Doc V E) (a : Nat → Nat → Res V E)
    {q : Prog V E} (hq : Fine filt P q) (h : ∀ T r, P r → a T r ≠ .oof) (hd : ∀ r fs, d.decode r fs ≠ .oof)
    (x : Res V E) : canon a d (discard q x) = x := by
  induction hq with
  | ret y _ => rfl
  | get T r k hr _ ih => rw [discard, canon_get d a T r _ (h T r hr)]; exact ih _ (h T r hr)
  | data r fs k _ _ ih => exact ih _ (hd r fs)

/-- the extra `resolve` of a failed load changes nothing in the answer -/
theorem canon_orLog (d : Doc V E) (a : Nat → Nat → Res V E)
    {p q : Prog V E} (hp : Fine filt P p) (hq : Fine filt P q) (h : ∀ T r, P r → a T r ≠ .oof)
    (hd : ∀ r fs, d.decode r fs ≠ .oof) : canon a d (orLog p q) = canon a d p := by
  induction hp with
  | ret x hx =>
    cases x with
    | ok v => rfl
    | err e => exact canon_discard d a hq h hd _
    | oof => exact absurd rfl hx
  | get T r k hr _ ih =>
    simp only [orLog, canon]
    cases hx : a T r with
    | oof => rfl
    | ok v => exact ih _ (by simp)
    | err e => exact ih _ (by simp)
  | data r fs k _ _ ih =>
    simp only [orLog, canon]
    exact ih _ (hd r fs)

theorem ans_ne_oof (wf : WF d filt rank) (T r : Nat) : ans d rank T r ≠ .oof := by
  induction hn : rank r using Nat.strongRecOn generalizing r T with
  | _ n ih =>
    subst hn
    rw [ans_eq wf]
    exact canon_ne_oof d _ (wf.body T r) (fun T' r' hr' => ih _ hr' T' r' rfl) wf.dec

/-- the compute closure of `get::<T>(r)` evaluates to the answer -/
theorem canon_compute (wf : WF d filt rank) (T r : Nat) :
    canon (ans d rank) d (d.compute T r) = ans d rank T r := by
  rw [ans_eq wf T r]
  exact canon_orLog d _ (wf.body T r) (wf.relog r) (fun T' r' _ => ans_ne_oof wf T' r') wf.dec

/-- "every cache entry equals the uncached answer for its key": a value stored under `r` with type tag
    `T` is the answer of `get::<T>(r)`; bytes stored under `r` are `r`'s data decoded with `r`'s filters.
    Cached errors need no clause: the repaired `get` never trusts them. -/
def Inv (d : Doc V E) (filt : Nat → List Nat) (a : Nat → Nat → Res V E) (st : St V E) : Prop :=
  (∀ r T v, st.obj.lookup r = some (.val T v) → a T r = .ok v) ∧
  (∀ r x, st.stm.lookup r = some x → x = d.decode r (filt r))

theorem Inv_empty (d : Doc V E) (filt : Nat → List Nat) (a : Nat → Nat → Res V E) : Inv d filt a St.empty := by
  constructor <;> intro r <;> simp [St.empty]

theorem dataM_spec (cfg : Cfg) {st : St V E}
    (hi : Inv d filt a st) (r : Nat) :
    (dataM d cfg st r (filt r)).1 = d.decode r (filt r) ∧ Inv d filt a (dataM d cfg st r (filt r)).2 := by
  unfold dataM
  split
  · cases hl : st.stm.lookup r with
    | some v => exact ⟨hi.2 r v hl, hi⟩
    | none =>
      refine ⟨rfl, hi.1, ?_⟩
      intro r' x hx
      rcases lookup_cons_some hx with ⟨rfl, rfl⟩ | ⟨_, hx⟩
      · rfl
      · exact hi.2 r' x hx
  · exact ⟨rfl, hi⟩

theorem store_spec {st : St V E}
    (hi : Inv d filt a st) (r T : Nat) (x : Res V E) (hx : x = a T r) :
    (store st r T x).1 = a T r ∧ Inv d filt a (store st r T x).2 := by
  cases x with
  | oof => exact ⟨hx, hi⟩
  | ok v =>
    refine ⟨hx, ?_, hi.2⟩
    intro r' T' v' hl
    rcases lookup_cons_some hl with ⟨rfl, e⟩ | ⟨_, hl⟩
    · cases e; exact hx.symm
    · exact hi.1 r' T' v' hl
  | err e' =>
    refine ⟨hx, ?_, hi.2⟩
    intro r' T' v' hl
    rcases lookup_cons_some hl with ⟨_, e⟩ | ⟨_, hl⟩
    · cases e
    · exact hi.1 r' T' v' hl

/-- what a correct `get` does for every reference of rank below `n`. The chain `ch` holds references of larger rank
    (so `r ∉ ch`: the guard does not fire) and is short enough for the nesting limit; in `getM_spec` the fuel doubles
    as the rank bound `n`. -/
def GetSpec (d : Doc V E) (filt : Nat → List Nat) (rank : Nat → Nat)
    (getF : List Nat → St V E → Nat → Nat → Res V E × St V E) (n : Nat) : Prop :=
  ∀ r, rank r < n → ∀ ch st T, (∀ c ∈ ch, rank r < rank c) → ch.length + rank r < maxNestedGets →
    Inv d filt (ans d rank) st →
    (getF ch st T r).1 = ans d rank T r ∧ Inv d filt (ans d rank) (getF ch st T r).2

theorem run_spec (cfg : Cfg)
    {getF : List Nat → St V E → Nat → Nat → Res V E × St V E} {n : Nat}
    (hd : ∀ r fs, d.decode r fs ≠ .oof)
    (hg : GetSpec d filt rank getF n) {p : Prog V E} (hp : Fine filt (fun r' => rank r' < n) p) :
    ∀ ch st, (∀ c ∈ ch, n ≤ rank c) → ch.length + n ≤ maxNestedGets → Inv d filt (ans d rank) st →
      (run getF d cfg ch st p).1 = canon (ans d rank) d p ∧ Inv d filt (ans d rank) (run getF d cfg ch st p).2 := by
  induction hp with
  | ret x _ => intro ch st _ _ hi; exact ⟨rfl, hi⟩
  | get T r k hr _ ih =>
    intro ch st hc hl hi
    have h1 := hg r hr ch st T (fun c hcm => by have := hc c hcm; omega) (by omega) hi
    simp only [run, canon]
    rcases hq : getF ch st T r with ⟨x, st'⟩
    rw [hq] at h1
    simp only at h1
    obtain ⟨hx, hi'⟩ := h1
    rw [← hx]
    cases x with
    | oof => exact ⟨rfl, hi'⟩
    | ok v => exact ih _ (by simp) ch st' hc hl hi'
    | err e => exact ih _ (by simp) ch st' hc hl hi'
  | data r fs k hf _ ih =>
    intro ch st hc hl hi
    subst hf
    simp only [run, canon]
    have h1 := dataM_spec (a := ans d rank) cfg hi r
    rw [h1.1]
    exact ih _ (hd r (filt r)) ch _ hc hl h1.2

theorem GetSpec.mono
    {getF : List Nat → St V E → Nat → Nat → Res V E × St V E} {n m : Nat}
    (h : GetSpec d filt rank getF n) (hm : m ≤ n) : GetSpec d filt rank getF m :=
  fun r hr => h r (by omega)

/-- The guarded, memoising `get` returns the unguarded uncached answer and keeps the invariant, for
    every configuration in which cached errors are not trusted. -/
theorem getM_spec (wf : WF d filt rank)
    (cfg : Cfg) (ht : cfg.trustErr = false) : ∀ f, GetSpec d filt rank (getM d cfg f) f := by
  intro f
  induction f with
  | zero => intro r hr; omega
  | succ f ih =>
    intro r hr ch st T hc hlen hi
    have hnot : r ∉ ch := fun hm => by have := hc r hm; omega
    have hdeep : ¬ maxNestedGets ≤ ch.length := by omega
    have hrun : ∀ {p : Prog V E}, Fine filt (fun r' => rank r' < rank r) p →
        (run (getM d cfg f) d cfg (r :: ch) st p).1 = canon (ans d rank) d p ∧
          Inv d filt (ans d rank) (run (getM d cfg f) d cfg (r :: ch) st p).2 := fun hp =>
      run_spec cfg wf.dec (ih.mono (by omega : rank r ≤ f)) hp (r :: ch) st
        (by intro c hcm; rcases List.mem_cons.mp hcm with rfl | hcm
            · omega
            · have := hc c hcm; omega) (by simp only [List.length_cons]; omega) hi
    have hR := hrun (wf.body T r)
    rw [← ans_eq wf] at hR
    have hC := canon_compute wf T r ▸ hrun ((wf.body T r).orLog (wf.relog r))
    simp only [getM, hnot, hdeep, if_false]
    split
    · -- object cache on
      cases hl : st.obj.lookup r with
      | none => exact store_spec hC.2 r T _ hC.1
      | some e =>
        cases e with
        | val T' v =>
          simp only
          split
          · rename_i e; subst e; exact ⟨(hi.1 r T' v hl).symm, hi⟩
          · exact hR
        | err e =>
          simp only [ht]
          exact hR
    · exact hC

end Cache
