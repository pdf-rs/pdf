import PdfModel.Lemmas.EncHex

/-! ASCII85: digit/byte conversions, the base-85 arithmetic (Horner steps; padding keeps the top bytes), the group loop. -/

namespace Enc
open Codecs

theorem toNat_ofNat_mod (m : Nat) : (UInt8.ofNat m).toNat = m % 256 := by simp

theorem ofNat_eq_of_mod {q : Nat} {b : UInt8} (h : q % 256 = b.toNat) : UInt8.ofNat q = b := by
  apply UInt8.toNat_inj.mp; rw [toNat_ofNat_mod, h]

theorem mul_add_div_of_lt {P lo : Nat} (m : Nat) (h : lo < P) : (m * P + lo) / P = m := by
  rw [Nat.add_comm, Nat.add_mul_div_right _ _ (by omega), Nat.div_eq_of_lt h, Nat.zero_add]

/-! big-endian bytes: peeling the last byte off a number written as `m * 256 + b` -/

theorem byte_step {q m : Nat} {b : UInt8} (h : q = m * 256 + b.toNat) : UInt8.ofNat q = b ∧ q / 256 = m := by
  subst h
  exact ⟨ofNat_eq_of_mod (Nat.mul_add_mod_of_lt b.toNat_lt), mul_add_div_of_lt m b.toNat_lt⟩

theorem beBytes_eq (q : Nat) :
    beBytes q = [UInt8.ofNat (q / 256 / 256 / 256), UInt8.ofNat (q / 256 / 256), UInt8.ofNat (q / 256), UInt8.ofNat q] := by
  simp only [beBytes, Nat.div_div_eq_div_mul]

theorem beBytes_take1 {q : Nat} {b0 : UInt8} (h : q / 256 / 256 / 256 = b0.toNat) : (beBytes q).take 1 = [b0] := by
  rw [beBytes_eq, h, UInt8.ofNat_toNat]; rfl

theorem beBytes_take2 {q : Nat} {b0 b1 : UInt8} (h : q / 256 / 256 = b0.toNat * 256 + b1.toNat) :
    (beBytes q).take 2 = [b0, b1] := by
  obtain ⟨e1, d1⟩ := byte_step h
  rw [beBytes_eq, d1, e1, UInt8.ofNat_toNat]; rfl

theorem beBytes_take3 {q : Nat} {b0 b1 b2 : UInt8} (h : q / 256 = (b0.toNat * 256 + b1.toNat) * 256 + b2.toNat) :
    (beBytes q).take 3 = [b0, b1, b2] := by
  obtain ⟨e2, d2⟩ := byte_step h
  obtain ⟨e1, d1⟩ := byte_step d2
  rw [beBytes_eq, d1, e1, e2, UInt8.ofNat_toNat]; rfl

theorem beBytes_be32 (b0 b1 b2 b3 : UInt8) : beBytes (Codecs.be32 b0 b1 b2 b3) = [b0, b1, b2, b3] := by
  obtain ⟨e3, d3⟩ := byte_step (b := b3) (q := Codecs.be32 b0 b1 b2 b3) rfl
  obtain ⟨e2, d2⟩ := byte_step d3
  obtain ⟨e1, d1⟩ := byte_step d2
  rw [beBytes_eq, d1, e1, e2, e3, UInt8.ofNat_toNat]

theorem be32_lt (b0 b1 b2 b3 : UInt8) : Codecs.be32 b0 b1 b2 b3 < 4294967296 := by
  have h0 := b0.toNat_lt; have h1 := b1.toNat_lt; have h2 := b2.toNat_lt; have h3 := b3.toNat_lt
  unfold Codecs.be32; omega

/-! base 85 -/

theorem sym85_ofNat {d : Nat} (h : d < 85) : sym85 (UInt8.ofNat (d + 33)) = some d := by
  unfold sym85
  have h1 : (UInt8.ofNat (d + 33)).toNat = d + 33 := UInt8.toNat_ofNat_of_lt' (show _ < 256 by omega)
  have h2 : (0x21 : UInt8) ≤ UInt8.ofNat (d + 33) := by
    rw [UInt8.le_iff_toNat_le, h1]; simp
  have h3 : UInt8.ofNat (d + 33) ≤ (0x75 : UInt8) := by
    rw [UInt8.le_iff_toNat_le, h1]; simp; omega
  rw [if_pos ⟨h2, h3⟩, h1]
  simp

theorem sym85_digit (n k : Nat) : sym85 (digit85 n k) = some (n / 85 ^ k % 85) :=
  sym85_ofNat (Nat.mod_lt _ (by decide))

theorem sym85_u : sym85 117 = some 84 := by decide

theorem word85_syms {a b c d e : UInt8} {sa sb sc sd se : Nat}
    (ha : sym85 a = some sa) (hb : sym85 b = some sb) (hc : sym85 c = some sc) (hd : sym85 d = some sd) (he : sym85 e = some se)
    (hlt : (((sa * 85 + sb) * 85 + sc) * 85 + sd) * 85 + se < 4294967296) :
    word85 a b c d e = some (beBytes ((((sa * 85 + sb) * 85 + sc) * 85 + sd) * 85 + se)) := by
  unfold word85
  rw [ha, hb, hc, hd, he]
  simp only [hlt, if_true]

theorem div_pow85 (n : Nat) : n / 85 ^ 4 = n / 85 / 85 / 85 / 85 ∧ n / 85 ^ 3 = n / 85 / 85 / 85 ∧ n / 85 ^ 2 = n / 85 / 85 ∧
    n / 85 ^ 1 = n / 85 ∧ n / 85 ^ 0 = n := by
  simp [Nat.div_div_eq_div_mul]

/-- five digits suffice for 32 bits: `2 ^ 32 < 85 ^ 5`, so the top digit is below 85 -/
theorem top_digit_mod (n : Nat) (h : n < 4294967296) : n / 85 / 85 / 85 / 85 % 85 = n / 85 / 85 / 85 / 85 := by omega

/-- the five digits of a 32-bit value decode to its four bytes -/
theorem word85_group (b0 b1 b2 b3 : UInt8) :
    word85 (digit85 (Codecs.be32 b0 b1 b2 b3) 4) (digit85 (Codecs.be32 b0 b1 b2 b3) 3) (digit85 (Codecs.be32 b0 b1 b2 b3) 2)
      (digit85 (Codecs.be32 b0 b1 b2 b3) 1) (digit85 (Codecs.be32 b0 b1 b2 b3) 0) = some [b0, b1, b2, b3] := by
  have hb := beBytes_be32 b0 b1 b2 b3
  have hn := be32_lt b0 b1 b2 b3
  generalize Codecs.be32 b0 b1 b2 b3 = n at hn hb ⊢
  obtain ⟨p4, p3, p2, p1, p0⟩ := div_pow85 n
  have hq : (((n / 85 ^ 4 % 85 * 85 + n / 85 ^ 3 % 85) * 85 + n / 85 ^ 2 % 85) * 85 + n / 85 ^ 1 % 85) * 85
      + n / 85 ^ 0 % 85 = n := by
    rw [p4, p3, p2, p1, p0, top_digit_mod _ hn, Nat.div_add_mod', Nat.div_add_mod', Nat.div_add_mod', Nat.div_add_mod']
  rw [word85_syms (sym85_digit _ 4) (sym85_digit _ 3) (sym85_digit _ 2) (sym85_digit _ 1) (sym85_digit _ 0)
    (by rw [hq]; exact hn), hq, hb]

/-- the arithmetic core: replacing what `n = x * M` has below the weight `D ≤ M` by the largest value `D - 1` changes nothing
    above `M`. For a final group of `k` bytes `M = 256 ^ (4 - k)` and `D = 85 ^ (4 - k)` (85, 7225, 614125), which is why
    `k + 1` digits are enough -/
theorem pad_keeps_top {n x M D K : Nat} (hn : n = x * M) (hx : x < K) (hD : 0 < D) (hDM : D ≤ M) :
    (n / D * D + (D - 1)) / M = x ∧ n / D * D + (D - 1) < K * M := by
  have h1 := Nat.div_mul_le_self n D
  have h2 := Nat.lt_div_mul_add (a := n) hD
  have h3 : (x + 1) * M = x * M + M := Nat.succ_mul x M
  have h4 : (x + 1) * M ≤ K * M := Nat.mul_le_mul_right M hx
  exact ⟨Nat.div_eq_of_lt_le (by omega) (by omega), by omega⟩

/-- the digits above the padding: `n / 85 ^ 4 % 85 * 85 + n / 85 ^ 3 % 85`, … are the base-85 expansion of a quotient of `n` -/
theorem top_digits (n : Nat) (h : n < 4294967296) :
    n / 85 ^ 4 % 85 * 85 + n / 85 ^ 3 % 85 = n / 614125 ∧
    (n / 85 ^ 4 % 85 * 85 + n / 85 ^ 3 % 85) * 85 + n / 85 ^ 2 % 85 = n / 7225 ∧
    ((n / 85 ^ 4 % 85 * 85 + n / 85 ^ 3 % 85) * 85 + n / 85 ^ 2 % 85) * 85 + n / 85 ^ 1 % 85 = n / 85 := by
  obtain ⟨p4, p3, p2, p1, _⟩ := div_pow85 n
  rw [p4, p3, p2, p1, top_digit_mod n h, Nat.div_add_mod', Nat.div_add_mod', Nat.div_add_mod']
  simp only [Nat.div_div_eq_div_mul, Nat.reduceMul, and_self]

theorem tail85_1 (b0 : UInt8) :
    tail85 (digit85 (Codecs.be32 b0 0 0 0) 4) (digit85 (Codecs.be32 b0 0 0 0) 3) 117 117 117 1 = .ok [b0] := by
  have h0 := b0.toNat_lt
  have hN : Codecs.be32 b0 0 0 0 = b0.toNat * 16777216 := by simp [Codecs.be32]; omega
  have hn := be32_lt b0 0 0 0
  generalize Codecs.be32 b0 0 0 0 = n at hN hn ⊢
  obtain ⟨hd, hlt⟩ := pad_keeps_top (D := 614125) hN h0 (by decide) (by decide)
  have hq : (((n / 85 ^ 4 % 85 * 85 + n / 85 ^ 3 % 85) * 85 + 84) * 85 + 84) * 85 + 84 = n / 614125 * 614125 + (614125 - 1) := by
    rw [(top_digits n hn).1]; omega
  unfold tail85
  rw [word85_syms (sym85_digit _ 4) (sym85_digit _ 3) sym85_u sym85_u sym85_u (by rw [hq]; exact hlt), hq]
  exact congrArg Out.ok (beBytes_take1 (by rw [Nat.div_div_eq_div_mul, Nat.div_div_eq_div_mul]; exact hd))

theorem tail85_2 (b0 b1 : UInt8) :
    tail85 (digit85 (Codecs.be32 b0 b1 0 0) 4) (digit85 (Codecs.be32 b0 b1 0 0) 3) (digit85 (Codecs.be32 b0 b1 0 0) 2) 117 117 2 = .ok [b0, b1] := by
  have h0 := b0.toNat_lt; have h1 := b1.toNat_lt
  have hN : Codecs.be32 b0 b1 0 0 = (b0.toNat * 256 + b1.toNat) * 65536 := by simp [Codecs.be32]; omega
  have hn := be32_lt b0 b1 0 0
  generalize Codecs.be32 b0 b1 0 0 = n at hN hn ⊢
  obtain ⟨hd, hlt⟩ := pad_keeps_top (D := 7225) (K := 65536) hN (by omega) (by decide) (by decide)
  have hq : (((n / 85 ^ 4 % 85 * 85 + n / 85 ^ 3 % 85) * 85 + n / 85 ^ 2 % 85) * 85 + 84) * 85 + 84 = n / 7225 * 7225 + (7225 - 1) := by
    rw [(top_digits n hn).2.1]; omega
  unfold tail85
  rw [word85_syms (sym85_digit _ 4) (sym85_digit _ 3) (sym85_digit _ 2) sym85_u sym85_u (by rw [hq]; exact hlt), hq]
  exact congrArg Out.ok (beBytes_take2 (by rw [Nat.div_div_eq_div_mul]; exact hd))

theorem tail85_3 (b0 b1 b2 : UInt8) :
    tail85 (digit85 (Codecs.be32 b0 b1 b2 0) 4) (digit85 (Codecs.be32 b0 b1 b2 0) 3) (digit85 (Codecs.be32 b0 b1 b2 0) 2)
      (digit85 (Codecs.be32 b0 b1 b2 0) 1) 117 3 = .ok [b0, b1, b2] := by
  have h0 := b0.toNat_lt; have h1 := b1.toNat_lt; have h2 := b2.toNat_lt
  have hN : Codecs.be32 b0 b1 b2 0 = ((b0.toNat * 256 + b1.toNat) * 256 + b2.toNat) * 256 := by simp [Codecs.be32]
  have hn := be32_lt b0 b1 b2 0
  generalize Codecs.be32 b0 b1 b2 0 = n at hN hn ⊢
  obtain ⟨hd, hlt⟩ := pad_keeps_top (D := 85) (K := 16777216) hN (by omega) (by decide) (by decide)
  have hq : (((n / 85 ^ 4 % 85 * 85 + n / 85 ^ 3 % 85) * 85 + n / 85 ^ 2 % 85) * 85 + n / 85 ^ 1 % 85) * 85 + 84 = n / 85 * 85 + (85 - 1) := by
    rw [(top_digits n hn).2.2]
  unfold tail85
  rw [word85_syms (sym85_digit _ 4) (sym85_digit _ 3) (sym85_digit _ 2) (sym85_digit _ 1) sym85_u (by rw [hq]; exact hlt), hq]
  exact congrArg Out.ok (beBytes_take3 hd)

theorem digit85_clean (n k : Nat) :
    isWs (digit85 n k) = false ∧ (digit85 n k != 126) = true ∧ digit85 n k ≠ 122 := by
  have hd : n / 85 ^ k % 85 < 85 := Nat.mod_lt _ (by decide)
  have h1 : (digit85 n k).toNat = n / 85 ^ k % 85 + 33 := UInt8.toNat_ofNat_of_lt' (show _ < 256 by omega)
  have key : ∀ c : UInt8, 33 ≤ c → c ≤ 117 → isWs c = false ∧ (c != 126) = true ∧ c ≠ 122 := by decide +kernel
  exact key _ (by rw [UInt8.le_iff_toNat_le, h1]; exact Nat.le_add_left ..) (by rw [UInt8.le_iff_toNat_le, h1]; exact Nat.add_le_add_right (Nat.le_of_lt_succ hd) 33)

theorem group85_clean (n : Nat) : ∀ c ∈ group85 n, isWs c = false ∧ (c != 126) = true := by
  intro c hc
  simp only [group85, List.mem_cons, List.not_mem_nil, or_false] at hc
  rcases hc with rfl | rfl | rfl | rfl | rfl <;> exact ⟨(digit85_clean _ _).1, (digit85_clean _ _).2.1⟩

theorem a85Body_clean {bs body : Bytes} (h : A85Body bs body) :
    ∀ c ∈ body, isWs c = false ∧ (c != 126) = true := by
  induction h with
  | nil => intro c hc; simp at hc
  | z _ ih =>
    intro c hc
    rcases List.mem_cons.mp hc with rfl | hc
    · decide
    · exact ih c hc
  | group _ ih =>
    intro c hc
    rcases List.mem_append.mp hc with hc | hc
    · exact group85_clean _ c hc
    · exact ih c hc
  | tail1 => intro c hc; exact group85_clean _ c (List.mem_of_mem_take hc)
  | tail2 => intro c hc; exact group85_clean _ c (List.mem_of_mem_take hc)
  | tail3 => intro c hc; exact group85_clean _ c (List.mem_of_mem_take hc)

theorem decode85Groups_of_body {bs body : Bytes} (h : A85Body bs body) : decode85Groups body = .ok bs := by
  induction h with
  | nil => rfl
  | z _ ih => rw [decode85Groups.eq_def]; simp [ih]
  | @group b0 b1 b2 b3 bs t _ ih =>
    have hne := (digit85_clean (Codecs.be32 b0 b1 b2 b3) 4).2.2
    simp only [group85, List.cons_append, List.nil_append, decode85Groups, hne, if_false, word85_group, ih]
  | @tail1 b0 =>
    have hne := (digit85_clean (Codecs.be32 b0 0 0 0) 4).2.2
    simp only [group85, List.take, decode85Groups, hne, if_false]
    exact tail85_1 b0
  | @tail2 b0 b1 =>
    have hne := (digit85_clean (Codecs.be32 b0 b1 0 0) 4).2.2
    simp only [group85, List.take, decode85Groups, hne, if_false]
    exact tail85_2 b0 b1
  | @tail3 b0 b1 b2 =>
    have hne := (digit85_clean (Codecs.be32 b0 b1 b2 0) 4).2.2
    simp only [group85, List.take, decode85Groups, hne, if_false]
    exact tail85_3 b0 b1 b2

end Enc
