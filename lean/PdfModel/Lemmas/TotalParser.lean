import PdfModel.Model.Parser
import PdfModel.Lemmas.TotalLexer
import PdfModel.Lemmas.TotalStr
import PdfModel.Lemmas.ParserBasics

/-!
  Totality of `Model/Parser` on ARBITRARY buffers (C01).

  `Good buf pos r`: the outcome `r` of a parser entry point started at cursor `pos` is `err`, or `ok (v, p)`
  with the cursor strictly further (`pos < p`) and inside the buffer (`p ≤ buf.size`).  In particular it is
  neither `panic` nor `oof`.

  The fuel argument (`parse_total_aux`): an activation started at `pos` with `m = buf.size - pos` bytes ahead
  needs at most
        parseCtx    3 m + 3        parseInner  3 m + 2        parseArray  3 m + 4        parseDict  3 m + 1
  levels of fuel, because every recursive call happens behind at least one consumed byte, or (the element
  parse of the array loop, which starts where the loop stands) is followed by a loop round that starts behind
  what the element consumed — and a successful parse consumes at least one byte (that is the `pos < p` half of
  `Good`).  The nesting budget `depth` is not needed for termination at all; it bounds the native stack
  (`Props/C01.parse_nesting_bounded`).

  Hypotheses, all about things outside the model:
    `RealSize buf`  the buffer is a Rust slice: `buf.size ≤ isize::MAX` (so `wrapping_add` does not wrap and
                    the nesting counter of the string lexer has room);
    `EnvOk env`     the resolver behind an indirect `/Length` and the decryption of a string return `Ok` or
                    `Err` (they are parameters: `Resolve::resolve_flags`, `Decoder::decrypt`).
-/

namespace PdfLex

variable {R : Type}

/-- a Rust slice never has more than `isize::MAX` bytes -/
def RealSize (buf : Buf) : Prop := buf.size ≤ 9223372036854775807

/-- `x` is `Ok` or `Err` -/
def Ret {α : Type} (x : Out α) : Prop := x = .err ∨ ∃ a, x = .ok a

theorem Ret.ne_panic {α : Type} {x : Out α} (h : Ret x) : x ≠ .panic := by
  rcases h with h | ⟨a, h⟩ <;> simp [h]

theorem Ret.ne_oof {α : Type} {x : Out α} (h : Ret x) : x ≠ .oof := by
  rcases h with h | ⟨a, h⟩ <;> simp [h]

theorem Ret.returns {α : Type} {x : Out α} (h : Ret x) : x.Returns := ⟨h.ne_panic, h.ne_oof⟩

/-- the parameters of the parser return `Ok` or `Err` -/
def EnvOk (env : Env R) : Prop :=
  (∀ i g, Ret (env.resolveLen i g)) ∧ (∀ f, env.decrypt = some f → ∀ i g s, Ret (f i g s))

/-- `err`, or `ok` with the cursor strictly further and inside the buffer -/
def Good {α : Type} (buf : Buf) (pos : Nat) (r : Out (α × Nat)) : Prop :=
  r = .err ∨ ∃ v p, r = .ok (v, p) ∧ pos < p ∧ p ≤ buf.size

theorem Good.ret {α : Type} {buf : Buf} {pos : Nat} {r : Out (α × Nat)} (h : Good buf pos r) : Ret r := by
  rcases h with h | ⟨v, p, h, _⟩
  · exact Or.inl h
  · exact Or.inr ⟨_, h⟩

theorem Good.mono {α : Type} {buf : Buf} {pos pos' : Nat} {r : Out (α × Nat)} (h : Good buf pos' r) (hle : pos ≤ pos') :
    Good buf pos r := by
  rcases h with h | ⟨v, p, h, h1, h2⟩
  · exact Or.inl h
  · exact Or.inr ⟨v, p, h, by omega, h2⟩

theorem good_ok {α : Type} {buf : Buf} {pos p : Nat} (v : α) (h1 : pos < p) (h2 : p ≤ buf.size) :
    Good buf pos (.ok (v, p)) := Or.inr ⟨v, p, rfl, h1, h2⟩

/-- `Good` with a fact about the value -/
def GoodQ {α : Type} (Q : α → Prop) (buf : Buf) (pos : Nat) (r : Out (α × Nat)) : Prop :=
  r = .err ∨ ∃ v p, r = .ok (v, p) ∧ pos < p ∧ p ≤ buf.size ∧ Q v

theorem GoodQ.good {α : Type} {Q : α → Prop} {buf : Buf} {pos : Nat} {r : Out (α × Nat)} (h : GoodQ Q buf pos r) :
    Good buf pos r := by
  rcases h with h | ⟨v, p, h, h1, h2, _⟩
  · exact Or.inl h
  · exact Or.inr ⟨v, p, h, h1, h2⟩

theorem GoodQ.mono {α : Type} {Q Q' : α → Prop} {buf : Buf} {pos pos' : Nat} {r : Out (α × Nat)}
    (h : GoodQ Q buf pos' r) (hle : pos ≤ pos') (hq : ∀ v, Q v → Q' v) : GoodQ Q' buf pos r := by
  rcases h with h | ⟨v, p, h, h1, h2, h3⟩
  · exact Or.inl h
  · exact Or.inr ⟨v, p, h, by omega, h2, hq v h3⟩

theorem goodq_ok {α : Type} {Q : α → Prop} {buf : Buf} {pos p : Nat} (v : α) (h1 : pos < p) (h2 : p ≤ buf.size)
    (hq : Q v) : GoodQ Q buf pos (.ok (v, p)) := Or.inr ⟨v, p, rfl, h1, h2, hq⟩

mutual
/-- nesting depth of containers in a value (a scalar is 0, `[]` is 1, `[[]]` is 2, …) -/
def nest : Prim R → Nat
  | .arr xs => nestList xs + 1
  | .dict kvs => nestEntries kvs + 1
  | .stream info _ => nestEntries info + 1
  | .null => 0
  | .int _ => 0
  | .real _ => 0
  | .bool _ => 0
  | .str _ => 0
  | .ref _ _ => 0
  | .name _ => 0
def nestList : List (Prim R) → Nat
  | [] => 0
  | x :: xs => max (nest x) (nestList xs)
def nestEntries : List (List UInt8 × Prim R) → Nat
  | [] => 0
  | kv :: r => max (nest kv.2) (nestEntries r)
end

theorem nestList_le {xs : List (Prim R)} {n : Nat} (h : ∀ x ∈ xs, nest x ≤ n) : nestList xs ≤ n := by
  induction xs with
  | nil => simp [nestList]
  | cons x xs ih =>
    simp only [nestList]
    have h1 := h x (by simp)
    have h2 := ih (fun y hy => h y (by simp [hy]))
    omega

theorem nestEntries_le {d : Dict R} {n : Nat} (h : ∀ kv ∈ d, nest kv.2 ≤ n) : nestEntries d ≤ n := by
  induction d with
  | nil => simp [nestEntries]
  | cons kv d ih =>
    simp only [nestEntries]
    have h1 := h kv (by simp)
    have h2 := ih (fun y hy => h y (by simp [hy]))
    omega

theorem check_ret (flags allowed : Nat) : Ret (check flags allowed) := by
  unfold check; split
  · exact .inl rfl
  · exact .inr ⟨_, rfl⟩

theorem ret_bind {α β : Type} {x : Out α} {f : α → Out β} (hx : Ret x) (hf : ∀ a, x = .ok a → Ret (f a)) :
    Ret (x.bind f) := by
  rcases hx with rfl | ⟨a, rfl⟩
  · exact .inl rfl
  · exact hf a rfl

theorem good_bind {α β : Type} {buf : Buf} {pos : Nat} {x : Out α} {f : α → Out (β × Nat)} (hx : Ret x)
    (hf : ∀ a, x = .ok a → Good buf pos (f a)) : Good buf pos (x.bind f) := by
  rcases hx with rfl | ⟨a, rfl⟩
  · exact .inl rfl
  · exact hf a rfl

theorem goodq_bind {α β : Type} {Q : β → Prop} {buf : Buf} {pos : Nat} {x : Out α} {f : α → Out (β × Nat)} (hx : Ret x)
    (hf : ∀ a, x = .ok a → GoodQ Q buf pos (f a)) : GoodQ Q buf pos (x.bind f) := by
  rcases hx with rfl | ⟨a, rfl⟩
  · exact .inl rfl
  · exact hf a rfl

theorem unescapeName_ret (t : List UInt8) : Ret (unescapeName t) := by
  fun_induction unescapeName t
  all_goals first
    | exact Or.inr ⟨_, rfl⟩
    | exact Or.inl rfl
    | (apply ret_bind (by assumption); intro r _; exact Or.inr ⟨_, rfl⟩)

theorem decodeName_ret (t : List UInt8) : Ret (decodeName t) := by
  unfold decodeName
  refine ret_bind (unescapeName_ret t) fun s _ => ?_
  split
  · exact Or.inr ⟨_, rfl⟩
  · exact Or.inl rfl

theorem decryptStr_ret (env : Env R) (henv : EnvOk env) (ctx : Option (Nat × Nat)) (s : List UInt8) :
    Ret (decryptStr env ctx s) := by
  unfold decryptStr
  cases ctx with
  | none => exact Or.inr ⟨_, rfl⟩
  | some id =>
    cases hd : env.decrypt with
    | none => exact Or.inr ⟨_, rfl⟩
    | some f => exact henv.2 f hd id.1 id.2 s

/-- `parse_stream_object`: `next_stream`, the length (direct or through the resolver), `read_n`, `endstream` -/
theorem parseStreamObject_goodq (env : Env R) (henv : EnvOk env) (buf : Buf) (hs : RealSize buf) (pos : Nat)
    (dict : Dict R) (id : Nat × Nat) (h : pos ≤ buf.size) :
    GoodQ (fun v => ∃ inner, v = .stream dict inner) buf pos (parseStreamObject env buf pos dict id) := by
  unfold parseStreamObject
  refine Out.bind_ind (nextStream_cases buf pos h) (.inl rfl) fun p1 ⟨h1, h2⟩ => goodq_bind ?_ fun n _ => ?_
  · split
    · split
      · exact Or.inr ⟨_, rfl⟩
      · exact Or.inl rfl
    · exact henv.1 _ _
    · exact Or.inl rfl
    · exact Or.inl rfl
  obtain ⟨s, p2, hr, _, _, h5, h6, _⟩ := readN_spec buf p1 n h2 (by unfold RealSize at hs; unfold usizeMax; omega)
  rw [hr]; simp only [Out.bind_ok]
  refine iteInduction (fun _ => .inl rfl) fun _ => ?_
  exact Out.bind_ind (nextExpect_spec buf p2 kwEndstream h5) (.inl rfl) fun p3 ⟨h7, h8⟩ =>
    goodq_ok _ (by omega) h8 ⟨_, rfl⟩

theorem parseStreamObject_good (env : Env R) (henv : EnvOk env) (buf : Buf) (hs : RealSize buf) (pos : Nat)
    (dict : Dict R) (id : Nat × Nat) (h : pos ≤ buf.size) :
    Good buf pos (parseStreamObject env buf pos dict id) :=
  (parseStreamObject_goodq env henv buf hs pos dict id h).good

/-- the look-ahead for `gen R` never fails; the lexer ends at or behind `posBk` -/
theorem refLookahead_spec (buf : Buf) (posBk : Nat) (h : posBk ≤ buf.size) :
    ∃ la cur, refLookahead buf posBk = .ok (la, cur) ∧ posBk ≤ cur ∧ cur ≤ buf.size ∧
      (∀ w2 w3, la = some (w2, w3) → w3.2 = cur ∧ posBk < cur) := by
  unfold refLookahead
  rcases next_spec buf posBk h with he | ⟨w2, hw2, a1, a2, a3⟩
  · rw [he]; exact ⟨none, posBk, rfl, Nat.le_refl _, h, fun _ _ hh => by cases hh⟩
  · rw [hw2]; simp only []
    split
    · rcases next_spec buf w2.2 a3 with he | ⟨w3, hw3, b1, b2, b3⟩
      · rw [he]; exact ⟨none, w2.2, rfl, by omega, a3, fun _ _ hh => by cases hh⟩
      · rw [hw3]
        refine ⟨some (w2, w3), w3.2, rfl, by omega, b3, fun x y hh => ?_⟩
        cases hh; exact ⟨rfl, by omega⟩
    · exact ⟨none, w2.2, rfl, by omega, a3, fun _ _ hh => by cases hh⟩

/-- the integer / reference branch: `err`, or a scalar with the cursor at or behind `posBk` -/
theorem parseIntOrRef_spec (buf : Buf) (pos posBk : Nat) (first : List UInt8) (flags : Nat) (hlt : pos < posBk)
    (h : posBk ≤ buf.size) :
    GoodQ (fun v => nest v = 0) buf pos (parseIntOrRef (R := R) buf posBk first flags) := by
  unfold parseIntOrRef
  refine goodq_bind (check_ret _ _) fun _ _ => ?_
  obtain ⟨la, cur, hla, c1, c2, c3⟩ := refLookahead_spec buf posBk h
  rw [hla]; simp only [Out.bind_ok]
  have asInt : GoodQ (fun v => nest v = 0) buf pos
      ((check flags Flags.integer).bind fun _ => (setPos buf cur posBk).bind fun p =>
        match parseI32 first with
        | some i => Out.ok ((.int i : Prim R), p)
        | none => .err) := by
    refine goodq_bind (check_ret _ _) fun _ _ => ?_
    rw [setPos_spec buf cur posBk c2, Nat.min_eq_left h]; simp only [Out.bind_ok]
    cases parseI32 first with
    | none => exact .inl rfl
    | some i => exact goodq_ok _ hlt h rfl
  cases la with
  | none => exact asInt
  | some ww =>
    obtain ⟨w2, w3⟩ := ww
    refine iteInduction (fun _ => goodq_bind (check_ret _ _) fun _ _ => ?_) fun _ => asInt
    cases parseU64 first with
    | none => exact .inl rfl
    | some i =>
      cases parseU64 (slice buf w2.1 w2.2) with
      | none => exact .inl rfl
      | some g =>
        have := c3 w2 w3 rfl
        exact goodq_ok _ (by omega) (by omega) rfl

/-- the four statements, for one amount of fuel; the value facts are the nesting bounds -/
def TotalAt (env : Env R) (buf : Buf) (fuel : Nat) : Prop :=
  (∀ pos ctx flags depth, pos ≤ buf.size → 3 * (buf.size - pos) + 3 ≤ fuel →
      GoodQ (fun v => nest v ≤ depth) buf pos (parseCtx env buf fuel pos ctx flags depth)) ∧
  (∀ pos ctx flags depth, pos ≤ buf.size → 3 * (buf.size - pos) + 2 ≤ fuel →
      GoodQ (fun v => nest v ≤ depth) buf pos (parseInner env buf fuel pos ctx flags depth)) ∧
  (∀ pos ctx depth acc, pos ≤ buf.size → 3 * (buf.size - pos) + 4 ≤ fuel → (∀ e ∈ acc, nest e ≤ depth) →
      GoodQ (fun v => nest v ≤ depth + 1) buf pos (parseArray env buf fuel pos ctx depth acc)) ∧
  (∀ pos ctx depth acc, pos ≤ buf.size → 3 * (buf.size - pos) + 1 ≤ fuel → (∀ kv ∈ acc, nest kv.2 ≤ depth) →
      GoodQ (fun d => ∀ kv ∈ d, nest kv.2 ≤ depth) buf pos (parseDict env buf fuel pos ctx depth acc))

theorem parseCtx_step (env : Env R) (buf : Buf) (fuel : Nat) (ih : TotalAt env buf fuel)
    (pos : Nat) (ctx : Option (Nat × Nat)) (flags depth : Nat) (h : pos ≤ buf.size)
    (hf : 3 * (buf.size - pos) + 3 ≤ fuel + 1) :
    GoodQ (fun v => nest v ≤ depth) buf pos (parseCtx env buf (fuel + 1) pos ctx flags depth) := by
  unfold parseCtx
  rcases ih.2.1 pos ctx flags depth h (by omega) with e | ⟨v, p, e, h1, h2, h3⟩ <;> simp only [e]
  · rw [setPos_spec buf pos pos h]; exact .inl rfl
  · exact goodq_ok v h1 h2 h3

theorem parseArray_step (env : Env R) (buf : Buf) (fuel : Nat) (ih : TotalAt env buf fuel)
    (pos : Nat) (ctx : Option (Nat × Nat)) (depth : Nat) (acc : List (Prim R)) (h : pos ≤ buf.size)
    (hf : 3 * (buf.size - pos) + 4 ≤ fuel + 1) (hacc : ∀ e ∈ acc, nest e ≤ depth) :
    GoodQ (fun v => nest v ≤ depth + 1) buf pos (parseArray env buf (fuel + 1) pos ctx depth acc) := by
  unfold parseArray
  obtain ⟨pk, hpk, _, _, _⟩ := peek_spec buf pos h
  rw [hpk]; simp only [Out.bind_ok]
  refine iteInduction (fun _ => ?_) fun _ => ?_
  · refine Out.bind_ind (next_spec buf pos h) (.inl rfl) fun w ⟨a1, a2, a3⟩ => goodq_ok _ (by omega) a3 ?_
    have := nestList_le (xs := acc.reverse) (n := depth) (fun x hx => hacc x (by simpa using hx))
    simp only [nest]; omega
  · refine Out.bind_ind₂ (ih.1 pos ctx Flags.any depth h (by omega)) (.inl rfl) fun v p ⟨h1, h2, h3⟩ => ?_
    exact (ih.2.2.1 p ctx depth (v :: acc) h2 (by omega) (List.forall_mem_cons.2 ⟨h3, hacc⟩)).mono (by omega)
      (fun _ hq => hq)

theorem parseDict_step (env : Env R) (buf : Buf) (fuel : Nat) (ih : TotalAt env buf fuel)
    (pos : Nat) (ctx : Option (Nat × Nat)) (depth : Nat) (acc : Dict R) (h : pos ≤ buf.size)
    (hf : 3 * (buf.size - pos) + 1 ≤ fuel + 1) (hacc : ∀ kv ∈ acc, nest kv.2 ≤ depth) :
    GoodQ (fun d => ∀ kv ∈ d, nest kv.2 ≤ depth) buf pos (parseDict env buf (fuel + 1) pos ctx depth acc) := by
  unfold parseDict
  refine Out.bind_ind (next_spec buf pos h) (.inl rfl) fun w ⟨a1, a2, a3⟩ => ?_
  refine iteInduction (fun _ => goodq_bind (decodeName_ret _) fun key _ => ?_) fun _ =>
    iteInduction (fun _ => goodq_ok _ (by omega) a3 hacc) fun _ => .inl rfl
  refine Out.bind_ind₂ (ih.1 w.2 ctx Flags.any depth a3 (by omega)) (.inl rfl) fun v p ⟨h1, h2, h3⟩ => ?_
  exact (ih.2.2.2 p ctx depth (dictInsert acc key v) h2 (by omega)
    (fun kv hkv => by
      rcases mem_dictInsert hkv with hm | rfl
      · exact hacc kv hm
      · exact h3)).mono (by omega) (fun _ hq => hq)

theorem parseInner_step (env : Env R) (henv : EnvOk env) (buf : Buf) (hs : RealSize buf) (fuel : Nat)
    (ih : TotalAt env buf fuel)
    (pos : Nat) (ctx : Option (Nat × Nat)) (flags depth : Nat) (h : pos ≤ buf.size)
    (hf : 3 * (buf.size - pos) + 2 ≤ fuel + 1) :
    GoodQ (fun v => nest v ≤ depth) buf pos (parseInner env buf (fuel + 1) pos ctx flags depth) := by
  unfold parseInner
  rw [remainingStart_spec buf pos h]; simp only [Out.bind_ok]
  refine Out.bind_ind (next_spec buf pos h) (.inl rfl) fun w ⟨a1, a2, a3⟩ => ?_
  have hsz : buf.size ≤ 9223372036854775807 := hs
  have scalar : ∀ (v : Prim R) p, w.2 ≤ p → p ≤ buf.size → nest v = 0 →
      GoodQ (fun v => nest v ≤ depth) buf pos (.ok (v, p)) :=
    fun v p h1 h2 hv => goodq_ok v (by omega) h2 (by omega)
  -- what the two string branches do with the collected bytes
  have str : ∀ s p, w.2 < p → p ≤ buf.size → GoodQ (fun v => nest v ≤ depth) buf pos
      ((offsetPos buf w.2 (p - w.2)).bind fun q => (decryptStr env ctx s).bind fun s => .ok ((.str s : Prim R), q)) := by
    intro s p h1 h2
    rw [offsetPos_exact buf w.2 (p - w.2) a3 (by unfold usizeMax; omega)]
    simp only [Out.bind_ok]
    exact goodq_bind (decryptStr_ret env henv ctx s) fun s' _ => scalar _ _ (by omega) (by omega) rfl
  refine iteInduction (fun _ => ?_) fun _ => iteInduction (fun _ => ?_) fun _ => ?_
  · -- `<<`
    refine goodq_bind (check_ret _ _) fun _ _ => iteInduction (fun _ => .inl rfl) fun hd0 => ?_
    have hd0 : depth ≠ 0 := by simpa using hd0
    refine Out.bind_ind₂ (ih.2.2.2 w.2 ctx (depth - 1) [] a3 (by omega) nofun) (.inl rfl) fun d p ⟨h1, h2, h3⟩ => ?_
    obtain ⟨pk, hpk, _, _, _⟩ := peek_spec buf p h2
    rw [hpk]; simp only [Out.bind_ok]
    have hnd : nestEntries d + 1 ≤ depth := by have := nestEntries_le h3; omega
    refine iteInduction (fun _ => ?_) fun _ => goodq_ok _ (by omega) h2 hnd
    cases ctx with
    | none => exact .inl rfl
    | some id =>
      refine (parseStreamObject_goodq env henv buf hs p d id h2).mono (by omega) ?_
      rintro v ⟨inner, rfl⟩
      exact hnd
  · -- integer or reference
    exact (parseIntOrRef_spec buf pos w.2 _ flags (by omega) a3).mono (Nat.le_refl _) (fun v hv => by omega)
  cases realNumber (slice buf w.1 w.2) with
  | some s =>
    refine goodq_bind (check_ret _ _) fun _ _ => ?_
    cases env.parseReal s with
    | some r => exact scalar _ _ (Nat.le_refl _) a3 rfl
    | none => exact .inl rfl
  | none =>
  refine iteInduction (fun _ => ?_) fun _ => iteInduction (fun _ => ?_) fun _ => iteInduction (fun _ => ?_) fun _ =>
    iteInduction (fun _ => ?_) fun _ => iteInduction (fun _ => ?_) fun _ => iteInduction (fun _ => ?_) fun _ =>
    iteInduction (fun _ => ?_) fun _ => ?_
  · -- name
    exact goodq_bind (check_ret _ _) fun _ _ => goodq_bind (decodeName_ret _) fun s _ =>
      scalar _ _ (Nat.le_refl _) a3 rfl
  · -- array
    refine goodq_bind (check_ret _ _) fun _ _ => iteInduction (fun _ => .inl rfl) fun hd0 => ?_
    have hd0 : depth ≠ 0 := by simpa using hd0
    exact (ih.2.2.1 w.2 ctx (depth - 1) [] a3 (by omega) nofun).mono (by omega) (fun v hv => by omega)
  · -- literal string
    refine goodq_bind (check_ret _ _) fun _ _ => ?_
    rw [remainingStart_spec buf w.2 a3]; simp only [Out.bind_ok]
    exact Out.bind_ind₂ (collectString_spec buf (buf.size - w.2 + 2) w.2 0 [] a3 (Int.le_refl 0)
      (by unfold i64Max; omega) (by omega)) (.inl rfl) fun s p ⟨h1, h2⟩ => str s p h1 h2
  · -- hexadecimal string
    refine goodq_bind (check_ret _ _) fun _ _ => ?_
    rw [remainingStart_spec buf w.2 a3]; simp only [Out.bind_ok]
    exact Out.bind_ind₂ (collectHex_spec buf w.2 (buf.size - w.2 + 2) w.2 [] (Nat.le_refl _) a3 (by omega))
      (.inl rfl) fun s p ⟨h1, h2⟩ => str s p h1 h2
  · exact goodq_bind (check_ret _ _) fun _ _ => scalar _ _ (Nat.le_refl _) a3 rfl
  · exact goodq_bind (check_ret _ _) fun _ _ => scalar _ _ (Nat.le_refl _) a3 rfl
  · exact goodq_bind (check_ret _ _) fun _ _ => scalar _ _ (Nat.le_refl _) a3 rfl
  · -- unknown token: `read_n(50)` for the error message
    obtain ⟨s, p, hr, _⟩ := readN_total buf w.2 50 a3
    rw [hr]; exact .inl rfl

/-- the fuel argument: all four entry points at once, by induction on the fuel -/
theorem parse_total_aux (env : Env R) (henv : EnvOk env) (buf : Buf) (hs : RealSize buf) :
    ∀ fuel, TotalAt env buf fuel := by
  intro fuel
  induction fuel with
  | zero =>
    refine ⟨?_, ?_, ?_, ?_⟩
    · intro _ _ _ _ _ hf; omega
    · intro _ _ _ _ _ hf; omega
    · intro _ _ _ _ _ hf; omega
    · intro _ _ _ _ _ hf; omega
  | succ fuel ih =>
    exact ⟨fun pos ctx flags depth h hf => parseCtx_step env buf fuel ih pos ctx flags depth h hf,
      fun pos ctx flags depth h hf => parseInner_step env henv buf hs fuel ih pos ctx flags depth h hf,
      fun pos ctx depth acc h hf hacc => parseArray_step env buf fuel ih pos ctx depth acc h hf hacc,
      fun pos ctx depth acc h hf hacc => parseDict_step env buf fuel ih pos ctx depth acc h hf hacc⟩

theorem defaultFuel_enough (buf : Buf) (pos : Nat) : 3 * (buf.size - pos) + 4 ≤ defaultFuel buf := by
  unfold defaultFuel; omega

theorem parseWithLexer_goodq (env : Env R) (henv : EnvOk env) (buf : Buf) (hs : RealSize buf) (fuel pos flags : Nat)
    (h : pos ≤ buf.size) (hf : 3 * (buf.size - pos) + 3 ≤ fuel) :
    GoodQ (fun v => nest v ≤ maxDepth) buf pos (parseWithLexer env buf fuel pos flags) :=
  (parse_total_aux env henv buf hs fuel).1 pos none flags maxDepth h hf

theorem parseWithLexer_good (env : Env R) (henv : EnvOk env) (buf : Buf) (hs : RealSize buf) (fuel pos flags : Nat)
    (h : pos ≤ buf.size) (hf : 3 * (buf.size - pos) + 3 ≤ fuel) :
    Good buf pos (parseWithLexer env buf fuel pos flags) :=
  (parseWithLexer_goodq env henv buf hs fuel pos flags h hf).good

theorem parseObjHeader_good (buf : Buf) (pos : Nat) (h : pos ≤ buf.size) : Good buf pos (parseObjHeader buf pos) := by
  unfold parseObjHeader
  refine Out.bind_ind (next_spec buf pos h) (.inl rfl) fun w1 ⟨a1, a2, a3⟩ => ?_
  split
  · exact .inl rfl
  refine Out.bind_ind (next_spec buf w1.2 a3) (.inl rfl) fun w2 ⟨b1, b2, b3⟩ => ?_
  split
  · exact .inl rfl
  exact Out.bind_ind (nextExpect_spec buf w2.2 kwObj b3) (.inl rfl) fun p ⟨c1, c2⟩ => good_ok _ (by omega) c2

theorem parseIndirectObject_good (env : Env R) (henv : EnvOk env) (buf : Buf) (hs : RealSize buf)
    (fuel pos flags : Nat) (h : pos ≤ buf.size) (hf : 3 * buf.size + 3 ≤ fuel) :
    Good buf pos (parseIndirectObject env buf fuel pos flags) := by
  unfold parseIndirectObject
  refine Out.bind_ind₂ (parseObjHeader_good buf pos h) (.inl rfl) fun id p ⟨h1, h2⟩ => ?_
  refine Out.bind_ind₂ ((parse_total_aux env henv buf hs fuel).1 p (some id) flags maxDepth h2 (by omega)).good
    (.inl rfl) fun v q ⟨q1, q2⟩ => ?_
  simp only []
  rcases nextExpect_spec buf q kwEndobj q2 with e | ⟨r, e, r1, r2⟩ <;> split <;> simp only [e, Out.bind_ok, Out.bind_err]
  · rw [setPos_spec buf q q q2]; exact good_ok _ (by omega) (by omega)
  · exact .inl rfl
  · exact good_ok _ (by omega) r2
  · exact good_ok _ (by omega) r2

theorem parseStream_good (env : Env R) (henv : EnvOk env) (buf : Buf) (hs : RealSize buf)
    (fuel pos : Nat) (id : Nat × Nat) (h : pos ≤ buf.size) (hf : 3 * buf.size + 3 ≤ fuel) :
    Good buf pos (parseStream env buf fuel pos id) := by
  unfold parseStream
  refine Out.bind_ind (next_spec buf pos h) (.inl rfl) fun w ⟨a1, a2, a3⟩ =>
    iteInduction (fun _ => ?_) fun _ => .inl rfl
  refine Out.bind_ind₂ ((parse_total_aux env henv buf hs fuel).2.2.2 w.2 none maxDepth [] a3 (by omega) nofun).good
    (.inl rfl) fun d p ⟨h1, h2⟩ => ?_
  obtain ⟨pk, hpk, _, _, _⟩ := peek_spec buf p h2
  simp only [hpk, Out.bind_ok]
  exact iteInduction (fun _ => (parseStreamObject_good env henv buf hs p d id h2).mono (by omega)) fun _ => .inl rfl

theorem parseIndirectStream_good (env : Env R) (henv : EnvOk env) (buf : Buf) (hs : RealSize buf)
    (fuel pos : Nat) (h : pos ≤ buf.size) (hf : 3 * buf.size + 3 ≤ fuel) :
    Good buf pos (parseIndirectStream env buf fuel pos) := by
  unfold parseIndirectStream
  refine Out.bind_ind₂ (parseObjHeader_good buf pos h) (.inl rfl) fun id p ⟨h1, h2⟩ => ?_
  refine Out.bind_ind₂ (parseStream_good env henv buf hs fuel p id h2 hf) (.inl rfl) fun v q ⟨q1, q2⟩ => ?_
  exact Out.bind_ind (nextExpect_spec buf q kwEndobj q2) (.inl rfl) fun r ⟨r1, r2⟩ => good_ok _ (by omega) r2

/-! ### a request restricted to `ParseFlags::INTEGER` never yields a stream

`Storage::resolve_ref` asks for an indirect `/Length` with `ParseFlags::INTEGER`; `check(flags, DICT)` fails before a
dictionary — let alone a stream — is read, so the length resolver cannot recurse through another stream. -/

def NotStream : Prim R → Prop
  | .stream _ _ => False
  | _ => True

theorem notStream_of_nest {v : Prim R} (h : nest v = 0) : NotStream v := by
  cases v <;> simp [NotStream, nest] at h ⊢

/-- whatever is returned is not a stream -/
def NoStream (r : Out (Prim R × Nat)) : Prop := ∀ v p, r = .ok (v, p) → NotStream v

theorem NoStream.err : NoStream (R := R) .err := nofun

theorem NoStream.ok {v : Prim R} {p : Nat} (h : NotStream v) : NoStream (.ok (v, p)) := by
  rintro _ _ ⟨⟩; exact h

theorem NoStream.bind {α : Type} {x : Out α} {f : α → Out (Prim R × Nat)} (hf : ∀ a, x = .ok a → NoStream (f a)) :
    NoStream (x.bind f) := fun v p h => by
  obtain ⟨a, ha, h⟩ := Out.bind_eq_ok h
  exact hf a ha v p h

theorem parseArray_noStream (env : Env R) (buf : Buf) (fuel pos : Nat) (ctx : Option (Nat × Nat)) (depth : Nat)
    (acc : List (Prim R)) : NoStream (parseArray env buf fuel pos ctx depth acc) := by
  induction fuel generalizing pos acc with
  | zero => unfold parseArray; exact nofun
  | succ fuel ih =>
    unfold parseArray
    exact .bind fun _ _ => iteInduction (fun _ => .bind fun _ _ => .ok trivial) fun _ => .bind fun _ _ => ih _ _

/-- `_parse_with_lexer_ctx` for a request that excludes `ParseFlags::DICT`: `check` fails before a dictionary is read -/
theorem parseInner_noStream (env : Env R) (buf : Buf) (fuel pos : Nat) (ctx : Option (Nat × Nat)) (flags depth : Nat)
    (hpos : pos ≤ buf.size) (hd : check flags Flags.dict = .err) :
    NoStream (parseInner env buf fuel pos ctx flags depth) := by
  cases fuel with
  | zero => unfold parseInner; exact nofun
  | succ fuel =>
    unfold parseInner
    refine .bind fun _ _ => .bind fun w hw => ?_
    obtain ⟨_, hw1, hw2⟩ := Out.of_ok (next_spec buf pos hpos) hw
    refine iteInduction (fun _ => ?_) fun _ => iteInduction (fun _ => ?_) fun _ => ?_
    · rw [hd]; exact .err
    · rcases parseIntOrRef_spec (R := R) buf 0 w.2 (slice buf w.1 w.2) flags (by omega) hw2 with he | ⟨v', p', hp', _, _, hn⟩
      · rw [he]; exact .err
      · rw [hp']; exact .ok (notStream_of_nest hn)
    cases realNumber (slice buf w.1 w.2) with
    | some s =>
      refine .bind fun _ _ => ?_
      cases env.parseReal s with
      | some r => exact .ok trivial
      | none => exact .err
    | none =>
      exact iteInduction (fun _ => .bind fun _ _ => .bind fun _ _ => .ok trivial) fun _ =>
        iteInduction (fun _ => .bind fun _ _ => iteInduction (fun _ => .err) fun _ => parseArray_noStream env buf _ _ _ _ _) fun _ =>
        iteInduction (fun _ => .bind fun _ _ => .bind fun _ _ => .bind fun (_, _) _ => .bind fun _ _ => .bind fun _ _ =>
          .ok trivial) fun _ =>
        iteInduction (fun _ => .bind fun _ _ => .bind fun _ _ => .bind fun (_, _) _ => .bind fun _ _ => .bind fun _ _ =>
          .ok trivial) fun _ =>
        iteInduction (fun _ => .bind fun _ _ => .ok trivial) fun _ =>
        iteInduction (fun _ => .bind fun _ _ => .ok trivial) fun _ =>
        iteInduction (fun _ => .bind fun _ _ => .ok trivial) fun _ => .bind fun _ _ => .err

theorem parseCtx_noStream (env : Env R) (buf : Buf) (fuel pos : Nat) (ctx : Option (Nat × Nat)) (flags depth : Nat)
    (hpos : pos ≤ buf.size) (hd : check flags Flags.dict = .err) :
    NoStream (parseCtx env buf fuel pos ctx flags depth) := by
  cases fuel with
  | zero => unfold parseCtx; exact nofun
  | succ fuel =>
    unfold parseCtx
    have := parseInner_noStream env buf fuel pos ctx flags depth hpos hd
    generalize parseInner env buf fuel pos ctx flags depth = r at this ⊢
    cases r with
    | ok r => exact this
    | err => exact .bind fun _ _ => .err
    | panic => exact nofun
    | oof => exact nofun

/-- `parse_indirect_object(…, ParseFlags::INTEGER)` never returns a stream -/
theorem parseIndirectObject_integer_notStream (env : Env R) (buf : Buf) (fuel pos : Nat) (hpos : pos ≤ buf.size)
    (id : Nat × Nat) (v : Prim R) (p : Nat)
    (h : parseIndirectObject env buf fuel pos Flags.integer = .ok ((id, v), p)) : NotStream v := by
  unfold parseIndirectObject at h
  obtain ⟨⟨id', q⟩, hhd, h⟩ := Out.bind_eq_ok h
  obtain ⟨⟨v', q'⟩, hr, h⟩ := Out.bind_eq_ok h
  have hns := parseCtx_noStream env buf fuel q (some id') Flags.integer maxDepth
    (Out.of_ok₂ (parseObjHeader_good buf pos hpos) hhd).2 rfl v' q' hr
  simp only [] at h
  split at h
  · split at h
    · cases h; exact hns
    · obtain ⟨_, _, h⟩ := Out.bind_eq_ok h; cases h; exact hns
    · cases h
    · cases h
  · obtain ⟨_, _, h⟩ := Out.bind_eq_ok h; cases h; exact hns

end PdfLex
