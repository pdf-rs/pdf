import PdfModel.Lemmas.Parser
import PdfModel.Lemmas.ParserCursor

/-! `ParseFlags`: a conformant spelling of `v` is rejected (`Err(PrimitiveNotAllowed)`) by every flag set that does
    not contain the bit of `v`'s kind (`flagOf`) — the converse of the reader theorems, which need that bit. -/

namespace PdfLex
open PdfSyntax (Gap Bnd Spells needsBnd)

variable {R : Type}

theorem check_err {flags x : Nat} (h : flags &&& x = 0) : check flags x = .err := by
  simp [check, h]

theorem parseCtx_of_inner_err (env : Env R) {buf : Buf} (f pos : Nat) (ctx : Option (Nat × Nat)) (flags depth : Nat)
    (hp : pos ≤ buf.size) (h : parseInner env buf f pos ctx flags depth = .err) :
    parseCtx env buf (f + 1) pos ctx flags depth = .err := by
  simp only [parseCtx, h]
  rw [setPos_ok hp hp]; rfl

/-- the first lexeme of a conformant spelling selects the branch of `_parse_with_lexer_ctx` for the kind of `v`, and the
    `check` of that branch fails (integers and references: one of the two checks of `parseIntOrRef`) -/
theorem parseInner_reject (env : Env R) (v : Prim R) (txt : List UInt8) (hsp : Spells env.parseReal v txt) {buf : Buf}
    (g rest : List UInt8) (pos f : Nat) (ctx : Option (Nat × Nat)) (flags depth : Nat) (hg : Gap g)
    (hfl : flags &&& flagOf v = 0) (hs : Suffix buf pos (g ++ txt ++ rest)) (hb : needsBnd v = true → Bnd rest)
    (hah : Ahead buf (pos + g.length + txt.length)) :
    parseInner env buf (f + 1) pos ctx flags depth = .err := by
  have hend : pos + g.length + txt.length ≤ buf.size := by
    have := hs.size_eq; simp at this; omega
  -- integers and references share the first check; behind it the look-ahead decides which of the two single checks fails
  have intOrRef : ∀ p t, flags &&& Flags.integer = 0 ∨ flags &&& Flags.ref = 0 →
      (∀ la cur, refLookahead buf p = .ok (la, cur) → (flags &&& Flags.integer = 0 ∧
          ∀ w2 w3, la = some (w2, w3) → slice buf w3.1 w3.2 ≠ [82]) ∨
        (flags &&& Flags.ref = 0 ∧ ∃ w2 w3, la = some (w2, w3) ∧ slice buf w3.1 w3.2 = [82])) →
      (∃ la cur, refLookahead buf p = .ok (la, cur)) → parseIntOrRef (R := R) buf p t flags = .err := by
    intro p t _ hla ⟨la, cur, e⟩
    rw [parseIntOrRef]
    by_cases hc : flags &&& (Flags.integer ||| Flags.ref) = 0
    · rw [check_err hc]; rfl
    rw [check_ok hc, Out.bind_ok, e, Out.bind_ok]
    rcases hla la cur e with ⟨hi, hR⟩ | ⟨hr, w2, w3, rfl, hR⟩
    · cases la with
      | none => simp [check_err hi]
      | some ws => simp [hR ws.1 ws.2 rfl, check_err hi]
    · simp [hR, check_err hr]
  cases v with
  | null =>
    simp only [Spells] at hsp; subst hsp
    simp only [flagOf] at hfl
    obtain ⟨hn, hsl⟩ := next_regular g kwNull rest pos hg hs (by decide) kw_null_spec.2.2 (hb rfl)
    rw [parseInner, remainingStart_ok hs.le, Out.bind_ok, hn, Out.bind_ok, hsl]
    have e := kw_null_spec; simp only [kwNull] at e
    simp [e.1, e.2.1, kwNull, kwTrue, kwFalse, check_err hfl]
  | bool b =>
    simp only [Spells] at hsp; subst hsp
    simp only [flagOf] at hfl
    cases b with
    | true =>
      obtain ⟨hn, hsl⟩ := next_regular g kwTrue rest pos hg hs (by decide) kw_true_spec.2.2 (hb rfl)
      rw [parseInner, remainingStart_ok hs.le, Out.bind_ok, hn, Out.bind_ok, hsl]
      have e := kw_true_spec; simp only [kwTrue] at e
      simp [e.1, e.2.1, kwTrue, check_err hfl]
    | false =>
      obtain ⟨hn, hsl⟩ := next_regular g kwFalse rest pos hg hs (by decide) kw_false_spec.2.2 (hb rfl)
      rw [parseInner, remainingStart_ok hs.le, Out.bind_ok, hn, Out.bind_ok, hsl]
      have e := kw_false_spec; simp only [kwFalse] at e
      simp [e.1, e.2.1, kwFalse, kwTrue, check_err hfl]
  | real r =>
    simp only [Spells] at hsp
    simp only [flagOf] at hfl
    obtain ⟨h1, h2, h3, h4⟩ := realTok_spec txt hsp.1
    obtain ⟨hn, hsl⟩ := next_regular g txt rest pos hg hs h3 h4 (hb rfl)
    rw [parseInner, remainingStart_ok hs.le, Out.bind_ok, hn, Out.bind_ok, hsl]
    simp [regular_ne_dictOpen h4, h1, h2, check_err hfl]
  | name s =>
    simp only [Spells] at hsp
    simp only [flagOf] at hfl
    obtain ⟨body, rfl, hnb⟩ := hsp
    obtain ⟨hn, hsl⟩ := next_name g body rest pos hg hs (nameBody_spec body s hnb).2 (hb rfl)
    rw [parseInner, remainingStart_ok hs.le, Out.bind_ok, hn, Out.bind_ok, hsl]
    simp [show isInteger (47 :: body) = false by simp [isInteger, allDigits, isDigit],
      realNumber_none_of_head 47 body (by decide) (by decide) (by decide) (by decide), check_err hfl]
  | str s =>
    simp only [Spells] at hsp
    simp only [flagOf] at hfl
    rcases hsp with ⟨body, rfl, hl⟩ | ⟨body, rfl, hl⟩
    · obtain ⟨hn, hsl⟩ := next_delim g 40 (body ++ rest) pos hg (by simpa using hs) rfl (by decide) (by decide) (by simp)
      rw [parseInner, remainingStart_ok hs.le, Out.bind_ok, hn, Out.bind_ok, hsl]
      simp [show isInteger [40] = false from rfl, show realNumber [40] = none from rfl, check_err hfl]
    · have hhead : (body ++ rest).head? ≠ some 60 := by
        obtain ⟨c, b, rfl⟩ := List.exists_cons_of_ne_nil (hexBody_ne_nil hl)
        simpa using hexBody_head hl
      obtain ⟨hn, hsl⟩ := next_delim g 60 (body ++ rest) pos hg (by simpa using hs) rfl (by decide) (by decide)
        (fun e => hhead e.2)
      rw [parseInner, remainingStart_ok hs.le, Out.bind_ok, hn, Out.bind_ok, hsl]
      simp [show isInteger [60] = false from rfl, show realNumber [60] = none from rfl, check_err hfl]
  | arr xs =>
    simp only [Spells] at hsp
    simp only [flagOf] at hfl
    obtain ⟨g0, r, rfl, _, _⟩ := hsp
    obtain ⟨hn, hsl⟩ := next_delim g 91 (g0 ++ r ++ rest) pos hg (by simpa using hs) rfl (by decide) (by decide) (by simp)
    rw [parseInner, remainingStart_ok hs.le, Out.bind_ok, hn, Out.bind_ok, hsl]
    simp [show isInteger [91] = false from rfl, show realNumber [91] = none from rfl, check_err hfl]
  | dict kvs =>
    simp only [Spells] at hsp
    simp only [flagOf] at hfl
    obtain ⟨g0, r, rfl, _, _⟩ := hsp
    obtain ⟨hn, hsl⟩ := next_double g 60 (g0 ++ r ++ rest) pos hg (by simpa using hs) (Or.inl rfl)
    rw [parseInner, remainingStart_ok hs.le, Out.bind_ok, hn, Out.bind_ok, hsl]
    simp [check_err hfl]
  | stream info inner => simp [Spells] at hsp
  | int i =>
    simp only [Spells] at hsp
    simp only [flagOf] at hfl
    obtain ⟨h1, _, h3, h4⟩ := intTok_spec txt i hsp.1 hsp.2.1 hsp.2.2
    obtain ⟨hn, hsl⟩ := next_regular g txt rest pos hg hs h3 h4 (hb rfl)
    obtain ⟨la, cur, hla, _, hR⟩ := intFollowOK_of_ahead hend hah
    rw [parseInner, remainingStart_ok hs.le, Out.bind_ok, hn, Out.bind_ok, hsl]
    simp only [regular_ne_dictOpen h4, h1, Bool.false_eq_true, if_false, if_true]
    exact intOrRef _ _ (Or.inl hfl) (fun la' cur' e => by cases hla.symm.trans e; exact Or.inl ⟨hfl, hR⟩) ⟨la, cur, hla⟩
  | ref id gen =>
    simp only [Spells] at hsp
    simp only [flagOf] at hfl
    obtain ⟨a, g1, b, g2, rfl, ha, hbt, hg1, hg1ne, hg2, hg2ne, hid, hgen⟩ := hsp
    obtain ⟨a1, _, _, a4⟩ := natTok_spec a id ha hid
    obtain ⟨b1, _, _, _⟩ := natTok_spec b gen hbt hgen
    obtain ⟨w1, w2, w3, hn, hsl, _, hn2, hsl2, hn3, hsl3, _⟩ :=
      ref_lexemes a g1 b g2 id gen g rest pos hg ha hbt hg1 hg1ne hg2 hg2ne hid hgen hs (hb rfl)
    have hla : refLookahead buf w1.2 = .ok (some (w2, w3), w3.2) := by
      simp only [refLookahead, hn2, hsl2, b1, if_true, hn3]
    rw [parseInner, remainingStart_ok hs.le, Out.bind_ok, hn, Out.bind_ok, hsl]
    simp only [regular_ne_dictOpen a4, a1, Bool.false_eq_true, if_false, if_true]
    exact intOrRef _ _ (Or.inr hfl) (fun la' cur' e => by cases hla.symm.trans e; exact Or.inr ⟨hfl, w2, w3, rfl, hsl3⟩)
      ⟨_, _, hla⟩

/-- **rejected**: `parse_with_lexer_ctx` on a conformant spelling of `v` under a flag set without `v`'s kind -/
theorem parseCtx_reject (env : Env R) (v : Prim R) (txt : List UInt8) (hsp : Spells env.parseReal v txt) {buf : Buf}
    (g rest : List UInt8) (pos fuel : Nat) (ctx : Option (Nat × Nat)) (flags depth : Nat) (hg : Gap g)
    (hfl : flags &&& flagOf v = 0) (hs : Suffix buf pos (g ++ txt ++ rest)) (hb : needsBnd v = true → Bnd rest)
    (hah : Ahead buf (pos + g.length + txt.length)) (hfuel : 2 ≤ fuel) :
    parseCtx env buf fuel pos ctx flags depth = .err := by
  obtain ⟨f, rfl⟩ : ∃ f, fuel = f + 2 := ⟨fuel - 2, by omega⟩
  exact parseCtx_of_inner_err env (f + 1) pos ctx flags depth hs.le
    (parseInner_reject env v txt hsp g rest pos f ctx flags depth hg hfl hs hb hah)

end PdfLex
