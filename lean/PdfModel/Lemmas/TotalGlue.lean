import PdfModel.Model.OpenConcrete
import PdfModel.Lemmas.TotalXrefTable
import PdfModel.Lemmas.TotalOpen

/-! The concrete parser instance `Offsets.coreParsers` (both section formats, objects, object-stream members) meets
    `Offsets.TotalOn`: the hypotheses of the open-path theorems are discharged by the totality theorems of the
    byte-level models, for every file of a size a slice can have. -/

namespace Offsets
open PdfLex

variable {R : Type}

def isizeMax : Nat := 9223372036854775807

theorem realSize_of_len {s : List UInt8} (h : s.length ≤ isizeMax) : RealSize s.toArray := by
  unfold RealSize; unfold isizeMax at h; simpa using h

theorem asUnsigned_returns (v : Prim R) : (XrefTable.asUnsigned v).Returns := by
  unfold XrefTable.asUnsigned
  split
  · split
    · exact .ok _
    · exact .err
  · exact .err

theorem asNat_returns (v : Prim R) : (asNat v).Returns := by
  unfold asNat
  split
  · split
    · exact .ok _
    · exact .err
  · exact .err

theorem toObjParse_returns (r : Out (((Nat × Nat) × Prim R) × Nat)) (h : Ret r) : (toObjParse r).Returns := by
  rcases h with he | ⟨a, ha⟩
  · rw [he]; exact .err
  · rw [ha]; unfold toObjParse
    split <;> first | exact .ok _ | exact .err | (rename_i hh; cases hh)

theorem omap_returns {α β : Type} (f : α → β) (r : Out α) (h : Ret r) : (PdfShift.omap f r).Returns := by
  rcases h with he | ⟨a, ha⟩
  · rw [he]; exact .err
  · rw [ha]; exact .ok _

/-- what the parameters have to do: return `Ok` or `Err`; what a filter chain delivers is a `Vec` -/
structure ParamsOk (env : Env R) (typed : Dict R → Out XrefTable.XInfo) (sdata : Dict R → StreamInner → Out (List UInt8))
    (dec : Dict R → OffLex.Bytes → Out OffLex.Bytes) (S : OffLex.Bytes → List (Out (Obj (Prim R)))) : Prop where
  env : EnvOk env
  typed : ∀ d, Ret (typed d)
  sdata : ∀ d i, Ret (sdata d i)
  dec : ∀ d raw, Ret (dec d raw) ∧ ∀ out, dec d raw = .ok out → out.length ≤ isizeMax
  scan : ∀ s, ∀ it ∈ S s, it.Returns

/-- the stream-format reader `coreParsers` hands to the dispatcher -/
def stmOf (env : Env R) (typed : Dict R → Out XrefTable.XInfo) (sdata : Dict R → StreamInner → Out (List UInt8))
    (allowErr : Bool) : Buf → Nat → Out (List Xref.Sub × Dict R) :=
  fun b p => XrefTable.parseXrefStreamAndTrailer env typed sdata allowErr b (PdfLex.defaultFuel b) p

theorem coreParsers_decode (env : Env R) (typed) (sdata) (allowErr : Bool) (dec) (S) (n : Nat) (v : Prim R) (raw : OffLex.Bytes) :
    (coreParsers env typed sdata allowErr dec S n).decode v raw = (match v with | .dict d => dec d raw | _ => .err) := rfl

/-- `3 * n + 64` is `PdfLex.defaultFuel` of a buffer of `n` bytes: every suffix gets the fuel of the whole file -/
theorem coreParsers_objAt (env : Env R) (typed) (sdata) (allowErr : Bool) (dec) (S) (n : Nat) (fl : Flags) (sfx : OffLex.Bytes) :
    (coreParsers env typed sdata allowErr dec S n).objAt fl sfx =
      toObjParse (parseIndirectObject { env with fileOffset := 0 } sfx.toArray (3 * n + 64) 0 (flagsNat fl)) := rfl

theorem coreParsers_xrefAt_spec (env : Env R) (typed : Dict R → Out XrefTable.XInfo)
    (sdata : Dict R → StreamInner → Out (List UInt8)) (allowErr : Bool)
    (dec : Dict R → OffLex.Bytes → Out OffLex.Bytes) (S : OffLex.Bytes → List (Out (Obj (Prim R)))) (n : Nat)
    (hn : n ≤ isizeMax) (hp : ParamsOk env typed sdata dec S) (sfx : OffLex.Bytes) (hl : sfx.length ≤ n) :
    (coreParsers env typed sdata allowErr dec S n).xrefAt sfx = .err ∨
    ∃ subs d, (coreParsers env typed sdata allowErr dec S n).xrefAt sfx = .ok (subs, d) ∧ SubsOk subs :=
  XrefTable.readXrefAndTrailerAt_total env hp.env (stmOf env typed sdata allowErr)
    (XrefTable.parseXrefStreamAndTrailer_total env hp.env typed hp.typed sdata hp.sdata allowErr)
    sfx.toArray (realSize_of_len (by omega)) 0 (Nat.zero_le _)

/-- **the concrete parsers of the open path are total** on every file of at most `isize::MAX` bytes, strict and
    tolerant -/
theorem coreParsers_total (env : Env R) (typed : Dict R → Out XrefTable.XInfo)
    (sdata : Dict R → StreamInner → Out (List UInt8)) (allowErr : Bool)
    (dec : Dict R → OffLex.Bytes → Out OffLex.Bytes) (S : OffLex.Bytes → List (Out (Obj (Prim R)))) (n : Nat)
    (hn : n ≤ isizeMax) (hp : ParamsOk env typed sdata dec S) :
    TotalOn (coreParsers env typed sdata allowErr dec S n) n where
  xrefAt := by
    intro sfx hl
    rcases coreParsers_xrefAt_spec env typed sdata allowErr dec S n hn hp sfx hl with e | ⟨subs, d, e, _⟩ <;> rw [e]
    · exact .err
    · exact .ok _
  xrefSubs := by
    intro sfx subs tr hl hx
    rcases coreParsers_xrefAt_spec env typed sdata allowErr dec S n hn hp sfx hl with e | ⟨subs', d, e, hok⟩ <;> rw [e] at hx <;> cases hx
    exact subsOk_pairsOK _ hok
  sizeOf := by
    intro d
    show (XrefTable.trailerSize d).Returns
    unfold XrefTable.trailerSize; split
    · exact asUnsigned_returns _
    · exact .err
  prevOf := by
    intro d r hr
    change XrefTable.trailerPrev d = some r at hr
    unfold XrefTable.trailerPrev at hr
    split at hr
    · cases hr; exact asUnsigned_returns _
    · cases hr
  objAt := by
    intro fl sfx hl
    rw [coreParsers_objAt]
    apply toObjParse_returns
    have henv' : EnvOk { env with fileOffset := 0 } := ⟨hp.env.1, hp.env.2⟩
    exact (parseIndirectObject_good _ henv' sfx.toArray (realSize_of_len (by omega)) (3 * n + 64) 0 (flagsNat fl)
      (Nat.zero_le _) (by simp; omega)).ret
  objAtInt := by
    intro sfx info rel len h
    rw [coreParsers_objAt] at h
    unfold toObjParse at h
    split at h <;> try cases h
    exact parseIndirectObject_integer_notStream _ sfx.toArray _ 0 (Nat.zero_le _) _ _ _ ‹_›
  streamEnd := fun _ _ => .ok _
  asLen := asNat_returns
  stmHead := by
    intro v
    show (match v with
      | .dict d =>
        match dictGet d kwN, dictGet d kwFirst with
        | some n, some f => (asNat n).bind fun n => (asNat f).bind fun f => Out.ok (n, f)
        | _, _ => .err
      | _ => .err : Out (Nat × Nat)).Returns
    split
    · split
      · exact .bind (asNat_returns _) fun _ => .bind (asNat_returns _) fun _ => .ok _
      · exact .err
    · exact .err
  decode := by
    intro v raw
    rw [coreParsers_decode]
    split
    · exact (hp.dec _ raw).1.returns
    · exact .err
  parseMember := by
    intro fl s v raw data hd hl
    show (PdfShift.omap Prod.fst (parse { env with fileOffset := 0 } s.toArray (flagsNat fl))).Returns
    apply omap_returns
    have hdata : data.length ≤ isizeMax := by
      rw [coreParsers_decode] at hd
      split at hd
      · exact (hp.dec _ raw).2 data hd
      · cases hd
    have henv' : EnvOk { env with fileOffset := 0 } := ⟨hp.env.1, hp.env.2⟩
    exact (parseWithLexer_good _ henv' s.toArray (realSize_of_len (by omega)) (PdfLex.defaultFuel s.toArray) 0
      (flagsNat fl) (Nat.zero_le _) (by have := defaultFuel_enough s.toArray 0; omega)).ret
  scanItems := hp.scan

end Offsets
