import PdfModel.Model.OffsetsConcrete
import PdfModel.Lemmas.SuffixMember
import PdfModel.Lemmas.ShiftIndirect
import PdfModel.Lemmas.Offsets

/-!
  The token-level parsers of `Model/Offsets.lean` instantiated with the concrete lexer / parser models
  (`Model/Lexer.lean`, `Model/StrLexer.lean`, `Model/Parser.lean`).

  What stays a parameter is third-party or not modelled at byte level anywhere in the framework:
  `env.parseReal` (`f32::from_str`), `env.resolveLen` (the resolver seen from inside `parse_stream_object`),
  `dec` (the filter chain of an object stream: zlib, …), `X` (the cross-reference section reader:
  `read_xref_and_trailer_at`) and `S` (the item loop of `Storage::scan`).
-/

namespace Offsets
open PdfLex PdfShift

variable {R : Type}

theorem concreteP_objAt (env : Env R) (pfuel : Nat) (dec : Dict R → OffLex.Bytes → Out OffLex.Bytes)
    (X : OffLex.Bytes → Out (List Xref.Sub × Dict R)) (S : OffLex.Bytes → List (Out (Obj (Prim R))))
    (fl : Offsets.Flags) (sfx : OffLex.Bytes) :
    (concreteP env pfuel dec X S).objAt fl sfx
      = toObjParse (parseIndirectObject { env with fileOffset := 0 } sfx.toArray pfuel 0 (flagsNat fl)) := rfl

/-- the object parser hands on as a plain value whatever is not a stream -/
theorem toObjParse_plain (v : Prim R) (h : ∀ info inner, v ≠ .stream info inner) (id : Nat × Nat) (q : Nat) :
    toObjParse (.ok ((id, v), q)) = .ok (.plain v) := by
  cases v with
  | stream info inner => exact absurd rfl (h info inner)
  | _ => rfl

/-! ### the direct-object read in its real call shape -/

/-- **Reading a direct object under a prefix, concrete parser.** Whatever is written at the offset —
    conformant or not — the prefixed file yields the same value, every stream range (nested ones too)
    `p.length` further on; errors and panics correspond. -/
theorem readObjectAt_prefix (env : Env R) (fuel : Nat) (p f : OffLex.Bytes) (s off flags : Nat) (hfit : Fits p f) :
    readObjectAt env fuel (p ++ f) (p.length + s) off flags
      = omap (shiftR p.length) (readObjectAt env fuel f s off flags) := by
  unfold readObjectAt
  rw [suffixAt_append p f s off hfit]
  cases suffixAt f s off with
  | ok qs =>
    obtain ⟨q, sfx⟩ := qs
    simp only
    have e : ({ env with fileOffset := p.length + q } : Env R) = ({ env with fileOffset := q } : Env R).shiftOffset p.length := by
      simp [Env.shiftOffset, Nat.add_comm]
    rw [e, parseIndirectObject_offset]
    cases parseIndirectObject { env with fileOffset := q } sfx.toArray fuel 0 flags <;> rfl
  | _ => rfl

/-! ### `locate_xref_offset` on the concrete lexer -/

theorem locateXrefC_append (p f : OffLex.Bytes) (k : Nat)
    (hk : OffLex.findLast startxrefKw (f.take (f.length - 1)) = some k) :
    locateXrefC (p ++ f) = locateXrefC f := by
  unfold locateXrefC
  rw [searchWindow_append p f k hk, hk]
  simp only
  rw [show (p ++ f).toArray = p.toArray ++ f.toArray by simp, Nat.add_assoc,
    show p.length = p.toArray.size by simp, next_shift]
  cases PdfLex.next f.toArray (k + startxrefKw.length) with
  | ok w => simp only [omap_ok, sh2, slice_shift]
  | _ => rfl

end Offsets
