import PdfModel.Model.ContentBytes
import PdfModel.Lemmas.TotalContent

/-!
  `content::parse_ops` WITH the typed conversion of the operators is total (C01; the model is C08's
  `Model/ContentBytes.parseBytes` over `Model/Content.add`: all 73 operators, their operand conversions, the
  graphics-state bookkeeping).

  `Lemmas/TotalContent` proves the loop over an oracle for "did the operands convert". Here the conversion is the
  model itself: for EVERY byte string, both option sets, every error-kind oracle and every inline-image reader that
  stays inside the data, `parse_ops` returns the operations or `Err` within `len + 1` rounds.
-/

namespace ContentBytes
open Content PdfLex

variable {R : Type}

theorem step_returns (ro : RealOps R) (allow : Bool) (c : PCfg R) (t : Tok R) :
    Ret (Content.step ro allow c t) := by
  unfold Content.step
  split
  · exact Or.inr ⟨_, rfl⟩
  · simp only []; split
    · exact Or.inr ⟨_, rfl⟩
    · exact Or.inl rfl
  · exact Or.inr ⟨_, rfl⟩
  · split
    · exact Or.inr ⟨_, rfl⟩
    · exact Or.inl rfl
  · exact Or.inl rfl

/-- the inline-image reader below the loop: an image (or a failure the loop may skip) and a cursor inside the data,
    or `Err` (`C01.inline_image_img_ok` proves this of the reader `C01.imgReader` built on `inline_image`, from
    `Lemmas/TotalContent.inlineImage_spec`) -/
def ImgOk (o : Oracle) : Prop :=
  ∀ (buf : Buf) (pos : Nat), pos ≤ buf.size →
    o.inlineImage buf pos = .err ∨ ∃ img p, o.inlineImage buf pos = .ok (img, p) ∧ pos ≤ p ∧ p ≤ buf.size

/-- one round: `Err`, `break`, or a builder and a cursor strictly further, inside the data -/
theorem bytesStep_spec (ro : RealOps R) (env : Env R) (henv : EnvOk env) (o : Oracle) (ho : ImgOk o) (allow : Bool)
    (buf : Buf) (hs : RealSize buf) (c : PCfg R) (pos : Nat) (h : pos ≤ buf.size) :
    bytesStep ro env o allow buf c pos = .err ∨ bytesStep ro env o allow buf c pos = .ok none ∨
    ∃ c' p, bytesStep ro env o allow buf c pos = .ok (some (c', p)) ∧ pos < p ∧ p ≤ buf.size := by
  unfold bytesStep
  rcases parseWithLexer_good env henv buf hs (defaultFuel buf) pos Flags.any h
      (by have := defaultFuel_enough buf pos; omega) with he | ⟨v, p, hp, h1, h2⟩
  · rw [he]; simp only []
    split
    · right; left; rfl
    · rw [setPos_spec buf pos pos h]; simp only [Out.bind_ok]
      have hmin : min pos buf.size = pos := by omega
      rw [hmin]
      rcases next_spec buf pos h with he | ⟨w, hw, a1, a2, a3⟩
      · left; rw [he]; rfl
      · rw [hw]; simp only [Out.bind_ok]
        split
        · left; rfl
        · split
          · rcases ho buf w.2 a3 with hi | ⟨img, q, hq, q1, q2⟩
            · left; simp [hi]
            · rw [hq]; simp only [Out.bind_ok]
              rcases step_returns ro allow c (.bi img) with hc | ⟨c', hc⟩
              · rw [hc]; left; rfl
              · rw [hc]; right; right; exact ⟨c', q, rfl, by omega, q2⟩
          · rename_i s _ _
            rcases step_returns ro allow c (.kw s) with hc | ⟨c', hc⟩
            · rw [hc]; left; rfl
            · rw [hc]; right; right; exact ⟨c', w.2, rfl, by omega, a3⟩
  · rw [hp]; simp only []
    split
    · right; right; exact ⟨_, p, rfl, h1, h2⟩
    · left; rfl

theorem bytesLoop_spec (ro : RealOps R) (env : Env R) (henv : EnvOk env) (o : Oracle) (ho : ImgOk o) (allow : Bool)
    (buf : Buf) (hs : RealSize buf) (fuel : Nat) (c : PCfg R) (pos : Nat) (h : pos ≤ buf.size)
    (hf : buf.size - pos < fuel) :
    bytesLoop ro env o allow buf fuel c pos = .err ∨ ∃ c', bytesLoop ro env o allow buf fuel c pos = .ok c' := by
  induction fuel generalizing c pos with
  | zero => omega
  | succ fuel ih =>
    unfold bytesLoop
    rcases bytesStep_spec ro env henv o ho allow buf hs c pos h with he | he | ⟨c', p, hp, h1, h2⟩
    · left; rw [he]
    · right; rw [he]; exact ⟨c, rfl⟩
    · rw [hp]; simp only []
      have hn : ¬ p > buf.size := by omega
      simp only [hn, if_false]
      by_cases hlt : p < buf.size
      · simp only [hlt, if_true]
        exact ih c' p h2 (by omega)
      · simp only [hlt, if_false]
        right; exact ⟨c', rfl⟩

/-- **`parse_ops` with the typed conversion of every operator answers on every byte string.** -/
theorem parseBytes_total (ro : RealOps R) (env : Env R) (henv : EnvOk env) (o : Oracle) (ho : ImgOk o) (allow : Bool)
    (data : List UInt8) (hs : RealSize data.toArray) : (parseBytes ro env o allow data).Returns := by
  unfold parseBytes
  simp only []
  rcases bytesLoop_spec ro env henv o ho allow data.toArray hs (data.toArray.size + 1) ⟨initState ro, []⟩ 0
      (Nat.zero_le _) (by omega) with e | ⟨c, e⟩ <;> rw [e] <;> simp [Out.Returns]

end ContentBytes
