import PdfModel.Lemmas.Storage

/-! The backend only grows: no operation, successful or not, changes or removes what is in it. This
    needs no invariant at all. -/

namespace Storage
open Xref

variable {V : Type}

/-- `s'` extends `s`: same objects and sections at the same offsets, anything new starts at or after
    the old end of the file -/
structure Extends (s s' : St V) : Prop where
  objs : ∃ e, s'.objs = s.objs ++ e ∧ ∀ o ∈ e, s.len ≤ o.off
  secs : ∃ e, s'.secs = s.secs ++ e ∧ ∀ x ∈ e, s.len ≤ x.off
  len : s.len ≤ s'.len
  start : s'.start = s.start

/-- nothing appended -/
theorem Extends.of_eq {s s' : St V} (ho : s'.objs = s.objs) (hs : s'.secs = s.secs) (hl : s'.len = s.len)
    (hst : s'.start = s.start) : Extends s s' :=
  ⟨⟨[], by rw [ho, List.append_nil], nofun⟩, ⟨[], by rw [hs, List.append_nil], nofun⟩, Nat.le_of_eq hl.symm, hst⟩

theorem Extends.refl (s : St V) : Extends s s := .of_eq rfl rfl rfl rfl

theorem Extends.trans {a b c : St V} (h1 : Extends a b) (h2 : Extends b c) : Extends a c := by
  obtain ⟨e1, a1, b1⟩ := h1.objs
  obtain ⟨e2, a2, b2⟩ := h2.objs
  obtain ⟨f1, c1, d1⟩ := h1.secs
  obtain ⟨f2, c2, d2⟩ := h2.secs
  refine ⟨⟨e1 ++ e2, by rw [a2, a1]; simp, ?_⟩, ⟨f1 ++ f2, by rw [c2, c1]; simp, ?_⟩,
    Nat.le_trans h1.len h2.len, by rw [h2.start, h1.start]⟩
  · intro o ho
    rcases List.mem_append.mp ho with h | h
    · exact b1 o h
    · exact Nat.le_trans h1.len (b2 o h)
  · intro o ho
    rcases List.mem_append.mp ho with h | h
    · exact d1 o h
    · exact Nat.le_trans h1.len (d2 o h)

theorem prep_same (d : Doc V) : (prep d).st2.objs = d.st.objs ∧ (prep d).st2.secs = d.st.secs ∧
    (prep d).st2.len = d.st.len ∧ (prep d).st2.start = d.st.start := by
  unfold prep prepInfo
  cases d.tr.info <;> simp [promise, alloc, create]

theorem save_extends (P : Params V) (L : Layout) (d : Doc V) : Extends d.st (save P L d).1.st := by
  obtain ⟨p1, p2, p3, p4⟩ := prep_same d
  -- the roll-back restores the table only
  have hroll : ∀ R : List XRef, Extends d.st ({ (prep d).st2 with refs := R } : St V) := fun R => .of_eq p1 p2 p3 p4
  obtain ⟨⟨e, a, b⟩, c⟩ := writeChanges_extends P L (prep d).st2.start (prep d).st2.changes
    ⟨(prep d).st2.refs, (prep d).st2.objs, (prep d).st2.len⟩
  unfold save
  split
  · exact Extends.refl _
  simp only
  generalize writeChanges P L _ _ _ = res at a b c
  obtain ⟨w, o⟩ := res
  simp only at a b c
  cases o with
  | ok u =>
    simp only
    split
    · exact hroll _
    · rename_i rows _
      have hcommit : Extends d.st (commit P L d (prep d) w (w.refs.set (prep d).xid (.raw (w.len - (prep d).st2.start) 0)) rows) := by
        refine ⟨⟨e ++ [_], by rw [commit, a, p1, List.append_assoc], fun o ho => ?_⟩,
          ⟨[_], by rw [commit, p2], fun x hx => ?_⟩, by simp only [commit]; omega, p4⟩
        · rcases List.mem_append.mp ho with ho | ho
          · exact p3 ▸ (b o ho).1
          · cases List.mem_singleton.mp ho; exact p3 ▸ c
        · cases List.mem_singleton.mp hx; exact p3 ▸ c
      split
      · split <;> exact hcommit
      all_goals exact hcommit
  | _ => exact hroll _

theorem update_extends (st : St V) (id : Nat) (v : V) : Extends st (update st id v).1 := by
  unfold update
  split <;> exact .of_eq rfl rfl rfl rfl

/-- **prefix preservation, one step** -/
theorem step_extends (P : Params V) (d : Doc V) (op : Op V) : Extends d.st (step P d op).1.st := by
  cases op with
  | create v => exact .of_eq rfl rfl rfl rfl
  | promise => exact .of_eq rfl rfl rfl rfl
  | update id v => rw [step_update_fst]; exact update_extends d.st id v
  | fulfil id v => exact (step_update_fst P d id v).symm ▸ update_extends d.st id v
  | get id =>
    simp only [step, get]
    split
    · split <;> exact .of_eq rfl rfl rfl rfl
    · exact Extends.refl _
  | resolve id => exact Extends.refl _
  | save L => rw [step_save_fst]; exact save_extends P L d

theorem run_extends (P : Params V) : ∀ (ops : List (Op V)) (d : Doc V), Extends d.st (run P d ops).1.st := by
  intro ops
  induction ops with
  | nil => intro d; exact Extends.refl _
  | cons op ops ih =>
    intro d
    simp only [run]
    exact Extends.trans (step_extends P d op) (ih _)

end Storage
