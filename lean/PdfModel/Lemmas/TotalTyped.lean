import PdfModel.Model.Handwritten2
import PdfModel.Lemmas.DeriveTotal

/-!
  Totality of the hand-written typed readers modelled by other packages (`Model/Handwritten.lean`,
  `Model/Handwritten2.lean`, C15) — C01.

  As in `Lemmas/DeriveTotal`: these models have no panic outcome; `Clean r` says the outcome is a value or an error of
  the implementation, never `oof` ("outside the model / out of budget"). Every reader is `Clean` on EVERY input
  primitive, given that `Resolve::resolve` is (`EnvOk.clean`) and that the readers it is parameterised with are.
  The only `oof` answers left are spelled out where they occur: a stream with filters handed to `unitStreamData`
  (`Stream::<()>::data` runs the decoders of C05 there), and `readEncoding` out of fuel on a chain of references,
  which does not happen for an environment that returns values (`EnvOk.value`) and fuel ≥ 1.
-/

namespace Derive

theorem resolve1_clean {env : Env} (hc : ∀ id, Clean (env.resolve id)) (p : Prim) : Clean (resolve1 env p) := by
  cases p <;> simp [resolve1, resolveP, Clean] <;> first | exact hc _ | skip

/-- `Clean`, unfolded -/
theorem clean_def {α : Type} (r : R α) : Clean r ↔ ∀ e, r = .error e → e.hasOof = false := Iff.rfl

@[simp, grind =] theorem hasOof_tryE (e : Err) : (Err.tryE e).hasOof = e.hasOof := rfl
@[simp, grind =] theorem hasOof_shared (e : Err) : (Err.shared e).hasOof = e.hasOof := rfl
@[simp, grind =] theorem hasOof_fromPrimitive (f : String) (e : Err) : (Err.fromPrimitive f e).hasOof = e.hasOof := rfl

/-! ## Dest, MaybeNamedDest, Action -/

theorem optCoord_clean (o : Option Prim) : Clean (optCoord o) := by
  unfold optCoord; split <;> simp [Clean, Err.hasOof]

theorem coord_clean (o : Option Prim) : Clean (coord o) := by
  unfold coord; split <;> simp [Clean, Err.hasOof]

theorem zoomOf_clean (o : Option Prim) : Clean (zoomOf o) := by
  unfold zoomOf; split <;> simp [Clean, Err.hasOof]

theorem destPage_clean (t : Bool) (o : Option Prim) : Clean (destPage t o) := by
  unfold destPage; split <;> (try split) <;> simp [Clean, Err.hasOof]

theorem readDestArr_clean (t : Bool) (xs : List Prim) : Clean (readDestArr t xs) := by
  unfold readDestArr
  refine (destPage_clean t xs[0]?).elim (fun page => ?_) clean_err
  simp only []
  split
  · split
    · exact clean_ok _
    · -- the view failed: by the name of its kind
      rename_i e heq
      refine clean_err e ((?_ : Clean _) e heq)
      have hc := fun i : Nat => coord_clean xs[i]?
      refine clean_ite (fun _ => ?_) fun _ => clean_ite (fun _ => clean_ok _) fun _ =>
        clean_ite (fun _ => (hc 2).elim (fun _ => clean_ok _) clean_err) fun _ =>
        clean_ite (fun _ => (hc 2).elim (fun _ => clean_ok _) clean_err) fun _ =>
        clean_ite (fun _ => ?_) fun _ => clean_ite (fun _ => clean_ok _) fun _ =>
        clean_ite (fun _ => (hc 2).elim (fun _ => clean_ok _) clean_err) fun _ => clean_err _ rfl
      all_goals split <;> first | exact clean_ok _ | exact clean_err _ rfl
  · exact clean_err _ rfl

theorem readDest_clean {env : Env} (hc : ∀ id, Clean (env.resolve id)) (p : Prim) : Clean (readDest env p) := by
  unfold readDest
  refine (resolve1_clean hc p).elim (fun q => ?_) clean_err
  cases q <;> simp only [] <;> first | exact readDestArr_clean _ _ | exact clean_err _ rfl | skip
  rename_i d
  cases dget "D" d with
  | none => exact clean_err _ rfl
  | some x => cases x <;> first | exact readDestArr_clean _ _ | exact clean_err _ rfl

theorem map_clean {α β : Type} (f : α → β) (r : R α) (h : Clean r) : Clean (r.map f) :=
  h.elim (fun _ => clean_ok _) clean_err

theorem readNamedDestV_clean {env : Env} (hc : ∀ id, Clean (env.resolve id)) (p : Prim) :
    Clean (readNamedDestV env p) := by
  have harr := fun xs => map_clean NamedDest.direct _ (readDestArr_clean env.tolerant xs)
  unfold readNamedDestV
  refine (resolve1_clean hc p).elim (fun q => ?_) clean_err
  cases q with
  | dict d =>
    simp only []
    cases dget "D" d with
    | none => exact clean_err _ rfl
    | some x => cases x <;> first | exact harr _ | exact clean_ok _ | exact clean_err _ rfl
  | arr xs => exact harr xs
  | str s => exact clean_ok _
  | _ => exact clean_err _ rfl

theorem readNamedDest_clean {env : Env} (hc : ∀ id, Clean (env.resolve id)) (rdDest : Prim → R Val)
    (hd : ∀ q, Clean (rdDest q)) (p : Prim) : Clean (readNamedDest rdDest env p) := by
  unfold readNamedDest
  refine (resolve1_clean hc p).elim (fun q => ?_) clean_err
  cases q with
  | dict d =>
    simp only []
    cases dget "D" d with
    | none => exact clean_err _ rfl
    | some x => exact hd x
  | str s => exact clean_ok _
  | _ => exact hd _

theorem readAction_clean {env : Env} (hc : ∀ id, Clean (env.resolve id)) (rdDest : Prim → R Val)
    (hd : ∀ q, Clean (rdDest q)) (p : Prim) : Clean (readAction rdDest env p) := by
  unfold readAction
  refine (resolve1_clean hc p).elim (fun q => ?_) clean_err
  cases q with
  | dict d =>
    simp only []
    cases dget "S" d with
    | none => exact clean_err _ rfl
    | some s =>
      cases s with
      | name s =>
        refine clean_ite (fun _ => ?_) fun _ => clean_ok _
        cases dget "D" d with
        | none => exact clean_err _ rfl
        | some x =>
          simp only []
          exact (readNamedDest_clean hc rdDest hd x).elim (fun _ => clean_ok _) fun e he => clean_err _ he
      | _ => exact clean_err _ rfl
  | _ => exact clean_err _ rfl

/-! ## Number trees and name trees -/

theorem asRefs_clean : ∀ xs, Clean (asRefs xs) := by
  intro xs
  fun_induction asRefs xs with
  | case1 => exact clean_ok _
  | case2 => exact clean_ok _
  | case3 i g r e hr ih => exact clean_err e (ih e hr)
  | case4 => exact clean_err _ rfl

/-- only the elements of the list are handed to `rdT` -/
theorem readNums_clean_on (rdT : Prim → R Val) : ∀ xs, (∀ v ∈ xs, Clean (rdT v)) → Clean (readNums rdT xs) := by
  intro xs
  fun_induction readNums rdT xs with
  | case1 k v r e hv => intro h; exact clean_err _ (h v (by simp) e hv)
  | case2 k v r x hv t hr ih => intro _; exact clean_ok _
  | case3 k v r x hv e hr ih =>
    intro h; exact clean_err e (ih (fun w hw => h w (by simp [hw])) e hr)
  | case4 => intro _; exact clean_err _ rfl
  | case5 => intro _; exact clean_ok _

theorem readNames_clean_on {env : Env} (hc : ∀ id, Clean (env.resolve id)) (rdT : Prim → R Val) :
    ∀ xs, (∀ v ∈ xs, Clean (rdT v)) → Clean (readNames rdT env xs) := by
  intro xs
  fun_induction readNames rdT env xs with
  | case1 n v r e hn => intro _; exact clean_err e (resolve1_clean hc n e hn)
  | case2 n v r s hn e hv => intro h; exact clean_err _ (h v (by simp) e hv)
  | case3 n v r s hn x hv t hr ih => intro _; exact clean_ok _
  | case4 n v r s hn x hv e hr ih =>
    intro h; exact clean_err e (ih (fun w hw => h w (by simp [hw])) e hr)
  | case5 n v r a ha hn => intro _; exact clean_err _ rfl
  | case6 => intro _; exact clean_ok _

/-- `NumberTree<T>::from_primitive`, given that `T`'s reader is clean on the values under `/Nums` -/
theorem readNumTree_clean_on {env : Env} (hc : ∀ id, Clean (env.resolve id)) (rdT : Prim → R Val) (p : Prim)
    (h : ∀ d xs, resolve1 env p = .ok (.dict d) → dget "Nums" d = some (.arr xs) → ∀ v ∈ xs, Clean (rdT v)) :
    Clean (readNumTree rdT env p) := by
  unfold readNumTree
  cases hp : resolve1 env p with
  | error e => exact clean_err e (resolve1_clean hc p e hp)
  | ok q =>
    cases q <;> first | exact clean_err _ rfl | skip
    rename_i d
    simp only []
    split
    · -- `/Limits` failed
      rename_i e heq
      refine clean_err e ((?_ : Clean _) e heq)
      cases dget "Limits" d with
      | none => exact clean_ok _
      | some l =>
        simp only []
        refine (resolve1_clean hc l).elim (fun q => ?_) clean_err
        split <;> first | exact clean_ok _ | exact clean_err _ rfl | (rename_i h; cases h)
    · split
      · rename_i kids _
        refine (resolve1_clean hc kids).elim (fun q => ?_) clean_err
        cases q <;> first | exact clean_err _ rfl | skip
        simp only []
        exact (asRefs_clean _).elim (fun _ => clean_ok _) fun e he => clean_err _ he
      · rename_i xs _ hn
        exact (readNums_clean_on rdT xs (h d xs hp hn)).elim (fun _ => clean_ok _) clean_err
      · exact clean_err _ rfl
      · exact clean_ok _

theorem readNumTree_clean {env : Env} (hc : ∀ id, Clean (env.resolve id)) (rdT : Prim → R Val) (h : ∀ v, Clean (rdT v))
    (p : Prim) : Clean (readNumTree rdT env p) :=
  readNumTree_clean_on hc rdT p fun _ _ _ _ v _ => h v

/-- `NameTree<T>::from_primitive`, given that `T`'s reader is clean on the values under `/Names` -/
theorem readNameTree_clean_on {env : Env} (hc : ∀ id, Clean (env.resolve id)) (rdT : Prim → R Val) (p : Prim)
    (h : ∀ d names xs, resolve1 env p = .ok (.dict d) → dget "Names" d = some names →
      resolve1 env names = .ok (.arr xs) → ∀ v ∈ xs, Clean (rdT v)) : Clean (readNameTree rdT env p) := by
  unfold readNameTree
  cases hp : resolve1 env p with
  | error e => exact clean_err e (resolve1_clean hc p e hp)
  | ok q =>
    cases q <;> first | exact clean_err _ rfl | skip
    rename_i d
    simp only []
    split
    · -- `/Limits` failed
      rename_i e heq
      refine clean_err e ((?_ : Clean _) e heq)
      cases dget "Limits" d with
      | none => exact clean_ok _
      | some l =>
        simp only []
        refine (resolve1_clean hc l).elim (fun q => ?_) clean_err
        split <;> first | exact clean_ok _ | exact clean_err _ rfl | (rename_i h; cases h)
    · split
      · rename_i kids _
        refine (resolve1_clean hc kids).elim (fun q => ?_) clean_err
        cases q <;> first | exact clean_err _ rfl | skip
        simp only []
        exact (asRefs_clean _).elim (fun _ => clean_ok _) fun e he => clean_err _ he
      · rename_i names _ hn
        cases hr : resolve1 env names with
        | error e => exact clean_err e (resolve1_clean hc names e hr)
        | ok q =>
          cases q <;> first | exact clean_err _ rfl | skip
          rename_i xs
          simp only []
          exact (readNames_clean_on hc rdT xs (h d names xs hp hn hr)).elim (fun _ => clean_ok _)
            clean_err
      · exact clean_ok _

theorem readNameTree_clean {env : Env} (hc : ∀ id, Clean (env.resolve id)) (rdT : Prim → R Val) (h : ∀ v, Clean (rdT v))
    (p : Prim) : Clean (readNameTree rdT env p) :=
  readNameTree_clean_on hc rdT p fun _ _ _ _ _ _ v _ => h v

/-! ## Streams without filters, CidToGidMap, Pattern, XObject -/

/-- the streams `unitStreamData` models: `/Length` absent or a direct integer, no filter. (With filters the data goes
    through `Enc.decodeChain`, whose totality is `C01.stream_decoders_total`.) -/
def UnfilteredStream (info : Dict) : Prop :=
  (dget "Length" info = none ∨ ∃ n, dget "Length" info = some (.int n)) ∧
  (dget "Filter" info = none ∨ dget "Filter" info = some .null ∨ dget "Filter" info = some (.arr []))

theorem unitStreamData_clean (info : Dict) (data : List UInt8) (h : UnfilteredStream info) :
    Clean (unitStreamData info data) := by
  obtain ⟨hl, hf⟩ := h
  unfold unitStreamData
  rcases hl with hl | ⟨n, hl⟩
  · simp [hl, Clean, Err.hasOof]
  · rcases hf with hf | hf | hf <;> simp [hl, hf, Clean] <;> split <;> simp [Err.hasOof]

/-- a `TPrim` whose stream (if it is one) is inside `unitStreamData`'s model -/
def TPrim.unfiltered : TPrim → Prop
  | .plain _ => True
  | .stream info _ => UnfilteredStream info

theorem readCidMap_clean (t : TPrim) (h : t.unfiltered) : Clean (readCidMap t) := by
  unfold readCidMap
  split
  · exact clean_ite (fun _ => clean_ok _) fun _ => clean_err _ rfl
  · exact (unitStreamData_clean _ _ h).elim (fun _ => clean_ok _) clean_err
  · exact clean_err _ rfl

theorem readPattern_clean (rdDict : Dict → R Val) (parseOps : List UInt8 → R (List UInt8))
    (hd : ∀ d, Clean (rdDict d)) (hp : ∀ b, Clean (parseOps b)) (t : TPrim) (h : t.unfiltered) :
    Clean (readPattern rdDict parseOps t) := by
  unfold readPattern
  split
  · exact (hd _).elim (fun _ => clean_ok _) clean_err
  · refine (unitStreamData_clean _ _ h).elim (fun raw => ?_) clean_err
    simp only []
    refine (hd _).elim (fun v => ?_) clean_err
    simp only []
    exact (hp raw).elim (fun _ => clean_ok _) fun e he => clean_err _ he
  · exact clean_err _ rfl

theorem readXObject_clean (variants : List Variant) (rdInner : String → Dict → List UInt8 → R Val)
    (hi : ∀ s d b, Clean (rdInner s d b)) (t : TPrim) : Clean (readXObject variants rdInner t) := by
  unfold readXObject
  split
  · split
    · exact clean_err _ rfl
    · split
      · exact (hi _ _ _).elim (fun _ => clean_ok _) clean_err
      · exact clean_err _ rfl
    · exact clean_err _ rfl
  · exact clean_err _ rfl

/-! ## Appearance entries: the nesting budget -/

theorem readStates_clean (f : APrim → R ASE) (kvs : List (String × APrim)) (h : ∀ kv ∈ kvs, Clean (f kv.2)) :
    Clean (readStates f kvs) := by
  fun_induction readStates f kvs with
  | case1 => exact clean_ok _
  | case2 k v r e hv => exact clean_err e (h (k, v) (by simp) e hv)
  | case3 => exact clean_ok _
  | case4 k v r x hv e hr ih => exact clean_err e (ih (fun kv hkv => h kv (by simp [hkv])) e hr)

/-- `AppearanceStreamEntry::from_primitive_depth`: for EVERY budget and every entry an answer — running out of
    budget is the error "nested too deeply", not `oof` -/
theorem readASE_clean (rdForm : Dict → List UInt8 → R Val) (hf : ∀ d b, Clean (rdForm d b)) :
    ∀ (n : Nat) (a : APrim), Clean (readASE rdForm n a) := by
  intro n a
  fun_induction readASE rdForm n a with
  | case1 => exact clean_ok _
  | case2 t info data e he => exact clean_err e (hf info data e he)
  | case3 => exact clean_err _ rfl
  | case4 => exact clean_ok _
  | case5 d kvs e he ih => exact clean_err e (readStates_clean _ kvs (fun kv _ => ih kv.2) e he)
  | case6 => exact clean_err _ rfl

/-! ## Encoding -/

theorem readDiffs_returns {ν : Type} : ∀ (gid : Nat) (xs : List (FontEncoding.DP ν)) (m : FontEncoding.DMap ν),
    (FontEncoding.readDiffs gid xs m).Returns := by
  intro gid xs m
  fun_induction FontEncoding.readDiffs gid xs m <;> simp_all [Out.Returns]

theorem ofOut_clean {α : Type} (o : Out α) (h : o.Returns) : Clean (ofOut o) := by
  cases o <;> simp_all [ofOut, Clean, Err.hasOof, Out.Returns]

/-- the dictionary / name cases of `Encoding::from_primitive`: no reference is followed at the top -/
theorem readEncoding_nonref {env : Env} (hc : ∀ id, Clean (env.resolve id)) (n : Nat) (p : Prim)
    (hp : p.isRef = false) : Clean (readEncoding env n p) := by
  cases p with
  | ref i g => cases hp
  | created q => cases hp
  | dict d =>
    rw [readEncoding]
    split
    · -- `/BaseEncoding` failed
      rename_i e heq
      refine clean_err e ((?_ : Clean _) e heq)
      cases dget "BaseEncoding" d with
      | none => exact clean_ok _
      | some q =>
        simp only []
        refine (resolve1_clean hc q).elim (fun r => ?_) clean_err
        cases r <;> first | exact clean_ok _ | exact clean_err _ rfl
    · cases dget "Differences" d with
      | none => exact clean_ok _
      | some q =>
        simp only []
        refine (resolve1_clean hc q).elim (fun r => ?_) clean_err
        cases r <;> first | exact clean_err _ rfl | skip
        simp only []
        exact (ofOut_clean _ (readDiffs_returns 0 _ [])).elim (fun _ => clean_ok _) clean_err
  | name s => rw [readEncoding]; exact clean_ok _
  | _ => cases n <;> exact clean_err _ rfl

/-- `Encoding::from_primitive` on EVERY primitive: with one unit of fuel for the reference (the resolver returns
    values, `EnvOk.value`) the model never answers `oof` -/
theorem readEncoding_clean {env : Env} (he : EnvOk env) (n : Nat) (p : Prim) : Clean (readEncoding env (n + 1) p) := by
  by_cases hp : p.isRef = true
  · cases p with
    | ref id g =>
      unfold readEncoding
      cases hr : env.resolve id with
      | error e => exact clean_err e (he.clean id e hr)
      | ok q => exact readEncoding_nonref he.clean n q (he.value id q hr).1
    | created q => simp [readEncoding, Clean, Err.hasOof]
    | _ => simp [Prim.isRef] at hp
  · exact readEncoding_nonref he.clean (n + 1) p (by simpa using hp)

end Derive
