import PdfModel.Lemmas.TotalXrefTable

/-! The model's fuel for the subsection loop of `parse_xref_table_and_trailer` suffices on *every* input
    (the Rust loop has no fuel; this is the model-level content of "the reader returns"): a corollary of the
    totality of the table reader, `XrefTable.parseTable_total`, whose progress argument is
    `PdfLex.nextWord_spec` (every lexeme is at least one byte). -/

namespace PdfLex

theorem scanWhile_le (buf : Buf) (cond : UInt8 → Bool) :
    ∀ (fuel pos : Nat), pos ≤ buf.size → scanWhile buf cond fuel pos ≤ buf.size :=
  fun fuel pos h => (scanWhile_bounds buf cond fuel pos h).2

end PdfLex

namespace XrefTable
open PdfLex

theorem parseTable_ne_oof (buf : Buf) (pos : Nat) (hp : pos ≤ buf.size) :
    parseTable buf (defaultFuel buf) pos ≠ .oof := by
  rcases parseTable_total buf pos hp with h | ⟨_, _, h, _⟩ <;> simp [h]

end XrefTable
