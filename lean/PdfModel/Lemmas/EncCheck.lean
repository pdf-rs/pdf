import PdfModel.Lemmas.EncBasic
import PdfModel.Spec.CodecsCheck

/-! Soundness of the membership tests of `Spec/CodecsCheck.lean`. -/

namespace Codecs

theorem Sprinkled.of_filter : ∀ l : Bytes, Sprinkled (l.filter fun b => !isWs b) l
  | [] => .nil
  | c :: l => by
    by_cases h : isWs c = true
    · simp only [List.filter_cons, h, Bool.not_true]
      exact .ws c h (Sprinkled.of_filter l)
    · have h' : isWs c = false := by simpa using h
      simp only [List.filter_cons, h', Bool.not_false, if_true]
      exact .keep c (Sprinkled.of_filter l)

theorem Sprinkled.append {a x b y : Bytes} (h1 : Sprinkled a x) (h2 : Sprinkled b y) : Sprinkled (a ++ b) (x ++ y) := by
  induction h1 with
  | nil => simpa using h2
  | keep c _ ih => exact .keep c ih
  | ws w hw _ ih => exact .ws w hw ih

theorem dropWhile_head_false {p : UInt8 → Bool} : ∀ {l : Bytes} {x : UInt8} {r : Bytes}, l.dropWhile p = x :: r → p x = false
  | [], _, _, h => by simp at h
  | c :: l, x, r, h => by
    by_cases hc : p c = true
    · simp only [List.dropWhile_cons, hc, if_true] at h
      exact dropWhile_head_false h
    · simp only [List.dropWhile_cons, hc] at h
      simp at h
      obtain ⟨rfl, _⟩ := h
      simpa using hc

theorem isHexDigitB_sound {c n : UInt8} (h : isHexDigitB c n = true) : IsHexDigit c n := by
  unfold isHexDigitB at h
  unfold IsHexDigit
  simp only [Bool.or_eq_true, Bool.and_eq_true, decide_eq_true_eq, beq_iff_eq] at h
  rcases h with ⟨h1, h2⟩ | ⟨⟨h1, h2⟩, h3⟩
  · exact Or.inl ⟨h1, h2⟩
  · exact Or.inr ⟨h1, h2, h3⟩

theorem matchHex_sound (bs t : Bytes) : matchHex bs t = true → HexBody bs t := by
  fun_induction matchHex bs t with
  | case1 => exact fun _ => .nil
  | case2 b h =>
    intro hm
    rw [Bool.and_eq_true, beq_iff_eq] at hm
    exact .oddLast (isHexDigitB_sound hm.1) hm.2
  | case3 b bs h l t ih =>
    intro hm
    simp only [Bool.and_eq_true] at hm
    exact .byte (isHexDigitB_sound hm.1.1) (isHexDigitB_sound hm.1.2) (ih hm.2)
  | case4 => nofun

theorem checkHex_sound {bs text : Bytes} (h : checkHex bs text = true) : EncodesToHex bs text := by
  simp only [checkHex, Bool.and_eq_true, decide_eq_true_eq] at h
  obtain ⟨hlen, hm⟩ := h
  have hsplit : text.takeWhile (· != 62) ++ text.dropWhile (· != 62) = text := List.takeWhile_append_dropWhile
  cases hd : text.dropWhile (· != 62) with
  | nil =>
    rw [hd, List.append_nil] at hsplit
    rw [hsplit] at hlen; omega
  | cons x rest =>
    have hx : (x != 62) = false := dropWhile_head_false (p := fun c => c != 62) hd
    have hx62 : x = 62 := by simpa using hx
    subst hx62
    refine ⟨_, text.takeWhile (· != 62) ++ [62], rest, matchHex_sound _ _ hm, ?_, ?_⟩
    · exact (Sprinkled.of_filter _).append (Sprinkled.refl [62])
    · have : text = text.takeWhile (· != 62) ++ 62 :: rest := by rw [← hd]; exact hsplit.symm
      rw [List.append_assoc]; exact this

theorem matchA85_sound : ∀ (bs t : Bytes), matchA85 bs t = true → A85Body bs t
  | [], t, h => by
    simp only [matchA85, beq_iff_eq] at h; subst h; exact .nil
  | [b0], t, h => by
    simp only [matchA85, beq_iff_eq] at h; subst h; exact .tail1
  | [b0, b1], t, h => by
    simp only [matchA85, beq_iff_eq] at h; subst h; exact .tail2
  | [b0, b1, b2], t, h => by
    simp only [matchA85, beq_iff_eq] at h; subst h; exact .tail3
  | b0 :: b1 :: b2 :: b3 :: bs, t, h => by
    simp only [matchA85, Bool.or_eq_true, Bool.and_eq_true, beq_iff_eq] at h
    rcases h with ⟨⟨⟨⟨⟨rfl, rfl⟩, rfl⟩, rfl⟩, hh⟩, hm⟩ | ⟨hg, hm⟩
    · cases t with
      | nil => simp at hh
      | cons c t' =>
        simp at hh; subst hh
        exact .z (matchA85_sound bs t' hm)
    · have : t = group85 (be32 b0 b1 b2 b3) ++ t.drop 5 := by
        rw [← hg]; exact (List.take_append_drop 5 t).symm
      rw [this]
      exact .group (matchA85_sound bs _ hm)

theorem check85_sound {bs text : Bytes} (h : check85 bs text = true) : EncodesTo85 bs text := by
  simp only [check85, Bool.and_eq_true, decide_eq_true_eq, beq_iff_eq] at h
  obtain ⟨⟨_, hend⟩, hm⟩ := h
  refine ⟨_, matchA85_sound _ _ hm, ?_⟩
  rw [← hend, List.take_append_drop]
  exact Sprinkled.of_filter text

theorem matchRL_sound (fuel : Nat) (bs text : Bytes) : matchRL fuel bs text = true →
    ∃ body rest, RLBody bs body ∧ text = body ++ rest := by
  fun_induction matchRL fuel bs text with
  | case1 | case2 | case5 => nofun
  | case3 fuel bs rest =>
    intro h
    rw [beq_iff_eq] at h; subst h
    exact ⟨[128], rest, .eod, rfl⟩
  | case4 fuel bs len rest _ hlt n ih =>
    intro h
    simp only [Bool.and_eq_true, decide_eq_true_eq, beq_iff_eq] at h
    obtain ⟨⟨⟨hr, hb⟩, heq⟩, hm⟩ := h
    obtain ⟨body, tail, hbody, htail⟩ := ih hm
    have hl : len.toNat < 128 := UInt8.lt_iff_toNat_lt.mp hlt
    have hlen : (bs.take n).length = n := List.length_take_of_le hb
    have := RLBody.literal (lit := bs.take n) (bs := bs.drop n) (t := body) (by omega) (by omega) hbody
    rw [List.take_append_drop, hlen, show UInt8.ofNat (n - 1) = len by simp [n]] at this
    exact ⟨_, tail, this, by rw [heq, List.cons_append, List.append_assoc, ← htail, List.take_append_drop]⟩
  | case6 fuel bs len _ hlt n b rest' ih =>
    intro h
    simp only [Bool.and_eq_true, decide_eq_true_eq, beq_iff_eq] at h
    obtain ⟨⟨hb, heq⟩, hm⟩ := h
    obtain ⟨body, tail, hbody, htail⟩ := ih hm
    rename_i h128
    have h1 : ¬ len.toNat < 128 := fun hc => hlt (UInt8.lt_iff_toNat_lt.mpr hc)
    have h2 : len.toNat ≠ 128 := fun hc => h128 (UInt8.toNat_inj.mp hc)
    have h3 := len.toNat_lt
    have := RLBody.repeat (n := n) (b := b) (bs := bs.drop n) (t := body) (by omega) (by omega) hbody
    rw [← heq, List.take_append_drop, show UInt8.ofNat (257 - n) = len by
      rw [show 257 - n = len.toNat by omega]; exact UInt8.ofNat_toNat] at this
    exact ⟨_, tail, this, by rw [htail]; rfl⟩

theorem checkRL_sound {bs text : Bytes} (h : checkRL bs text = true) : EncodesToRL bs text :=
  matchRL_sound _ bs text h

end Codecs
