import PdfModel.Lemmas.StorageInv

/-! `BaseOK` is what loading a well-formed file gives: the hypotheses of the C09 theorems, stated on the
    bytes (sections and objects of the file) instead of on the loaded document. -/

namespace Storage
open Xref

variable {V : Type}

/-- Well-formedness of the file being opened, in terms of its newest section `s0` and the sections
    `chain` that `/Prev` reaches from it: the C02 condition in its strong form (towards older sections
    generations never increase, also behind a compressed entry), every number below `/Size`, every
    offset inside the file. -/
structure FileWF (s : St V) (s0 : Sec) (chain : List (List Sub)) : Prop where
  start_le : s.start ≤ s.len
  pos_lt : s.start + s.startxref < s.len
  sec0 : secAt s.secs (s.start + s.startxref) = some s0
  size_ok : s0.size ≤ MAX_ID
  walk : prevChain s.secs s.start (s.secs.length + 1) s0.prev [] = .ok chain
  entries : pairsOK (allPairs (s0.subs :: chain))
  ids_lt : ∀ p ∈ allPairs (s0.subs :: chain), p.1 < s0.size
  newest_dominates : ∀ (j : Nat) (e : XRef) (older : List XRef),
      mentions (allPairs (s0.subs :: chain)) j = e :: older → ∀ m ∈ older, gen m ≤ gen e
  raw_in_file : ∀ p ∈ allPairs (s0.subs :: chain), ∀ pos g, p.2 = .raw pos g → s.start + pos < s.len
  /-- `+ 1`: the table has `size + 1` rows (`newTable` ends in a free row) and `BaseOK.stream_lt` is against its length -/
  stream_in_table : ∀ p ∈ allPairs (s0.subs :: chain), ∀ sid idx, p.2 = .stream sid idx → sid < s0.size + 1
  objs_lt : ∀ o ∈ s.objs, o.off < s.len
  secs_lt : ∀ x ∈ s.secs, x.off < s.len

theorem load_baseOK (s : St V) (s0 : Sec) (chain : List (List Sub)) (wf : FileWF s s0 chain) (c : Bool) (d0 : Doc V)
    (h : reload s c = .ok d0) : BaseOK d0 chain := by
  have hnp := newTable_noProm s0.size
  unfold reload at h
  rw [if_neg (Nat.not_le_of_lt wf.pos_lt)] at h
  simp only [wf.sec0, if_neg (Nat.not_lt_of_le wf.size_ok), wf.walk, mergeAll_eq _ _ hnp wf.entries] at h
  split at h
  case h_1 tr hl =>
    cases h
    have hsub : ∀ p ∈ allPairs chain, p ∈ allPairs (s0.subs :: chain) := fun p hp => by
      simp only [allPairs, List.flatMap_cons, List.mem_append]; exact Or.inr hp
    -- a direct or compressed entry of the table is mentioned by a section: the fresh table has none
    have hfrom : ∀ (j : Nat) (e : XRef), (pureAdd (newTable s0.size) (allPairs (s0.subs :: chain)))[j]? = some e →
        e ≠ .invalid → e ≠ .free 0 65535 → (j, e) ∈ allPairs (s0.subs :: chain) := fun j e he h1 h2 => by
      rcases pureAdd_mem _ _ j e he with h | h
      · have := List.mem_of_getElem? h
        simp only [newTable, List.mem_append, List.mem_replicate, List.mem_singleton] at this
        rcases this with ⟨_, h⟩ | h
        · exact absurd h h1
        · exact absurd h h2
      · exact h
    refine
      { start_le := wf.start_le, chain := (loadTrailer_ok _ _ _ _ _ hl).2.1 ▸ wf.walk,
        pairs_entry := fun p hp => wf.entries p (hsub p hp), pairs_dom := ?_,
        objs_lt := wf.objs_lt, secs_lt := wf.secs_lt, raw_lt := ?_, stream_lt := ?_,
        no_prom := pureAdd_noProm _ _ hnp wf.entries, changes_nil := rfl, cache_nil := rfl }
    · intro p hp
      have hmem := mem_mentions_of_mem _ p (hsub p hp)
      cases hmm : mentions (allPairs (s0.subs :: chain)) p.1 with
      | nil => rw [hmm] at hmem; cases hmem
      | cons e older =>
        have hdom := wf.newest_dominates p.1 e older hmm
        refine ⟨e, pureAdd_newest _ _ _ e older wf.entries (wf.ids_lt p (hsub p hp)) hmm (Or.inr hdom),
          wf.entries _ (mem_mentions _ _ _ (hmm ▸ List.mem_cons_self)), ?_⟩
        rw [hmm] at hmem
        rcases List.mem_cons.mp hmem with h1 | h1
        · rw [h1]; exact Nat.le_refl _
        · exact hdom _ h1
    · intro j pos g hj
      exact wf.raw_in_file _ (hfrom j _ hj nofun nofun) pos g rfl
    · intro j sid idx hj
      show sid < (pureAdd (newTable s0.size) (allPairs (s0.subs :: chain))).length
      rw [pureAdd_length]
      have := wf.stream_in_table _ (hfrom j _ hj nofun nofun) sid idx rfl
      simpa [newTable] using this
  all_goals cases h

end Storage
