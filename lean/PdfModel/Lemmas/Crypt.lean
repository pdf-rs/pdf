import PdfModel.Model.Crypt
import PdfModel.Spec.StdSecurity

/-! The model of the standard security handler (`Model/Crypt.lean`) against the algorithms of the standard
    (`Spec/StdSecurity.lean`): RC4 as a key stream, CBC and PKCS#7 over the block function, `from_password` of
    revisions 2–4 piece by piece, the loop of Algorithm 2.B, and the owner / user authentication of Algorithms 6 and 7. -/

namespace Crypt
open StdSec

/-! ## bytes -/

theorem u8_xor_cancel (a b : UInt8) : (a ^^^ b) ^^^ b = a := by
  rw [UInt8.xor_assoc, UInt8.xor_self, UInt8.xor_zero]

theorem xorBytes_length (a b : Bytes) : (xorBytes a b).length = min a.length b.length := by
  simp [xorBytes]

theorem xorBytes_cancel : ∀ (a b : Bytes), a.length ≤ b.length → xorBytes (xorBytes a b) b = a
  | [], _, _ => by simp [xorBytes]
  | _ :: _, [], h => by simp at h
  | x :: a, y :: b, h => by
    have ih := xorBytes_cancel a b (by simpa using h)
    simp only [xorBytes, List.zipWith_cons_cons] at ih ⊢
    rw [ih, u8_xor_cancel]

theorem xorBytes_right_comm : ∀ (a b c : Bytes), xorBytes (xorBytes a b) c = xorBytes (xorBytes a c) b
  | [], _, _ => by simp [xorBytes]
  | _ :: _, [], c => by simp [xorBytes]
  | _ :: _, _ :: _, [] => by simp [xorBytes]
  | x :: a, y :: b, z :: c => by
    have ih := xorBytes_right_comm a b c
    simp only [xorBytes, List.zipWith_cons_cons] at ih ⊢
    rw [ih, UInt8.xor_assoc, UInt8.xor_comm y z, ← UInt8.xor_assoc]

/-! ## RC4 -/

/-- the key stream: what `Rc4.apply` xors onto the data -/
def Rc4.stream (r : Rc4) : Nat → Bytes
  | 0 => []
  | n + 1 => r.next.2 :: Rc4.stream r.next.1 n

theorem Rc4.stream_length (r : Rc4) (n : Nat) : (r.stream n).length = n := by
  induction n generalizing r with
  | zero => rfl
  | succ n ih => simp [Rc4.stream, ih]

theorem Rc4.apply_eq_xor (r : Rc4) (d : Bytes) : r.apply d = xorBytes d (r.stream d.length) := by
  induction d generalizing r with
  | nil => simp [Rc4.apply, xorBytes]
  | cons b bs ih => simp [Rc4.apply, Rc4.stream, xorBytes, ih] 

theorem Rc4.apply_length (r : Rc4) (d : Bytes) : (r.apply d).length = d.length := by
  rw [Rc4.apply_eq_xor, xorBytes_length, Rc4.stream_length]; simp

/-- applying the key stream twice is the identity -/
theorem Rc4.apply_apply (r : Rc4) (d : Bytes) : r.apply (r.apply d) = d := by
  rw [Rc4.apply_eq_xor r (r.apply d), Rc4.apply_length, Rc4.apply_eq_xor r d]
  exact xorBytes_cancel _ _ (by rw [Rc4.stream_length]; exact Nat.le_refl _)

theorem Rc4.apply_comm (r s : Rc4) (d : Bytes) : r.apply (s.apply d) = s.apply (r.apply d) := by
  rw [Rc4.apply_eq_xor r (s.apply d), Rc4.apply_eq_xor s (r.apply d), Rc4.apply_length, Rc4.apply_length,
    Rc4.apply_eq_xor s d, Rc4.apply_eq_xor r d]
  exact xorBytes_right_comm _ _ _

def validKey (key : Bytes) : Prop := 0 < key.length ∧ key.length ≤ 256

instance (key : Bytes) : Decidable (validKey key) := by unfold validKey; infer_instance

theorem Rc4.new_ok {key : Bytes} (h : validKey key) : ∃ r, Rc4.new key = .ok r := by
  unfold validKey at h
  unfold Rc4.new; rw [dif_pos h]
  generalize List.foldl (ksaStep key h.1) (identityState, 0) (List.finRange 256) = sj
  obtain ⟨s, j⟩ := sj
  exact ⟨_, rfl⟩

theorem Rc4.new_panic {key : Bytes} (h : ¬ validKey key) : Rc4.new key = .panic := by
  unfold validKey at h
  unfold Rc4.new; rw [dif_neg h]

theorem rc4Encrypt_eq {key : Bytes} (h : validKey key) (d : Bytes) : rc4Encrypt key d = .ok (rc4 key d) := by
  obtain ⟨r, hr⟩ := Rc4.new_ok h
  simp [rc4Encrypt, rc4, hr]

theorem rc4Encrypt_panic {key : Bytes} (h : ¬ validKey key) (d : Bytes) : rc4Encrypt key d = .panic := by
  simp [rc4Encrypt, Rc4.new_panic h]

theorem rc4_length (key d : Bytes) : (rc4 key d).length = d.length := by
  unfold rc4; split <;> simp [Rc4.apply_length]

theorem rc4_rc4 (key d : Bytes) : rc4 key (rc4 key d) = d := by
  unfold rc4; split <;> simp [Rc4.apply_apply]

theorem rc4_comm (k1 k2 d : Bytes) : rc4 k1 (rc4 k2 d) = rc4 k2 (rc4 k1 d) := by
  unfold rc4; split <;> split <;> simp [Rc4.apply_comm]

/-! ## RC4 on a packed state

The kernel evaluates `Rc4.new` slowly: the state is a `Vector` whose 512 lazy updates it forces again at every read.
For the test vectors of `Props/C06` the state is therefore also kept as one number (byte `i` at bits `8i … 8i+7`), on
which the kernel computes with its binary arithmetic; `rc4_eq_prc4` says that this gives the same cipher. -/

/-- little-endian number of a byte list -/
def pack : Bytes → Nat
  | [] => 0
  | b :: bs => b.toNat + 256 * pack bs

def pget (s i : Nat) : Nat := s / 256 ^ i % 256

def pset (s i v : Nat) : Nat := s % 256 ^ i + 256 ^ i * (v + 256 * (s / 256 ^ (i + 1)))

theorem pget_pack : ∀ (l : Bytes) (i : Nat) (h : i < l.length), pget (pack l) i = l[i].toNat
  | b :: bs, 0, _ => by
    have := b.toNat_lt
    simp only [pget, pack, Nat.pow_zero, Nat.div_one, List.getElem_cons_zero]; omega
  | b :: bs, i + 1, h => by
    have ih := pget_pack bs i (by simpa using h)
    have := b.toNat_lt
    simp only [pget, pack, List.getElem_cons_succ] at ih ⊢
    rw [← ih, Nat.pow_succ, Nat.mul_comm _ 256, ← Nat.div_div_eq_div_mul]
    congr 2; omega

theorem pack_set : ∀ (l : Bytes) (i : Nat) (v : UInt8), i < l.length → pack (l.set i v) = pset (pack l) i v.toNat
  | b :: bs, 0, v, _ => by
    have := b.toNat_lt
    simp only [List.set_cons_zero, pack, pset, Nat.pow_zero, Nat.mod_one, Nat.zero_add, Nat.one_mul, Nat.pow_one]
    congr 2; omega
  | b :: bs, i + 1, v, h => by
    have ih := pack_set bs i v (by simpa using h)
    have hb := b.toNat_lt
    simp only [List.set_cons_succ, pack, ih, pset]
    have e1 : (b.toNat + 256 * pack bs) % 256 ^ (i + 1) = b.toNat + 256 * (pack bs % 256 ^ i) := by
      rw [Nat.pow_succ, Nat.mul_comm _ 256, Nat.mod_mul, Nat.add_mul_mod_self_left, Nat.mod_eq_of_lt hb,
        Nat.add_mul_div_left _ _ (by decide : 0 < 256), Nat.div_eq_of_lt hb, Nat.zero_add]
    have e2 : (b.toNat + 256 * pack bs) / 256 ^ (i + 1 + 1) = pack bs / 256 ^ (i + 1) := by
      rw [Nat.pow_succ _ (i + 1), Nat.mul_comm _ 256, ← Nat.div_div_eq_div_mul,
        Nat.add_mul_div_left _ _ (by decide : 0 < 256), Nat.div_eq_of_lt hb, Nat.zero_add]
    rw [e1, e2, Nat.pow_succ _ i]
    generalize pack bs % 256 ^ i = x
    generalize 256 ^ i = p
    generalize (v.toNat + 256 * (pack bs / (p * 256))) = y
    rw [Nat.mul_add, Nat.add_assoc, Nat.mul_left_comm, Nat.mul_assoc]

def pswap (s i j : Nat) : Nat := pset (pset s i (pget s j)) j (pget s i)

theorem pack_swap (s : State) (i j : Nat) (hi : i < 256) (hj : j < 256) :
    pack (s.swap i j hi hj).toList = pswap (pack s.toList) i j := by
  have hl : s.toList.length = 256 := by simp
  rw [Vector.toList_swap, pack_set _ _ _ (by simp [hj]), pack_set _ _ _ (by simp [hi]), pswap,
    pget_pack _ j (by simp [hj]), pget_pack _ i (by simp [hi])]
  simp

/-- `ksaStep` on the packed state; the default of the key lookup is never used -/
def pksaStep (key : Bytes) (sj : Nat × Nat) (i : Nat) : Nat × Nat :=
  let j := (sj.2 + pget sj.1 i + (key[i % key.length]?.getD 0).toNat) % 256
  (pswap sj.1 i j, j)

theorem pksaStep_eq (key : Bytes) (hk : 0 < key.length) (s : State) (j : UInt8) (i : Fin 256) :
    (pack (ksaStep key hk (s, j) i).1.toList, (ksaStep key hk (s, j) i).2.toNat) =
      pksaStep key (pack s.toList, j.toNat) i.val := by
  simp only [ksaStep, pksaStep, pack_swap, pget_pack s.toList i.val (by simp),
    List.getElem?_eq_getElem (Nat.mod_lt _ hk), Option.getD_some, UInt8.toNat_add, Vector.getElem_toList]
  simp [Nat.add_mod]

/-- `identityState`, packed -/
def pident : Nat := (List.range 256).foldr (fun i s => i + 256 * s) 0

theorem pack_identityState : pack identityState.toList = pident := by decide +kernel

/-- the state a key of 1..256 bytes is expanded to, packed -/
def pksa (key : Bytes) : Nat :=
  ((List.range 256).foldl (pksaStep key) (pident, 0)).1

theorem foldl_ksa (key : Bytes) (hk : 0 < key.length) (l : List (Fin 256)) (s : State) (j : UInt8) :
    (pack (l.foldl (ksaStep key hk) (s, j)).1.toList, (l.foldl (ksaStep key hk) (s, j)).2.toNat) =
      (l.map Fin.val).foldl (pksaStep key) (pack s.toList, j.toNat) := by
  induction l generalizing s j with
  | nil => rfl
  | cons i l ih => rw [List.foldl_cons, List.map_cons, List.foldl_cons, ← pksaStep_eq key hk, ← ih]

theorem map_val_finRange (n : Nat) : (List.finRange n).map Fin.val = List.range n := by
  apply List.ext_getElem <;> simp

theorem Rc4.new_pack {key : Bytes} (h : validKey key) :
    ∃ s, Rc4.new key = .ok ⟨0, 0, s⟩ ∧ pack s.toList = pksa key := by
  unfold validKey at h
  have sim := foldl_ksa key h.1 (List.finRange 256) identityState 0
  rw [map_val_finRange, pack_identityState] at sim
  unfold Rc4.new
  rw [dif_pos h]
  generalize List.foldl (ksaStep key h.1) (identityState, 0) (List.finRange 256) = sj at sim ⊢
  exact ⟨sj.1, rfl, congrArg Prod.fst sim⟩

/-- `Rc4.apply` on the counters and the packed state -/
def papply : Nat → Nat → Nat → Bytes → Bytes
  | _, _, _, [] => []
  | i, j, s, b :: bs =>
    let i := (i + 1) % 256
    let j := (j + pget s i) % 256
    let s := pswap s i j
    (b ^^^ UInt8.ofNat (pget s ((pget s i + pget s j) % 256))) :: papply i j s bs

theorem pget_sget (s : State) (b : UInt8) : pget (pack s.toList) b.toNat = (sget s b).toNat := by
  rw [pget_pack _ _ (by simpa using b.toNat_lt)]; simp [sget]

theorem Rc4.apply_pack (r : Rc4) (d : Bytes) : r.apply d = papply r.i.toNat r.j.toNat (pack r.state.toList) d := by
  induction d generalizing r with
  | nil => rfl
  | cons b bs ih =>
    have hi : (r.i.toNat + 1) % 256 = (r.i + 1).toNat := by simp [UInt8.toNat_add]
    have hj : (r.j.toNat + (sget r.state (r.i + 1)).toNat) % 256 = (r.j + sget r.state (r.i + 1)).toNat := by
      simp [UInt8.toNat_add]
    simp only [Rc4.apply, Rc4.next, papply, ih, hi, pget_sget, hj, sswap, ← pack_swap _ _ _ (UInt8.toNat_lt _) (UInt8.toNat_lt _)]
    have ho (a c : UInt8) : (a.toNat + c.toNat) % 256 = (a + c).toNat := by simp [UInt8.toNat_add]
    rw [ho, pget_sget]
    simp

/-- `rc4` evaluated on the packed state: what the test vectors are run through -/
def prc4 (key data : Bytes) : Bytes :=
  if 0 < key.length ∧ key.length ≤ 256 then papply 0 0 (pksa key) data else data

theorem rc4_eq_prc4 (key data : Bytes) : rc4 key data = prc4 key data := by
  unfold prc4
  split
  · next h =>
    obtain ⟨s, hs, hp⟩ := Rc4.new_pack h
    simp only [rc4, hs, Rc4.apply_pack, hp]
    rfl
  · next h => simp only [rc4, Rc4.new_panic h]

/-! ## chains of RC4 passes -/

theorem xorKey_length (k : Bytes) (i : Nat) : (xorKey k i).length = k.length := by simp [xorKey]

theorem validKey_xorKey {k : Bytes} (h : validKey k) (i : Nat) : validKey (xorKey k i) := by
  unfold validKey at *; rw [xorKey_length]; exact h

theorem xorKey_zero (k : Bytes) : xorKey k 0 = k := by
  simp [xorKey]

theorem rc4Chain_length (k : Bytes) (is : List Nat) (d : Bytes) : (rc4Chain k is d).length = d.length := by
  induction is generalizing d with
  | nil => rfl
  | cons i is ih => simp [rc4Chain, List.foldl_cons] at ih ⊢; rw [ih, rc4_length]

theorem rc4Chain_cons (k : Bytes) (i : Nat) (is : List Nat) (d : Bytes) :
    rc4Chain k (i :: is) d = rc4Chain k is (rc4 (xorKey k i) d) := rfl

theorem rc4Chain_append (k : Bytes) (a b : List Nat) (d : Bytes) :
    rc4Chain k (a ++ b) d = rc4Chain k b (rc4Chain k a d) := by
  simp [rc4Chain, List.foldl_append]

/-- a pass commutes with a chain -/
theorem rc4Chain_rc4 (k k' : Bytes) (is : List Nat) (d : Bytes) :
    rc4Chain k is (rc4 k' d) = rc4 k' (rc4Chain k is d) := by
  induction is generalizing d with
  | nil => rfl
  | cons i is ih => rw [rc4Chain_cons, rc4Chain_cons, rc4_comm, ih]

/-- the order of the passes does not matter (Algorithm 7 runs 19 … 0, `from_password` runs 0 … 19) -/
theorem rc4Chain_reverse (k : Bytes) (is : List Nat) (d : Bytes) : rc4Chain k is.reverse d = rc4Chain k is d := by
  induction is generalizing d with
  | nil => rfl
  | cons i is ih =>
    -- the pass with key `k xor i` is moved from the end of the chain to its front: a pass commutes with a chain
    rw [List.reverse_cons, rc4Chain_append, ih, rc4Chain_cons, rc4Chain_rc4]
    show rc4 (xorKey k i) (rc4Chain k is d) = _
    rw [rc4Chain_cons, rc4Chain_rc4]

/-- running the same chain twice restores the data -/
theorem rc4Chain_involution (k : Bytes) (is : List Nat) (d : Bytes) : rc4Chain k is (rc4Chain k is d) = d := by
  induction is generalizing d with
  | nil => rfl
  | cons i is ih => rw [rc4Chain_cons, rc4Chain_cons, rc4Chain_rc4, rc4Chain_rc4, rc4Chain_rc4, rc4_rc4, ih]

/-- the model's loop over `u8` round numbers is the chain -/
theorem rc4Rounds_eq {k : Bytes} (h : validKey k) (is : List Nat) (d : Bytes) :
    rc4Rounds k (is.map UInt8.ofNat) d = .ok (rc4Chain k is d) := by
  induction is generalizing d with
  | nil => rfl
  | cons i is ih =>
    have hv : validKey (k.map (· ^^^ UInt8.ofNat i)) := validKey_xorKey h i
    simp only [List.map_cons, rc4Rounds, rc4Encrypt_eq hv, Out.bind_ok]
    rw [ih]; rfl

theorem roundList_eq (lo hi : Nat) : roundList lo hi = ((List.range (hi - lo)).map (lo + ·)).map UInt8.ofNat := by
  simp [roundList, List.map_map, Function.comp_def]

/-! ## small encodings -/

theorem PADDING_length : PADDING.length = 32 := rfl

theorem padPass_eq (pw : Bytes) : padPass pw = pad32 pw := by
  unfold padPass pad32
  rw [List.take_append]
  split
  · next h => rw [List.take_of_length_le (Nat.le_of_lt h)]
  · next h => simp [show 32 - pw.length = 0 by omega]

theorem pad32_length (pw : Bytes) : (pad32 pw).length = 32 := by
  simp [pad32, PADDING_length]

theorem pad32_idem (pw : Bytes) : pad32 (pad32 pw) = pad32 pw := by
  have h := pad32_length pw
  unfold pad32 at h ⊢
  rw [List.take_append, List.take_of_length_le (Nat.le_of_eq h), h]; simp

theorem i32le_eq (p : Int) : i32le p = le32 p := by
  simp [i32le, le32, List.range, List.range.loop]

theorem idBytes_eq (id : Nat) : idBytes id = lowBytes 3 id := by
  simp [idBytes, lowBytes, List.range, List.range.loop]

theorem genBytes_eq (gen : Nat) : genBytes gen = lowBytes 2 gen := by
  simp [genBytes, lowBytes, List.range, List.range.loop]

/-! ## iterated MD5 -/

theorem md5Iter_eq {P : Prims} {H : Hashes} (hp : PrimsAgree P H) (k n : Nat) (d : Bytes) :
    md5Iter P k n d = .ok (iter (fun h => H.md5 (h.take k)) n d) := by
  induction n generalizing d with
  | zero => rfl
  | succ n ih => simp only [md5Iter, hp.md5, Out.bind_ok, ih, iter]

theorem iter_length {f : Bytes → Bytes} {m : Nat} (hf : ∀ x, (f x).length = m) (n : Nat) (d : Bytes) (hd : d.length = m) :
    (iter f n d).length = m := by
  induction n generalizing d with
  | zero => exact hd
  | succ n ih => exact ih _ (hf _)

/-! ## CBC over the block function -/

theorem cbcEncryptBlocks_eq {P : Prims} {H : Hashes} (hp : PrimsAgree P H) (key : Bytes) (n : Nat) (prev data : Bytes) :
    cbcEncryptBlocks P key n prev data = .ok (cbcEnc (H.aesE key) n prev data) := by
  unfold cbcEncryptBlocks
  induction n generalizing prev data with
  | zero => rfl
  | succ n ih => simp only [cbcEncryptBlocksF, hp.aesEnc, Out.bind_ok, ih, cbcEnc]

theorem cbcDecryptBlocks_eq {P : Prims} {H : Hashes} (hp : PrimsAgree P H) (key : Bytes) (n : Nat) (prev data : Bytes) :
    cbcDecryptBlocks P key n prev data = .ok (cbcDec (H.aesD key) n prev data) := by
  induction n generalizing prev data with
  | zero => rfl
  | succ n ih => simp only [cbcDecryptBlocks, hp.aesDec, Out.bind_ok, ih, cbcDec]

theorem cbcEnc_length {E : Bytes → Bytes} (hE : ∀ b, b.length = 16 → (E b).length = 16) (n : Nat) (prev data : Bytes)
    (hprev : prev.length = 16) (hdata : data.length = 16 * n) : (cbcEnc E n prev data).length = 16 * n := by
  induction n generalizing prev data with
  | zero => rfl
  | succ n ih =>
    have hx : (xorBytes (data.take 16) prev).length = 16 := by
      rw [xorBytes_length, List.length_take, hprev, hdata]; omega
    simp only [cbcEnc, List.length_append]
    rw [hE _ hx, ih _ _ (hE _ hx) (by rw [List.length_drop, hdata]; omega)]; omega

/-- CBC decryption undoes CBC encryption when the block function has an inverse -/
theorem cbcDec_cbcEnc {E D : Bytes → Bytes} (hE : ∀ b, b.length = 16 → (E b).length = 16)
    (hD : ∀ b, b.length = 16 → D (E b) = b) (n : Nat) (prev data : Bytes)
    (hprev : prev.length = 16) (hdata : data.length = 16 * n) :
    cbcDec D n prev (cbcEnc E n prev data) = data := by
  induction n generalizing prev data with
  | zero => simp at hdata; simp [cbcDec, hdata]
  | succ n ih =>
    have ht : (data.take 16).length = 16 := by rw [List.length_take, hdata]; omega
    have hx : (xorBytes (data.take 16) prev).length = 16 := by
      rw [xorBytes_length, ht, hprev]; rfl
    have hc := hE _ hx
    simp only [cbcEnc, cbcDec]
    rw [List.take_left' hc, List.drop_left' hc, hD _ hx, xorBytes_cancel _ _ (by rw [ht, hprev]; exact Nat.le_refl _),
      ih _ _ hc (by rw [List.length_drop, hdata]; omega), List.take_append_drop]

/-! ## PKCS#7 -/

theorem pkcs7Pad_length (d : Bytes) : (pkcs7Pad d).length % 16 = 0 ∧ 16 ≤ (pkcs7Pad d).length := by
  simp only [pkcs7Pad, List.length_append, List.length_replicate]
  have := Nat.mod_lt d.length (show 16 > 0 by decide)
  constructor <;> omega

theorem pkcs7Unpad_pad (d : Bytes) : pkcs7Unpad (pkcs7Pad d) = .ok d := by
  have hk : 1 ≤ 16 - d.length % 16 ∧ 16 - d.length % 16 ≤ 16 := by
    have := Nat.mod_lt d.length (show 16 > 0 by decide); omega
  generalize hkk : 16 - d.length % 16 = k at hk
  have hpad : pkcs7Pad d = d ++ List.replicate k (UInt8.ofNat k) := by simp [pkcs7Pad, hkk]
  obtain ⟨k', rfl⟩ : ∃ k', k = k' + 1 := ⟨k - 1, by omega⟩
  have hto : (UInt8.ofNat (k' + 1)).toNat = k' + 1 := by
    simp [UInt8.toNat_ofNat']; omega
  have hne : UInt8.ofNat (k' + 1) ≠ 0 := by
    intro h; have := congrArg UInt8.toNat h; rw [hto] at this; simp at this
  rw [hpad]
  unfold pkcs7Unpad
  have hlast : (d ++ List.replicate (k' + 1) (UInt8.ofNat (k' + 1))).getLast? = some (UInt8.ofNat (k' + 1)) := by
    rw [List.replicate_succ', ← List.append_assoc, List.getLast?_append]; simp
  rw [hlast]
  simp only [hto]
  rw [if_neg (by intro h; rcases h with h | h; exact hne h; omega)]
  have hlen : (d ++ List.replicate (k' + 1) (UInt8.ofNat (k' + 1))).length - (k' + 1) = d.length := by simp
  simp only [hlen, List.drop_left, List.take_left]
  rw [if_neg]
  simp [List.replicate_succ']

/-! ## `from_password`, revisions 2–4, piece by piece -/

theorem iter_congr {α : Type} {f g : α → α} (Q : α → Prop) (hQ : ∀ a, Q a → Q (f a)) (hfg : ∀ a, Q a → f a = g a)
    (n : Nat) (a : α) (ha : Q a) : iter f n a = iter g n a := by
  induction n generalizing a with
  | zero => rfl
  | succ n ih => simp only [iter]; rw [← hfg a ha]; exact ih _ (hQ a ha)

theorem alg2Digest_length {H : Hashes} (hw : H.WF) (r n : Nat) (o : Bytes) (p : Int) (id0 : Bytes) (em : Bool) (pw : Bytes) :
    (alg2Digest H r n o p id0 em pw).length = 16 := by
  unfold alg2Digest
  simp only []
  by_cases h3 : r ≥ 3
  · rw [if_pos h3]; exact iter_length (fun x => hw.md5_len _) _ _ (hw.md5_len _)
  · rw [if_neg h3]; exact hw.md5_len _

theorem keyDerivUser_eq {P : Prims} {H : Hashes} (hp : PrimsAgree P H) (r n : Nat) (hn : n ≤ 16) (d : CryptDict) (id pw : Bytes) :
    keyDerivUser P r n d id pw = .ok (alg2Digest H r n d.o d.p id d.encryptMetadata pw) := by
  have hsuf : (if r ≥ 4 ∧ (!d.encryptMetadata) = true then ([0xff, 0xff, 0xff, 0xff] : Bytes) else []) =
      (if r ≥ 4 ∧ d.encryptMetadata = false then [0xff, 0xff, 0xff, 0xff] else []) := by
    cases d.encryptMetadata <;> simp
  unfold keyDerivUser alg2Digest
  simp only [hp.md5, Out.bind_ok, padPass_eq, i32le_eq, hsuf, Nat.min_eq_left hn,
    show max n 16 - 16 = 0 by omega, List.replicate_zero, List.append_nil]
  by_cases h3 : r ≥ 3
  · simp only [if_pos h3, md5Iter_eq hp, Out.bind_ok]
  · simp only [if_neg h3, Out.bind_ok]

theorem keyDerivOwner_eq {P : Prims} {H : Hashes} (hp : PrimsAgree P H) (hw : H.WF) (r n : Nat) (hn : n ≤ 16) (pw : Bytes) :
    keyDerivOwner P r n pw = .ok (alg3Key H r n pw) := by
  unfold keyDerivOwner alg3Key
  rw [if_neg (by omega)]
  simp only [hp.md5, Out.bind_ok, padPass_eq]
  by_cases h3 : r ≥ 3
  · simp only [if_pos h3, md5Iter_eq hp, Out.bind_ok]
    rw [iter_congr (fun a : Bytes => a.length = 16) (fun a _ => hw.md5_len _)
      (fun a ha => by rw [List.take_of_length_le (Nat.le_of_eq ha)]) 50 _ (hw.md5_len _)]
  · simp only [if_neg h3, Out.bind_ok]

theorem rc4Chain_range_succ (k : Bytes) (n : Nat) (d : Bytes) :
    rc4Chain k (List.range (n + 1)) d = rc4Chain k ((List.range n).map (1 + ·)) (rc4 k d) := by
  rw [List.range_succ_eq_map, rc4Chain_cons, xorKey_zero]
  simp only [Nat.add_comm]

theorem computeURev34_eq {P : Prims} {H : Hashes} (hp : PrimsAgree P H) (id k : Bytes) (hk : validKey k) :
    computeURev34 P id k = .ok (rc4Chain k (List.range 20) (H.md5 (PADDING ++ id))) := by
  rw [rc4Chain_range_succ, computeURev34, hp.md5, Out.bind_ok, rc4Encrypt_eq hk, Out.bind_ok, roundList_eq,
    rc4Rounds_eq hk]

/-- the boolean the model computes is the decision of the standard's comparison -/
theorem checkPasswordRc4_eq {P : Prims} {H : Hashes} (hp : PrimsAgree P H) (hw : H.WF) (r : Nat) (u id k : Bytes) (hk : validKey k) :
    checkPasswordRc4 P r u id k = .ok (decide (if r = 2 then makeU H 2 k id [] = u else makeU H r k id [] = u.take 16)) := by
  unfold checkPasswordRc4
  by_cases h2 : r = 2
  · simp only [if_pos h2, computeURev2, rc4Encrypt_eq hk, Out.bind_ok, makeU]
    congr 1
    by_cases hc : rc4 k PADDING = u <;> simp [hc]
  · simp only [if_neg h2, computeURev34_eq hp id k hk, Out.bind_ok, makeU, List.append_nil]
    congr 1
    have hl : (rc4Chain k (List.range 20) (H.md5 (PADDING ++ id))).length = 16 := by
      rw [rc4Chain_length, hw.md5_len]
    generalize rc4Chain k (List.range 20) (H.md5 (PADDING ++ id)) = c at hl
    unfold startsWith
    rw [hl]
    by_cases hc : c = u.take 16
    · have : 16 ≤ u.length := by
        have := congrArg List.length hc; rw [hl, List.length_take] at this; omega
      simp [hc, this]
    · have : ¬ (u.take 16 = c) := fun e => hc e.symm
      simp [hc, this]

/-! ## Algorithm 2.B: the loop of `revision_6_kdf` is the loop of the standard -/

theorem foldl_add_toNat (bs : Bytes) (a : Nat) : bs.foldl (fun a b => a + b.toNat) a = a + bs.foldl (fun a b => a + b.toNat) 0 := by
  induction bs generalizing a with
  | nil => simp
  | cons b bs ih => simp only [List.foldl_cons]; rw [ih, ih (0 + b.toNat)]; omega

theorem sumBytes_cons (b : UInt8) (bs : Bytes) : sumBytes (b :: bs) = b.toNat + sumBytes bs := by
  unfold sumBytes; simp only [List.foldl_cons]; rw [foldl_add_toNat]; omega

/-- 256 ≡ 1 (mod 3): the big-endian number and the byte sum agree modulo 3 -/
theorem beNat_mod3 (bs : Bytes) : beNat bs % 3 = sumBytes bs % 3 := by
  induction bs with
  | nil => rfl
  | cons b bs ih =>
    have h1 : 256 ^ bs.length % 3 = 1 := by rw [Nat.pow_mod]; simp
    rw [beNat, sumBytes_cons, Nat.add_mod, Nat.mul_mod, h1, ih]
    simp [Nat.add_mod]

theorem flatten_replicate_length (n : Nat) (unit : Bytes) : (List.replicate n unit).flatten.length = n * unit.length := by
  induction n with
  | zero => simp
  | succ n ih => rw [List.replicate_succ, List.flatten_cons, List.length_append, ih]; rw [Nat.succ_mul]; omega

theorem repeat64_length (unit : Bytes) : (repeat64 unit).length = 64 * unit.length :=
  flatten_replicate_length 64 unit

/-- the standard's loop (`loop2B`) has no fuel of its own; where it has not ended the model's is out of fuel -/
def optOut {α : Type} : Option α → Out α
  | some a => .ok a
  | none => .oof

/-- what stays true of `K` from round to round -/
def KLen (k : Bytes) : Prop := k.length = 32 ∨ k.length = 48 ∨ k.length = 64

theorem round2B_klen {H : Hashes} (hw : H.WF) (pw u k : Bytes) : KLen (round2B H pw u k).1 := by
  unfold round2B KLen
  simp only []
  split
  · exact Or.inl (hw.sha256_len _)
  · split
    · exact Or.inr (Or.inl (hw.sha384_len _))
    · exact Or.inr (Or.inr (hw.sha512_len _))

theorem kdfRound_eq {P : Prims} {H : Hashes} (hp : PrimsAgree P H) (hw : H.WF) (pw u k : Bytes)
    (hpw : pw.length ≤ 127) (hu : u.length ≤ 48) (hk : KLen k) :
    kdfRound P pw u k = .ok (round2B H pw u k) ∧ KLen (round2B H pw u k).1 := by
  -- 15360 = (128 + 64 + 48) * 64: the scratch buffer of `revision_6_kdf`, beyond which the model panics
  have hul : (pw ++ k ++ u).length * 64 ≤ 15360 := by
    simp only [List.length_append]; unfold KLen at hk; omega
  have hpos : 0 < (pw ++ k ++ u).length := by
    simp only [List.length_append]; unfold KLen at hk; omega
  have hiv : ((k.drop 16).take 16).length = 16 := by
    rw [List.length_take, List.length_drop]; unfold KLen at hk; omega
  have hrl := repeat64_length (pw ++ k ++ u)
  have hel : (cbcEnc (H.aesE (k.take 16)) ((repeat64 (pw ++ k ++ u)).length / 16) ((k.drop 16).take 16) (repeat64 (pw ++ k ++ u))).length
      = 16 * ((repeat64 (pw ++ k ++ u)).length / 16) :=
    cbcEnc_length (hw.aesE_len _) _ _ _ hiv (by rw [hrl]; omega)
  constructor
  · unfold kdfRound round2B
    simp only []
    rw [if_neg (by omega)]
    unfold cbcEncryptNoPad
    rw [if_neg (by rw [hrl]; omega), cbcEncryptBlocks_eq hp, Out.bind_ok]
    rw [show (List.replicate 64 (pw ++ k ++ u)).flatten = repeat64 (pw ++ k ++ u) from rfl]
    have hel' : (cbcEnc (H.aesE (k.take 16)) ((repeat64 (pw ++ k ++ u)).length / 16) ((k.drop 16).take 16) (repeat64 (pw ++ k ++ u))).length
        = 64 * (pw ++ k ++ u).length := by rw [hel, hrl]; omega
    generalize cbcEnc (H.aesE (k.take 16)) ((repeat64 (pw ++ k ++ u)).length / 16) ((k.drop 16).take 16) (repeat64 (pw ++ k ++ u)) = e at hel'
    have hne : e ≠ [] := by
      intro h; rw [h, List.length_nil] at hel'; omega
    obtain ⟨last, hlast⟩ : ∃ l, e.getLast? = some l := by
      cases hh : e.getLast? with
      | none => exact absurd (List.getLast?_eq_none_iff.mp hh) hne
      | some l => exact ⟨l, rfl⟩
    rw [hlast]
    have hm := beNat_mod3 (e.take 16)
    have hlt := Nat.mod_lt (beNat (e.take 16)) (show 3 > 0 by decide)
    rw [← hm]
    generalize beNat (e.take 16) % 3 = m at hlt
    by_cases h0 : m = 0
    · rw [if_pos (by omega), if_pos h0, hp.sha256]; rfl
    · by_cases h1 : m = 1
      · rw [if_neg (by omega), if_pos (by omega), if_neg h0, if_pos h1, hp.sha384]; rfl
      · rw [if_neg (by omega), if_neg (by omega), if_neg h0, if_neg h1, hp.sha512]; rfl
  · exact round2B_klen hw pw u k

theorem kdfLoop_eq {P : Prims} {H : Hashes} (hp : PrimsAgree P H) (hw : H.WF) (pw u : Bytes)
    (hpw : pw.length ≤ 127) (hu : u.length ≤ 48) (f : Nat) :
    ∀ (i : Nat) (k : Bytes) (last : UInt8), KLen k → (i < 64 ∨ i < last.toNat + 32) →
      kdfLoop P pw u (f + 1) i k last = optOut (loop2B H pw u f i k) := by
  induction f with
  | zero =>
    intro i k last hk hc
    have ⟨hr, _⟩ := kdfRound_eq hp hw pw u k hpw hu hk
    simp only [kdfLoop, if_pos hc, hr, Out.bind_ok, loop2B, optOut]
  | succ f ih =>
    intro i k last hk hc
    have ⟨hr, hk'⟩ := kdfRound_eq hp hw pw u k hpw hu hk
    rw [kdfLoop, if_pos hc, hr, Out.bind_ok]
    simp only [loop2B]
    generalize round2B H pw u k = r at hk' ⊢
    obtain ⟨k', l⟩ := r
    simp only []
    by_cases hc' : i + 1 < 64 ∨ i + 1 < l.toNat + 32
    · rw [ih (i + 1) k' l hk' hc', if_neg (by omega)]
    · rw [if_pos (by omega), kdfLoop, if_neg hc']; rfl

/-- the loop runs while `i < 64 ∨ i < last + 32` with `last ≤ 255`: it has ended by round 288 = 255 + 32 + 1 -/
theorem loop2B_isSome (H : Hashes) (pw u : Bytes) (f : Nat) :
    ∀ (i : Nat) (k : Bytes), 1 ≤ f → 288 ≤ i + f → (loop2B H pw u f i k).isSome = true := by
  induction f with
  | zero => intro i k h; omega
  | succ f ih =>
    intro i k _ hif
    simp only [loop2B]
    generalize round2B H pw u k = r
    obtain ⟨k', l⟩ := r
    have hl := UInt8.toNat_lt l
    simp only []
    by_cases hx : i + 1 ≥ 64 ∧ l.toNat + 32 ≤ i + 1
    · rw [if_pos hx]; rfl
    · rw [if_neg hx]; exact ih (i + 1) k' (by omega) (by omega)

/-- `revision_6_kdf` computes Algorithm 2.B, for every password of at most 127 bytes and `u` of at most 48 -/
theorem revision6Kdf_eq {P : Prims} {H : Hashes} (hp : PrimsAgree P H) (hw : H.WF) (pw salt u : Bytes)
    (hpw : pw.length ≤ 127) (hu : u.length ≤ 48) : revision6Kdf P pw salt u = .ok (hash2B H pw salt u) := by
  unfold revision6Kdf hash2B
  rw [hp.sha256, Out.bind_ok, kdfLoop_eq hp hw pw u hpw hu 288 0 _ 0 (Or.inl (hw.sha256_len _)) (Or.inl (by decide))]
  have := loop2B_isSome H pw u 288 0 (H.sha256 (pw ++ salt ++ u)) (by decide) (by decide)
  cases hh : loop2B H pw u 288 0 (H.sha256 (pw ++ salt ++ u)) with
  | none => rw [hh] at this; cases this
  | some k => rfl

theorem hash56_eq {P : Prims} {H : Hashes} (hp : PrimsAgree P H) (hw : H.WF) (level : Nat) (pw salt u : Bytes)
    (hpw : pw.length ≤ 127) (hu : u.length ≤ 48) : Crypt.hash56 P level pw salt u = .ok (StdSec.hash56 H level pw salt u) := by
  unfold Crypt.hash56 StdSec.hash56
  by_cases h6 : level = 6
  · rw [if_pos h6, if_pos h6, revision6Kdf_eq hp hw pw salt u hpw hu]
  · rw [if_neg h6, if_neg h6, hp.sha256]

/-! ## per-object decryption: the three arms of `Decoder::decrypt` -/

/-- `Decoder::decrypt` returns empty data unchanged. The `Decidable` instance is an argument because the `if` of
    the model and the one the elaborator would build for this statement carry different (equal) instances. -/
theorem ite_isEmpty_of_length_pos {α : Type} (l : Bytes) (h : 0 < l.length) (a b : α)
    [inst : Decidable (l.isEmpty = true)] : (@ite α (l.isEmpty = true) inst a b) = b := by
  have hn : ¬ (l.isEmpty = true) := by
    cases l with
    | nil => simp at h
    | cons _ _ => simp
  rw [if_neg hn]

theorem rc4_roundtrip_aux (okey data : Bytes) (hv : validKey okey) :
    (if (rc4 okey data).isEmpty = true then Out.ok (rc4 okey data) else rc4Encrypt okey (rc4 okey data)) = .ok data := by
  rw [rc4Encrypt_eq hv, rc4_rc4]
  cases data with
  | nil =>
    have : rc4 okey [] = [] := List.eq_nil_of_length_eq_zero (by rw [rc4_length]; rfl)
    rw [this]; rfl
  | cons x xs => exact ite_isEmpty_of_length_pos _ (by rw [rc4_length]; simp) _ _

theorem decrypt_v2 (P : Prims) (d : Decoder) (id gen : Nat) (data : Bytes) (h : ¬ Exempt d id gen) (hm : d.method = .v2) :
    decrypt P d id gen data =
      if data.isEmpty then .ok data else
      d.keyOf.bind fun k => (P.md5 (k ++ idBytes id ++ genBytes gen)).bind fun h =>
          rc4Encrypt (h.take (min (k.length + 5) 16)) data := by
  unfold Exempt at h
  have h1 : ¬ d.encryptRef = some (id, gen) := fun e => h (Or.inl e)
  have h2 : ¬ ((!d.encryptMetadata) = true ∧ d.metadataRef = some (id, gen)) := by
    intro ⟨a, b⟩; exact h (Or.inr ⟨by simpa using a, b⟩)
  unfold decrypt
  rw [if_neg h1, if_neg h2, hm]

theorem decrypt_aesv2 (P : Prims) (d : Decoder) (id gen : Nat) (data : Bytes) (h : ¬ Exempt d id gen) (hm : d.method = .aesv2) :
    decrypt P d id gen data =
      if data.isEmpty then .ok data else
      d.keyOf.bind fun k => (P.md5 (k ++ idBytes id ++ genBytes gen ++ sAlT)).bind fun h =>
          if data.length < 16 then .err
          else cbcDecryptPkcs7 P 16 (h.take (min (min d.keySize 16 + 5) 16)) (data.take 16) (data.drop 16) := by
  unfold Exempt at h
  have h1 : ¬ d.encryptRef = some (id, gen) := fun e => h (Or.inl e)
  have h2 : ¬ ((!d.encryptMetadata) = true ∧ d.metadataRef = some (id, gen)) := by
    intro ⟨a, b⟩; exact h (Or.inr ⟨by simpa using a, b⟩)
  unfold decrypt
  rw [if_neg h1, if_neg h2, hm]

theorem decrypt_aesv3 (P : Prims) (d : Decoder) (id gen : Nat) (data : Bytes) (h : ¬ Exempt d id gen) (hm : d.method = .aesv3) :
    decrypt P d id gen data =
      if data.isEmpty then .ok data else
      if data.length < 16 then .err else cbcDecryptPkcs7 P 32 d.key (data.take 16) (data.drop 16) := by
  unfold Exempt at h
  have h1 : ¬ d.encryptRef = some (id, gen) := fun e => h (Or.inl e)
  have h2 : ¬ ((!d.encryptMetadata) = true ∧ d.metadataRef = some (id, gen)) := by
    intro ⟨a, b⟩; exact h (Or.inr ⟨by simpa using a, b⟩)
  unfold decrypt
  rw [if_neg h1, if_neg h2, hm]

/-- the CBC + PKCS#7 part shared by AESV2 and AESV3 -/
theorem cbcDecryptPkcs7_encrypt {P : Prims} {H : Hashes} (hp : PrimsAgree P H) (hw : H.WF) (klen : Nat) (key iv data : Bytes)
    (hkl : key.length = klen) (hk : klen = 16 ∨ klen = 32) (hiv : iv.length = 16) :
    cbcDecryptPkcs7 P klen key iv (cbcEnc (H.aesE key) ((pkcs7Pad data).length / 16) iv (pkcs7Pad data)) = .ok data := by
  have ⟨hmod, _⟩ := pkcs7Pad_length data
  have hlen : (pkcs7Pad data).length = 16 * ((pkcs7Pad data).length / 16) := by omega
  have hE : ∀ b, b.length = 16 → (H.aesE key b).length = 16 := hw.aesE_len key
  have hD : ∀ b, b.length = 16 → H.aesD key (H.aesE key b) = b := fun b hb => hw.aesD_E key b (by omega) hb
  have hcl := cbcEnc_length hE _ iv (pkcs7Pad data) hiv hlen
  unfold cbcDecryptPkcs7
  rw [if_neg (by omega), if_neg (by omega), cbcDecryptBlocks_eq hp, Out.bind_ok, hcl]
  rw [show 16 * ((pkcs7Pad data).length / 16) / 16 = (pkcs7Pad data).length / 16 by omega]
  rw [cbcDec_cbcEnc hE hD _ iv _ hiv hlen, pkcs7Unpad_pad]

theorem authUser_eq (H : Hashes) (r n : Nat) (o u : Bytes) (p : Int) (id : Bytes) (em : Bool) (pw : Bytes) :
    authUser H r n o u p id em pw =
      if UCheck H r u id ((alg2Digest H r n o p id em pw).take n) then some (alg2Digest H r n o p id em pw) else none := by
  unfold authUser UCheck
  by_cases h2 : r = 2 <;> simp [h2]

/-- both the user test (Algorithm 6) and the owner test (Algorithm 7) fail -/
theorem authenticate_eq_none {H : Hashes} {r n : Nat} {o u : Bytes} {p : Int} {id : Bytes} {em : Bool} {pw : Bytes}
    (hu : ¬ UCheck H r u id ((alg2Digest H r n o p id em pw).take n))
    (ho : ¬ UCheck H r u id ((alg2Digest H r n o p id em
      (rc4Chain (alg3Key H r n pw) (if r ≥ 3 then (List.range 20).reverse else [0]) o)).take n)) :
    authenticate H r n o u p id em pw = none := by
  rw [authenticate, authUser_eq, if_neg hu, authOwner, authUser_eq, if_neg ho]

theorem ucheck_written {H : Hashes} (hw : H.WF) {d : CryptDict} {id0 : Bytes} {n : Nat} {userPw ownerPw tail : Bytes}
    (w : WrittenRc4 H d id0 n userPw ownerPw tail) :
    UCheck H d.r d.u id0 ((alg2Digest H d.r n d.o d.p id0 d.encryptMetadata userPw).take n) := by
  unfold UCheck
  rw [w.u]
  unfold alg2Key makeU
  by_cases h2 : d.r = 2
  · simp [h2]
  · simp only [if_neg h2, List.append_nil]
    rw [List.take_left']
    rw [rc4Chain_length, hw.md5_len]

theorem alg2Digest_pad32 (H : Hashes) (r n : Nat) (o : Bytes) (p : Int) (id0 : Bytes) (em : Bool) (pw : Bytes) :
    alg2Digest H r n o p id0 em (pad32 pw) = alg2Digest H r n o p id0 em pw := by
  unfold alg2Digest; rw [pad32_idem]

theorem authenticate_some {H : Hashes} (hw : H.WF) (r n : Nat) (o u : Bytes) (p : Int) (id0 : Bytes) (em : Bool) (pw dg : Bytes)
    (ha : authenticate H r n o u p id0 em pw = some dg) : dg.length = 16 ∧ UCheck H r u id0 (dg.take n) := by
  unfold authenticate at ha
  rw [authUser_eq] at ha
  by_cases h1 : UCheck H r u id0 ((alg2Digest H r n o p id0 em pw).take n)
  · rw [if_pos h1] at ha
    injection ha with ha; subst ha
    exact ⟨alg2Digest_length hw .., h1⟩
  · rw [if_neg h1] at ha
    simp only [authOwner] at ha
    rw [authUser_eq] at ha
    generalize rc4Chain (alg3Key H r n pw) (if r ≥ 3 then (List.range 20).reverse else [0]) o = upw at ha
    by_cases h2 : UCheck H r u id0 ((alg2Digest H r n o p id0 em upw).take n)
    · rw [if_pos h2] at ha
      injection ha with ha; subst ha
      exact ⟨alg2Digest_length hw .., h2⟩
    · rw [if_neg h2] at ha; cases ha

theorem loop2B_length {H : Hashes} (hw : H.WF) (pw u : Bytes) (f : Nat) :
    ∀ (i : Nat) (k x : Bytes), loop2B H pw u f i k = some x → x.length = 32 := by
  induction f with
  | zero => intro i k x h; cases h
  | succ f ih =>
    intro i k x h
    simp only [loop2B] at h
    have hk := round2B_klen hw pw u k
    generalize round2B H pw u k = r at h hk
    obtain ⟨k', l⟩ := r
    simp only [] at h hk
    split at h
    · injection h with h; subst h; rw [List.length_take]; unfold KLen at hk; omega
    · exact ih _ _ _ h

theorem hash56_length {H : Hashes} (hw : H.WF) (r : Nat) (pw salt u : Bytes) : (StdSec.hash56 H r pw salt u).length = 32 := by
  unfold StdSec.hash56
  split
  · unfold hash2B
    have hs := loop2B_isSome H pw u 288 0 (H.sha256 (pw ++ salt ++ u)) (by decide) (by decide)
    cases hh : loop2B H pw u 288 0 (H.sha256 (pw ++ salt ++ u)) with
    | none => rw [hh] at hs; cases hs
    | some x => exact loop2B_length hw pw u 288 0 _ x hh
  · exact hw.sha256_len _

theorem unwrap_wrap {H : Hashes} (hw : H.WF) (ik fileKey : Bytes) (hik : ik.length = 32) (hk : fileKey.length = 32) :
    cbcDec (H.aesD ik) 2 zeroIV (cbcEnc (H.aesE ik) 2 zeroIV fileKey) = fileKey :=
  cbcDec_cbcEnc (hw.aesE_len ik) (fun b hb => hw.aesD_E ik b (Or.inr hik) hb) 2 zeroIV fileKey (by simp [zeroIV]) (by omega)

theorem makeU56_parts {H : Hashes} (hw : H.WF) (r : Nat) (p vs ks : Bytes) (hvs : vs.length = 8) (hks : ks.length = 8) :
    (makeU56 H r p vs ks).length = 48 ∧ (makeU56 H r p vs ks).take 32 = StdSec.hash56 H r p vs [] ∧
    ((makeU56 H r p vs ks).drop 32).take 8 = vs ∧ ((makeU56 H r p vs ks).drop 40).take 8 = ks := by
  have hl := hash56_length hw r p vs []
  unfold makeU56
  refine ⟨by simp [hl, hvs, hks], ?_, ?_, ?_⟩
  · rw [List.append_assoc, List.take_left' hl]
  · rw [List.append_assoc, List.drop_left' hl, List.take_left' hvs]
  · rw [show 40 = (StdSec.hash56 H r p vs [] ++ vs).length by simp [hl, hvs], List.drop_left, List.take_of_length_le (by omega)]

mutual
theorem decryptVal_enc {P : Prims} {R : Bytes → Bytes → Prop} (d : Decoder) (id gen : Nat)
    (hR : ∀ p s, R p s → decrypt P d id gen s = .ok p) :
    ∀ (plain stored : Val), EncVal R plain stored → decryptVal P (some d) id gen stored = .ok plain
  | .str p, .str s, h => by simp only [EncVal] at h; simp [decryptVal, ctxDecrypt, hR p s h]
  | .atom t, .atom t', h => by simp only [EncVal] at h; simp [decryptVal, h]
  | .arr ps, .arr ss, h => by
    simp only [EncVal] at h; simp [decryptVal, decryptVals_enc d id gen hR ps ss h]
  | .dict ps, .dict ss, h => by
    simp only [EncVal] at h; simp [decryptVal, decryptKvs_enc d id gen hR ps ss h]
  | .str _, .atom _, h | .str _, .arr _, h | .str _, .dict _, h
  | .atom _, .str _, h | .atom _, .arr _, h | .atom _, .dict _, h
  | .arr _, .str _, h | .arr _, .atom _, h | .arr _, .dict _, h
  | .dict _, .str _, h | .dict _, .atom _, h | .dict _, .arr _, h => by simp [EncVal] at h
theorem decryptVals_enc {P : Prims} {R : Bytes → Bytes → Prop} (d : Decoder) (id gen : Nat)
    (hR : ∀ p s, R p s → decrypt P d id gen s = .ok p) :
    ∀ (plain stored : List Val), EncVals R plain stored → decryptVals P (some d) id gen stored = .ok plain
  | [], [], _ => by simp [decryptVals]
  | p :: ps, s :: ss, h => by
    simp only [EncVals] at h
    simp [decryptVals, decryptVal_enc d id gen hR p s h.1, decryptVals_enc d id gen hR ps ss h.2]
  | [], _ :: _, h | _ :: _, [], h => by simp [EncVals] at h
theorem decryptKvs_enc {P : Prims} {R : Bytes → Bytes → Prop} (d : Decoder) (id gen : Nat)
    (hR : ∀ p s, R p s → decrypt P d id gen s = .ok p) :
    ∀ (plain stored : List (Bytes × Val)), EncKvs R plain stored → decryptKvs P (some d) id gen stored = .ok plain
  | [], [], _ => by simp [decryptKvs]
  | (k, p) :: ps, (k', s) :: ss, h => by
    simp only [EncKvs] at h
    simp [decryptKvs, decryptVal_enc d id gen hR p s h.2.1, decryptKvs_enc d id gen hR ps ss h.2.2, h.1]
  | [], _ :: _, h | _ :: _, [], h => by simp [EncKvs] at h
end

end Crypt
