import PdfModel.Lemmas.XrefFiltered
import PdfModel.Lemmas.OpenBytes
import PdfModel.Lemmas.RepBytes
import PdfModel.Lemmas.XrefFile

/-! A cross-reference *stream* section at the head of a buffer, through the section-head model of the C17
    package (`XrefSec.parseXrefStreamAndTrailer`, Model/XrefStreamSection) with the data decoded by the
    filter model (`XrefFilters.decOf`): the contract `Offsets.ReadsAt` of the `/Prev` walk holds for it. -/

namespace XrefFiltered
open PdfLex Xref XrefTable
open PdfSyntax (Gap Bnd NatTok SpellsStream WFE keysOf vdepthE needE)

variable {R V : Type}

/-- the text of a cross-reference stream section: `id gen obj <stream object> endobj` (any gaps) and the
    keyword that follows it (`startxref`, in any case not `trailer`) -/
def StreamSectionText (pr : List UInt8 → Option R) (info : Dict R) (y txt : List UInt8) : Prop :=
  ∃ a g1 b g2 g3 stxt g4 g5 tailw id gen,
    txt = a ++ g1 ++ b ++ g2 ++ kwObj ++ g3 ++ stxt ++ g4 ++ kwEndobj ++ g5 ++ tailw ∧
    NatTok a id ∧ NatTok b gen ∧ id ≤ 18446744073709551615 ∧ gen ≤ 18446744073709551615 ∧
    Gap g1 ∧ g1 ≠ [] ∧ Gap g2 ∧ g2 ≠ [] ∧ Gap g3 ∧ SpellsStream pr info y stxt ∧ Gap g4 ∧ g4 ≠ [] ∧ Gap g5 ∧ g5 ≠ [] ∧
    tailw ≠ [] ∧ (∀ c ∈ tailw, isRegular c = true) ∧ tailw ≠ kwTrailer

/-- **the section head**: `parse_xref_stream_and_trailer` on such a text returns whatever the row reader makes of
    the decoded data, and the stream dictionary as trailer -/
theorem parseXrefStreamAndTrailer_spec (env : Env R) (hd : env.decrypt = none)
    (dec : Dict R → List UInt8 → Out (List UInt8)) (allowErr : Bool) (info : Dict R) (y txt rest : List UInt8)
    (hst : StreamSectionText env.parseReal info y txt) (hwf : WFE info) (hnd : (keysOf info).Nodup)
    (hlen : dictGet info kwLength = some (.int (y.length : Int))) (hdepth : vdepthE info ≤ maxDepth)
    {buf : Buf} (hsz : buf.size ≤ 2147483647) (pfuel pos : Nat) (hfuel : needE info ≤ pfuel)
    (h : Suffix buf pos (txt ++ rest)) (hbr : Bnd rest)
    (xi : XrefSec.Info) (hxi : XrefSec.xrefInfo info = .ok xi) (data : List UInt8) (hdec : dec info y = .ok data)
    (pairs : List (Nat × Nat)) (hp : XrefSec.pairsOf xi.index = .ok pairs) (subs : List Sub)
    (hps : parseSections xi.w allowErr pairs data [] = .ok subs) :
    XrefSec.parseXrefStreamAndTrailer env dec allowErr buf pfuel pos = .ok (subs, info) := by
  obtain ⟨a, g1, b, g2, g3, stxt, g4, g5, tailw, id, gen, rfl, ha, hb, hid, hgen, hg1, hg1ne, hg2, hg2ne, hg3, hsp,
    hg4, hg4ne, hg5, hg5ne, htw, htr, hnt⟩ := hst
  have hd' : ({ env with fileOffset := 0 } : Env R).decrypt = none := hd
  have h' : Suffix buf pos ([] ++ a ++ g1 ++ b ++ g2 ++ kwObj ++ g3 ++ stxt ++ g4 ++ kwEndobj ++ (g5 ++ tailw ++ rest)) := by
    simpa only [List.append_assoc, List.nil_append] using h
  obtain ⟨dataPos, hpi, hdata⟩ := OpenBytes.parseIndirectStream_spec { env with fileOffset := 0 } hd' info y stxt hsp hwf hnd
    (Or.inl hlen) hdepth hsz [] a g1 b g2 g3 g4 _ id gen pos pfuel Gap.nil ha hb hg1 hg1ne hg2 hg2ne hid hgen hg3 hg4 hg4ne h'
    (by simpa only [List.append_assoc] using gap_bnd hg5 hg5ne (tailw ++ rest)) hfuel
  -- the lexeme behind it is not `trailer`
  obtain ⟨hn, hsl⟩ := next_regular g5 tailw rest _ hg5 h'.drop htw htr hbr
  have hne : (tailw == XrefTable.kwTrailer) = false := beq_eq_false_iff_ne.2 hnt
  have hslice : slice buf (0 + dataPos) (0 + dataPos + y.length) = y := by simpa using hdata
  simp only [XrefSec.parseXrefStreamAndTrailer, hpi, streamAt, XrefSec.trailerOf, hn, hsl, hne, Bool.false_eq_true, if_false,
    hxi, hslice, hdec, hp, hps]


theorem pairsOf_flat (subs : List Sub) :
    XrefSec.pairsOf (subs.flatMap fun s => [s.first, s.entries.length]) = .ok (subs.map fun s => (s.first, s.entries.length)) := by
  induction subs with
  | nil => rfl
  | cons s ss ih => simp [XrefSec.pairsOf, ih]

theorem streamSectionText_need (pr : List UInt8 → Option R) (info : Dict R) (y txt : List UInt8)
    (h : StreamSectionText pr info y txt) : needE info ≤ 3 * txt.length := by
  obtain ⟨a, g1, b, g2, g3, stxt, g4, g5, tailw, id, gen, rfl, _, _, _, _, _, _, _, _, _, hsp, _⟩ := h
  obtain ⟨q1, ents, q2, eol, q3, rfl, _, hents, _⟩ := hsp
  -- the entries are a piece of the text
  refine Nat.le_trans (PdfLex.needE_bound pr info ents hents) (Nat.mul_le_mul_left 3 (List.IsInfix.length_le
    ⟨a ++ g1 ++ b ++ g2 ++ kwObj ++ g3 ++ [60, 60] ++ q1, q2 ++ PdfSyntax.kwStream ++ eol ++ y ++ q3 ++
      PdfSyntax.kwEndstream ++ g4 ++ kwEndobj ++ g5 ++ tailw, ?_⟩))
  simp only [List.append_assoc, List.cons_append, List.nil_append]

/-- a cross-reference stream section at offset `off` of a file (relative to the header at `start`): the bytes
    there are an indirect stream object whose dictionary is the section's trailer and carries `/Type /XRef`,
    `/Size`, `/W [w0 w1 w2]`, the `/Index` of the subsections, `/Length`, and `/Filter` / `/DecodeParms` naming the
    filter list `fs`; the stream data `y` is a conforming encoding of the rows under `fs` -/
def StreamAt (env : Env R) (X : Enc.Ext) (tolerant : Bool) (buf : List UInt8) (start : Nat)
    (r : Offsets.Rev (Dict R)) : Prop :=
  ∃ (y txt rest : List UInt8) (w0 w1 w2 size : Nat) (fs : List Enc.Filter),
    buf.drop (start + r.off) = txt ++ rest ∧ start + r.off ≤ buf.length ∧
    StreamSectionText env.parseReal r.trailer y txt ∧ Bnd rest ∧
    WFE r.trailer ∧ (keysOf r.trailer).Nodup ∧ dictGet r.trailer kwLength = some (.int (y.length : Int)) ∧
    vdepthE r.trailer ≤ maxDepth ∧
    XrefSec.xrefInfo r.trailer = .ok ⟨size, r.subs.flatMap fun s => [s.first, s.entries.length], [w0, w1, w2]⟩ ∧
    XrefFilters.filtersOfDict tolerant r.trailer = .ok fs ∧
    w0 ≤ 8 ∧ w1 ≤ 8 ∧ w2 ≤ 8 ∧ (∀ s ∈ r.subs, ∀ e ∈ s.entries, Fits w0 w1 w2 e) ∧ 0 < w0 + w1 + w2 ∧
    FilteredData X fs w0 w1 w2 r.subs y

end XrefFiltered
