import PdfModel.Model.CMap

/-! Progress and totality of the CMap reader model: every step consumes input, so fuel `len + 1` never runs out. -/

namespace CMap

/-- `x` is no fuel failure, and a value `a` of `x` leaves `len a < n` bytes of input -/
def Prog {α : Type} (len : α → Nat) (n : Nat) (x : R α) : Prop := x ≠ .oof ∧ ∀ a, x = .ok a → len a < n

namespace Prog
variable {α : Type} {len : α → Nat} {n : Nat}

theorem err : Prog len n .err := ⟨nofun, nofun⟩

theorem unmodelled : Prog len n .unmodelled := ⟨nofun, nofun⟩

theorem ok {a : α} (h : len a < n) : Prog len n (.ok a) := ⟨nofun, fun _ e => by cases e; exact h⟩

theorem mono {x : R α} {n' : Nat} (h : Prog len n x) (hn : n ≤ n') : Prog len n' x :=
  ⟨h.1, fun a e => Nat.lt_of_lt_of_le (h.2 a e) hn⟩

end Prog

/-- `scan` stops in front of a byte that is neither white space nor `%` -/
theorem scan_len {c : Bool} {bs r : Bytes} (h : scan c bs = some r) :
    r.length ≤ bs.length ∧ ∃ b r', r = b :: r' ∧ isWs b = false ∧ (b == 37) = false := by
  fun_induction scan c bs
  case case1 => cases h                                 -- end of input
  case case7 b r hws hb =>                              -- the byte `scan` stops at
    cases h
    exact ⟨Nat.le_refl _, b, r, rfl, by simpa using hws, by simpa using hb⟩
  all_goals                                             -- a byte of a comment, white space, `%`: one step
    rename_i ih
    exact ⟨Nat.le_succ_of_le (ih h).1, (ih h).2⟩

theorem nextWord_len {bs w rest : Bytes} (h : nextWord bs = some (w, rest)) : rest.length < bs.length := by
  unfold nextWord at h
  split at h
  · cases h
  · cases h
  · next b r hs =>
    obtain ⟨hl, b', r', e, hws, _⟩ := scan_len hs
    cases e
    have hd : (r.dropWhile isRegular).length ≤ r.length := (List.dropWhile_sublist isRegular).length_le
    simp only [List.length_cons] at hl
    split at h
    · split at h
      · cases h; omega
      · split at h
        · split at h <;> cases h <;> simp only [List.length_cons] at hl ⊢ <;> omega
        · cases h; exact hl
    · next hdl =>
      cases h
      have hreg : isRegular b = true := by simp only [isRegular, hws, hdl]; rfl
      simp only [List.dropWhile_cons, hreg, if_true]
      omega

theorem hexStr_len {hi : Option Nat} {acc : List UInt8} {bs s r : Bytes} (h : hexStr hi acc bs = some (s, r)) :
    r.length < bs.length := by
  fun_induction hexStr hi acc bs
  case case1 | case5 | case8 => cases h                 -- end of input, or a byte that is no digit
  case case3 | case6 => cases h; exact Nat.lt_succ_self _   -- `>` (with or without a pending digit)
  all_goals                                             -- white space or a digit: one step
    rename_i ih
    exact Nat.lt_succ_of_lt (ih h)

theorem parseStr_prog (bs : Bytes) : Prog (·.2.length) bs.length (parseStr bs) := by
  unfold parseStr
  split
  · exact .err
  · next w rest hn =>
    have hl := nextWord_len hn
    split
    · split
      · next x hh => exact .ok (Nat.lt_trans (hexStr_len hh) hl)
      · exact .err
    · split
      · exact .unmodelled
      · exact .err

theorem parseArr_prog : ∀ (f : Nat) (bs : Bytes) (acc : List Bytes), bs.length < f →
    Prog (·.2.length) bs.length (parseArr f bs acc)
  | 0, bs, acc, h => by omega
  | f + 1, bs, acc, h => by
    unfold parseArr
    split
    · exact .err
    · next w rest hn =>
      have hl := nextWord_len hn
      split
      · exact .ok hl
      · split
        · split
          · next s r hh =>
            have h1 := hexStr_len hh
            exact (parseArr_prog f r (s :: acc) (by omega)).mono (by omega)
          · exact .err
        · split
          · exact .unmodelled
          · exact .err

theorem parseStrOrArr_prog (bs : Bytes) : Prog (·.2.length) bs.length (parseStrOrArr bs) := by
  unfold parseStrOrArr
  split
  · exact .err
  · next w rest hn =>
    have hl := nextWord_len hn
    split
    · split
      · next s r hh => exact .ok (Nat.lt_trans (hexStr_len hh) hl)
      · exact .err
    · split
      · exact .unmodelled
      · split
        · have pa := parseArr_prog (rest.length + 1) rest [] (by omega)
          split
          · next xs r hp => exact .ok (Nat.lt_trans (pa.2 _ hp) hl)
          · exact .err
          · exact .unmodelled
          · next hp => exact absurd hp pa.1
        · exact .err

/-- `≤`, not `<` (hence the bound `bs.length + 1`): a section loop that breaks at its first string hands back its own
    input; the outer loop has consumed the keyword before. -/
theorem bfchar_prog : ∀ (f : Nat) (bs : Bytes) (m : Map), bs.length < f →
    Prog (·.1.length) (bs.length + 1) (bfchar f bs m)
  | 0, bs, m, h => by omega
  | f + 1, bs, m, h => by
    unfold bfchar
    split
    · exact .ok (Nat.lt_succ_self _)
    · exact .unmodelled
    · next h1 => exact absurd h1 (parseStr_prog bs).1
    · next a r1 h1 =>
      have l1 : r1.length < bs.length := (parseStr_prog bs).2 _ h1
      split
      · exact .ok (by dsimp only; omega)
      · exact .unmodelled
      · next h2 => exact absurd h2 (parseStr_prog r1).1
      · next b r2 h2 =>
        have l2 : r2.length < r1.length := (parseStr_prog r1).2 _ h2
        split
        · exact .err
        · exact (bfchar_prog f r2 _ (by omega)).mono (by omega)

theorem bfrange_prog : ∀ (f : Nat) (bs : Bytes) (m : Map), bs.length < f →
    Prog (·.1.length) (bs.length + 1) (bfrange f bs m)
  | 0, bs, m, h => by omega
  | f + 1, bs, m, h => by
    unfold bfrange
    split
    · exact .ok (Nat.lt_succ_self _)
    · exact .unmodelled
    · next h1 => exact absurd h1 (parseStr_prog bs).1
    · next a r1 h1 =>
      have l1 : r1.length < bs.length := (parseStr_prog bs).2 _ h1
      split
      · exact .unmodelled
      · next h2 => exact absurd h2 (parseStr_prog r1).1
      · have pc := parseStrOrArr_prog r1
        split
        · next v r3 h3 =>
          have l3 : r3.length < r1.length := pc.2 _ h3
          exact .ok (by dsimp only; omega)
        · exact .ok (by dsimp only; omega)
        · exact .unmodelled
        · next h3 => exact absurd h3 pc.1
      · next b r2 h2 =>
        have l2 : r2.length < r1.length := (parseStr_prog r1).2 _ h2
        have pc := parseStrOrArr_prog r2
        split
        · exact .ok (by dsimp only; omega)
        · exact .unmodelled
        · next h3 => exact absurd h3 pc.1
        · next s r3 h3 =>
          have l3 : r3.length < r2.length := pc.2 _ h3
          split
          · split
            · exact (bfrange_prog f r3 _ (by omega)).mono (by omega)
            · exact .err
          · exact .ok (by dsimp only; omega)
        · next xs r3 h3 =>
          have l3 : r3.length < r2.length := pc.2 _ h3
          split
          · exact (bfrange_prog f r3 _ (by omega)).mono (by omega)
          · exact .err

theorem outer_ne_oof : ∀ (f : Nat) (bs : Bytes) (m : Map), bs.length < f → outer f bs m ≠ .oof
  | 0, bs, m, h => by omega
  | f + 1, bs, m, h => by
    unfold outer
    split
    · nofun
    · next w rest hn =>
      have hl := nextWord_len hn
      split
      · have pc := bfchar_prog f rest m (by omega)
        split
        · next r m' hb =>
          have : r.length < rest.length + 1 := pc.2 _ hb
          exact outer_ne_oof f r m' (by omega)
        · nofun
        · nofun
        · next hb => exact absurd hb pc.1
      · split
        · have pc := bfrange_prog f rest m (by omega)
          split
          · next r m' hb =>
            have : r.length < rest.length + 1 := pc.2 _ hb
            exact outer_ne_oof f r m' (by omega)
          · nofun
          · nofun
          · next hb => exact absurd hb pc.1
        · split
          · nofun
          · exact outer_ne_oof f rest m (by omega)

/-- the reader model never runs out of fuel, on any byte string -/
theorem parseCMap_ne_oof (bs : Bytes) : parseCMap bs ≠ .oof :=
  outer_ne_oof (bs.length + 1) bs [] (by omega)

end CMap
