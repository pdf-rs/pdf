import PdfModel.Lemmas.Offsets
import PdfModel.Lemmas.OffLex
import Mathlib.Data.List.Perm.Subperm

/-! Fuel adequacy of the `/Prev` loop of `Model/Offsets.lean`: the `seen` list is duplicate-free and every
    member is an offset that could be read, so it cannot grow beyond `len - start + 1` entries; with
    `fuel ≥ len + 2` the model never answers `oof`. (Single Mathlib import: the pigeonhole step.) -/

namespace Offsets
open OffLex

theorem pigeon (l : List Nat) (B : Nat) (hn : l.Nodup) (hb : ∀ x ∈ l, x ≤ B) : l.length ≤ B + 1 := by
  have hsub : l ⊆ List.range (B + 1) := by
    intro x hx; simp [List.mem_range]; have := hb x hx; omega
  have := List.subperm_of_subset hn hsub
  simpa using this.length_le

theorem shouldUpdate_ne_oof (dst inc : Xref.XRef) : Xref.shouldUpdate dst inc ≠ .oof := by
  cases dst <;> cases inc <;> simp [Xref.shouldUpdate, Xref.XRef.genNr]

theorem addEntry_ne_oof (t : Xref.Table) (i : Nat) (e : Xref.XRef) : Xref.addEntry t i e ≠ .oof := by
  unfold Xref.addEntry
  cases t[i]? with
  | none => simp
  | some dst =>
    simp only
    have := shouldUpdate_ne_oof dst e
    cases h : Xref.shouldUpdate dst e with
    | ok b => cases b <;> simp
    | oof => exact absurd h this
    | _ => simp

theorem addFrom_ne_oof : ∀ (es : List Xref.XRef) (t : Xref.Table) (i : Nat), Xref.addFrom t i es ≠ .oof := by
  intro es
  induction es with
  | nil => intro t i; simp [Xref.addFrom]
  | cons e es ih =>
    intro t i
    simp only [Xref.addFrom]
    have := addEntry_ne_oof t i e
    cases h : Xref.addEntry t i e with
    | ok t' => exact ih t' (i + 1)
    | oof => exact absurd h this
    | _ => simp

theorem addSubs_ne_oof : ∀ (ss : List Xref.Sub) (t : Xref.Table), Xref.addSubs t ss ≠ .oof := by
  intro ss
  induction ss with
  | nil => intro t; simp [Xref.addSubs]
  | cons s ss ih =>
    intro t
    simp only [Xref.addSubs, Xref.addSub]
    have := addFrom_ne_oof s.entries t s.first
    cases h : Xref.addFrom t s.first s.entries with
    | ok t' => exact ih t'
    | oof => exact absurd h this
    | _ => simp

variable {V T : Type}

/-- the parameters themselves never answer `oof` (they stand for Rust functions, which have no fuel) -/
def NoOof (P : Parsers V T) : Prop :=
  (∀ sfx, P.xrefAt sfx ≠ .oof) ∧ (∀ tr, P.sizeOf tr ≠ .oof) ∧ (∀ tr, P.prevOf tr ≠ some .oof)

theorem suffixAt_bound (buf : Bytes) (start off pos : Nat) (sfx : Bytes)
    (h : suffixAt buf start off = .ok (pos, sfx)) : start + off ≤ buf.length := by
  unfold suffixAt checkedAdd readFrom at h
  by_cases h1 : start + off > usizeMax
  · simp [h1] at h
  · by_cases h2 : start + off ≤ buf.length
    · exact h2
    · simp [h1, h2] at h

theorem suffixAt_ne_oof (buf : Bytes) (start off : Nat) : suffixAt buf start off ≠ .oof := by
  unfold suffixAt checkedAdd readFrom
  by_cases h1 : start + off > usizeMax
  · simp [h1]
  · by_cases h2 : start + off ≤ buf.length <;> simp [h1, h2]

theorem suffixAtStrict_ne_oof (buf : Bytes) (start off : Nat) : suffixAtStrict buf start off ≠ .oof := by
  unfold suffixAtStrict checkedAdd
  by_cases h1 : start + off > usizeMax
  · simp [h1]
  · by_cases h2 : start + off ≥ buf.length <;> simp [h1, h2]

theorem prevLoop_ne_oof (P : Parsers V T) (hP : NoOof P) (buf : Bytes) (start : Nat) :
    ∀ (fuel : Nat) (seen : List Nat) (pv : Option Nat) (t : Xref.Table),
      seen.Nodup → (∀ x ∈ seen, start + x ≤ buf.length) →
      buf.length - start + 2 ≤ fuel + seen.length →
      prevLoop P buf start fuel seen pv t ≠ .oof := by
  intro fuel
  induction fuel with
  | zero =>
    intro seen pv t hn hb hf
    have := pigeon seen (buf.length - start) hn (fun x hx => by have := hb x hx; omega)
    omega
  | succ fuel ih =>
    intro seen pv t hn hb hf
    cases pv with
    | none => simp [prevLoop]
    | some v =>
      rw [prevLoop_succ]
      split
      · nofun
      · rename_i hnc
        refine Out.bind_ne_oof (suffixAt_ne_oof buf start v) fun qs hs => ?_
        refine Out.bind_ne_oof (hP.1 _) fun st _ => ?_
        refine Out.bind_ne_oof (addSubs_ne_oof _ _) fun t' _ => ?_
        cases hpv : P.prevOf st.2 with
        | none => nofun
        | some o =>
          refine Out.bind_ne_oof (fun ho => hP.2.2 st.2 (ho ▸ hpv)) fun v' _ => ?_
          apply ih
          · exact List.nodup_cons.2 ⟨by simpa using hnc, hn⟩
          · intro x hxm
            rcases List.mem_cons.1 hxm with rfl | hxm
            · exact suffixAt_bound buf start _ qs.1 qs.2 hs
            · exact hb x hxm
          · simp only [List.length_cons]; omega

theorem locateXref_returns (buf : Bytes) : (locateXref buf).Returns := by
  unfold locateXref
  split
  · exact .err
  · rename_i s _
    rcases (nextWord_ret (buf.drop (s + startxrefKw.length))).cases with e | ⟨r, e⟩ <;> simp only [e]
    · exact .err
    · exact parseUsize_ret r.1

theorem locateXref_ne_oof (buf : Bytes) : locateXref buf ≠ .oof := (locateXref_returns buf).2

/-- with `fuel ≥ len + 2` loading never runs out of fuel -/
theorem loadTable_ne_oof (P : Parsers V T) (hP : NoOof P) (buf : Bytes) (start fuel : Nat)
    (hf : buf.length + 2 ≤ fuel) : loadTable P fuel buf start ≠ .oof := by
  rw [loadTable_eq]
  refine Out.bind_ne_oof (locateXref_ne_oof buf) fun x _ => ?_
  refine Out.bind_ne_oof (suffixAtStrict_ne_oof buf start x) fun qs _ => ?_
  refine Out.bind_ne_oof (hP.1 _) fun st _ => ?_
  refine Out.bind_ne_oof (hP.2.1 _) fun size _ => ?_
  split
  · nofun
  refine Out.bind_ne_oof (addSubs_ne_oof _ _) fun t _ => ?_
  cases hpv : P.prevOf st.2 with
  | none => nofun
  | some o =>
    refine Out.bind_ne_oof (fun ho => hP.2.2 st.2 (ho ▸ hpv)) fun pv _ => ?_
    exact Out.bind_ne_oof
      (prevLoop_ne_oof P hP buf start fuel [] (some pv) t (by simp) (by simp) (by simp; omega)) fun _ _ => nofun

/-- more fuel never changes an answer other than `oof` -/
theorem prevLoop_fuel_irrelevant (P : Parsers V T) (buf : Bytes) (start : Nat) :
    ∀ (fuel fuel' : Nat) (seen : List Nat) (pv : Option Nat) (t : Xref.Table),
      prevLoop P buf start fuel seen pv t ≠ .oof → fuel ≤ fuel' →
      prevLoop P buf start fuel' seen pv t = prevLoop P buf start fuel seen pv t := by
  intro fuel
  induction fuel with
  | zero =>
    intro fuel' seen pv t h _
    cases pv with
    | none => cases fuel' <;> simp [prevLoop]
    | some v => simp [prevLoop] at h
  | succ fuel ih =>
    intro fuel' seen pv t h hle
    cases pv with
    | none => cases fuel' <;> simp [prevLoop]
    | some v =>
      obtain ⟨fuel', rfl⟩ : ∃ n, fuel' = n + 1 := ⟨fuel' - 1, by omega⟩
      rw [prevLoop_succ] at h ⊢
      rw [prevLoop_succ]
      split
      · rfl
      · rename_i hnc
        rw [if_neg hnc] at h
        refine Out.bind_congr_of_ne_oof h fun qs h => ?_
        refine Out.bind_congr_of_ne_oof h fun st h => ?_
        refine Out.bind_congr_of_ne_oof h fun t' h => ?_
        cases hpv : P.prevOf st.2 with
        | none => rfl
        | some o =>
          rw [hpv] at h
          exact Out.bind_congr_of_ne_oof h fun v' h => ih fuel' _ _ _ h (by omega)

theorem loadTable_fuel_irrelevant (P : Parsers V T) (buf : Bytes) (start fuel fuel' : Nat)
    (h : loadTable P fuel buf start ≠ .oof) (hle : fuel ≤ fuel') :
    loadTable P fuel' buf start = loadTable P fuel buf start := by
  rw [loadTable_eq] at h ⊢
  rw [loadTable_eq]
  refine Out.bind_congr_of_ne_oof h fun x h => ?_
  refine Out.bind_congr_of_ne_oof h fun qs h => ?_
  refine Out.bind_congr_of_ne_oof h fun st h => ?_
  refine Out.bind_congr_of_ne_oof h fun size h => ?_
  split
  · rfl
  · rename_i hsize
    rw [if_neg hsize] at h
    refine Out.bind_congr_of_ne_oof h fun t h => ?_
    cases hpv : P.prevOf st.2 with
    | none => rfl
    | some o =>
      rw [hpv] at h
      refine Out.bind_congr_of_ne_oof h fun pv h => ?_
      rw [prevLoop_fuel_irrelevant P buf start fuel fuel' [] (some pv) t (fun hc => h (by rw [hc]; rfl)) hle]

end Offsets
