import PdfModel.Spec.Widths

/-! Helper lemmas for C19 (widths): `get_set` over the five growth cases, runs, ranges, the interpreter. -/

namespace Widths
variable {α : Type}

theorem set_default (w : Widths α) (c : Nat) (x : α) : (w.set c x).default = w.default := by
  simp only [Widths.set, apply_ite Widths.default, ite_self]

theorem getD_ite_none (p : Prop) [Decidable p] (d : α) : (if p then some d else none).getD d = d := by
  split <;> rfl

theorem get_set (w : Widths α) (c : Nat) (x : α) (c' : Nat) :
    (w.set c x).get c' = if c' = c then x else w.get c' := by
  unfold Widths.set
  split
  · -- empty
    rename_i he
    have hv : w.values = [] := List.isEmpty_iff.mp he
    simp only [Widths.get, hv]
    by_cases h : c' = c
    · subst h; simp
    · simp only [h, if_false]
      by_cases h2 : c' < c
      · simp [h2]
      · simp only [h2, if_false]
        cases hk : c' - c with
        | zero => omega
        | succ k => simp
  · split
    · -- append
      rename_i hne hc
      simp only [Widths.get]
      by_cases h : c' = c
      · subst h
        have h1 : ¬ c' < w.first := by omega
        have e : c' - w.first = w.values.length := by omega
        simp only [h1, if_false, e]
        simp
      · simp only [h, if_false]
        by_cases h2 : c' < w.first
        · simp [h2]
        · simp only [h2, if_false]
          by_cases h3 : c' - w.first < w.values.length
          · simp [List.getElem?_append_left h3]
          · have h4 : w.values.length ≤ c' - w.first := by omega
            rw [List.getElem?_append_right h4]
            rw [List.getElem?_eq_none (by omega : w.values.length ≤ c' - w.first)]
            cases hk : c' - w.first - w.values.length with
            | zero => omega
            | succ k => simp
    · split
      · -- prepend
        rename_i hne hc hlt
        simp only [Widths.get]
        by_cases h : c' = c
        · subst h
          simp only [Nat.lt_irrefl, if_false, Nat.sub_self, if_true]
          rw [List.getElem?_set_self (by simp; omega)]
          simp
        · simp only [h, if_false]
          by_cases h2 : c' < c
          · have : c' < w.first := by omega
            simp [h2, this]
          · simp only [h2, if_false]
            rw [List.getElem?_set_ne (by omega)]
            by_cases h3 : c' < w.first
            · simp only [h3, if_true]
              rw [List.getElem?_append_left (by simp; omega)]
              simp only [List.getElem?_replicate]
              exact getD_ite_none _ _
            · simp only [h3, if_false]
              rw [List.getElem?_append_right (by simp; omega)]
              simp only [List.length_replicate]
              have : c' - c - (w.first - c) = c' - w.first := by omega
              rw [this]
      · split
        · -- gap
          rename_i hne hc hlt hgt
          simp only [Widths.get]
          have hl : (w.values ++ List.replicate (c - w.first - w.values.length) w.default).length = c - w.first := by
            simp; omega
          by_cases h : c' = c
          · subst h
            simp only [hlt, if_false, if_true]
            rw [List.getElem?_append_right (by omega), hl]
            simp
          · simp only [h, if_false]
            by_cases h2 : c' < w.first
            · simp [h2]
            · simp only [h2, if_false]
              by_cases h3 : c' - w.first < w.values.length
              · rw [List.append_assoc, List.getElem?_append_left h3]
              · rw [List.getElem?_eq_none (by omega : w.values.length ≤ c' - w.first)]
                by_cases h4 : c' < c
                · rw [List.getElem?_append_left (by omega)]
                  rw [List.getElem?_append_right (by omega)]
                  simp only [List.getElem?_replicate]
                  exact getD_ite_none _ _
                · rw [List.getElem?_append_right (by omega), hl]
                  cases hk : c' - w.first - (c - w.first) with
                  | zero => omega
                  | succ k => simp
        · -- overwrite
          rename_i hne hc hlt hgt
          simp only [Widths.get]
          by_cases h : c' = c
          · subst h
            simp only [hlt, if_false, if_true]
            rw [List.getElem?_set_self (by omega)]
            simp
          · simp only [h, if_false]
            by_cases h2 : c' < w.first
            · simp [h2]
            · simp only [h2, if_false]
              rw [List.getElem?_set_ne (by omega)]

theorem setRun_spec : ∀ (xs : List (WP α)) (w : Widths α) (c : Nat), xs.all isNum = true →
    ∃ w', setRun w c xs = .ok w' ∧ w'.default = w.default ∧
      ∀ c', w'.get c' = (if c ≤ c' then (xs[c' - c]?).bind asNumber else none).getD (w.get c')
  | [], w, c, _ => ⟨w, rfl, rfl, fun c' => by simp⟩
  | p :: ps, w, c, h => by
    simp only [List.all_cons, Bool.and_eq_true, isNum] at h
    obtain ⟨x, hx⟩ := Option.isSome_iff_exists.mp h.1
    obtain ⟨w', h1, h2, h3⟩ := setRun_spec ps (w.set c x) (c + 1) h.2
    refine ⟨w', by simp [setRun, hx, h1], by rw [h2, set_default], fun c' => ?_⟩
    rw [h3 c', get_set]
    by_cases hc : c' = c
    · subst hc
      have : ¬ (c' + 1 ≤ c') := by omega
      simp [hx, this]
    · by_cases hlt : c + 1 ≤ c'
      · have e : c' - c = (c' - (c + 1)) + 1 := by omega
        have hle : c ≤ c' := by omega
        simp only [hlt, hle, if_true, e, List.getElem?_cons_succ, hc, if_false]
      · have hle : ¬ c ≤ c' := by omega
        simp [hlt, hle, hc]

theorem setRange_spec (x : α) : ∀ (n : Nat) (w : Widths α) (c : Nat),
    (setRange w c x n).default = w.default ∧
    ∀ c', (setRange w c x n).get c' = if c ≤ c' ∧ c' < c + n then x else w.get c'
  | 0, w, c => ⟨rfl, fun c' => by
      simp only [setRange, Nat.add_zero]
      split
      · omega
      · rfl⟩
  | n + 1, w, c => by
    obtain ⟨h1, h2⟩ := setRange_spec x n (w.set c x) (c + 1)
    refine ⟨by simp only [setRange]; rw [h1, set_default], fun c' => ?_⟩
    simp only [setRange]
    rw [h2 c', get_set]
    by_cases hc : c' = c
    · subst hc
      simp
    · by_cases hin : c + 1 ≤ c' ∧ c' < c + 1 + n
      · have : c ≤ c' ∧ c' < c + (n + 1) := by omega
        simp [hin, this]
      · have : ¬ (c ≤ c' ∧ c' < c + (n + 1)) := by omega
        simp [hin, this, hc]

theorem Group.assign_of_not_covers {g : Group α} {c : Nat} (h : g.covers c = false) : g.assign c = none := by
  cases g with
  | run c1 r xs =>
    simp only [Group.covers, decide_eq_false_iff_not] at h
    simp only [Group.assign]
    split
    · rw [List.getElem?_eq_none (by omega)]; rfl
    · rfl
  | range c1 c2 x =>
    simp only [Group.covers, decide_eq_false_iff_not] at h
    simp [Group.assign, h]

theorem Group.assign_of_covers {g : Group α} (hw : g.wf = true) {c : Nat} (hc : g.covers c = true) :
    ∃ v, g.assign c = some v := by
  cases g with
  | run c1 r xs =>
    simp only [Group.covers, decide_eq_true_eq] at hc
    simp only [Group.wf, Bool.and_eq_true, List.all_eq_true] at hw
    have hlt : c - c1 < xs.length := by omega
    obtain ⟨v, hv⟩ := Option.isSome_iff_exists.mp (hw.2 xs[c - c1] (List.getElem_mem hlt))
    exact ⟨v, by simp [Group.assign, hc.1, List.getElem?_eq_getElem hlt, hv]⟩
  | range c1 c2 x =>
    simp only [Group.covers, decide_eq_true_eq] at hc
    simp only [Group.wf, Bool.and_eq_true] at hw
    obtain ⟨v, hv⟩ := Option.isSome_iff_exists.mp hw.2
    exact ⟨v, by simp [Group.assign, hc, hv]⟩

theorem setRun_returns : ∀ (xs : List (WP α)) (w : Widths α) (c : Nat), (setRun w c xs).Returns
  | [], _, _ => .ok _
  | p :: ps, w, c => by
    unfold setRun
    cases asNumber p with
    | none => exact .err
    | some x => exact setRun_returns ps _ _

/-- every branch of the interpreter is an error, the end of the array, or a run / range followed by the rest -/
theorem interp_returns (w : Widths α) (items : List (WP α)) : (interp w items).Returns := by
  fun_induction interp w items
  case case1 => exact .ok _                             -- end of the array
  -- `c [w …]`, `c ref`, `c₁ c₂ w` accepted: what the rest of the array gives
  case case4 | case9 | case17 => assumption
  -- `setRun` neither panics (in place, by reference) …
  case case6 | case11 => rename_i h; exact absurd h (setRun_returns _ _ _).1
  -- … nor runs out of fuel
  case case7 | case12 => rename_i h; exact absurd h (setRun_returns _ _ _).2
  all_goals exact .err                                  -- every other branch refuses the array

/-- value of code `c` after the groups `gs`, starting from `init` -/
def assignFrom (init : α) (gs : List (Group α)) (c : Nat) : α :=
  gs.foldl (fun acc g => (g.assign c).getD acc) init

theorem assignFrom_eq_lastAssign (init : α) (gs : List (Group α)) (c : Nat) :
    assignFrom init gs c = (lastAssign gs c).getD init := by
  unfold assignFrom lastAssign
  induction gs generalizing init with
  | nil => simp
  | cons g gs ih =>
    simp only [List.foldl_cons, List.reverse_cons, List.findSome?_append, List.findSome?_cons,
      List.findSome?_nil]
    rw [ih]
    cases h1 : gs.reverse.findSome? (·.assign c) with
    | some v => simp
    | none =>
      simp only [Option.getD_none, Option.none_or]
      cases g.assign c <;> rfl

theorem interp_spec (cx : α) : ∀ (gs : List (Group α)) (w : Widths α), (∀ g ∈ gs, g.wf = true) →
    ∃ w', interp w (render cx gs) = .ok w' ∧ w'.default = w.default ∧
      ∀ c, w'.get c = assignFrom (w.get c) gs c
  | [], w, _ => ⟨w, by simp [render, interp], rfl, fun c => by simp [assignFrom]⟩
  | g :: gs, w, h => by
    have hg := h g (List.mem_cons_self ..)
    have hgs : ∀ g' ∈ gs, g'.wf = true := fun g' hm => h g' (List.mem_cons_of_mem _ hm)
    cases g with
    | run c1 byRef xs =>
      simp only [Group.wf, Bool.and_eq_true, decide_eq_true_eq] at hg
      obtain ⟨w1, e1, d1, g1⟩ := setRun_spec xs w c1 hg.2
      obtain ⟨w', e2, d2, g2⟩ := interp_spec cx gs w1 hgs
      have hnn : ¬ ((c1 : Int) < 0) := by omega
      have hnr : ¬ (c1 + xs.length > maxCid + 1) := by simp only [maxCid]; omega
      refine ⟨w', ?_, by rw [d2, d1], fun c => ?_⟩
      · cases byRef <;>
          simp [render, Group.render, interp, hnn, hnr, e1] <;>
          simpa [render] using e2
      · rw [g2 c, g1 c]
        simp [assignFrom, Group.assign]
    | range c1 c2 x =>
      simp only [Group.wf, Bool.and_eq_true, decide_eq_true_eq, isNum] at hg
      obtain ⟨v, hv⟩ := Option.isSome_iff_exists.mp hg.2
      obtain ⟨d1, g1⟩ := setRange_spec v (c2 + 1 - c1) w c1
      obtain ⟨w', e2, d2, g2⟩ := interp_spec cx gs (setRange w c1 v (c2 + 1 - c1)) hgs
      have hn1 : ¬ ((c1 : Int) < 0) := by omega
      have hn2 : ¬ ((c2 : Int) < 0) := by omega
      have hnr : ¬ (c2 > maxCid) := by simp only [maxCid]; omega
      refine ⟨w', ?_, by rw [d2, d1], fun c => ?_⟩
      · simp [render, Group.render, interp, hn1, hn2, hnr, hv]
        simpa [render] using e2
      · rw [g2 c, g1 c]
        simp only [assignFrom, List.foldl_cons, Group.assign, hv]
        congr 1
        by_cases hin : c1 ≤ c ∧ c ≤ c2
        · have : c1 ≤ c ∧ c < c1 + (c2 + 1 - c1) := by omega
          simp [hin, this]
        · have : ¬ (c1 ≤ c ∧ c < c1 + (c2 + 1 - c1)) := by omega
          simp [hin, this]

end Widths
