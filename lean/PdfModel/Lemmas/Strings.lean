import PdfModel.Lemmas.Lexer
import PdfModel.Model.StrLexer

/-! Literal and hexadecimal strings: the string lexers read a conformant body (`LitBody` / `HexBody`) as the
    bytes it denotes and stop right after the closing delimiter. -/

namespace PdfLex
open PdfSyntax (LitBody HexBody NoLf NoOct namedEscape isOct)

theorem namedEsc_eq (c : UInt8) : namedEsc c = namedEscape c := rfl

theorem isOctal_eq (c : UInt8) : isOctal c = isOct c := rfl

theorem oct_facts : ∀ c : UInt8, isOct c = true → namedEscape c = none ∧ c ≠ 10 ∧ c ≠ 13 ∧ c ≠ 92 := by decide +kernel

theorem litBody_ne_nil {t s : List UInt8} {n : Nat} (h : LitBody t n s) : t ≠ [] := by
  cases h <;> simp

theorem skipIf_hit {buf : Buf} {pos : Nat} {b : UInt8} {s : List UInt8} (h : Suffix buf pos (b :: s)) :
    skipIf buf pos b = pos + 1 := by
  simp [skipIf, h.get0]

theorem skipIf_noLf {buf : Buf} {pos : Nat} {r rest s : List UInt8} {n : Nat} (hl : LitBody r n s) (hn : NoLf r)
    (h : Suffix buf pos (r ++ rest)) : skipIf buf pos 10 = pos := by
  obtain ⟨c, r', rfl⟩ := List.exists_cons_of_ne_nil (litBody_ne_nil hl)
  have hc : c ≠ 10 := by simpa [NoLf] using hn
  simp [skipIf, Suffix.get0 h, hc]

theorem nextByte_cons {buf : Buf} {pos : Nat} {b : UInt8} {s : List UInt8} (h : Suffix buf pos (b :: s)) :
    nextByte buf pos = .ok (b, pos + 1) := by simp [nextByte, h.get0]

theorem peekByte_cons {buf : Buf} {pos : Nat} {b : UInt8} {s : List UInt8} (h : Suffix buf pos (b :: s)) :
    peekByte buf pos = .ok b := by simp [peekByte, h.get0]

/-! Octal codes: `char_code` is accumulated in a wider type and truncated; `UInt8.ofNat` is a ring homomorphism. -/

theorem oct_ring (x y : UInt8) : (x * 8 + y) * 8 = x * 64 + y * 8 := by
  rw [UInt8.add_mul, UInt8.mul_assoc]; rfl

theorem oct_value3 : ∀ a b c : Fin 8,
    UInt8.ofNat ((a.val * 8 + b.val) * 8 + c.val) = UInt8.ofNat a.val * 64 + UInt8.ofNat b.val * 8 + UInt8.ofNat c.val :=
  fun a b c => by rw [UInt8.ofNat_add, UInt8.ofNat_mul, UInt8.ofNat_add, UInt8.ofNat_mul]; exact congrArg (· + _) (oct_ring _ _)

theorem oct_value2 : ∀ a b : Fin 8, UInt8.ofNat (a.val * 8 + b.val) = UInt8.ofNat a.val * 8 + UInt8.ofNat b.val :=
  fun a b => by rw [UInt8.ofNat_add, UInt8.ofNat_mul]; rfl

theorem oct_ofNat {d : UInt8} (h : isOct d = true) : UInt8.ofNat (d.toNat - 48) = d - 48 := by
  have : 48 ≤ d.toNat := by simp only [isOct, Bool.and_eq_true, decide_eq_true_eq] at h; exact h.1
  rw [UInt8.ofNat_sub this]; simp

theorem ofNat_mod (n : Nat) : UInt8.ofNat (n % 256) = UInt8.ofNat n := UInt8.ofNat_mod_size


theorem octalMore_zero (buf : Buf) (code pos : Nat) : octalMore buf 0 code pos = .ok (code, pos) := rfl

theorem octalMore_step {buf : Buf} {pos : Nat} {c : UInt8} {s : List UInt8} (k code : Nat)
    (h : Suffix buf pos (c :: s)) (hc : isOct c = true) :
    octalMore buf (k + 1) code pos = octalMore buf k (code * 8 + (c.toNat - 48)) (pos + 1) := by
  simp [octalMore, peekByte_cons h, isOctal_eq, hc]

theorem octalMore_noOct {buf : Buf} {pos : Nat} {r rest s : List UInt8} {n : Nat} (k code : Nat) (hl : LitBody r n s)
    (hn : NoOct r) (h : Suffix buf pos (r ++ rest)) : octalMore buf (k + 1) code pos = .ok (code, pos) := by
  obtain ⟨c, r', rfl⟩ := List.exists_cons_of_ne_nil (litBody_ne_nil hl)
  have hc : isOct c = false := by simpa [NoOct] using hn
  simp [octalMore, peekByte_cons h, isOctal_eq, hc]

/-! One round of `next_lexeme`, by the first byte: anything but a backslash, and what follows a backslash. -/

theorem nextLexeme_plain {buf : Buf} {pos : Nat} {c : UInt8} {s : List UInt8} (f : Nat) (n : Int)
    (h : Suffix buf pos (c :: s)) (hc : c ≠ 92) :
    nextLexeme buf (f + 1) pos n =
      if c == 40 then
        if n + 1 > 9223372036854775807 then .panic else .ok (some 40, pos + 1, n + 1)
      else if c == 41 then
        if n - 1 < 0 then .ok (none, pos + 1, n - 1) else .ok (some 41, pos + 1, n - 1)
      else if c == 13 then .ok (some 10, skipIf buf (pos + 1) 10, n)
      else .ok (some c, pos + 1, n) := by
  rw [nextLexeme, nextByte_cons h]
  simp only [Out.bind_ok, beq_eq_false_iff_ne.2 hc, Bool.false_eq_true, if_false]

theorem nextLexeme_esc {buf : Buf} {pos : Nat} {c : UInt8} {s : List UInt8} (f : Nat) (n : Int)
    (h : Suffix buf pos (92 :: c :: s)) :
    nextLexeme buf (f + 1) pos n =
      match namedEscape c with
      | some v => .ok (some v, pos + 2, n)
      | none =>
        if c == 10 then nextLexeme buf f (pos + 2) n
        else if c == 13 then nextLexeme buf f (skipIf buf (pos + 2) 10) n
        else if isOct c then
          (octalMore buf 2 (c.toNat - 48) (pos + 2)).bind fun (code, pos) => .ok (some (UInt8.ofNat code), pos, n)
        else .ok (some c, pos + 2, n) := by
  rw [nextLexeme, nextByte_cons h]
  simp only [Out.bind_ok, beq_self_eq_true, if_true, nextByte_cons h.tail, ofNat_mod]
  rfl

/-- what one call of `next_lexeme` does on a conformant string body.  The clause `n' + |txt'| ≤ n + |txt|` is the
    overflow budget of the nesting counter: it grows by at most one per byte read, so nesting plus the length of the
    text still to read never grows (`lexStep_mk` asks for `n' ≤ n + |pre|`, which is this clause for `txt = pre ++ txt'`). -/
def LexStep (buf : Buf) (f pos : Nat) (txt : List UInt8) (n : Nat) (s : List UInt8) : Prop :=
  (s = [] ∧ nextLexeme buf f pos n = .ok (none, pos + txt.length, -1)) ∨
  (∃ v s' pre txt' n', s = v :: s' ∧ txt = pre ++ txt' ∧ LitBody txt' n' s' ∧
      (n' : Int) + txt'.length ≤ (n : Int) + txt.length ∧ 0 < pre.length ∧
      nextLexeme buf f pos n = .ok (some v, pos + pre.length, (n' : Int)))

theorem lexStep_mk {buf : Buf} {f pos : Nat} {txt : List UInt8} {n : Nat} {s : List UInt8}
    (v : UInt8) (s' pre txt' : List UInt8) (n' : Nat) (h1 : s = v :: s') (h2 : txt = pre ++ txt') (h3 : LitBody txt' n' s')
    (h4 : n' ≤ n + pre.length) (h6 : 0 < pre.length)
    (h5 : nextLexeme buf f pos n = .ok (some v, pos + pre.length, (n' : Int))) : LexStep buf f pos txt n s :=
  Or.inr ⟨v, s', pre, txt', n', h1, h2, h3, by subst h2; simp only [List.length_append]; omega, h6, h5⟩

/-- a line continuation `pre` is skipped: the round goes on behind it with one unit of fuel less -/
theorem LexStep.cont {buf : Buf} {f pos : Nat} {pre r : List UInt8} {n : Nat} {s : List UInt8}
    (hpre : 0 < pre.length) (step : nextLexeme buf (f + 1) pos n = nextLexeme buf f (pos + pre.length) n)
    (ih : LexStep buf f (pos + pre.length) r n s) : LexStep buf (f + 1) pos (pre ++ r) n s := by
  rcases ih with ⟨rfl, h2⟩ | ⟨v, s', pre', txt', n', h1, rfl, h3, h4, _, h5⟩
  · exact Or.inl ⟨rfl, by rw [step, h2, List.length_append, Nat.add_assoc]⟩
  · refine lexStep_mk v s' (pre ++ pre') txt' n' h1 (List.append_assoc ..).symm h3 ?_ (by simp; omega) ?_
    · simp only [List.length_append] at h4 ⊢; omega
    · rw [step, h5, List.length_append, Nat.add_assoc]

/-- `2147483647`: the bound of the parser theorems on the buffer size (`i32::MAX`; `nested` was an `i32` before the
    `fix:` commit of pdf-rs).  The `i64` counter of the model panics only beyond `9223372036854775807`. -/
theorem nextLexeme_lit (txt s : List UInt8) (n : Nat) (h : LitBody txt n s) :
    ∀ (buf : Buf) (pos : Nat) (rest : List UInt8) (f : Nat), Suffix buf pos (txt ++ rest) → txt.length ≤ f + 1 →
      (n : Int) + txt.length ≤ 2147483647 → LexStep buf (f + 1) pos txt n s := by
  induction h with
  | close =>
    intro buf pos rest f hs _ _
    exact Or.inl ⟨rfl, by rw [nextLexeme_plain f _ hs (by decide)]; rfl⟩
  | popen r s n hl =>
    intro buf pos rest f hs _ hb
    apply lexStep_mk 40 s [40] r (n + 1) rfl rfl hl (Nat.le_refl _) (by simp)
    rw [nextLexeme_plain f _ hs (by decide)]
    simp at hb ⊢; omega
  | pclose r s n hl =>
    intro buf pos rest f hs _ _
    apply lexStep_mk 41 s [41] r n rfl rfl hl (by omega) (by simp)
    rw [nextLexeme_plain f _ hs (by decide)]
    simp
  | plain b r s n h40 h41 h92 h13 hl =>
    intro buf pos rest f hs _ _
    apply lexStep_mk b s [b] r n rfl rfl hl (Nat.le_add_right n _) (by simp)
    rw [nextLexeme_plain f _ hs h92]
    simp [h40, h41, h13]
  | cr r s n hn hl =>
    intro buf pos rest f hs _ _
    apply lexStep_mk 10 s [13] r n rfl rfl hl (Nat.le_add_right n _) (by simp)
    rw [nextLexeme_plain f _ hs (by decide), skipIf_noLf hl hn (Suffix.tail hs)]
    rfl
  | crlf r s n hl =>
    intro buf pos rest f hs _ _
    apply lexStep_mk 10 s [13, 10] r n rfl rfl hl (Nat.le_add_right n _) (by simp)
    rw [nextLexeme_plain f _ hs (by decide), skipIf_hit (Suffix.tail hs)]
    rfl
  | named c v r s n hv hl =>
    intro buf pos rest f hs _ _
    apply lexStep_mk v s [92, c] r n rfl rfl hl (Nat.le_add_right n _) (by simp)
    rw [nextLexeme_esc f _ hs, hv]
    rfl
  | ignored c r s n hv ho h10 h13 hl =>
    intro buf pos rest f hs _ _
    apply lexStep_mk c s [92, c] r n rfl rfl hl (Nat.le_add_right n _) (by simp)
    rw [nextLexeme_esc f _ hs, hv]
    simp [h10, h13, ho]
  | contLf r s n hl ih =>
    intro buf pos rest f hs hf hb
    obtain ⟨f, rfl⟩ : ∃ f', f = f' + 1 := ⟨f - 1, by simp at hf; omega⟩
    have step : nextLexeme buf (f + 1 + 1) pos n = nextLexeme buf (f + 1) (pos + 2) n := by
      rw [nextLexeme_esc _ _ hs]; rfl
    exact .cont (pre := [92, 10]) (by simp) step
      (ih buf _ rest f (Suffix.tail (Suffix.tail hs)) (by simp at hf; omega) (by simp at hb; omega))
  | contCr r s n hn hl ih =>
    intro buf pos rest f hs hf hb
    obtain ⟨f, rfl⟩ : ∃ f', f = f' + 1 := ⟨f - 1, by simp at hf; omega⟩
    have hs2 := Suffix.tail (Suffix.tail hs)
    have step : nextLexeme buf (f + 1 + 1) pos n = nextLexeme buf (f + 1) (pos + 2) n := by
      rw [nextLexeme_esc _ _ hs, skipIf_noLf hl hn hs2]; rfl
    exact .cont (pre := [92, 13]) (by simp) step (ih buf _ rest f hs2 (by simp at hf; omega) (by simp at hb; omega))
  | contCrLf r s n hl ih =>
    intro buf pos rest f hs hf hb
    obtain ⟨f, rfl⟩ : ∃ f', f = f' + 1 := ⟨f - 1, by simp at hf; omega⟩
    have hs2 := Suffix.tail (Suffix.tail hs)
    have step : nextLexeme buf (f + 1 + 1) pos n = nextLexeme buf (f + 1) (pos + 2 + 1) n := by
      rw [nextLexeme_esc _ _ hs, skipIf_hit hs2]; rfl
    exact .cont (pre := [92, 13, 10]) (by simp) step (ih buf _ rest f hs2.tail (by simp at hf; omega) (by simp at hb; omega))
  | oct1 d1 r s n h1 hno hl =>
    intro buf pos rest f hs _ _
    obtain ⟨hn1, h10, h13, _⟩ := oct_facts d1 h1
    apply lexStep_mk (d1 - 48) s [92, d1] r n rfl rfl hl (Nat.le_add_right n _) (by simp)
    rw [nextLexeme_esc f _ hs, hn1]
    simp [h10, h13, h1, octalMore_noOct 1 _ hl hno (Suffix.tail (Suffix.tail hs)), oct_ofNat h1]
  | oct2 d1 d2 r s n h1 h2 hno hl =>
    intro buf pos rest f hs _ _
    obtain ⟨hn1, h10, h13, _⟩ := oct_facts d1 h1
    have hs2 := Suffix.tail (Suffix.tail hs)
    apply lexStep_mk ((d1 - 48) * 8 + (d2 - 48)) s [92, d1, d2] r n rfl rfl hl (Nat.le_add_right n _) (by simp)
    rw [nextLexeme_esc f _ hs, hn1]
    simp [h10, h13, h1, octalMore_step 1 _ hs2 h2, octalMore_noOct 0 _ hl hno hs2.tail, UInt8.ofNat_add,
      UInt8.ofNat_mul, oct_ofNat h1, oct_ofNat h2]
  | oct3 d1 d2 d3 r s n h1 h2 h3 hl =>
    intro buf pos rest f hs _ _
    obtain ⟨hn1, h10, h13, _⟩ := oct_facts d1 h1
    have hs2 := Suffix.tail (Suffix.tail hs)
    apply lexStep_mk ((d1 - 48) * 64 + (d2 - 48) * 8 + (d3 - 48)) s [92, d1, d2, d3] r n rfl rfl hl (Nat.le_add_right n _) (by simp)
    rw [nextLexeme_esc f _ hs, hn1]
    simp [h10, h13, h1, octalMore_step 1 _ hs2 h2, octalMore_step 0 _ hs2.tail h3, octalMore_zero, oct_ofNat h1,
      oct_ofNat h2, oct_ofNat h3, oct_ring]


/-- the `StringLexer` loop reads a conformant literal-string body as the bytes it denotes and stops right
    after the closing parenthesis -/
theorem collectString_lit (s : List UInt8) :
    ∀ (txt : List UInt8) (n : Nat), LitBody txt n s → ∀ (buf : Buf) (pos : Nat) (rest acc : List UInt8) (fuel : Nat),
      Suffix buf pos (txt ++ rest) → txt.length + 1 ≤ fuel → (n : Int) + txt.length ≤ 2147483647 →
      collectString buf fuel pos n acc = .ok (acc.reverse ++ s, pos + txt.length) := by
  induction s with
  | nil =>
    intro txt n hl buf pos rest acc fuel hs hf hb
    obtain ⟨fuel, rfl⟩ : ∃ f', fuel = f' + 1 := ⟨fuel - 1, by omega⟩
    rcases nextLexeme_lit txt [] n hl buf pos rest fuel hs (by omega) hb with ⟨_, h2⟩ | ⟨v, s', pre, txt', n', h1, _⟩
    · simp [collectString, h2]
    · simp at h1
  | cons v s ih =>
    intro txt n hl buf pos rest acc fuel hs hf hb
    obtain ⟨fuel, rfl⟩ : ∃ f', fuel = f' + 1 := ⟨fuel - 1, by omega⟩
    rcases nextLexeme_lit txt (v :: s) n hl buf pos rest fuel hs (by omega) hb with ⟨h1, _⟩ | ⟨v', s', pre, txt', n', h1, h2, h3, h4, h6, h5⟩
    · simp at h1
    · simp at h1
      obtain ⟨rfl, rfl⟩ := h1
      subst h2
      have hs2 : Suffix buf (pos + pre.length) (txt' ++ rest) := Suffix.drop (by simpa using hs)
      have := ih txt' n' h3 buf (pos + pre.length) rest (v :: acc) fuel hs2 (by simp at hf; omega) (by omega)
      simp [collectString, h5, this]; omega


/-! ### hexadecimal strings -/

open PdfSyntax (HexWs hexVal)

theorem isHexWs_eq (b : UInt8) : isHexWs b = PdfSyntax.isWs b := by
  unfold isHexWs PdfSyntax.isWs; ac_rfl

theorem hexDigitVal_eq : ∀ c, hexDigitVal c = hexVal c := by decide +kernel

theorem hexVal_facts {c v : UInt8} (h : hexVal c = some v) :
    hexDigitVal c = some v ∧ v < 16 ∧ PdfSyntax.isWs c = false ∧ c ≠ 62 :=
  have ⟨l, _, nw, _, ne⟩ := hexVal_some h
  ⟨(hexDigitVal_eq c).trans h, l, nw, ne⟩

theorem nextNonWs_skip {buf : Buf} (w : List UInt8) (c : UInt8) (s : List UInt8) (hw : HexWs w)
    (hc : PdfSyntax.isWs c = false) : ∀ (pos fuel : Nat), Suffix buf pos (w ++ c :: s) → w.length + 1 ≤ fuel →
    nextNonWs buf fuel pos = .ok (c, pos + w.length + 1) := by
  induction w with
  | nil =>
    intro pos fuel h hf
    obtain ⟨fuel, rfl⟩ : ∃ f', fuel = f' + 1 := ⟨fuel - 1, by simp at hf; omega⟩
    have h' : Suffix buf pos (c :: s) := by simpa using h
    simp [nextNonWs, h'.get0, isHexWs_eq, hc]
  | cons b w ih =>
    intro pos fuel h hf
    obtain ⟨fuel, rfl⟩ : ∃ f', fuel = f' + 1 := ⟨fuel - 1, by simp at hf; omega⟩
    have h' : Suffix buf pos (b :: (w ++ c :: s)) := by simpa using h
    have hb : PdfSyntax.isWs b = true := hw b (by simp)
    have := ih (fun x hx => hw x (by simp [hx])) (pos + 1) fuel h'.tail (by simp at hf; omega)
    simp [nextNonWs, h'.get0, isHexWs_eq, hb, this]; omega

theorem nextNonWs_at {buf : Buf} (w : List UInt8) (c : UInt8) (s : List UInt8) (hw : HexWs w)
    (hc : PdfSyntax.isWs c = false) (pos : Nat) (h : Suffix buf pos (w ++ c :: s)) :
    nextNonWs buf (buf.size - pos + 1) pos = .ok (c, pos + w.length + 1) := by
  apply nextNonWs_skip w c s hw hc pos _ h
  have := h.size_sub; simp at this; omega

/-! `next_hex_byte` on the three shapes of `HexBody`: `>`, two digits, a last digit before `>`. -/

theorem nextHexByte_close {buf : Buf} {pos : Nat} {w s : List UInt8} (base : Nat) (hw : HexWs w)
    (h : Suffix buf pos (w ++ 62 :: s)) : nextHexByte buf base pos = .ok (none, pos + w.length + 1) := by
  simp [nextHexByte, nextNonWs_at w 62 s hw rfl pos h]

theorem nextHexByte_byte {buf : Buf} {pos : Nat} {w1 w2 s : List UInt8} {h1 h2 v1 v2 : UInt8} (base : Nat)
    (hw1 : HexWs w1) (hw2 : HexWs w2) (hv1 : hexVal h1 = some v1) (hv2 : hexVal h2 = some v2)
    (h : Suffix buf pos (w1 ++ h1 :: (w2 ++ h2 :: s))) :
    nextHexByte buf base pos = .ok (some (v1 * 16 + v2), pos + w1.length + 1 + w2.length + 1) := by
  obtain ⟨d1, l1, nw1, ne1⟩ := hexVal_facts hv1
  obtain ⟨d2, l2, nw2, ne2⟩ := hexVal_facts hv2
  simp [nextHexByte, nextNonWs_at w1 h1 _ hw1 nw1 pos h, ne1, d1, nextNonWs_at w2 h2 s hw2 nw2 _ h.drop.tail, ne2, d2,
    nibble_or v1 v2 l1 l2]

theorem nextHexByte_odd {buf : Buf} {pos : Nat} {w1 w2 s : List UInt8} {h1 v1 : UInt8} {base : Nat} (hb : base ≤ pos)
    (hw1 : HexWs w1) (hw2 : HexWs w2) (hv1 : hexVal h1 = some v1) (h : Suffix buf pos (w1 ++ h1 :: (w2 ++ 62 :: s))) :
    nextHexByte buf base pos = .ok (some (v1 * 16), pos + w1.length + 1 + w2.length) := by
  obtain ⟨d1, l1, nw1, ne1⟩ := hexVal_facts hv1
  have hback : hexBack base (pos + w1.length + 1 + w2.length + 1) = .ok (pos + w1.length + 1 + w2.length) := by
    simp [hexBack]; omega
  simpa [nextHexByte, nextNonWs_at w1 h1 _ hw1 nw1 pos h, ne1, d1, nextNonWs_at w2 62 s hw2 rfl _ h.drop.tail, hback]
    using nibble_or v1 0 l1 (by decide)

/-- the `HexStringLexer` loop reads a conformant hexadecimal-string body as the bytes it denotes and stops
    right after `>` -/
theorem collectHex_hex (txt s : List UInt8) (h : HexBody txt s) :
    ∀ (buf : Buf) (base pos : Nat) (rest acc : List UInt8) (fuel : Nat), Suffix buf pos (txt ++ rest) → base ≤ pos →
      txt.length + 1 ≤ fuel → collectHex buf base fuel pos acc = .ok (acc.reverse ++ s, pos + txt.length) := by
  induction h with
  | close w hw =>
    intro buf base pos rest acc fuel hs hb hf
    obtain ⟨fuel, rfl⟩ : ∃ f', fuel = f' + 1 := ⟨fuel - 1, by omega⟩
    have hs' : Suffix buf pos (w ++ 62 :: rest) := by simpa using hs
    simp [collectHex, nextHexByte_close base hw hs']; omega
  | byte w1 w2 h1 h2 v1 v2 r s hw1 hw2 hv1 hv2 hr ih =>
    intro buf base pos rest acc fuel hs hb hf
    obtain ⟨fuel, rfl⟩ : ∃ f', fuel = f' + 1 := ⟨fuel - 1, by omega⟩
    have hs1 : Suffix buf pos (w1 ++ h1 :: (w2 ++ h2 :: (r ++ rest))) := by simpa using hs
    have := ih buf base (pos + w1.length + 1 + w2.length + 1) rest ((v1 * 16 + v2) :: acc) fuel hs1.drop.tail.drop.tail
      (by omega) (by simp at hf; omega)
    simp [collectHex, nextHexByte_byte base hw1 hw2 hv1 hv2 hs1, this]; omega
  | odd w1 w2 h1 v1 hw1 hw2 hv1 =>
    intro buf base pos rest acc fuel hs hb hf
    obtain ⟨fuel, rfl⟩ : ∃ f', fuel = f' + 2 := ⟨fuel - 2, by simp at hf; omega⟩
    have hs1 : Suffix buf pos (w1 ++ h1 :: (w2 ++ 62 :: rest)) := by simpa using hs
    have hs3 : Suffix buf (pos + w1.length + 1 + w2.length) ([] ++ 62 :: rest) := hs1.drop.tail.drop
    simp [collectHex, nextHexByte_odd hb hw1 hw2 hv1 hs1, nextHexByte_close base (w := []) nofun hs3]; omega

end PdfLex
