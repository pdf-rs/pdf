import PdfModel.Lemmas.ShiftParser

/-!
  The parser consults its environment in two places only: `decryptStr` on a lexed string and `fileOffset` in
  the `file_range` of a stream. Two environments that differ only there (`EnvSim`) therefore give, on the same
  buffer, the same cursor and errors, and values that differ by a map on those two kinds of leaves
  (`mapLeaves`, theorem `sims`).

  First instance, the lexer's `file_offset`: parsing with offset `o + k` gives the value parsed with offset
  `o`, every stream range `k` further on. (This is the assumption under which `Model/Offsets.lean` treats the
  token-level parsers as functions of the suffix they are handed.) The second is the decryptor
  (`Lemmas/ShiftDecrypt.lean`).
-/

namespace PdfShift
open PdfLex

variable {R : Type}

mutual
/-- move every `file_range` inside a value by `k` -/
def shiftR (k : Nat) : Prim R → Prim R
  | .stream info (.inFile id gen lo hi) => .stream (shiftRE k info) (.inFile id gen (k + lo) (k + hi))
  | .stream info (.pending d) => .stream (shiftRE k info) (.pending d)
  | .dict kvs => .dict (shiftRE k kvs)
  | .arr xs => .arr (shiftRL k xs)
  | .null => .null
  | .int i => .int i
  | .real r => .real r
  | .bool b => .bool b
  | .str s => .str s
  | .ref i g => .ref i g
  | .name n => .name n
def shiftRL (k : Nat) : List (Prim R) → List (Prim R)
  | [] => []
  | x :: xs => shiftR k x :: shiftRL k xs
def shiftRE (k : Nat) : List (List UInt8 × Prim R) → List (List UInt8 × Prim R)
  | [] => []
  | (key, v) :: rest => (key, shiftR k v) :: shiftRE k rest
end

def mapV (k : Nat) (r : Prim R × Nat) : Prim R × Nat := (shiftR k r.1, r.2)
def mapD (k : Nat) (r : Dict R × Nat) : Dict R × Nat := (shiftRE k r.1, r.2)

/-! ### a map on the leaves of a value -/

section
variable (fs : List UInt8 → List UInt8) (fi : StreamInner → StreamInner)

mutual
/-- `fs` on every string, `fi` on every stream location of a value -/
def mapLeaves : Prim R → Prim R
  | .str s => .str (fs s)
  | .stream info inner => .stream (mapLeavesE info) (fi inner)
  | .dict kvs => .dict (mapLeavesE kvs)
  | .arr xs => .arr (mapLeavesL xs)
  | .null => .null
  | .int i => .int i
  | .real r => .real r
  | .bool b => .bool b
  | .ref i g => .ref i g
  | .name n => .name n
def mapLeavesL : List (Prim R) → List (Prim R)
  | [] => []
  | x :: xs => mapLeaves x :: mapLeavesL xs
def mapLeavesE : List (List UInt8 × Prim R) → List (List UInt8 × Prim R)
  | [] => []
  | (key, v) :: rest => (key, mapLeaves v) :: mapLeavesE rest
end

def mapLV (r : Prim R × Nat) : Prim R × Nat := (mapLeaves fs fi r.1, r.2)
def mapLD (r : Dict R × Nat) : Dict R × Nat := (mapLeavesE fs fi r.1, r.2)

theorem mapLeavesL_reverse (xs : List (Prim R)) :
    mapLeavesL fs fi xs.reverse = (mapLeavesL fs fi xs).reverse := by
  have e : ∀ xs : List (Prim R), mapLeavesL fs fi xs = xs.map (mapLeaves fs fi) := by
    intro xs; induction xs with
    | nil => rfl
    | cons x xs ih => simp [mapLeavesL, ih]
  simp [e]

theorem dictInsert_mapLeaves (d : Dict R) (key : List UInt8) (v : Prim R) :
    dictInsert (mapLeavesE fs fi d) key (mapLeaves fs fi v) = mapLeavesE fs fi (dictInsert d key v) := by
  induction d with
  | nil => rfl
  | cons kv d ih =>
    obtain ⟨a, w⟩ := kv
    simp only [mapLeavesE, dictInsert]
    split
    · rfl
    · simp only [mapLeavesE, ih]

theorem dictGet_mapLeaves (d : Dict R) (key : List UInt8) :
    dictGet (mapLeavesE fs fi d) key = (dictGet d key).map (mapLeaves fs fi) := by
  induction d with
  | nil => rfl
  | cons kv d ih =>
    obtain ⟨a, w⟩ := kv
    simp only [mapLeavesE, dictGet]
    split
    · rfl
    · exact ih

/-- the integer / reference branch returns leaves that `mapLeaves` does not touch -/
theorem parseIntOrRef_mapLeaves (buf : Buf) (posBk : Nat) (first : List UInt8) (flags : Nat) :
    parseIntOrRef (R := R) buf posBk first flags = omap (mapLV fs fi) (parseIntOrRef buf posBk first flags) := by
  unfold parseIntOrRef
  apply bind_same; intro _
  apply bind_same; rintro ⟨la, cur⟩
  have hint : ((check flags Flags.integer).bind fun _ => (setPos buf cur posBk).bind fun q =>
        match parseI32 first with
        | some i => (Out.ok (Prim.int i, q) : Out (Prim R × Nat))
        | none => .err) = omap (mapLV fs fi) ((check flags Flags.integer).bind fun _ =>
        (setPos buf cur posBk).bind fun q =>
        match parseI32 first with
        | some i => (Out.ok (Prim.int i, q) : Out (Prim R × Nat))
        | none => .err) :=
    bind_same _ _ _ _ fun _ => bind_same _ _ _ _ fun q => by cases parseI32 first <;> rfl
  cases la with
  | none => exact hint
  | some ww =>
    refine ite_omap ?_ hint
    apply bind_same; intro _
    cases parseU64 first with
    | none => rfl
    | some i => cases parseU64 (slice buf ww.1.1 ww.1.2) <;> rfl

/-! ### two environments that the parser cannot tell apart but for strings and stream locations -/

/-- all that the parser, run under the context `ctx`, sees of the difference between `env` and `env'` -/
structure EnvSim (env env' : Env R) (ctx : Option (Nat × Nat)) : Prop where
  parseReal : env'.parseReal = env.parseReal
  resolveLen : env'.resolveLen = env.resolveLen
  decrypt : ∀ s, decryptStr env' ctx s = omap fs (decryptStr env ctx s)
  inFile : ∀ i g a l, fi (.inFile i g (env.fileOffset + a) (env.fileOffset + a + l))
      = .inFile i g (env'.fileOffset + a) (env'.fileOffset + a + l)

variable {fs fi} {env env' : Env R} {ctx : Option (Nat × Nat)} (h : EnvSim fs fi env env' ctx)
include h

theorem streamTail_sim (buf : Buf) (q n : Nat) (dict : Dict R) (id : Nat × Nat) :
    streamTail env' buf q n (mapLeavesE fs fi dict) id = omap (mapLV fs fi) (streamTail env buf q n dict id) := by
  unfold streamTail
  apply bind_same; intro x
  refine ite_omap rfl ?_
  apply bind_same; intro q2
  simp only [omap_ok, mapLV, mapLeaves, h.inFile]

theorem parseStreamObject_sim (buf : Buf) (pos : Nat) (dict : Dict R) (id : Nat × Nat) :
    parseStreamObject env' buf pos (mapLeavesE fs fi dict) id
      = omap (mapLV fs fi) (parseStreamObject env buf pos dict id) := by
  unfold parseStreamObject
  apply bind_same; intro q
  rw [dictGet_mapLeaves, h.resolveLen]
  cases dictGet dict kwLength with
  | none => rfl
  | some v =>
    cases v with
    | int i =>
      simp only [Option.map_some, mapLeaves]
      by_cases hi : i ≥ 0
      · simp only [hi, if_true, Out.bind_ok]
        exact streamTail_sim h buf q i.toNat dict id
      · simp only [hi, if_false]; rfl
    | ref i g =>
      simp only [Option.map_some, mapLeaves]
      cases env.resolveLen i g with
      | ok n => exact streamTail_sim h buf q n dict id
      | _ => rfl
    | _ => rfl

structure Sims (fs : List UInt8 → List UInt8) (fi : StreamInner → StreamInner) (env env' : Env R)
    (c : Option (Nat × Nat)) (buf : Buf) (fuel : Nat) : Prop where
  ctx : ∀ pos flags depth, parseCtx env' buf fuel pos c flags depth
      = omap (mapLV fs fi) (parseCtx env buf fuel pos c flags depth)
  inner : ∀ pos flags depth, parseInner env' buf fuel pos c flags depth
      = omap (mapLV fs fi) (parseInner env buf fuel pos c flags depth)
  arr : ∀ pos depth acc, parseArray env' buf fuel pos c depth (mapLeavesL fs fi acc)
      = omap (mapLV fs fi) (parseArray env buf fuel pos c depth acc)
  dict : ∀ pos depth acc, parseDict env' buf fuel pos c depth (mapLeavesE fs fi acc)
      = omap (mapLD fs fi) (parseDict env buf fuel pos c depth acc)

/-- **The parser under a change of environment**: same cursor, same errors, the value mapped on its leaves. -/
theorem sims (buf : Buf) : ∀ fuel, Sims fs fi env env' ctx buf fuel := by
  intro fuel
  induction fuel with
  | zero =>
    refine ⟨?_, ?_, ?_, ?_⟩
    · intro pos flags depth; simp only [parseCtx]; rfl
    · intro pos flags depth; simp only [parseInner]; rfl
    · intro pos depth acc; simp only [parseArray]; rfl
    · intro pos depth acc; simp only [parseDict]; rfl
  | succ fuel ih =>
    refine ⟨?_, ?_, ?_, ?_⟩
    · intro pos flags depth
      simp only [parseCtx]
      rw [ih.inner]
      cases parseInner env buf fuel pos ctx flags depth with
      | ok r => rfl
      | err => exact bind_same _ _ _ _ fun _ => rfl
      | panic => rfl
      | oof => rfl
    · intro pos flags depth
      simp only [parseInner]
      apply bind_same; intro _
      apply bind_same; intro w
      apply ite_omap
      · apply bind_same; intro _
        refine ite_omap rfl ?_
        apply bind_shift _ _ (mapLD fs fi) (mapLV fs fi) _ _ (ih.dict w.2 (depth - 1) [])
        rintro ⟨dict, q⟩
        apply bind_same; intro pk
        refine ite_omap ?_ rfl
        cases ctx with
        | none => rfl
        | some id => exact parseStreamObject_sim h buf q dict id
      refine ite_omap (parseIntOrRef_mapLeaves fs fi buf w.2 _ flags) ?_
      cases realNumber (slice buf w.1 w.2) with
      | some s =>
        apply bind_same; intro _
        rw [h.parseReal]
        cases env.parseReal s <;> rfl
      | none =>
      refine ite_omap (bind_same _ _ _ _ fun _ => bind_same _ _ _ _ fun _ => rfl) ?_
      refine ite_omap (bind_same _ _ _ _ fun _ => ite_omap rfl (ih.arr w.2 (depth - 1) [])) ?_
      have str : ∀ (x : Out (List UInt8 × Nat)),
          (x.bind fun sp => (offsetPos buf w.2 (sp.2 - w.2)).bind fun q =>
            (decryptStr env' ctx sp.1).bind fun s => (.ok (.str s, q) : Out (Prim R × Nat)))
          = omap (mapLV fs fi) (x.bind fun sp => (offsetPos buf w.2 (sp.2 - w.2)).bind fun q =>
            (decryptStr env ctx sp.1).bind fun s => .ok (.str s, q)) := fun x =>
        bind_same _ _ _ _ fun sp => bind_same _ _ _ _ fun q => by
          rw [h.decrypt]; cases decryptStr env ctx sp.1 <;> rfl
      refine ite_omap (bind_same _ _ _ _ fun _ => bind_same _ _ _ _ fun _ => str _) ?_
      refine ite_omap (bind_same _ _ _ _ fun _ => bind_same _ _ _ _ fun _ => str _) ?_
      refine ite_omap (bind_same _ _ _ _ fun _ => rfl) ?_
      refine ite_omap (bind_same _ _ _ _ fun _ => rfl) ?_
      refine ite_omap (bind_same _ _ _ _ fun _ => rfl) ?_
      exact bind_same _ _ _ _ fun _ => rfl
    · intro pos depth acc
      simp only [parseArray]
      apply bind_same; intro pk
      apply ite_omap
      · apply bind_same; intro w
        simp only [omap_ok, mapLV, mapLeaves, mapLeavesL_reverse]
      · apply bind_shift _ _ (mapLV fs fi) (mapLV fs fi) _ _ (ih.ctx pos Flags.any depth)
        exact fun eq => ih.arr eq.2 depth (eq.1 :: acc)
    · intro pos depth acc
      simp only [parseDict]
      apply bind_same; intro w
      refine ite_omap ?_ (ite_omap rfl rfl)
      apply bind_same; intro key
      apply bind_shift _ _ (mapLV fs fi) (mapLD fs fi) _ _ (ih.ctx w.2 Flags.any depth)
      intro oq
      simp only [mapLV]
      rw [dictInsert_mapLeaves]
      exact ih.dict _ _ _

end

/-! ### the lexer's file offset -/

/-- move a `file_range` by `k` -/
def shiftInner (k : Nat) : StreamInner → StreamInner
  | .inFile id gen lo hi => .inFile id gen (k + lo) (k + hi)
  | .pending d => .pending d

theorem envSim_shiftOffset (env : Env R) (k : Nat) (ctx : Option (Nat × Nat)) :
    EnvSim (fun s => s) (shiftInner k) env (env.shiftOffset k) ctx :=
  ⟨rfl, rfl, fun _ => (omap_id _).symm, fun i g a l => by
    simp only [shiftInner, Env.shiftOffset]; congr 1 <;> omega⟩

mutual
theorem shiftR_eq (k : Nat) : ∀ v : Prim R, shiftR k v = mapLeaves (fun s => s) (shiftInner k) v
  | .stream info (.inFile _ _ _ _) => by simp only [shiftR, mapLeaves, shiftInner, shiftRE_eq k info]
  | .stream info (.pending _) => by simp only [shiftR, mapLeaves, shiftInner, shiftRE_eq k info]
  | .dict kvs => by simp only [shiftR, mapLeaves, shiftRE_eq k kvs]
  | .arr xs => by simp only [shiftR, mapLeaves, shiftRL_eq k xs]
  | .null => rfl
  | .int _ => rfl
  | .real _ => rfl
  | .bool _ => rfl
  | .str _ => rfl
  | .ref _ _ => rfl
  | .name _ => rfl
theorem shiftRL_eq (k : Nat) : ∀ xs : List (Prim R), shiftRL k xs = mapLeavesL (fun s => s) (shiftInner k) xs
  | [] => rfl
  | x :: xs => by simp only [shiftRL, mapLeavesL, shiftR_eq k x, shiftRL_eq k xs]
theorem shiftRE_eq (k : Nat) : ∀ kvs : List (List UInt8 × Prim R),
    shiftRE k kvs = mapLeavesE (fun s => s) (shiftInner k) kvs
  | [] => rfl
  | (_, v) :: rest => by simp only [shiftRE, mapLeavesE, shiftR_eq k v, shiftRE_eq k rest]
end

theorem mapV_eq (k : Nat) : mapV (R := R) k = mapLV (fun s => s) (shiftInner k) :=
  funext fun r => by simp only [mapV, mapLV, shiftR_eq]

structure Offsets (env : Env R) (k : Nat) (buf : Buf) (fuel : Nat) : Prop where
  ctx : ∀ pos ctx flags depth, parseCtx (env.shiftOffset k) buf fuel pos ctx flags depth
      = omap (mapV k) (parseCtx env buf fuel pos ctx flags depth)
  inner : ∀ pos ctx flags depth, parseInner (env.shiftOffset k) buf fuel pos ctx flags depth
      = omap (mapV k) (parseInner env buf fuel pos ctx flags depth)
  arr : ∀ pos ctx depth acc, parseArray (env.shiftOffset k) buf fuel pos ctx depth (shiftRL k acc)
      = omap (mapV k) (parseArray env buf fuel pos ctx depth acc)
  dict : ∀ pos ctx depth acc, parseDict (env.shiftOffset k) buf fuel pos ctx depth (shiftRE k acc)
      = omap (mapD k) (parseDict env buf fuel pos ctx depth acc)

theorem offsets (env : Env R) (k : Nat) (buf : Buf) : ∀ fuel, Offsets env k buf fuel := by
  intro fuel
  have S := fun ctx => sims (envSim_shiftOffset env k ctx) buf fuel
  have eD : mapD (R := R) k = mapLD (fun s => s) (shiftInner k) :=
    funext fun r => by simp only [mapD, mapLD, shiftRE_eq]
  refine ⟨?_, ?_, ?_, ?_⟩
  · intro pos ctx flags depth; rw [mapV_eq]; exact (S ctx).ctx pos flags depth
  · intro pos ctx flags depth; rw [mapV_eq]; exact (S ctx).inner pos flags depth
  · intro pos ctx depth acc; rw [mapV_eq, shiftRL_eq]; exact (S ctx).arr pos depth acc
  · intro pos ctx depth acc; rw [eD, shiftRE_eq]; exact (S ctx).dict pos depth acc

/-- **`file_offset` only moves the reported ranges.** -/
theorem parseCtx_offset (env : Env R) (k : Nat) (buf : Buf) (fuel pos : Nat) (ctx : Option (Nat × Nat))
    (flags depth : Nat) :
    parseCtx (env.shiftOffset k) buf fuel pos ctx flags depth = omap (mapV k) (parseCtx env buf fuel pos ctx flags depth) :=
  (offsets env k buf fuel).ctx pos ctx flags depth

end PdfShift
