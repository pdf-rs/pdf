import PdfModel.Model.Parser
import PdfModel.Lemmas.ShiftStrLexer
import PdfModel.Lemmas.ParserBasics
import PdfModel.Lemmas.TotalStr

/-!
  Shift lemma for the parser model (`Model/Parser.lean`): parsing `p ++ b` from `p.size + k` with the lexer's
  `file_offset` = `o` is parsing `b` from `k` with `file_offset` = `o + p.size`: the same value (stream
  ranges included), the cursor `p.size` further on.  Hypotheses: the buffer is shorter than 2 GiB and the
  resolver's lengths are `i32`s (`usize` arithmetic of `read_n` / `offset_pos` cannot overflow).
-/

namespace PdfShift
open PdfLex

variable {R : Type}

/-- the environment of the un-prefixed run: the lexer's file offset absorbs the prefix -/
def _root_.PdfLex.Env.shiftOffset (env : Env R) (k : Nat) : Env R := { env with fileOffset := env.fileOffset + k }

/-- every length the resolver answers is at most `i32::MAX` (so `read_n`'s `usize` sum cannot overflow) -/
def LenBounded (env : Env R) : Prop := ∀ i g n, env.resolveLen i g = .ok n → n ≤ 2147483647

/-- a top-level integer value is at most `i32::MAX` (the bound `parseI32` enforces; only the upper one is needed) -/
def IntOK (v : Prim R) : Prop := ∀ n, v = .int n → n ≤ 2147483647

/-- `IntOK` of the value, when there is one -/
def IntOKres (r : Out (Prim R × Nat)) : Prop := ∀ v q, r = .ok (v, q) → IntOK v

/-- a direct `/Length` is at most `i32::MAX` -/
def LenOK (d : Dict R) : Prop := ∀ n, dictGet d kwLength = some (.int n) → n ≤ 2147483647

theorem lenOK_nil : LenOK ([] : Dict R) := by intro n h; simp [dictGet] at h

theorem lenOK_insert (d : Dict R) (k : List UInt8) (v : Prim R) (hd : LenOK d) (hv : IntOK v) :
    LenOK (dictInsert d k v) := by
  intro n h
  rw [dictGet_dictInsert] at h
  split at h
  · cases h; exact hv n rfl
  · exact hd n h

theorem parseI32_le (t : List UInt8) (i : Int) (h : parseI32 t = some i) : i ≤ 2147483647 := by
  unfold parseI32 at h
  split at h
  · split at h
    · cases h
    · split at h
      · cases h
      · cases h; omega
  · simp only at h
    split at h
    · cases h
    · split at h
      · cases h
      · cases h; omega

/-! ### the integer / reference look-ahead -/

/-- the look-ahead of `refLookahead` — the two lexemes, if any, and the cursor — moved by `k` -/
def shLa (k : Nat) (r : Option ((Nat × Nat) × (Nat × Nat)) × Nat) : Option ((Nat × Nat) × (Nat × Nat)) × Nat :=
  (r.1.map fun ww => (sh2 k ww.1, sh2 k ww.2), k + r.2)

theorem refLookahead_shift (p b : Buf) (posBk : Nat) :
    refLookahead (p ++ b) (p.size + posBk) = omap (shLa p.size) (refLookahead b posBk) := by
  unfold refLookahead
  rw [next_shift]
  cases next b posBk with
  | ok w2 =>
    simp only [omap_ok, sh2, slice_shift]
    split
    · rw [next_shift]
      cases next b w2.2 with
      | ok w3 => rfl
      | _ => rfl
    · rfl
  | _ => rfl

theorem parseIntOrRef_shift (p b : Buf) (posBk : Nat) (first : List UInt8) (flags : Nat) :
    parseIntOrRef (R := R) (p ++ b) (p.size + posBk) first flags
      = omap (shV p.size) (parseIntOrRef b posBk first flags) := by
  unfold parseIntOrRef
  apply bind_same
  intro _
  apply bind_shift _ _ (shLa p.size) (shV p.size) _ _ (refLookahead_shift p b posBk)
  rintro ⟨la, cur⟩
  simp only [shLa]
  have hint : ((check flags Flags.integer).bind fun _ =>
        (setPos (p ++ b) (p.size + cur) (p.size + posBk)).bind fun q =>
          match parseI32 first with
          | some i => (Out.ok (Prim.int i, q) : Out (Prim R × Nat))
          | none => .err)
      = omap (shV p.size) ((check flags Flags.integer).bind fun _ =>
        (setPos b cur posBk).bind fun q =>
          match parseI32 first with
          | some i => (Out.ok (Prim.int i, q) : Out (Prim R × Nat))
          | none => .err) := by
    apply bind_same
    intro _
    apply bind_shift _ _ (p.size + ·) (shV p.size) _ _ (setPos_shift p b cur posBk)
    intro q
    cases parseI32 first <;> rfl
  cases la with
  | none => exact hint
  | some ww =>
    obtain ⟨w2, w3⟩ := ww
    simp only [Option.map_some, sh2, slice_shift]
    split
    · apply bind_same
      intro _
      cases parseU64 first with
      | none => rfl
      | some i =>
        simp only
        cases parseU64 (slice b w2.1 w2.2) <;> rfl
    · exact hint

theorem intOKres_bind {α : Type} (x : Out α) (f : α → Out (Prim R × Nat)) (h : ∀ a, IntOKres (f a)) :
    IntOKres (x.bind f) := by
  cases x with
  | ok a => exact h a
  | err => exact nofun
  | panic => exact nofun
  | oof => exact nofun

theorem intOKres_ite {c : Prop} [Decidable c] {t e : Out (Prim R × Nat)} (ht : IntOKres t) (he : IntOKres e) :
    IntOKres (if c then t else e) := by
  split <;> assumption

theorem intOKres_of (v : Prim R) (q : Nat) (h : ∀ n, v ≠ .int n) : IntOKres (.ok (v, q)) := by
  intro v' q' he n hn
  cases he
  exact absurd hn (h n)

theorem parseIntOrRef_intOK (b : Buf) (posBk : Nat) (first : List UInt8) (flags : Nat) :
    IntOKres (parseIntOrRef (R := R) b posBk first flags) := by
  unfold parseIntOrRef
  apply intOKres_bind; intro _
  apply intOKres_bind; rintro ⟨la, cur⟩
  have hint : IntOKres ((check flags Flags.integer).bind fun _ => (setPos b cur posBk).bind fun q =>
      match parseI32 first with
      | some i => (Out.ok (Prim.int i, q) : Out (Prim R × Nat))
      | none => .err) := by
    apply intOKres_bind; intro _
    apply intOKres_bind; intro q
    cases hp : parseI32 first with
    | none => exact nofun
    | some i => intro v q' h n hv; cases h; cases hv; exact parseI32_le first _ hp
  cases la with
  | none => exact hint
  | some ww =>
    refine intOKres_ite (intOKres_bind _ _ fun _ => ?_) hint
    cases parseU64 first with
    | none => exact nofun
    | some i =>
      cases parseU64 (slice b ww.1.1 ww.1.2) with
      | none => exact nofun
      | some g => exact intOKres_of _ _ (by nofun)

/-! ### stream objects -/

theorem nextStream_le (b : Buf) (pos q : Nat) (h : nextStream b pos = .ok q) : q ≤ b.size ∧ 0 < b.size := by
  unfold nextStream at h
  obtain ⟨w, hw, h⟩ := Out.bind_eq_ok h
  simp only at h
  split at h
  · cases h
  · split at h
    · cases h
    · cases h6 : b[w.2 - (w.2 - w.1) + 6]? with
      | none => simp [h6] at h
      | some b0 =>
        have := getElem?_lt h6
        simp only [h6] at h
        split at h
        · cases h; omega
        · split at h
          · cases h7 : b[w.2 - (w.2 - w.1) + 7]? with
            | none => simp [h7] at h
            | some b1 =>
              have := getElem?_lt h7
              simp only [h7] at h
              split at h
              · cases h
              · cases h; omega
          · cases h

/-- from the last byte of the buffer on there is no room for `endstream` -/
theorem nextExpect_last (b : Buf) (q : Nat) (hq : b.size ≤ q + 1) (hq' : q ≤ b.size) :
    ∀ r, nextExpect b q kwEndstream ≠ .ok r := by
  intro r h
  unfold nextExpect next at h
  obtain ⟨w, hw, h⟩ := Out.bind_eq_ok h
  have := Out.of_ok (nextWord_spec b q hq') hw
  split at h
  · rename_i heq
    have hl : (slice b w.1 w.2).length = 9 := by
      rw [show slice b w.1 w.2 = kwEndstream by simpa using heq]; rfl
    simp [slice] at hl
    omega
  · cases h

/-- at the very end of the buffer `read_n` returns `new_substr(0..0)` and puts the cursor on the last byte -/
theorem readN_end (b : Buf) (n : Nat) (h : b.size ≤ usizeMax) : readN b b.size n = .ok ((0, 0), b.size - 1) := by
  have h1 : min (b.size + n) usizeMax ≥ b.size := by omega
  simp [readN, h1, newSubstr]

/-- the part of `parse_stream_object` behind the length -/
def streamTail (env : Env R) (buf : Buf) (q n : Nat) (dict : Dict R) (id : Nat × Nat) : Out (Prim R × Nat) :=
  (readN buf q n).bind fun x =>
    if x.1.2 - x.1.1 != n then .err else
    (nextExpect buf x.2 kwEndstream).bind fun pos =>
    .ok (.stream dict (.inFile id.1 id.2 (env.fileOffset + x.1.1) (env.fileOffset + x.1.1 + (x.1.2 - x.1.1))), pos)

theorem streamTail_shift (env : Env R) (p b : Buf) (q n : Nat) (dict : Dict R) (id : Nat × Nat)
    (hsz : p.size + b.size ≤ 2147483647) (hq : q ≤ b.size) (hb0 : 0 < b.size) (hn : n ≤ 2147483647) :
    streamTail env (p ++ b) (p.size + q) n dict id
      = omap (shV p.size) (streamTail (env.shiftOffset p.size) b q n dict id) := by
  unfold streamTail
  by_cases hlt : q < b.size
  · rw [readN_shift p b q n (by simp [usizeMax]; omega) hlt]
    cases readN b q n with
    | ok r =>
      obtain ⟨sub, q2⟩ := r
      simp only [omap_ok, Out.bind_ok, sh2]
      have e : p.size + sub.2 - (p.size + sub.1) = sub.2 - sub.1 := Nat.add_sub_add_left _ _ _
      rw [e]
      split
      · rfl
      · rw [nextExpect_shift]
        cases nextExpect b q2 kwEndstream with
        | ok q3 =>
          simp only [omap_ok, Out.bind_ok, shV, Env.shiftOffset, Nat.add_assoc]
        | _ => rfl
    | _ => rfl
  · -- the data would start at the very end of the buffer: no `endstream` can follow
    obtain rfl : q = b.size := by omega
    rw [← size_shift, readN_end _ _ (by rw [size_shift]; simp [usizeMax]; omega),
      readN_end _ _ (by simp [usizeMax]; omega)]
    have e : (p ++ b).size - 1 = p.size + (b.size - 1) := by rw [size_shift]; omega
    simp only [Out.bind_ok, e]
    refine ite_omap rfl ?_
    rw [nextExpect_shift]
    cases hne : nextExpect b (b.size - 1) kwEndstream with
    | ok q3 => exact absurd hne (nextExpect_last b (b.size - 1) (by omega) (by omega) q3)
    | _ => rfl

theorem parseStreamObject_shift (env : Env R) (p b : Buf) (pos : Nat) (dict : Dict R) (id : Nat × Nat)
    (hsz : (p ++ b).size ≤ 2147483647) (hlen : LenBounded env) (hd : LenOK dict) :
    parseStreamObject env (p ++ b) (p.size + pos) dict id
      = omap (shV p.size) (parseStreamObject (env.shiftOffset p.size) b pos dict id) := by
  rw [size_shift] at hsz
  unfold parseStreamObject
  rw [nextStream_shift]
  cases hns : nextStream b pos with
  | ok q =>
    obtain ⟨hq, hb0⟩ := nextStream_le b pos q hns
    simp only [omap_ok, Out.bind_ok]
    cases hg : dictGet dict kwLength with
    | none => rfl
    | some v =>
      cases v with
      | int i =>
        simp only
        by_cases hi : i ≥ 0
        · simp only [hi, if_true, Out.bind_ok]
          have := hd i hg
          exact streamTail_shift env p b q i.toNat dict id hsz hq hb0 (by omega)
        · simp only [hi, if_false]; rfl
      | ref i g =>
        simp only
        have hro : (env.shiftOffset p.size).resolveLen i g = env.resolveLen i g := rfl
        rw [hro]
        cases hr : env.resolveLen i g with
        | ok n =>
          simp only [Out.bind_ok]
          exact streamTail_shift env p b q n dict id hsz hq hb0 (hlen i g n hr)
        | _ => rfl
      | null => rfl
      | real _ => rfl
      | bool _ => rfl
      | str _ => rfl
      | stream _ _ => rfl
      | dict _ => rfl
      | arr _ => rfl
      | name _ => rfl
  | _ => rfl

/-! ### shapes: integers are `i32`s, a direct `/Length` is an `i32` -/

theorem parseStreamObject_intOK (env : Env R) (buf : Buf) (pos : Nat) (dict : Dict R) (id : Nat × Nat) :
    IntOKres (parseStreamObject env buf pos dict id) := by
  unfold parseStreamObject
  apply intOKres_bind; intro q
  apply intOKres_bind; intro n
  apply intOKres_bind; intro x
  apply intOKres_ite (by nofun)
  apply intOKres_bind; intro q2
  exact intOKres_of _ _ (by nofun)

structure Shapes (env : Env R) (buf : Buf) (fuel : Nat) : Prop where
  ctx : ∀ pos ctx flags depth, IntOKres (parseCtx env buf fuel pos ctx flags depth)
  inner : ∀ pos ctx flags depth, IntOKres (parseInner env buf fuel pos ctx flags depth)
  arr : ∀ pos ctx depth acc, IntOKres (parseArray env buf fuel pos ctx depth acc)
  dict : ∀ pos ctx depth acc, LenOK acc → ∀ d q, parseDict env buf fuel pos ctx depth acc = .ok (d, q) → LenOK d

theorem shapes (env : Env R) (buf : Buf) : ∀ fuel, Shapes env buf fuel := by
  intro fuel
  induction fuel with
  | zero =>
    refine ⟨?_, ?_, ?_, ?_⟩
    · intro pos ctx flags depth; simp only [parseCtx]; exact nofun
    · intro pos ctx flags depth; simp only [parseInner]; exact nofun
    · intro pos ctx depth acc; simp only [parseArray]; exact nofun
    · intro pos ctx depth acc _ d q h; simp only [parseDict] at h; cases h
  | succ fuel ih =>
    refine ⟨?_, ?_, ?_, ?_⟩
    · intro pos ctx flags depth
      simp only [parseCtx]
      have := ih.inner pos ctx flags depth
      cases hi : parseInner env buf fuel pos ctx flags depth with
      | ok r => rw [hi] at this; exact this
      | err => exact intOKres_bind _ _ fun _ => (by nofun)
      | panic => exact nofun
      | oof => exact nofun
    · -- only the integer / reference branch returns an integer
      intro pos ctx flags depth
      simp only [parseInner]
      apply intOKres_bind; intro _
      apply intOKres_bind; intro w
      apply intOKres_ite
      · apply intOKres_bind; intro _
        apply intOKres_ite (by nofun)
        apply intOKres_bind; intro dq
        apply intOKres_bind; intro pk
        refine intOKres_ite ?_ (intOKres_of _ _ (by nofun))
        cases ctx with
        | none => exact nofun
        | some id => exact parseStreamObject_intOK _ _ _ _ _
      apply intOKres_ite (parseIntOrRef_intOK _ _ _ _)
      cases realNumber (slice buf w.1 w.2) with
      | some s =>
        apply intOKres_bind; intro _
        cases env.parseReal s with
        | some r => exact intOKres_of _ _ (by nofun)
        | none => exact nofun
      | none =>
      apply intOKres_ite (intOKres_bind _ _ fun _ => intOKres_bind _ _ fun s => intOKres_of _ _ (by nofun))
      apply intOKres_ite (intOKres_bind _ _ fun _ => intOKres_ite (by nofun) (ih.arr _ _ _ _))
      have str : ∀ (x : Out (List UInt8 × Nat)) (start : Nat), IntOKres (x.bind fun sp =>
          (offsetPos buf start (sp.2 - start)).bind fun q => (decryptStr env ctx sp.1).bind fun s => (.ok (.str s, q) : Out (Prim R × Nat))) :=
        fun x start => intOKres_bind _ _ fun sp => intOKres_bind _ _ fun q => intOKres_bind _ _ fun s =>
          intOKres_of _ _ (by nofun)
      apply intOKres_ite (intOKres_bind _ _ fun _ => intOKres_bind _ _ fun _ => str _ _)
      apply intOKres_ite (intOKres_bind _ _ fun _ => intOKres_bind _ _ fun _ => str _ _)
      apply intOKres_ite (intOKres_bind _ _ fun _ => intOKres_of _ _ (by nofun))
      apply intOKres_ite (intOKres_bind _ _ fun _ => intOKres_of _ _ (by nofun))
      apply intOKres_ite (intOKres_bind _ _ fun _ => intOKres_of _ _ (by nofun))
      exact intOKres_bind _ _ fun _ => (by nofun)
    · intro pos ctx depth acc
      simp only [parseArray]
      apply intOKres_bind; intro pk
      exact intOKres_ite (intOKres_bind _ _ fun w => intOKres_of _ _ (by nofun))
        (intOKres_bind _ _ fun eq => ih.arr _ _ _ _)
    · intro pos ctx depth acc hacc d q h
      simp only [parseDict] at h
      obtain ⟨w, hn, h⟩ := Out.bind_eq_ok h
      split at h
      · obtain ⟨key, hk, h⟩ := Out.bind_eq_ok h
        obtain ⟨⟨v, q1⟩, hv, h⟩ := Out.bind_eq_ok h
        exact ih.dict _ _ _ _ (lenOK_insert acc key v hacc (ih.ctx _ _ _ _ v q1 hv)) d q h
      · split at h
        · cases h; exact hacc
        · cases h

/-! ### the shift of the recursive parser -/

/-- `read_n` whose result is thrown away: only the outcome kind matters -/
theorem readN_discard_shift {β β' : Type} (p b : Buf) (pos n : Nat) (g : β → β')
    (hsz : p.size + b.size ≤ 2147483647) (hn : n ≤ 2147483647) (hpos : pos ≤ b.size) :
    ((readN (p ++ b) (p.size + pos) n).bind fun _ => (Out.err : Out β'))
      = omap g ((readN b pos n).bind fun _ => (Out.err : Out β)) := by
  by_cases hlt : pos < b.size
  · rw [readN_shift p b pos n (by simp [usizeMax]; omega) hlt]
    cases readN b pos n <;> rfl
  · obtain rfl : pos = b.size := by omega
    rw [← size_shift, readN_end _ _ (by rw [size_shift]; simp [usizeMax]; omega),
      readN_end _ _ (by simp [usizeMax]; omega)]
    rfl

/-- what both string branches do with the lexed string `sq.1` that ended at `sq.2`: move the cursor behind
    it and decrypt -/
theorem stringTail_shift (env : Env R) (p b : Buf) (ctx : Option (Nat × Nat)) (start : Nat) (sq : List UInt8 × Nat)
    (hsz : p.size + b.size ≤ 2147483647) (hstart : start ≤ b.size) (hq : sq.2 ≤ b.size) :
    ((offsetPos (p ++ b) (p.size + start) (p.size + sq.2 - (p.size + start))).bind fun pos =>
        (decryptStr env ctx sq.1).bind fun s => (.ok (.str s, pos) : Out (Prim R × Nat)))
      = omap (shV p.size) ((offsetPos b start (sq.2 - start)).bind fun pos =>
        (decryptStr (env.shiftOffset p.size) ctx sq.1).bind fun s => .ok (.str s, pos)) := by
  rw [Nat.add_sub_add_left]
  apply bind_shift _ _ (p.size + ·) (shV p.size) _ _
    (offsetPos_shift p b start (sq.2 - start) (by simp [usizeMax]; omega))
  intro q2
  exact bind_same _ _ _ _ fun _ => rfl

structure Shifts (env : Env R) (p b : Buf) (fuel : Nat) : Prop where
  ctx : ∀ pos ctx flags depth, parseCtx env (p ++ b) fuel (p.size + pos) ctx flags depth
      = omap (shV p.size) (parseCtx (env.shiftOffset p.size) b fuel pos ctx flags depth)
  inner : ∀ pos ctx flags depth, parseInner env (p ++ b) fuel (p.size + pos) ctx flags depth
      = omap (shV p.size) (parseInner (env.shiftOffset p.size) b fuel pos ctx flags depth)
  arr : ∀ pos ctx depth acc, parseArray env (p ++ b) fuel (p.size + pos) ctx depth acc
      = omap (shV p.size) (parseArray (env.shiftOffset p.size) b fuel pos ctx depth acc)
  dict : ∀ pos ctx depth acc, LenOK acc → parseDict env (p ++ b) fuel (p.size + pos) ctx depth acc
      = omap (shV p.size) (parseDict (env.shiftOffset p.size) b fuel pos ctx depth acc)

theorem shifts (env : Env R) (p b : Buf) (hsz : (p ++ b).size ≤ 2147483647) (hlen : LenBounded env) :
    ∀ fuel, Shifts env p b fuel := by
  have hsz' : p.size + b.size ≤ 2147483647 := by rw [size_shift] at hsz; exact hsz
  intro fuel
  induction fuel with
  | zero =>
    refine ⟨?_, ?_, ?_, ?_⟩
    · intro pos ctx flags depth; simp only [parseCtx]; rfl
    · intro pos ctx flags depth; simp only [parseInner]; rfl
    · intro pos ctx depth acc; simp only [parseArray]; rfl
    · intro pos ctx depth acc _; simp only [parseDict]; rfl
  | succ fuel ih =>
    have hshape := shapes (env.shiftOffset p.size) b fuel
    refine ⟨?_, ?_, ?_, ?_⟩
    · intro pos ctx flags depth
      simp only [parseCtx]
      rw [ih.inner]
      cases parseInner (env.shiftOffset p.size) b fuel pos ctx flags depth with
      | ok r => rfl
      | err => exact bind_shift _ _ (p.size + ·) (shV p.size) _ _ (setPos_shift p b pos pos) fun _ => rfl
      | panic => rfl
      | oof => rfl
    · intro pos ctx flags depth
      simp only [parseInner]
      apply bind_shift _ _ (p.size + ·) (shV p.size) _ _ (remainingStart_shift p b pos); intro _
      apply bind_shift' _ _ (sh2 p.size) (shV p.size) _ _ (next_shift p b pos); intro w hw
      have hw3 := (nextWord_bounds hw).2
      simp only [sh2, slice_shift]
      apply ite_omap
      · apply bind_same; intro _
        refine ite_omap rfl ?_
        apply bind_shift' _ _ (shV p.size) (shV p.size) _ _ (ih.dict w.2 ctx (depth - 1) [] lenOK_nil)
        rintro ⟨dict, q⟩ hpd
        apply bind_shift _ _ (sh2 p.size) (shV p.size) _ _ (peek_shift p b q); intro pk
        simp only [sh2, slice_shift]
        refine ite_omap ?_ rfl
        cases ctx with
        | none => rfl
        | some id =>
          exact parseStreamObject_shift env p b q dict id hsz hlen (hshape.dict _ _ _ _ lenOK_nil dict q hpd)
      refine ite_omap (parseIntOrRef_shift p b w.2 _ flags) ?_
      cases realNumber (slice b w.1 w.2) with
      | some s =>
        apply bind_same; intro _
        show _ = omap _ (match env.parseReal s with | some r => _ | none => _)
        cases env.parseReal s <;> rfl
      | none =>
      refine ite_omap (bind_same _ _ _ _ fun _ => bind_same _ _ _ _ fun _ => rfl) ?_
      refine ite_omap (bind_same _ _ _ _ fun _ => ite_omap rfl (ih.arr _ _ _ _)) ?_
      have e : (p ++ b).size - (p.size + w.2) + 2 = b.size - w.2 + 2 := by rw [size_shift]; omega
      apply ite_omap
      · apply bind_same; intro _
        apply bind_shift _ _ (p.size + ·) (shV p.size) _ _ (remainingStart_shift p b w.2); intro _
        rw [e]
        apply bind_shift' _ _ (shL p.size) (shV p.size) _ _ (collectString_shift p b _ w.2 0 [])
        rintro ⟨s, q⟩ hcs
        exact stringTail_shift env p b ctx w.2 (s, q) hsz' hw3 (Out.of_ok₂
          (collectString_spec b _ w.2 0 [] hw3 (Int.le_refl 0) (by simp only [i64Max]; omega) (by omega)) hcs).2
      apply ite_omap
      · apply bind_same; intro _
        apply bind_shift _ _ (p.size + ·) (shV p.size) _ _ (remainingStart_shift p b w.2); intro _
        rw [e]
        apply bind_shift' _ _ (shL p.size) (shV p.size) _ _ (collectHex_shift p b w.2 _ w.2 [])
        rintro ⟨s, q⟩ hcs
        exact stringTail_shift env p b ctx w.2 (s, q) hsz' hw3 (Out.of_ok₂
          (collectHex_spec b w.2 _ w.2 [] (Nat.le_refl _) hw3 (by omega)) hcs).2
      refine ite_omap (bind_same _ _ _ _ fun _ => rfl) ?_
      refine ite_omap (bind_same _ _ _ _ fun _ => rfl) ?_
      refine ite_omap (bind_same _ _ _ _ fun _ => rfl) ?_
      exact readN_discard_shift p b w.2 50 (shV p.size) hsz' (by omega) hw3
    · intro pos ctx depth acc
      simp only [parseArray]
      apply bind_shift _ _ (sh2 p.size) (shV p.size) _ _ (peek_shift p b pos); intro pk
      simp only [sh2, slice_shift]
      refine ite_omap (bind_shift _ _ (sh2 p.size) (shV p.size) _ _ (next_shift p b pos) fun _ => rfl) ?_
      apply bind_shift _ _ (shV p.size) (shV p.size) _ _ (ih.ctx pos ctx Flags.any depth)
      exact fun _ => ih.arr _ _ _ _
    · intro pos ctx depth acc hacc
      simp only [parseDict]
      apply bind_shift _ _ (sh2 p.size) (shV p.size) _ _ (next_shift p b pos); intro w
      simp only [sh2, slice_shift]
      refine ite_omap ?_ (ite_omap rfl rfl)
      apply bind_same; intro key
      apply bind_shift' _ _ (shV p.size) (shV p.size) _ _ (ih.ctx w.2 ctx Flags.any depth)
      rintro ⟨obj, q⟩ hobj
      exact ih.dict _ _ _ _ (lenOK_insert acc key obj hacc (hshape.ctx _ _ _ _ obj q hobj))

/-- **The parser under a prefix.** Parsing `p ++ b` from `p.size + pos` (lexer offset `o`) gives the value
    that parsing `b` from `pos` (lexer offset `o + p.size`) gives — stream ranges included — with the
    cursor `p.size` further on; errors, panics and fuel exhaustion correspond. -/
theorem parseCtx_shift (env : Env R) (p b : Buf) (hsz : (p ++ b).size ≤ 2147483647) (hlen : LenBounded env)
    (fuel pos : Nat) (ctx : Option (Nat × Nat)) (flags depth : Nat) :
    parseCtx env (p ++ b) fuel (p.size + pos) ctx flags depth
      = omap (shV p.size) (parseCtx (env.shiftOffset p.size) b fuel pos ctx flags depth) :=
  (shifts env p b hsz hlen fuel).ctx pos ctx flags depth

end PdfShift
