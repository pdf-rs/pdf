import PdfModel.Lemmas.ParserS

/-! Sequences of objects: each parse consumes exactly its own text. -/

namespace PdfLex
open PdfSyntax (Gap Bnd Spells needsBnd WF vdepth need)

variable {R : Type}

/-- an object of a sequence: the value, its text, the gap after it -/
abbrev Item (R : Type) := Prim R × List UInt8 × List UInt8

/-- the text of a sequence of objects -/
def seqText : List (Item R) → List UInt8
  | [] => []
  | (_, tx, g) :: r => tx ++ g ++ seqText r

/-- a conformant sequence: every text spells its value, gaps are gaps, a value that ends in a regular
    character is followed by a gap or a delimiter (the last object carries no gap of its own: what follows the
    sequence is `rest`) -/
def SeqOK (pr : List UInt8 → Option R) (rest : List UInt8) : List (Item R) → Prop
  | [] => True
  | (v, tx, g) :: r => Spells pr v tx ∧ WF v ∧ vdepth v ≤ maxDepth ∧ Gap g ∧ (r = [] → g = []) ∧
      (needsBnd v = true → Bnd (g ++ seqText r ++ rest)) ∧ SeqOK pr rest r

/-- what parsing the sequence from `pos` must return: each value with the cursor right after its text -/
def seqExpected (pos : Nat) : List (Item R) → List (Prim R × Nat)
  | [] => []
  | (v, tx, g) :: r => (v, pos + tx.length) :: seqExpected (pos + tx.length + g.length) r

/-- `n` times `parse_with_lexer` on the same lexer -/
def parseSeq (env : Env R) (buf : Buf) (fuel : Nat) : Nat → Nat → Out (List (Prim R × Nat))
  | 0, _ => .ok []
  | n + 1, pos =>
    (parseWithLexer env buf fuel pos Flags.any).bind fun r =>
    (parseSeq env buf fuel n r.2).bind fun rs => .ok (r :: rs)

def seqNeed : List (Item R) → Nat
  | [] => 0
  | (v, _, _) :: r => max (need v) (seqNeed r)

/-- what follows an object of a sequence never merges with it -/
theorem ahead_seq (pr : List UInt8 → Option R) (items : List (Item R)) :
    ∀ {buf : Buf} (g rest : List UInt8) (q : Nat), SeqOK pr rest items → Gap g → (items = [] → g = []) →
      Suffix buf q (g ++ seqText items ++ rest) → Ahead buf (q + g.length + (seqText items).length) → Ahead buf q := by
  induction items with
  | nil =>
    intro buf g rest q _ hg hnil hs hah
    rw [hnil rfl] at hah
    simpa [seqText] using hah
  | cons it items ih =>
    obtain ⟨v, tx, g'⟩ := it
    intro buf g rest q hok hg _ hs hah
    simp only [SeqOK] at hok
    obtain ⟨hx, _, _, hg', hlast, hbnd, hrest⟩ := hok
    simp only [seqText] at hs hah
    have hs1 : Suffix buf q (g ++ tx ++ (g' ++ seqText items ++ rest)) := by simpa using hs
    obtain ⟨k, t, hk, hn, hsl, hf, hint⟩ := spells_first pr v tx hx g (g' ++ seqText items ++ rest) q hg hs1
      (fun hb => by simpa using hbnd hb)
    refine ahead_of_lexeme _ t hn hsl hf.neR hf.neStream ?_
    intro hi
    rcases hint hi with ⟨hk', _⟩ | hnr
    · subst hk'
      have hs2 : Suffix buf (q + g.length + tx.length) (g' ++ seqText items ++ rest) := hs1.drop₂
      refine (ih g' rest _ hrest hg' hlast hs2 ?_).notR
      have e : q + g.length + tx.length + g'.length + (seqText items).length =
          q + g.length + (tx ++ g' ++ seqText items).length := by simp; omega
      rw [e]; exact hah
    · exact hnr

/-- **each parse consumes exactly its own text**: parsing `n` objects in a row from a conformant sequence
    returns the `n` values, each with the cursor right after its own text -/
theorem parseSeq_spells (env : Env R) (hd : env.decrypt = none) (items : List (Item R)) :
    ∀ {buf : Buf}, buf.size ≤ 2147483647 → ∀ (g0 rest : List UInt8) (pos fuel : Nat), SeqOK env.parseReal rest items →
      Gap g0 → Suffix buf pos (g0 ++ seqText items ++ rest) →
      Ahead buf (pos + g0.length + (seqText items).length) → seqNeed items ≤ fuel →
      parseSeq env buf fuel items.length pos = .ok (seqExpected (pos + g0.length) items) := by
  induction items with
  | nil => intro buf _ g0 rest pos fuel _ _ _ _ _; rfl
  | cons it items ih =>
    obtain ⟨v, tx, g'⟩ := it
    intro buf hsz g0 rest pos fuel hok hg0 hs hah hfuel
    simp only [SeqOK] at hok
    obtain ⟨hx, hwf, hdep, hg', hlast, hbnd, hrest⟩ := hok
    simp only [seqText] at hs hah
    simp only [seqNeed] at hfuel
    have hs1 : Suffix buf pos (g0 ++ tx ++ (g' ++ seqText items ++ rest)) := by simpa using hs
    have hs2 : Suffix buf (pos + g0.length + tx.length) (g' ++ seqText items ++ rest) := hs1.drop₂
    have e : pos + g0.length + tx.length + g'.length + (seqText items).length =
        pos + g0.length + (tx ++ g' ++ seqText items).length := by simp; omega
    have hah2 : Ahead buf (pos + g0.length + tx.length + g'.length + (seqText items).length) := by rw [e]; exact hah
    have hv := parseCtx_spells env hd v tx hx hwf hsz g0 (g' ++ seqText items ++ rest) pos fuel none maxDepth Flags.any hg0
      (any_allows v) hs1
      (fun hb => by simpa using hbnd hb) (ahead_seq env.parseReal items g' rest _ hrest hg' hlast hs2 hah2) (by omega) hdep
    have hrec := ih hsz g' rest (pos + g0.length + tx.length) fuel hrest hg' hs2 hah2 (by omega)
    simp only [List.length_cons, parseSeq, parseWithLexer, hv, Out.bind_ok, hrec, seqExpected]


/-! ### the fuel of the public entry points suffices -/

open PdfSyntax (SpellsElems SpellsEntries needL needE)

mutual
/-- the factor 3: a one-byte atom (`1`) takes two units (`parseCtx`, `parseInner`) and the round of the enclosing loop a
    third; every other spelling has more bytes per unit -/
theorem need_bound (pr : List UInt8 → Option R) (v : Prim R) : ∀ txt, Spells pr v txt → need v + 1 ≤ 3 * txt.length := by
  intro txt h
  have hlen : 1 ≤ txt.length := List.length_pos_iff.2 (spells_ne_nil pr v txt h)
  cases v with
  | arr xs =>
    simp only [Spells] at h
    obtain ⟨g, r, rfl, _, hr⟩ := h
    have := needL_bound pr xs r hr
    simp [need]; omega
  | dict kvs =>
    simp only [Spells] at h
    obtain ⟨g, r, rfl, _, hr⟩ := h
    have := needE_bound pr kvs r hr
    simp [need]; omega
  | stream info inner => simp [Spells] at h
  | _ => simp [need]; omega
theorem needL_bound (pr : List UInt8 → Option R) (xs : List (Prim R)) : ∀ r, SpellsElems pr xs r → needL xs ≤ 3 * r.length := by
  intro r h
  cases xs with
  | nil => simp only [SpellsElems] at h; subst h; simp [needL]
  | cons x xs =>
    simp only [SpellsElems] at h
    obtain ⟨tx, g, r', rfl, hx, _, hr', _⟩ := h
    have h1 := need_bound pr x tx hx
    have h2 := needL_bound pr xs r' hr'
    simp [needL]; omega
theorem needE_bound (pr : List UInt8 → Option R) (kvs : List (List UInt8 × Prim R)) :
    ∀ r, SpellsEntries pr kvs r → needE kvs ≤ 3 * r.length := by
  intro r h
  cases kvs with
  | nil => simp only [SpellsEntries] at h; subst h; simp [needE]
  | cons kv kvs =>
    obtain ⟨k, v⟩ := kv
    simp only [SpellsEntries] at h
    obtain ⟨kb, g1, tv, g2, r', rfl, _, _, _, hv, _, hr', _⟩ := h
    have h1 := need_bound pr v tv hv
    have h2 := needE_bound pr kvs r' hr'
    simp [needE]; omega
end


/-- a bound on the need of every value of a sequence bounds `seqNeed` -/
theorem seqNeed_le (items : List (Item R)) (n : Nat) (h : ∀ x ∈ items.map (·.1), need x ≤ n) : seqNeed items ≤ n := by
  induction items with
  | nil => simp [seqNeed]
  | cons it items ih =>
    obtain ⟨v, tx, g⟩ := it
    simp only [seqNeed]
    have h1 := h v (by simp)
    have h2 := ih (fun x hx => h x (by simp at hx ⊢; exact Or.inr hx))
    omega

end PdfLex
