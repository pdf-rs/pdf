import PdfModel.Spec.SyntaxEnc
import PdfModel.Lemmas.ShiftDecrypt
import PdfModel.Lemmas.ParserS
import PdfModel.Lemmas.Render
import PdfModel.Lemmas.ParserFlags

/-! Encrypted spellings: parsing with the context of a decryptor that inverts the encryptor returns the plaintext
    value (on top of `parseCtx_dec` / `parseIndirectObject_dec` of `Lemmas/ShiftDecrypt`). -/

namespace PdfLex
open PdfSyntax (LitBody HexBody Gap Bnd Spells needsBnd WF WFL WFE KeysDistinct KeysDistinctL KeysDistinctE namesUtf8 namesUtf8L namesUtf8E
  vdepth vdepthL vdepthE need needL needE keysOf mapStrings mapStringsL mapStringsE SpellsEnc encrypted)
open PdfShift (mapStr mapStrL mapStrE withDec noDec parseCtx_dec parseIndirectObject_dec mapStr_inverts omap decV ctxFn)

variable {R : Type}

mutual
theorem mapStrings_eq (f : List UInt8 → List UInt8) : ∀ v : Prim R, mapStrings f v = mapStr f v
  | .str s => by simp [mapStrings, mapStr]
  | .stream info inner => by simp [mapStrings, mapStr, mapStringsE_eq f info]
  | .dict kvs => by simp [mapStrings, mapStr, mapStringsE_eq f kvs]
  | .arr xs => by simp [mapStrings, mapStr, mapStringsL_eq f xs]
  | .null => rfl
  | .int i => rfl
  | .real r => rfl
  | .bool b => rfl
  | .ref i g => rfl
  | .name n => rfl
theorem mapStringsL_eq (f : List UInt8 → List UInt8) : ∀ xs : List (Prim R), mapStringsL f xs = mapStrL f xs
  | [] => by simp [mapStringsL, mapStrL]
  | x :: xs => by simp [mapStringsL, mapStrL, mapStrings_eq f x, mapStringsL_eq f xs]
theorem mapStringsE_eq (f : List UInt8 → List UInt8) : ∀ kvs : List (List UInt8 × Prim R), mapStringsE f kvs = mapStrE f kvs
  | [] => by simp [mapStringsE, mapStrE]
  | (k, v) :: rest => by simp [mapStringsE, mapStrE, mapStrings_eq f v, mapStringsE_eq f rest]
end

/-- what encryption leaves alone: structure, keys, names, depth, fuel, kind -/
structure SameShape (a b : Prim R) : Prop where
  kd : KeysDistinct a ↔ KeysDistinct b
  nu : namesUtf8 a = namesUtf8 b
  vd : vdepth a = vdepth b
  nd : need a = need b
  nb : needsBnd a = needsBnd b
  fl : flagOf a = flagOf b

structure SameShapeL (a b : List (Prim R)) : Prop where
  kd : KeysDistinctL a ↔ KeysDistinctL b
  nu : namesUtf8L a = namesUtf8L b
  vd : vdepthL a = vdepthL b
  nd : needL a = needL b

structure SameShapeE (a b : List (List UInt8 × Prim R)) : Prop where
  kd : KeysDistinctE a ↔ KeysDistinctE b
  nu : namesUtf8E a = namesUtf8E b
  vd : vdepthE a = vdepthE b
  nd : needE a = needE b
  ks : keysOf a = keysOf b

theorem SameShape.refl (v : Prim R) : SameShape v v := ⟨Iff.rfl, rfl, rfl, rfl, rfl, rfl⟩

mutual
theorem sameShape_mapStrings (f : List UInt8 → List UInt8) : ∀ v : Prim R, SameShape (mapStrings f v) v
  | .str s => ⟨by simp [mapStrings, KeysDistinct], by simp [mapStrings, namesUtf8], by simp [mapStrings, vdepth],
      by simp [mapStrings, need], by simp [mapStrings, needsBnd], by simp [mapStrings, flagOf]⟩
  | .stream info inner => by
      have h := sameShapeE_mapStrings f info
      exact ⟨by simp [mapStrings, KeysDistinct, h.kd, h.ks], by simp [mapStrings, namesUtf8, h.nu],
        by simp [mapStrings, vdepth, h.vd], by simp [mapStrings, need, h.nd], by simp [mapStrings, needsBnd],
        by simp [mapStrings, flagOf]⟩
  | .dict kvs => by
      have h := sameShapeE_mapStrings f kvs
      exact ⟨by simp [mapStrings, KeysDistinct, h.kd, h.ks], by simp [mapStrings, namesUtf8, h.nu],
        by simp [mapStrings, vdepth, h.vd], by simp [mapStrings, need, h.nd], by simp [mapStrings, needsBnd],
        by simp [mapStrings, flagOf]⟩
  | .arr xs => by
      have h := sameShapeL_mapStrings f xs
      exact ⟨by simp [mapStrings, KeysDistinct, h.kd], by simp [mapStrings, namesUtf8, h.nu],
        by simp [mapStrings, vdepth, h.vd], by simp [mapStrings, need, h.nd], by simp [mapStrings, needsBnd],
        by simp [mapStrings, flagOf]⟩
  | .null => .refl _
  | .int _ => .refl _
  | .real _ => .refl _
  | .bool _ => .refl _
  | .ref _ _ => .refl _
  | .name _ => .refl _
theorem sameShapeL_mapStrings (f : List UInt8 → List UInt8) : ∀ xs : List (Prim R), SameShapeL (mapStringsL f xs) xs
  | [] => ⟨by simp [mapStringsL], by simp [mapStringsL], by simp [mapStringsL], by simp [mapStringsL]⟩
  | x :: xs => by
      have h1 := sameShape_mapStrings f x
      have h2 := sameShapeL_mapStrings f xs
      exact ⟨by simp [mapStringsL, KeysDistinctL, h1.kd, h2.kd], by simp [mapStringsL, namesUtf8L, h1.nu, h2.nu],
        by simp [mapStringsL, vdepthL, h1.vd, h2.vd], by simp [mapStringsL, needL, h1.nd, h2.nd]⟩
theorem sameShapeE_mapStrings (f : List UInt8 → List UInt8) :
    ∀ kvs : List (List UInt8 × Prim R), SameShapeE (mapStringsE f kvs) kvs
  | [] => ⟨by simp [mapStringsE], by simp [mapStringsE], by simp [mapStringsE], by simp [mapStringsE], by simp [mapStringsE]⟩
  | (k, v) :: rest => by
      have h1 := sameShape_mapStrings f v
      have h2 := sameShapeE_mapStrings f rest
      exact ⟨by simp [mapStringsE, KeysDistinctE, h1.kd, h2.kd], by simp [mapStringsE, namesUtf8E, h1.nu, h2.nu],
        by simp [mapStringsE, vdepthE, h1.vd, h2.vd], by simp [mapStringsE, needE, h1.nd, h2.nd],
        by simp [mapStringsE, keysOf] at h2 ⊢; simpa [keysOf] using h2.ks⟩
end


/-- **Encrypted spellings are read as the plaintext value**: with the context of the object `id gen` and a decryptor
    that inverts the encryptor on that object's key, `parse_with_lexer_ctx` returns `v` itself -/
theorem parseCtx_enc (env : Env R) (d e : Nat → Nat → List UInt8 → List UInt8) (id gen : Nat)
    (hinv : ∀ s, d id gen (e id gen s) = s) (v : Prim R) (txt : List UInt8) (hsp : SpellsEnc env.parseReal e id gen v txt)
    (hk : KeysDistinct v) (hu : namesUtf8 v = true) (hdepth : vdepth v ≤ maxDepth) {buf : Buf} (hsz : buf.size ≤ 2147483647)
    (g rest : List UInt8) (pos fuel : Nat) (hg : Gap g) (hs : Suffix buf pos (g ++ txt ++ rest))
    (hb : needsBnd v = true → Bnd rest) (hah : Ahead buf (pos + g.length + txt.length)) (hfuel : need v ≤ fuel)
    (flags : Nat) (hfl : flags &&& flagOf v ≠ 0) :
    parseCtx (withDec env d) buf fuel pos (some (id, gen)) flags maxDepth = .ok (v, pos + g.length + txt.length) := by
  have sh := sameShape_mapStrings (e id gen) v
  have hwf : WF (mapStrings (e id gen) v) := PdfSyntax.wf_of _ (sh.kd.mpr hk) (by rw [sh.nu]; exact hu)
  have h := parseCtx_spells (noDec env) rfl (mapStrings (e id gen) v) txt hsp hwf hsz g rest pos fuel (some (id, gen)) maxDepth flags hg
    (by rw [sh.fl]; exact hfl) hs (by rw [sh.nb]; exact hb) hah (by rw [sh.nd]; exact hfuel) (by rw [sh.vd]; exact hdepth)
  rw [parseCtx_dec, h]
  simp only [omap, decV, ctxFn, mapStrings_eq, mapStr_inverts (e id gen) (d id gen) hinv v]

/-- the same for `parse_indirect_object` with a decoder: the object is decrypted with the key of the number and
    generation in its own header -/
theorem parseIndirectObject_enc (env : Env R) (d e : Nat → Nat → List UInt8 → List UInt8) (id gen : Nat)
    (hinv : ∀ s, d id gen (e id gen s) = s) (v : Prim R) (txt : List UInt8) (hsp : SpellsEnc env.parseReal e id gen v txt)
    (hk : KeysDistinct v) (hu : namesUtf8 v = true) (hdepth : vdepth v ≤ maxDepth) {buf : Buf} (hsz : buf.size ≤ 2147483647)
    (g0 a g1 b g2 g3 g4 rest : List UInt8) (pos fuel : Nat) (hg0 : Gap g0)
    (ha : PdfSyntax.NatTok a id) (hb : PdfSyntax.NatTok b gen) (hg1 : Gap g1) (hg1ne : g1 ≠ []) (hg2 : Gap g2)
    (hg2ne : g2 ≠ []) (hid : id ≤ 18446744073709551615) (hgen : gen ≤ 18446744073709551615) (hg3 : Gap g3) (hg4 : Gap g4)
    (h : Suffix buf pos (g0 ++ a ++ g1 ++ b ++ g2 ++ kwObj ++ g3 ++ txt ++ g4 ++ kwEndobj ++ rest))
    (hb3 : Bnd (g3 ++ txt)) (hb4 : needsBnd v = true → g4 ≠ []) (hbnd : Bnd rest) (hfuel : need v ≤ fuel)
    (flags : Nat) (hfl : flags &&& flagOf v ≠ 0) :
    parseIndirectObject (withDec env d) buf fuel pos flags =
      .ok (((id, gen), v), pos + (g0 ++ a ++ g1 ++ b ++ g2 ++ kwObj ++ g3 ++ txt ++ g4 ++ kwEndobj).length) := by
  have sh := sameShape_mapStrings (e id gen) v
  have hwf : WF (mapStrings (e id gen) v) := PdfSyntax.wf_of _ (sh.kd.mpr hk) (by rw [sh.nu]; exact hu)
  have h0 := parseIndirectObject_spells (noDec env) rfl (mapStrings (e id gen) v) txt hsp hwf hsz g0 a g1 b g2 g3 g4 rest id gen pos
    fuel hg0 ha hb hg1 hg1ne hg2 hg2ne hid hgen hg3 hg4 h hb3 (by rw [sh.nb]; exact hb4) hbnd (by rw [sh.nd]; exact hfuel)
    (by rw [sh.vd]; exact hdepth) flags (by rw [sh.fl]; exact hfl)
  rw [parseIndirectObject_dec, h0]
  simp only [omap, mapStrings_eq, mapStr_inverts (e id gen) (d id gen) hinv v]


/-- **a failing decryptor ⇒ `Err`**: a string object (literal or hexadecimal, any layout) whose ciphertext the decryptor
    rejects (AES: not a multiple of the block size, bad padding) makes `parse_with_lexer_ctx` return `Err` -/
theorem parseCtx_str_decrypt_fails (env : Env R) (f : Nat → Nat → List UInt8 → Out (List UInt8)) (hdec : env.decrypt = some f)
    (id gen : Nat) (c : List UInt8) (hfail : f id gen c = .err) (txt : List UInt8) (hsp : Spells env.parseReal (.str c) txt)
    {buf : Buf} (hsz : buf.size ≤ 2147483647) (g rest : List UInt8) (pos fuel : Nat) (depth flags : Nat)
    (hfl : flags &&& Flags.string ≠ 0) (hg : Gap g) (hs : Suffix buf pos (g ++ txt ++ rest)) (hfuel : 2 ≤ fuel) :
    parseCtx env buf fuel pos (some (id, gen)) flags depth = .err := by
  obtain ⟨k, rfl⟩ : ∃ k, fuel = k + 2 := ⟨fuel - 2, by omega⟩
  have hds : decryptStr env (some (id, gen)) c = .err := by simp [decryptStr, hdec, hfail]
  apply parseCtx_of_inner_err env (k + 1) pos (some (id, gen)) flags depth hs.le
  simp only [Spells] at hsp
  rcases hsp with ⟨body, rfl, hl⟩ | ⟨body, rfl, hl⟩
  · rw [parseInner_litStr env body c g rest pos k (some (id, gen)) flags depth hfl hg hl hsz hs, hds]; rfl
  · rw [parseInner_hexStr env body c g rest pos k (some (id, gen)) flags depth hfl hg hl hsz hs, hds]; rfl


open PdfSpec (Renderable RenderableL RenderableE)

mutual
theorem renderable_mapStrings (fmt : R → List UInt8) (pr : List UInt8 → Option R) (f : List UInt8 → List UInt8) :
    ∀ v : Prim R, Renderable fmt pr v → Renderable fmt pr (mapStrings f v)
  | .str s => fun _ => by simp [mapStrings, Renderable]
  | .stream info inner => fun h => by simp [Renderable] at h
  | .dict kvs => fun h => by
      simp only [Renderable] at h; simp only [mapStrings, Renderable]; exact renderableE_mapStrings fmt pr f kvs h
  | .arr xs => fun h => by
      simp only [Renderable] at h; simp only [mapStrings, Renderable]; exact renderableL_mapStrings fmt pr f xs h
  | .null => fun h => h
  | .int i => fun h => h
  | .real r => fun h => h
  | .bool b => fun h => h
  | .ref i g => fun h => h
  | .name n => fun h => h
theorem renderableL_mapStrings (fmt : R → List UInt8) (pr : List UInt8 → Option R) (f : List UInt8 → List UInt8) :
    ∀ xs : List (Prim R), RenderableL fmt pr xs → RenderableL fmt pr (mapStringsL f xs)
  | [] => fun _ => by simp [mapStringsL, RenderableL]
  | x :: xs => fun h => by
      simp only [RenderableL] at h; simp only [mapStringsL, RenderableL]
      exact ⟨renderable_mapStrings fmt pr f x h.1, renderableL_mapStrings fmt pr f xs h.2⟩
theorem renderableE_mapStrings (fmt : R → List UInt8) (pr : List UInt8 → Option R) (f : List UInt8 → List UInt8) :
    ∀ kvs : List (List UInt8 × Prim R), RenderableE fmt pr kvs → RenderableE fmt pr (mapStringsE f kvs)
  | [] => fun _ => by simp [mapStringsE, RenderableE]
  | (k, v) :: rest => fun h => by
      simp only [RenderableE] at h; simp only [mapStringsE, RenderableE]
      exact ⟨renderable_mapStrings fmt pr f v h.1, renderableE_mapStrings fmt pr f rest h.2⟩
end


theorem mapStrE_inverts (e d : List UInt8 → List UInt8) (h : ∀ s, d (e s) = s) (kvs : List (List UInt8 × Prim R)) :
    mapStrE d (mapStrE e kvs) = kvs := by
  rw [PdfShift.mapStrE_comp]; exact PdfShift.mapStrE_id _ h kvs

theorem lengthIs_mapStringsE (env : Env R) (f : List UInt8 → List UInt8) (info : Dict R) (n : Nat)
    (h : LengthIs env info n) : LengthIs (noDec env) (mapStringsE f info) n := by
  have key : ∀ v, dictGet info kwLength = some v → dictGet (mapStringsE f info) kwLength = some (mapStrings f v) := by
    intro v hv
    rw [mapStringsE_eq, PdfShift.dictGet_mapStr, hv, mapStrings_eq]; rfl
  rcases h with h | ⟨i, g, h, hr⟩
  · left; simpa [mapStrings] using key _ h
  · right; exact ⟨i, g, by simpa [mapStrings] using key _ h, hr⟩

/-- an encrypted stream object: the strings of its dictionary are decrypted, the data range is returned as is -/
theorem parseIndirectObject_stream_enc (env : Env R) (d e : Nat → Nat → List UInt8 → List UInt8) (id gen : Nat)
    (hinv : ∀ s, d id gen (e id gen s) = s) (info : Dict R) (data txt : List UInt8)
    (hsp : PdfSyntax.SpellsStreamEnc env.parseReal e id gen info data txt) (hk : KeysDistinctE info)
    (hnd : (keysOf info).Nodup) (hu : namesUtf8E info = true) (hlen : LengthIs env info data.length)
    {buf : Buf} (hsz : buf.size ≤ 2147483647)
    (g0 a g1 b g2 g3 g4 rest : List UInt8) (pos fuel : Nat) (hg0 : Gap g0)
    (ha : PdfSyntax.NatTok a id) (hb : PdfSyntax.NatTok b gen) (hg1 : Gap g1) (hg1ne : g1 ≠ []) (hg2 : Gap g2)
    (hg2ne : g2 ≠ []) (hid : id ≤ 18446744073709551615) (hgen : gen ≤ 18446744073709551615) (hg3 : Gap g3) (hg4 : Gap g4)
    (hg4ne : g4 ≠ [])
    (h : Suffix buf pos (g0 ++ a ++ g1 ++ b ++ g2 ++ kwObj ++ g3 ++ txt ++ g4 ++ kwEndobj ++ rest))
    (hbnd : Bnd rest) (hfuel : 2 + needE info ≤ fuel) (hdepth : 1 + vdepthE info ≤ maxDepth) :
    ∃ dataPos, parseIndirectObject (withDec env d) buf fuel pos Flags.any =
        .ok (((id, gen), streamAt env info (id, gen) dataPos data.length),
          pos + (g0 ++ a ++ g1 ++ b ++ g2 ++ kwObj ++ g3 ++ txt ++ g4 ++ kwEndobj).length) ∧
      slice buf dataPos (dataPos + data.length) = data := by
  have sh := sameShapeE_mapStrings (e id gen) info
  have hwf : WFE (mapStringsE (e id gen) info) := PdfSyntax.wfE_of _ (sh.kd.mpr hk) (by rw [sh.nu]; exact hu)
  obtain ⟨dataPos, h0, hdata⟩ := parseIndirectObject_stream (noDec env) rfl (mapStringsE (e id gen) info) data txt hsp hwf
    (by rw [sh.ks]; exact hnd) (lengthIs_mapStringsE env (e id gen) info data.length hlen) hsz g0 a g1 b g2 g3 g4 rest id gen pos fuel
    hg0 ha hb hg1 hg1ne hg2 hg2ne hid hgen hg3 hg4 hg4ne h hbnd (by rw [sh.nd]; exact hfuel) (by rw [sh.vd]; exact hdepth)
    Flags.any (by decide)
  refine ⟨dataPos, ?_, hdata⟩
  rw [parseIndirectObject_dec, h0]
  simp only [omap, streamAt, mapStr, mapStringsE_eq, mapStrE_inverts (e id gen) (d id gen) hinv info]
  rfl

end PdfLex
