import PdfModel.Lemmas.Storage

/-! The invariant that ties every reachable document to the document it was loaded from, and its
    preservation by `create`, `update`, `promise`, `fulfil`, `get` (the `save` case is in
    `Lemmas/StorageSave.lean`). -/

namespace Storage
open Xref

variable {V : Type}

def rawOrStream : XRef → Bool
  | .raw .. | .stream .. => true
  | _ => false

/-- What the theorems assume about the document a history starts from (a freshly loaded file):
    nothing pending, positions inside the file, and the table dominates every older section that
    `/Prev` reaches (the well-formedness of C02: generations never increase towards older sections). -/
structure BaseOK (d0 : Doc V) (chain0 : List (List Sub)) : Prop where
  start_le : d0.st.start ≤ d0.st.len
  chain : prevChain d0.st.secs d0.st.start (d0.st.secs.length + 1) d0.tr.prev [] = .ok chain0
  pairs_entry : pairsOK (allPairs chain0)
  pairs_dom : ∀ p ∈ allPairs chain0, ∃ e, d0.st.refs[p.1]? = some e ∧ isEntry e = true ∧ gen p.2 ≤ gen e
  objs_lt : ∀ o ∈ d0.st.objs, o.off < d0.st.len
  secs_lt : ∀ s ∈ d0.st.secs, s.off < d0.st.len
  raw_lt : ∀ (j pos g : Nat), d0.st.refs[j]? = some (.raw pos g) → d0.st.start + pos < d0.st.len
  stream_lt : ∀ (j sid idx : Nat), d0.st.refs[j]? = some (.stream sid idx) → sid < d0.st.refs.length
  no_prom : ∀ e ∈ d0.st.refs, e ≠ .promised
  changes_nil : d0.st.changes = []
  cache_nil : d0.st.cache = []

/-- What every document `d` reached from the loaded `d0` satisfies. The backend only grows; a number without a pending
    value has its row of `d0` (or is a promised slot allocated since); a number with one has that row or — `∃ pos, … .raw pos g`
    — a direct row set by the loop of a `save`, which a save failing midway leaves in place. `cache_ok` speaks of values
    only: allocating a slot turns one kind of failed read into another (`resolve_alloc`), so cached errors may be stale. -/
structure Inv (d0 d : Doc V) : Prop where
  tr_eq : d.tr = d0.tr
  start_eq : d.st.start = d0.st.start
  len_ge : d0.st.len ≤ d.st.len
  objs_ext : ∃ ext, d.st.objs = d0.st.objs ++ ext ∧ ∀ o ∈ ext, d0.st.len ≤ o.off
  secs_ext : ∃ ext, d.st.secs = d0.st.secs ++ ext ∧ ∀ s ∈ ext, d0.st.len ≤ s.off
  objs_lt : ∀ o ∈ d.st.objs, o.off < d.st.len
  secs_lt : ∀ s ∈ d.st.secs, s.off < d.st.len
  refs_len : d0.st.refs.length ≤ d.st.refs.length
  sorted : Sorted d.st.changes
  refs_old : ∀ j : Nat, j < d0.st.refs.length → chLookup d.st.changes j = none → d.st.refs[j]? = d0.st.refs[j]?
  refs_new : ∀ j : Nat, d0.st.refs.length ≤ j → j < d.st.refs.length → chLookup d.st.changes j = none →
      d.st.refs[j]? = some .promised
  ch_lt : ∀ (j : Nat) (x : V × Nat), chLookup d.st.changes j = some x → j < d.st.refs.length
  ch_old : ∀ (j : Nat) (v : V) (g : Nat), chLookup d.st.changes j = some (v, g) → j < d0.st.refs.length →
      ∃ e, d0.st.refs[j]? = some e ∧ rawOrStream e = true ∧ g = gen e ∧
        (d.st.refs[j]? = some e ∨ ∃ pos, d.st.refs[j]? = some (.raw pos g))
  ch_new : ∀ (j : Nat) (v : V) (g : Nat), chLookup d.st.changes j = some (v, g) → d0.st.refs.length ≤ j →
      g = 0 ∧ (d.st.refs[j]? = some .promised ∨ ∃ pos, d.st.refs[j]? = some (.raw pos 0))
  cache_ok : ∀ (id : Nat) (r : Rd V), cacheLookup d.st.cache id = some r →
      ∀ v, r = .val v ↔ resolve d.st id = .val v

theorem inv_base (d0 : Doc V) (chain0) (hb : BaseOK d0 chain0) : Inv d0 d0 where
  tr_eq := rfl
  start_eq := rfl
  len_ge := Nat.le_refl _
  objs_ext := ⟨[], by simp⟩
  secs_ext := ⟨[], by simp⟩
  objs_lt := hb.objs_lt
  secs_lt := hb.secs_lt
  refs_len := Nat.le_refl _
  sorted := by rw [hb.changes_nil]; trivial
  refs_old := fun _ _ _ => rfl
  refs_new := fun j h1 h2 _ => by omega
  ch_lt := fun j x h => by rw [hb.changes_nil] at h; simp [chLookup] at h
  ch_old := fun j v g h => by rw [hb.changes_nil] at h; simp [chLookup] at h
  ch_new := fun j v g h => by rw [hb.changes_nil] at h; simp [chLookup] at h
  cache_ok := fun id r h => by rw [hb.cache_nil] at h; simp [cacheLookup] at h

/-! ### reads only look at `changes`, `refs`, `objs`, `start` -/

theorem resolve_changed (st : St V) (id : Nat) (v : V) (g : Nat) (h : chLookup st.changes id = some (v, g)) :
    resolve st id = .val v := by
  simp [resolve, h]

theorem resolve_congr (st st' : St V) (hch : st'.changes = st.changes) (hobjs : st'.objs = st.objs)
    (hstart : st'.start = st.start)
    (hrefs : ∀ j : Nat, chLookup st.changes j = none → st'.refs[j]? = st.refs[j]?) :
    ∀ j, resolve st' j = resolve st j := by
  intro j
  simp only [resolve, hch]
  cases hc : chLookup st.changes j with
  | some x => rfl
  | none =>
    simp only
    rw [hrefs j hc]
    cases st.refs[j]? with
    | none => rfl
    | some e =>
      cases e with
      | raw pos g => simp [readAt, hobjs, hstart]
      | stream sid idx =>
        simp only [readCompressed, hch]
        cases hs : chLookup st.changes sid with
        | some x => rfl
        | none => simp only; rw [hrefs sid hs, hobjs, hstart]
      | free n g => rfl
      | promised => rfl
      | invalid => rfl

/-- appending a promised slot changes no read that returned a value (a number that did not exist
    before now reads as an error of another kind) -/
theorem resolve_alloc (st : St V) (j : Nat) (v : V) :
    resolve { st with refs := st.refs ++ [.promised] } j = .val v ↔ resolve st j = .val v := by
  -- a row is as before, or is the new slot
  have key : ∀ k : Nat, (st.refs ++ [XRef.promised])[k]? = st.refs[k]? ∨
      (st.refs[k]? = none ∧ (st.refs ++ [XRef.promised])[k]? = some .promised) := by
    intro k
    rcases Nat.lt_trichotomy k st.refs.length with h | rfl | h
    · exact Or.inl (List.getElem?_append_left h)
    · exact Or.inr ⟨List.getElem?_eq_none (Nat.le_refl _), List.getElem?_concat_length⟩
    · exact Or.inl (by rw [List.getElem?_eq_none (by simp; omega), List.getElem?_eq_none (Nat.le_of_lt h)])
  simp only [resolve]
  cases chLookup st.changes j with
  | some x => exact Iff.rfl
  | none =>
    simp only
    rcases key j with h | ⟨h1, h2⟩
    · rw [h]
      cases st.refs[j]? with
      | none => exact Iff.rfl
      | some e =>
        cases e with
        | stream sid idx =>
          simp only [readCompressed]
          cases chLookup st.changes sid with
          | some x => exact Iff.rfl
          | none =>
            simp only
            rcases key sid with h | ⟨h1, h2⟩
            · rw [h]
            · rw [h1, h2]; simp
        | _ => exact Iff.rfl
    · rw [h1, h2]; simp

/-! ### preservation -/

theorem inv_alloc (d0 d : Doc V) (hi : Inv d0 d) :
    Inv d0 { d with st := { d.st with refs := d.st.refs ++ [.promised] } } := by
  have hget : ∀ j, j < d.st.refs.length → (d.st.refs ++ [XRef.promised])[j]? = d.st.refs[j]? := fun j hj =>
    List.getElem?_append_left hj
  have hle : d.st.refs.length ≤ (d.st.refs ++ [XRef.promised]).length := by simp
  refine { hi with refs_len := Nat.le_trans hi.refs_len hle, refs_old := ?_, refs_new := ?_, ch_lt := ?_,
                   ch_old := ?_, ch_new := ?_, cache_ok := ?_ }
  · intro j hj hc
    exact (hget j (Nat.lt_of_lt_of_le hj hi.refs_len)).trans (hi.refs_old j hj hc)
  · intro j hj hlt hc
    by_cases h : j < d.st.refs.length
    · exact (hget j h).trans (hi.refs_new j hj h hc)
    · have : j = d.st.refs.length := by
        simp only [List.length_append, List.length_singleton] at hlt; omega
      subst this; exact List.getElem?_concat_length
  · intro j x h
    exact Nat.lt_of_lt_of_le (hi.ch_lt j x h) hle
  · intro j v g h hj
    have := hi.ch_old j v g h hj
    rwa [← hget j (hi.ch_lt j _ h)] at this
  · intro j v g h hj
    have := hi.ch_new j v g h hj
    rwa [← hget j (hi.ch_lt j _ h)] at this
  · intro id r h v
    rw [hi.cache_ok id r h v]
    exact (resolve_alloc d.st id v).symm

/-- the inverse of `inv_alloc`: a trailing promised slot without a pending value is withdrawn -/
theorem inv_dropLast (d0 d : Doc V) (hi : Inv d0 d) (r : List XRef) (hr : d.st.refs = r ++ [.promised])
    (hlen : d0.st.refs.length ≤ r.length) (hfree : chLookup d.st.changes r.length = none) :
    Inv d0 ⟨{ d.st with refs := r }, d.tr⟩ := by
  have hl : d.st.refs.length = r.length + 1 := by rw [hr, List.length_append]; rfl
  have hget : ∀ j : Nat, j < r.length → d.st.refs[j]? = r[j]? := fun j hj => by
    rw [hr]; exact List.getElem?_append_left hj
  have hlt : ∀ (j : Nat) (x : V × Nat), chLookup d.st.changes j = some x → j < r.length := fun j x hc => by
    have h1 := hi.ch_lt j x hc
    have h2 : j ≠ r.length := fun h => by rw [h, hfree] at hc; cases hc
    omega
  refine { hi with refs_len := hlen, refs_old := ?_, refs_new := ?_, ch_lt := hlt, ch_old := ?_, ch_new := ?_, cache_ok := ?_ }
  · intro j hj hc
    exact (hget j (Nat.lt_of_lt_of_le hj hlen)).symm.trans (hi.refs_old j hj hc)
  · intro j hj hl' hc
    exact (hget j hl').symm.trans (hi.refs_new j hj (hl ▸ Nat.lt_succ_of_lt hl') hc)
  · intro j v g hc hj
    have := hi.ch_old j v g hc hj
    rwa [hget j (hlt j _ hc)] at this
  · intro j v g hc hj
    have := hi.ch_new j v g hc hj
    rwa [hget j (hlt j _ hc)] at this
  · intro id x hc v
    rw [hi.cache_ok id x hc v, ← resolve_alloc ({ d.st with refs := r } : St V) id v]
    show _ ↔ resolve { d.st with refs := r ++ [.promised] } id = .val v
    rw [← hr]

/-- the loop of `save`: the table may change where a number has a pending value — to a direct entry of the same
    generation — and nowhere else -/
theorem inv_refs (d0 d : Doc V) (hi : Inv d0 d) (R : List XRef) (hlen : R.length = d.st.refs.length)
    (hrow : ∀ j : Nat, R[j]? = d.st.refs[j]? ∨
      ∃ v g pos, chLookup d.st.changes j = some (v, g) ∧ R[j]? = some (.raw pos g)) :
    Inv d0 ⟨{ d.st with refs := R }, d.tr⟩ := by
  have hkeep : ∀ j : Nat, chLookup d.st.changes j = none → R[j]? = d.st.refs[j]? := fun j hc => by
    rcases hrow j with h | ⟨_, _, _, hc', _⟩
    · exact h
    · rw [hc] at hc'; cases hc'
  have hmoved : ∀ (j : Nat) (v : V) (g : Nat), chLookup d.st.changes j = some (v, g) →
      R[j]? = d.st.refs[j]? ∨ ∃ pos, R[j]? = some (.raw pos g) := fun j v g hc => by
    rcases hrow j with h | ⟨_, _, pos, hc', h⟩
    · exact Or.inl h
    · rw [hc] at hc'; cases hc'; exact Or.inr ⟨pos, h⟩
  refine { hi with refs_len := hlen ▸ hi.refs_len, refs_old := ?_, refs_new := ?_, ch_lt := ?_, ch_old := ?_,
                   ch_new := ?_, cache_ok := ?_ }
  · intro j hj hc
    exact (hkeep j hc).trans (hi.refs_old j hj hc)
  · intro j hj hl hc
    exact (hkeep j hc).trans (hi.refs_new j hj (hlen ▸ hl) hc)
  · intro j x hc
    exact hlen ▸ hi.ch_lt j x hc
  · intro j v g hc hj
    obtain ⟨e, a, b, c, dd⟩ := hi.ch_old j v g hc hj
    refine ⟨e, a, b, c, ?_⟩
    rcases hmoved j v g hc with h | h
    · rw [h]; exact dd
    · exact Or.inr h
  · intro j v g hc hj
    obtain ⟨a, b⟩ := hi.ch_new j v g hc hj
    refine ⟨a, ?_⟩
    rcases hmoved j v g hc with h | h
    · rw [h]; exact b
    · exact Or.inr (a ▸ h)
  · intro id x hc v
    rw [hi.cache_ok id x hc v, resolve_congr d.st { d.st with refs := R } rfl rfl rfl hkeep id]

/-- records and sections appended behind the end of the backend (nothing is cached) -/
theorem inv_grow (d0 d : Doc V) (hi : Inv d0 d) (hc : d.st.cache = []) (objs eo : List (Obj V)) (secs es : List Sec)
    (len sx : Nat) (hobjs : objs = d.st.objs ++ eo) (hsecs : secs = d.st.secs ++ es)
    (ho : ∀ o ∈ eo, d.st.len ≤ o.off ∧ o.off < len) (hs : ∀ s ∈ es, d.st.len ≤ s.off ∧ s.off < len)
    (hlen : d.st.len ≤ len) :
    Inv d0 ⟨{ d.st with objs := objs, secs := secs, len := len, startxref := sx }, d.tr⟩ := by
  refine { hi with len_ge := Nat.le_trans hi.len_ge hlen, objs_ext := ?_, secs_ext := ?_, objs_lt := ?_,
                   secs_lt := ?_, cache_ok := ?_ }
  · obtain ⟨e0, a, b⟩ := hi.objs_ext
    refine ⟨e0 ++ eo, by rw [hobjs, a, List.append_assoc], fun o h => ?_⟩
    rcases List.mem_append.mp h with h | h
    · exact b o h
    · exact Nat.le_trans hi.len_ge (ho o h).1
  · obtain ⟨e0, a, b⟩ := hi.secs_ext
    refine ⟨e0 ++ es, by rw [hsecs, a, List.append_assoc], fun o h => ?_⟩
    rcases List.mem_append.mp h with h | h
    · exact b o h
    · exact Nat.le_trans hi.len_ge (hs o h).1
  · intro o h
    rw [hobjs] at h
    rcases List.mem_append.mp h with h | h
    · exact Nat.lt_of_lt_of_le (hi.objs_lt o h) hlen
    · exact (ho o h).2
  · intro o h
    rw [hsecs] at h
    rcases List.mem_append.mp h with h | h
    · exact Nat.lt_of_lt_of_le (hi.secs_lt o h) hlen
    · exact (hs o h).2
  · intro id x h
    rw [hc] at h; cases h

/-- replacing / adding the pending value of a number whose slot admits it; the cache is dropped -/
theorem inv_put (d0 d : Doc V) (chain0) (hb : BaseOK d0 chain0) (hi : Inv d0 d) (id : Nat) (v : V) (e : XRef)
    (he : d.st.refs[id]? = some e) (hk : e = .promised ∨ rawOrStream e = true) :
    Inv d0 { d with st := { d.st with
      changes := chInsert d.st.changes id (v, match e with | .raw _ g => g | _ => 0), cache := [] } } := by
  have hlt : id < d.st.refs.length := (List.getElem?_eq_some_iff.mp he).1
  refine { hi with sorted := sorted_chInsert _ _ _ hi.sorted, refs_old := ?_, refs_new := ?_, ch_lt := ?_,
                   ch_old := ?_, ch_new := ?_, cache_ok := nofun }
  · intro j hj hc
    rw [chLookup_chInsert] at hc
    split at hc
    · cases hc
    · exact hi.refs_old j hj hc
  · intro j hj hl hc
    rw [chLookup_chInsert] at hc
    split at hc
    · cases hc
    · exact hi.refs_new j hj hl hc
  · intro j x hc
    rw [chLookup_chInsert] at hc
    split at hc
    · subst_vars; exact hlt
    · exact hi.ch_lt j x hc
  · intro j v' g' hc hj
    rw [chLookup_chInsert] at hc
    split at hc
    · rename_i hji
      subst hji
      cases hc
      cases hprev : chLookup d.st.changes j with
      | none =>
        have h0 := (hi.refs_old j hj hprev).symm.trans he
        have hrs : rawOrStream e = true :=
          hk.resolve_left (hb.no_prom e (List.mem_of_getElem? h0))
        refine ⟨e, h0, hrs, ?_, Or.inl he⟩
        cases e <;> first | rfl | cases hrs
      | some x =>
        obtain ⟨v1, g1⟩ := x
        obtain ⟨e0, a, b, c, dd⟩ := hi.ch_old j v1 g1 hprev hj
        rcases dd with dd | ⟨pos, dd⟩
        · cases he.symm.trans dd
          refine ⟨e, a, b, ?_, Or.inl he⟩
          cases e <;> first | rfl | cases b
        · cases he.symm.trans dd
          exact ⟨e0, a, b, c, Or.inr ⟨pos, he⟩⟩
    · exact hi.ch_old j v' g' hc hj
  · intro j v' g' hc hj
    rw [chLookup_chInsert] at hc
    split at hc
    · rename_i hji
      subst hji
      cases hc
      cases hprev : chLookup d.st.changes j with
      | none =>
        cases he.symm.trans (hi.refs_new j hj hlt hprev)
        exact ⟨rfl, Or.inl he⟩
      | some x =>
        obtain ⟨v1, g1⟩ := x
        obtain ⟨a, b⟩ := hi.ch_new j v1 g1 hprev hj
        rcases b with b | ⟨pos, b⟩
        · cases he.symm.trans b; exact ⟨rfl, Or.inl he⟩
        · cases he.symm.trans b; exact ⟨rfl, Or.inr ⟨pos, he⟩⟩
    · exact hi.ch_new j v' g' hc hj

theorem inv_create (d0 d : Doc V) (chain0) (hb : BaseOK d0 chain0) (hi : Inv d0 d) (v : V) :
    Inv d0 { d with st := (create d.st v).1 } := by
  have h1 := inv_alloc d0 d hi
  have h2 := inv_put d0 _ chain0 hb h1 d.st.refs.length v .promised (by simp) (Or.inl rfl)
  simpa [create, alloc] using h2

theorem inv_promise (d0 d : Doc V) (hi : Inv d0 d) : Inv d0 { d with st := (promise d.st).1 } := by
  simpa [promise, alloc] using inv_alloc d0 d hi

theorem inv_update (d0 d : Doc V) (chain0) (hb : BaseOK d0 chain0) (hi : Inv d0 d) (id : Nat) (v : V) :
    Inv d0 { d with st := (update d.st id v).1 } := by
  simp only [update]
  cases he : d.st.refs[id]? with
  | none => simpa using hi
  | some e =>
    cases e with
    | free n g => simpa using hi
    | invalid => simpa using hi
    | raw pos g => simpa using inv_put d0 d chain0 hb hi id v (.raw pos g) he (Or.inr rfl)
    | stream s i => simpa using inv_put d0 d chain0 hb hi id v (.stream s i) he (Or.inr rfl)
    | promised => simpa using inv_put d0 d chain0 hb hi id v .promised he (Or.inl rfl)

theorem inv_get (d0 d : Doc V) (hi : Inv d0 d) (id : Nat) : Inv d0 { d with st := (get d.st id).1 } := by
  simp only [get]
  split
  · split
    · simpa using hi
    · rename_i hmiss
      refine { hi with cache_ok := ?_ }
      intro id' r h v
      simp only [cacheLookup] at h
      split at h
      · simp only [Option.some.injEq] at h; subst h; subst_vars
        exact ⟨fun h => h, fun h => h⟩
      · exact hi.cache_ok id' r h v
  · simpa using hi

/-! ### reads of numbers that have no pending value -/

theorem objAt_base (d0 d : Doc V) (hi : Inv d0 d) (off : Nat) (h : off < d0.st.len) :
    objAt d.st.objs off = objAt d0.st.objs off := by
  obtain ⟨ext, a, b⟩ := hi.objs_ext
  rw [a, objAt_append_old]
  intro o ho; have := b o ho; omega

/-- numbers of the original table without a pending value read as in the original document, unless they live in
    an object stream that has itself been given a pending value -/
theorem resolve_untouched (d0 d : Doc V) (chain0) (hb : BaseOK d0 chain0) (hi : Inv d0 d) (j : Nat)
    (hj : j < d0.st.refs.length) (hc : chLookup d.st.changes j = none)
    (hcont : ∀ sid idx, d0.st.refs[j]? = some (.stream sid idx) → chLookup d.st.changes sid = none) :
    resolve d.st j = resolve d0.st j := by
  have h0 : ∀ k, chLookup d0.st.changes k = none := fun k => by rw [hb.changes_nil]; rfl
  simp only [resolve, hc, h0]
  rw [hi.refs_old j hj hc]
  cases he : d0.st.refs[j]? with
  | none => rfl
  | some e =>
    cases e with
    | raw pos g =>
      simp only [readAt, hi.start_eq]
      rw [objAt_base d0 d hi _ (hb.raw_lt j pos g he)]
    | stream sid idx =>
      simp only [readCompressed, h0, hcont sid idx he]
      rw [hi.refs_old sid (hb.stream_lt j sid idx he) (hcont sid idx he)]
      cases he2 : d0.st.refs[sid]? with
      | none => rfl
      | some e2 =>
        cases e2 with
        | raw pos g =>
          simp only [hi.start_eq]
          rw [objAt_base d0 d hi _ (hb.raw_lt sid pos g he2)]
        | _ => rfl
    | _ => rfl

/-- a value read under a number without a pending value is a value of the original document: numbers allocated
    since are unfulfilled promises, and a pending value for the container makes its members unreadable -/
theorem resolve_val_old (d0 d : Doc V) (chain0) (hb : BaseOK d0 chain0) (hi : Inv d0 d) (j : Nat) (v : V)
    (hc : chLookup d.st.changes j = none) (hv : resolve d.st j = .val v) :
    j < d0.st.refs.length ∧
    (∀ sid idx, d0.st.refs[j]? = some (.stream sid idx) → chLookup d.st.changes sid = none) ∧
    resolve d0.st j = .val v := by
  have hj : j < d0.st.refs.length := by
    refine Nat.lt_of_not_le fun hge => ?_
    simp only [resolve, hc] at hv
    by_cases hlt : j < d.st.refs.length
    · rw [hi.refs_new j hge hlt hc] at hv; cases hv
    · rw [List.getElem?_eq_none (Nat.le_of_not_lt hlt)] at hv; cases hv
  have hcont : ∀ sid idx, d0.st.refs[j]? = some (.stream sid idx) → chLookup d.st.changes sid = none := by
    intro sid idx he
    cases hs : chLookup d.st.changes sid with
    | none => rfl
    | some x =>
      simp only [resolve, hc] at hv
      rw [hi.refs_old j hj hc, he] at hv
      simp only [readCompressed, hs] at hv
      cases hv
  exact ⟨hj, hcont, resolve_untouched d0 d chain0 hb hi j hj hc hcont ▸ hv⟩

/-! ### `Trailer::from_dict` -/

theorem loadTrailer_ok (st : St V) (root : Nat × Nat) (info : Option Nat) (prev : Option Nat) (tr : Trailer V)
    (h : loadTrailer st root info prev = .ok tr) :
    tr.root = root ∧ tr.prev = prev ∧ (∃ v, resolve st root.1 = .val v) ∧ (info = none → tr.info = none) ∧
    (∀ i v, info = some i → resolve st i = .val v → tr.info = some v) := by
  unfold loadTrailer at h
  split at h
  · rename_i v hv
    cases info with
    | none => cases h; exact ⟨rfl, rfl, ⟨v, hv⟩, fun _ => rfl, nofun⟩
    | some ii =>
      simp only at h
      split at h <;> cases h
      -- left: `/Info` read a value, a free entry, a null; only in the first can `resolve st i` be a value
      all_goals
        refine ⟨rfl, rfl, ⟨v, hv⟩, nofun, fun i v2 hi hv2 => ?_⟩
        cases hi
        rename_i hr
        rw [hr] at hv2
        cases hv2
      rfl
  · cases h

theorem trailer_ext (a b : Trailer V) (h1 : a.root = b.root) (h2 : a.info = b.info) (h3 : a.prev = b.prev) : a = b := by
  cases a; cases b; cases h1; cases h2; cases h3; rfl

theorem loadTrailer_total (st : St V) (root : Nat × Nat) (info : Option Nat) (prev : Option Nat) :
    loadTrailer st root info prev ≠ .panic ∧ loadTrailer st root info prev ≠ .oof := by
  unfold loadTrailer
  cases resolve st root.1 <;> cases info <;> simp
  all_goals (rename_i i; cases resolve st i <;> simp)

end Storage
