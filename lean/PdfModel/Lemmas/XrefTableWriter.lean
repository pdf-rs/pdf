import PdfModel.Lemmas.Render
import PdfModel.Spec.XrefTable

/-! The executable table writer of `Spec/XrefTable` only produces texts that the relation `TableText`
    permits, whatever the tape; the fixed 20-byte entry format of ISO 32000-1 §7.5.4 is an instance of
    `EntryText`, and the writer's entries have that format whenever the numbers fit their fields. -/

namespace XrefTableSpec
open PdfSyntax (Gap Bnd NatTok Digits digitsVal isDig Spells)
open PdfSpec (Tape draw gap natTok zeros gap_spec natTok_conformant digitsVal_zeros zeros_digits)
open PdfLex (fmtNat fmtNat_spec gap_append Prim Dict)
open Xref

/-! ### digits -/

theorem dig_le9 (b : UInt8) (h : isDig b = true) : b.toNat - 48 ≤ 9 := by
  have : b.toNat ≤ 57 := UInt8.le_iff_toNat_le.1 (by simp [isDig] at h; exact h.2)
  omega

theorem foldl_digits_lt (ds : List UInt8) (h : Digits ds) :
    ∀ acc, ds.foldl (fun a d => a * 10 + (d.toNat - 48)) acc < (acc + 1) * 10 ^ ds.length := by
  induction ds with
  | nil => intro acc; simp
  | cons d ds ih =>
    intro acc
    have hd := dig_le9 d (h d (by simp))
    have := ih (fun b hb => h b (by simp [hb])) (acc * 10 + (d.toNat - 48))
    simp only [List.foldl_cons, List.length_cons]
    have h2 : (acc * 10 + (d.toNat - 48) + 1) * 10 ^ ds.length ≤ ((acc + 1) * 10) * 10 ^ ds.length :=
      Nat.mul_le_mul_right _ (by omega)
    have h3 : (acc + 1) * 10 * 10 ^ ds.length = (acc + 1) * 10 ^ (ds.length + 1) := by
      rw [Nat.pow_succ, Nat.mul_assoc, Nat.mul_comm 10]
    omega

theorem digitsVal_lt (ds : List UInt8) (h : Digits ds) : digitsVal ds < 10 ^ ds.length := by
  have := foldl_digits_lt ds h 0
  simpa [digitsVal] using this

theorem zeros_length (k : Nat) : (zeros k).length = k := by
  induction k with
  | zero => rfl
  | succ k ih => simp [zeros, ih]

theorem natDigitsAux_length (fuel : Nat) :
    ∀ (n w : Nat) (acc : List UInt8), n < 10 ^ w → 1 ≤ w →
      (PdfLex.natDigitsAux fuel n acc).length ≤ acc.length + w := by
  induction fuel with
  | zero => intro n w acc _ _; simp [PdfLex.natDigitsAux]
  | succ f ih =>
    intro n w acc hn hw
    obtain ⟨w, rfl⟩ : ∃ v, w = v + 1 := ⟨w - 1, by omega⟩
    rw [Nat.pow_succ] at hn
    simp only [PdfLex.natDigitsAux]
    split
    · simp only [List.length_cons]; omega
    · -- `10 ≤ n < 10 ^ w * 10`: one digit fewer is left for `n / 10`
      have := ih (n / 10) w (PdfLex.digitByte (n % 10) :: acc) (by omega) (by rcases w with _ | w <;> omega)
      simp only [List.length_cons] at this; omega

theorem fmtNat_length (n w : Nat) (hn : n < 10 ^ w) (hw : 1 ≤ w) : (fmtNat n).length ≤ w := by
  have := natDigitsAux_length (n + 1) n w [] hn hw
  simpa [fmtNat] using this

theorem pad_natTok (w n : Nat) : NatTok (pad w n) n := by
  obtain ⟨hne, hd, hv⟩ := fmtNat_spec n
  unfold pad
  simp only []
  refine ⟨by simp [hne], ?_, ?_⟩
  · intro b hb; simp at hb; rcases hb with hb | hb
    · exact zeros_digits _ b hb
    · exact hd b hb
  · rw [digitsVal_zeros, hv]

theorem pad_length (w n : Nat) (hn : n < 10 ^ w) (hw : 1 ≤ w) : (pad w n).length = w := by
  have := fmtNat_length n w hn hw
  unfold pad
  simp [zeros_length]; omega

/-! ### entries -/

theorem sep_sp : Sep [32] := ⟨Gap.ws 32 [] (by decide) Gap.nil, by simp⟩

theorem sep_gap (t : Tape) : Sep (gap true t).1 := ⟨(gap_spec true t).1, (gap_spec true t).2 rfl⟩

theorem eol2_sep (e : List UInt8) (h : Eol2 e) : Sep e := by
  rcases h with rfl | rfl | rfl
  · exact ⟨Gap.ws 32 _ (by decide) (Gap.ws 13 [] (by decide) Gap.nil), by simp⟩
  · exact ⟨Gap.ws 32 _ (by decide) (Gap.ws 10 [] (by decide) Gap.nil), by simp⟩
  · exact ⟨Gap.ws 13 _ (by decide) (Gap.ws 10 [] (by decide) Gap.nil), by simp⟩

theorem eolBytes_eol2 (k : Nat) : Eol2 (eolBytes k) := by
  unfold eolBytes Eol2
  split
  · exact Or.inl rfl
  · split
    · exact Or.inr (Or.inl rfl)
    · exact Or.inr (Or.inr rfl)

/-- both kinds of entry in the single-space layout of the 20-byte format -/
theorem entryText_sp {a b eol : List UInt8} {x y : Nat} (ha : NatTok a x) (hb : NatTok b y) (he : Eol2 eol)
    (hx : x ≤ u64Max) (hy : y ≤ u64Max) :
    EntryText (.raw x y) (a ++ 32 :: b ++ 32 :: 110 :: eol) ∧ EntryText (.free x y) (a ++ 32 :: b ++ 32 :: 102 :: eol) := by
  have h1 := EntryText.inuse a [32] b [32] eol x y ha hb sep_sp sep_sp (eol2_sep eol he) hx hy
  have h2 := EntryText.free a [32] b [32] eol x y ha hb sep_sp sep_sp (eol2_sep eol he) hx hy
  exact ⟨by simpa using h1, by simpa using h2⟩

/-- **The 20-byte entry** `nnnnnnnnnn ggggg n eol` / `… f eol` with eol ∈ {SP CR, SP LF, CR LF} is an
    instance of `EntryText` (so the reader theorems cover it), and it is 20 bytes long. -/
theorem strict_entry_conformant (e : XRef) (t : List UInt8) (h : StrictEntry e t) :
    EntryText e t ∧ t.length = 20 := by
  obtain ⟨a, b, eol, hla, hlb, hda, hdb, heol, h⟩ := h
  have hane : a ≠ [] := by intro h0; simp [h0] at hla
  have hbne : b ≠ [] := by intro h0; simp [h0] at hlb
  have hva : digitsVal a ≤ u64Max := by
    have := digitsVal_lt a hda; rw [hla] at this; unfold u64Max; omega
  have hvb : digitsVal b ≤ u64Max := by
    have := digitsVal_lt b hdb; rw [hlb] at this; unfold u64Max; omega
  have hl : eol.length = 2 := by rcases heol with rfl | rfl | rfl <;> rfl
  have hlen : ∀ kw : UInt8, (a ++ 32 :: b ++ 32 :: kw :: eol).length = 20 := by intro kw; simp [hla, hlb, hl]
  have ht := entryText_sp ⟨hane, hda, rfl⟩ ⟨hbne, hdb, rfl⟩ heol hva hvb
  rcases h with ⟨rfl, rfl⟩ | ⟨rfl, rfl⟩
  · exact ⟨ht.1, hlen _⟩
  · exact ⟨ht.2, hlen _⟩

/-- entries a classic table can hold, with fields that fit the reader's integer types -/
def Writable : XRef → Prop
  | .raw p g => p ≤ u64Max ∧ g ≤ u64Max
  | .free n g => n ≤ u64Max ∧ g ≤ u64Max
  | _ => False

instance (e : XRef) : Decidable (Writable e) := by cases e <;> unfold Writable <;> infer_instance

theorem entryBytes_text (e : XRef) (k : Nat) (h : Writable e) : EntryText e (entryBytes e k) := by
  cases e with
  | raw p g => exact (entryText_sp (pad_natTok 10 p) (pad_natTok 5 g) (eolBytes_eol2 k) h.1 h.2).1
  | free n g => exact (entryText_sp (pad_natTok 10 n) (pad_natTok 5 g) (eolBytes_eol2 k) h.1 h.2).2
  | _ => cases h

/-- the writer's entry has the fixed format whenever offset and generation fit 10 and 5 digits -/
theorem entryBytes_strict (e : XRef) (k : Nat)
    (h : match e with
      | .raw p g => p < 10 ^ 10 ∧ g < 10 ^ 5
      | .free n g => n < 10 ^ 10 ∧ g < 10 ^ 5
      | _ => False) :
    StrictEntry e (entryBytes e k) := by
  cases e with
  | raw p g =>
    exact ⟨_, _, _, pad_length 10 p h.1 (by omega), pad_length 5 g h.2 (by omega), (pad_natTok 10 p).2.1,
      (pad_natTok 5 g).2.1, eolBytes_eol2 k, .inl ⟨by rw [(pad_natTok 10 p).2.2, (pad_natTok 5 g).2.2], rfl⟩⟩
  | free n g =>
    exact ⟨_, _, _, pad_length 10 n h.1 (by omega), pad_length 5 g h.2 (by omega), (pad_natTok 10 n).2.1,
      (pad_natTok 5 g).2.1, eolBytes_eol2 k, .inr ⟨by rw [(pad_natTok 10 n).2.2, (pad_natTok 5 g).2.2], rfl⟩⟩
  | _ => cases h

theorem sep_append_gap {g g' : List UInt8} (h : Sep g) (hg : Gap g') : Sep (g ++ g') :=
  ⟨gap_append h.1 hg, by intro h0; exact h.2 (List.append_eq_nil_iff.mp h0).1⟩

/-- a gap behind an entry belongs to the separator behind its keyword -/
theorem entryText_append_gap (e : XRef) (t g : List UInt8) (h : EntryText e t) (hg : Gap g) : EntryText e (t ++ g) := by
  cases h with
  | inuse a g1 b g2 g3 pos gen ha hb h1 h2 h3 hx hy =>
    have := EntryText.inuse a g1 b g2 (g3 ++ g) pos gen ha hb h1 h2 (sep_append_gap h3 hg) hx hy
    simpa using this
  | free a g1 b g2 g3 nxt gen ha hb h1 h2 h3 hx hy =>
    have := EntryText.free a g1 b g2 (g3 ++ g) nxt gen ha hb h1 h2 (sep_append_gap h3 hg) hx hy
    simpa using this

theorem entriesText_append_gap (es : List XRef) (body g : List UInt8) (h : EntriesText es body) (hne : es ≠ [])
    (hg : Gap g) : EntriesText es (body ++ g) := by
  induction h with
  | nil => exact absurd rfl hne
  | cons e es t ts he hes ih =>
    cases es with
    | nil =>
      cases hes
      have := EntriesText.cons e [] (t ++ g) [] (entryText_append_gap e t g he hg) EntriesText.nil
      simpa using this
    | cons e' es' =>
      have := EntriesText.cons e (e' :: es') t (ts ++ g) he (ih (by simp))
      simpa using this

theorem writeEntries_text (es : List XRef) (h : ∀ e ∈ es, Writable e) :
    ∀ t : Tape, EntriesText es (writeEntries es t).1 := by
  induction es with
  | nil => intro t; exact EntriesText.nil
  | cons e es ih =>
    intro t
    simp only [writeEntries]
    exact EntriesText.cons e es _ _ (entryBytes_text e _ (h e (by simp))) (ih (fun x hx => h x (by simp [hx])) _)

/-- what the writer needs of a subsection: numbers within the reader's types, no compressed entries -/
def SubOK (s : Sub) : Prop := s.first ≤ u32Max ∧ s.entries.length ≤ u32Max ∧ ∀ e ∈ s.entries, Writable e

instance (s : Sub) : Decidable (SubOK s) := by unfold SubOK; infer_instance

theorem writeSub_text (s : Sub) (h : SubOK s) (t : Tape) : SubText s (writeSub s t).1 := by
  obtain ⟨hf, hl, hw⟩ := h
  simp only [writeSub]
  -- every piece satisfies its specification whatever the tape it starts from
  have hA := natTok_conformant s.first t
  generalize natTok s.first t = A at hA ⊢
  have hG1 := sep_gap A.2
  generalize gap true A.2 = G1 at hG1 ⊢
  have hB := natTok_conformant s.entries.length G1.2
  generalize natTok s.entries.length G1.2 = B at hB ⊢
  have hG2 := sep_gap B.2
  generalize gap true B.2 = G2 at hG2 ⊢
  have hES := writeEntries_text _ hw G2.2
  generalize writeEntries s.entries G2.2 = ES at hES ⊢
  have hG3 := (gap_spec false ES.2).1
  generalize gap false ES.2 = G3 at hG3 ⊢
  by_cases hne : s.entries = []
  · -- no entries: the optional gap belongs to the separator behind the count
    rw [hne] at hES
    cases hES' : ES.1 with
    | nil => exact ⟨A.1, G1.1, B.1, G2.1 ++ G3.1, [], by simp, hA, hB, hG1, sep_append_gap hG2 hG3, hf, hl, hne ▸ .nil⟩
    | cons c r => rw [hES'] at hES; cases hES
  · exact ⟨A.1, G1.1, B.1, G2.1, ES.1 ++ G3.1, by simp, hA, hB, hG1, hG2, hf, hl,
      entriesText_append_gap _ _ _ hES hne hG3⟩

/-- **The writer is conforming**: whatever the tape, its table is one the relation permits. -/
theorem writeTable_conformant (subs : List Sub) (h : ∀ s ∈ subs, SubOK s) :
    ∀ t : Tape, TableText subs (writeTable subs t).1 := by
  induction subs with
  | nil => intro t; exact TableText.nil
  | cons s ss ih =>
    intro t
    simp only [writeTable]
    exact TableText.cons s ss _ _ (writeSub_text s (h s (by simp)) t) (ih (fun x hx => h x (by simp [hx])) _)

variable {R : Type}

/-- a whole section: the text up to the end of the trailer dictionary is a `SectionText`, the trailer
    dictionary's text is a conformant spelling of it (C03 printer), a gap and the tail follow -/
theorem writeSection_conformant (fmt : R → List UInt8) (pr : List UInt8 → Option R) (subs : List Sub) (d : Dict R)
    (tail : List UInt8) (h : ∀ s ∈ subs, SubOK s) (hr : PdfSpec.Renderable fmt pr (.dict d)) (t : Tape) :
    ∃ sec dtxt g, (writeSection fmt subs d tail t).1 = sec ++ g ++ tail ∧ SectionText subs dtxt sec ∧
      Spells pr (.dict d) dtxt ∧ Gap g := by
  obtain ⟨dtxt, g, hrw, hsp, hg, _⟩ := PdfSpec.renderWithTail_spec fmt pr (.dict d) tail hr t
  simp only [writeSection]
  generalize PdfSpec.renderWithTail fmt (Prim.dict d) tail t = T at hrw ⊢
  have hG2 := (gap_spec false T.2).1
  generalize gap false T.2 = G2 at hG2 ⊢
  have hTB := writeTable_conformant subs h G2.2
  generalize writeTable subs G2.2 = TB at hTB ⊢
  have hG1 := sep_gap TB.2
  generalize gap true TB.2 = G1 at hG1 ⊢
  have hG0 := (gap_spec false G1.2).1
  generalize gap false G1.2 = G0 at hG0 ⊢
  exact ⟨G0.1 ++ kwXref ++ G1.1 ++ TB.1 ++ kwTrailer ++ G2.1 ++ dtxt, dtxt, g, by simp [hrw],
    ⟨G0.1, G1.1, TB.1, G2.1, rfl, hG0, hG1, hTB, hG2⟩, hsp, hg⟩

end XrefTableSpec
