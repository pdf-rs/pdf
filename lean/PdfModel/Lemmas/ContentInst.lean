import PdfModel.Lemmas.ContentSim

/-! Facts used by the statements of C08: a simple instance of the real-number interface (integers) showing
    that `RealLaws` is satisfiable and serving the non-vacuity examples and the counter-example; the domain
    of the serializer (`acceptedOp`) made explicit. -/

namespace Content

/-- the integers as "reals": every value is integral and prints as itself -/
def intOps : RealOps Int where
  beq a b := a == b
  neg a := -a
  ofInt n := n
  intDigits? r := some r
  big r := decide (r.natAbs ≥ 2147483648)
  special _ := none

theorem intLaws : RealLaws intOps where
  beq_refl := by intro r _; simp [intOps]
  beq_symm := by intro a b h; simp [intOps] at *; exact h.symm
  beq_trans := by intro a b c h1 h2; simp [intOps] at *; exact h1.trans h2
  neg_congr := by intro a b h; simp [intOps] at *; exact h
  digits_small := by intro r n _ h _; simp [intOps] at *; exact h.symm
  digits_i32 := by intro r n _ h _; simp [intOps] at *; exact h.symm

/-- integers with a second zero (`none` plays `-0`): `beq` identifies the two zeros, so numeric equality is
    strictly coarser than equality; the laws still hold -/
def zOps : RealOps (Option Int) where
  beq a b := a.getD 0 == b.getD 0
  neg a := match a with
    | none => some 0
    | some 0 => none
    | some n => some (-n)
  ofInt n := some n
  intDigits? r := some (r.getD 0)
  big r := decide ((r.getD 0).natAbs ≥ 2147483648)
  special _ := none

theorem zLaws : RealLaws zOps where
  beq_refl := by intro r _; simp [zOps]
  beq_symm := by intro a b h; simp [zOps] at *; exact h.symm
  beq_trans := by intro a b c h1 h2; simp [zOps] at *; exact h1.trans h2
  neg_congr := by
    intro a b h
    simp only [zOps, beq_iff_eq] at *
    cases a with
    | none => cases b with
      | none => rfl
      | some m =>
        have : m = 0 := by simpa using h.symm
        subst this; rfl
    | some n => cases b with
      | none =>
        have : n = 0 := by simpa using h
        subst this; rfl
      | some m =>
        have : n = m := by simpa using h
        subst this
        by_cases hn : n = 0
        · subst hn; rfl
        · simp
  digits_small := by intro r n _ h _; simp [zOps] at *; exact h.symm
  digits_i32 := by intro r n _ h _; simp [zOps] at *; exact h.symm

section
variable {R : Type} (ro : RealOps R)

mutual
theorem primWritable_of_finite : (p : Prim R) → finitePrim ro p = true → (serPrim? ro ⟨true⟩ p).isSome = true
  | .null, _ => rfl
  | .bool _, _ => rfl
  | .int _, _ => rfl
  | .real r, h => by
    have hs : ro.special r = none := by simpa [finitePrim, finiteR] using h
    simp [serPrim?, primReal?, hs]
  | .str _, _ => rfl
  | .name _, _ => rfl
  | .ref _ _, _ => rfl
  | .arr xs, h => by
    have := primsWritable_of_finite xs (by simpa [finitePrim] using h)
    simp only [serPrim?]
    cases hx : serPrims? ro ⟨true⟩ xs with
    | none => simp [hx] at this
    | some ys => rfl
  | .dict ks xs, h => by
    have := primsWritable_of_finite xs (by simpa [finitePrim] using h)
    simp only [serPrim?]
    cases hx : serPrims? ro ⟨true⟩ xs with
    | none => simp [hx] at this
    | some ys => rfl
theorem primsWritable_of_finite : (ps : List (Prim R)) → finitePrims ro ps = true →
    (serPrims? ro ⟨true⟩ ps).isSome = true
  | [], _ => rfl
  | p :: ps, h => by
    have h' : finitePrim ro p = true ∧ finitePrims ro ps = true := by simpa [finitePrims] using h
    have h1 := primWritable_of_finite p h'.1
    have h2 := primsWritable_of_finite ps h'.2
    simp only [serPrims?]
    cases hp : serPrim? ro ⟨true⟩ p with
    | none => simp [hp] at h1
    | some q =>
      cases hps : serPrims? ro ⟨true⟩ ps with
      | none => simp [hps] at h2
      | some qs => rfl
end

theorem all_writable_of_finite : (ps : List (Prim R)) → finitePrims ro ps = true →
    ps.all (primWritable ro ⟨true⟩) = true
  | [], _ => rfl
  | p :: ps, h => by
    have h' : finitePrim ro p = true ∧ finitePrims ro ps = true := by simpa [finitePrims] using h
    simp [primWritable, primWritable_of_finite ro p h'.1]
    simpa [primWritable] using all_writable_of_finite ps h'.2

/-- with D9 repaired in primitive.rs the serializer accepts every finite operation except inline images -/
theorem accepted_of_finite (op : Op R) (hf : finiteOp ro op = true) (hi : isInlineImage op = false) :
    acceptedOp ro ⟨true⟩ op = true := by
  cases op
  case inlineImage => simp [isInlineImage] at hi
  case beginMarkedContent tag p =>
    cases p with
    | none => rfl
    | some p => exact primWritable_of_finite ro p (by simpa [finiteOp, finiteProps] using hf)
  case markedContentPoint tag p =>
    cases p with
    | none => rfl
    | some p => exact primWritable_of_finite ro p (by simpa [finiteOp, finiteProps] using hf)
  case strokeColor c =>
    cases c with
    | other xs => exact all_writable_of_finite ro xs (by simpa [finiteOp, finiteColor] using hf)
    | _ => rfl
  case fillColor c =>
    cases c with
    | other xs => exact all_writable_of_finite ro xs (by simpa [finiteOp, finiteColor] using hf)
    | _ => rfl
  all_goals rfl

/-- the serializer: `Ok` unless it meets an inline image, then `Err`; never a panic, never out of fuel -/
theorem serLoop_total (cfg : Cfg) : ∀ (fuel : Nat) (ops : List (Op R)) (s : SState R), ops.length ≤ fuel →
    (ops.any isInlineImage = false → ∃ toks, serLoop ro cfg fuel s ops = .ok toks) ∧
    (ops.any isInlineImage = true → serLoop ro cfg fuel s ops = .err) := by
  intro fuel
  induction fuel with
  | zero =>
    intro ops s hl
    have : ops = [] := List.eq_nil_of_length_eq_zero (Nat.le_zero.mp hl)
    subst this
    exact ⟨fun _ => ⟨[], rfl⟩, fun h => by simp at h⟩
  | succ fuel ih =>
    intro ops s hl
    cases ops with
    | nil => exact ⟨fun _ => ⟨[], rfl⟩, fun h => by simp at h⟩
    | cons op rest =>
      obtain ⟨h1, h2⟩ := serOne_spec ro cfg s op rest
      by_cases hi : isInlineImage op = true
      · exact ⟨fun h => by simp [hi] at h, fun _ => by simp [serLoop, h1 hi]⟩
      · have hi' : isInlineImage op = false := by simpa using hi
        obtain ⟨r, hr, htake⟩ := h2 hi'
        have hlen : (rest.drop r.extra).length ≤ fuel := by
          simp only [List.length_drop, List.length_cons] at *
          omega
        obtain ⟨ih1, ih2⟩ := ih (rest.drop r.extra) r.st hlen
        have hsplit : rest.any isInlineImage = (rest.drop r.extra).any isInlineImage := by
          have := congrArg (fun l => l.any isInlineImage) (List.take_append_drop r.extra rest)
          simp only [List.any_append, htake, Bool.false_or] at this
          exact this.symm
        constructor
        · intro h
          have : (rest.drop r.extra).any isInlineImage = false := by
            rw [← hsplit]; simpa [hi'] using h
          obtain ⟨toks, ht⟩ := ih1 this
          exact ⟨r.toks ++ toks, by simp [serLoop, hr, ht]⟩
        · intro h
          have : (rest.drop r.extra).any isInlineImage = true := by
            rw [← hsplit]; simpa [hi'] using h
          simp [serLoop, hr, ih2 this]
end

end Content
