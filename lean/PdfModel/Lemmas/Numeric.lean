import PdfModel.Model.Numeric

/-! Helper lemmas for the numeric part of `Props/C14.lean`. -/

namespace Numeric

/-- `read_u64_from_stream`: an error, or a value and the data behind the `w` bytes read -/
theorem readU64_spec (w : Nat) (d : List Nat) :
    readU64 w d = .err ∨ ∃ v r, readU64 w d = .ok (v, r) ∧ r.length + w = d.length := by
  unfold readU64
  by_cases h1 : w > 8
  · rw [if_pos h1]; exact .inl rfl
  by_cases h2 : w > d.length
  · rw [if_neg h1, if_pos h2]; exact .inl rfl
  · rw [if_neg h1, if_neg h2]; exact .inr ⟨_, _, rfl, by rw [List.length_drop]; omega⟩

/-- one entry: an error, or an entry and the data behind its three fields -/
theorem readEntry_spec (w0 w1 w2 : Nat) (d : List Nat) :
    readEntry w0 w1 w2 d = .err ∨
    ∃ e r, readEntry w0 w1 w2 d = .ok (e, r) ∧ r.length + (w0 + w1 + w2) = d.length := by
  unfold readEntry
  have h0 : (if w0 = 0 then Out.ok (1, d) else readU64 w0 d) = .err ∨
      ∃ ty d1, (if w0 = 0 then Out.ok (1, d) else readU64 w0 d) = .ok (ty, d1) ∧ d1.length + w0 = d.length := by
    by_cases hw : w0 = 0
    · rw [if_pos hw]; exact .inr ⟨_, _, rfl, by omega⟩
    · rw [if_neg hw]; exact readU64_spec w0 d
  rcases h0 with h0 | ⟨ty, d1, h0, c0⟩
  · rw [h0]; exact .inl rfl
  rw [h0]; simp only []
  rcases readU64_spec w1 d1 with h1 | ⟨f1, d2, h1, c1⟩
  · rw [h1]; exact .inl rfl
  rw [h1]; simp only []
  rcases readU64_spec w2 d2 with h2 | ⟨f2, d3, h2, c2⟩
  · rw [h2]; exact .inl rfl
  rw [h2]; simp only []
  have c : d3.length + (w0 + w1 + w2) = d.length := by omega
  by_cases t0 : ty = 0
  · rw [if_pos t0]; exact .inr ⟨_, _, rfl, c⟩
  by_cases t1 : ty = 1
  · rw [if_neg t0, if_pos t1]; exact .inr ⟨_, _, rfl, c⟩
  by_cases t2 : ty = 2
  · rw [if_neg t0, if_neg t1, if_pos t2]; exact .inr ⟨_, _, rfl, c⟩
  · rw [if_neg t0, if_neg t1, if_neg t2]; exact .inl rfl

/-- `n` entries: an error, or the entries and the data behind them -/
theorem readEntries_spec (w0 w1 w2 : Nat) : ∀ (n : Nat) (d : List Nat) (acc : List XEntry),
    readEntries w0 w1 w2 n d acc = .err ∨ ∃ es r, readEntries w0 w1 w2 n d acc = .ok (es, r) ∧
      es.length = acc.length + n ∧ r.length + n * (w0 + w1 + w2) = d.length := by
  intro n
  induction n with
  | zero => intro d acc; exact .inr ⟨_, _, rfl, by simp, by simp⟩
  | succ n ih =>
    intro d acc
    unfold readEntries
    rcases readEntry_spec w0 w1 w2 d with h | ⟨e, r, h, c⟩ <;> simp only [h]
    · exact .inl trivial
    rcases ih r (e :: acc) with h' | ⟨es, r', h', c1, c2⟩
    · exact .inl h'
    · refine .inr ⟨es, r', h', by simp only [List.length_cons] at c1; omega, ?_⟩
      rw [Nat.add_mul]; omega

/-- the repaired sizing of a section: an error, or a count the data has room for -/
theorem xrefCount_spec (bits : Nat) (tol : Bool) (num w0 w1 w2 len : Nat) :
    xrefCount bits true tol num w0 w1 w2 len = .err ∨
    ∃ n, xrefCount bits true tol num w0 w1 w2 len = .ok n ∧
      0 < w0 + w1 + w2 ∧ n ≤ num ∧ n * (w0 + w1 + w2) ≤ len := by
  unfold xrefCount
  rw [if_pos rfl]
  by_cases h1 : (!fits bits (w0 + w1)) = true
  · rw [if_pos h1]; exact .inl rfl
  by_cases h2 : (!fits bits (w0 + w1 + w2)) = true
  · rw [if_neg h1, if_pos h2]; exact .inl rfl
  by_cases he : w0 + w1 + w2 = 0
  · rw [if_neg h1, if_neg h2]; simp only []; rw [if_pos he]; exact .inl rfl
  rw [if_neg h1, if_neg h2]; simp only []; rw [if_neg he]
  have hpos : 0 < w0 + w1 + w2 := Nat.pos_of_ne_zero he
  have hdiv := Nat.div_mul_le_self len (w0 + w1 + w2)
  by_cases hgt : num > len / (w0 + w1 + w2)
  · rw [if_pos hgt]
    cases tol
    · exact .inl rfl
    · exact .inr ⟨_, rfl, hpos, Nat.le_of_lt hgt, hdiv⟩
  · rw [if_neg hgt]
    exact .inr ⟨_, rfl, hpos, Nat.le_refl _, Nat.le_trans (Nat.mul_le_mul_right _ (Nat.le_of_not_gt hgt)) hdiv⟩

theorem xrefCount_returns (bits : Nat) (tol : Bool) (num w0 w1 w2 len : Nat) :
    (xrefCount bits true tol num w0 w1 w2 len).Returns := by
  simp only [Out.Returns]
  rcases xrefCount_spec bits tol num w0 w1 w2 len with h | ⟨n, h, _⟩ <;> rw [h] <;> exact ⟨nofun, nofun⟩

/-- the end of a member that exists: no overflow, no missing offset -/
theorem objStop_returns (bits first : Nat) (offsets : List Nat) (index dataLen : Nat) (hi : index < offsets.length) :
    objStop bits true first offsets index dataLen = .err ∨ ∃ e, objStop bits true first offsets index dataLen = .ok e := by
  unfold objStop
  by_cases hl : index = offsets.length - 1
  · rw [if_pos hl]; exact .inr ⟨_, rfl⟩
  rw [if_neg hl, List.getElem?_eq_getElem (show index + 1 < offsets.length by omega)]
  simp only []
  by_cases hf : (!fits bits (first + offsets[index + 1])) = true
  · rw [if_pos hf]; exact .inl rfl
  · rw [if_neg hf]; exact .inr ⟨_, rfl⟩

-- ---------------------------------------------------------------------------------------------------
-- PostScript calculator

theorem binop_returns {V : Type} (f : V → V → V) (st : List V) : (binop f st).Returns := by
  simp only [Out.Returns]
  unfold binop
  split
  · simp
  · split <;> simp

theorem pop?_length {V : Type} (st st1 : List V) (v : V) (h : pop? st = some (v, st1)) : st.length = st1.length + 1 := by
  unfold pop? at h
  split at h
  · simp at h
  · rename_i top rest hr
    simp only [Option.some.injEq, Prod.mk.injEq] at h
    have : st.reverse.length = (top :: rest).length := by rw [hr]
    simp only [List.length_reverse, List.length_cons] at this
    rw [← h.2, List.length_reverse]
    exact this

theorem execOp_returns {V : Type} (A : Arith V) (op : PsOp V) (st : List V) :
    (execOp A true op st).Returns := by
  simp only [Out.Returns]
  cases op with
  | int i => simp [execOp]
  | value v => simp [execOp]
  | add => exact binop_returns _ _
  | sub => exact binop_returns _ _
  | mul => exact binop_returns _ _
  | abs => simp only [execOp]; split <;> simp
  | dup => simp only [execOp]; split <;> simp
  | exch =>
    simp only [execOp]
    split
    · simp
    · split <;> simp
  | cvr => simp [execOp]
  | pop => simp only [execOp]; split <;> simp
  | index =>
    simp only [execOp]
    split
    · simp
    · rename_i v st1 _
      split
      · simp
      · rename_i hn
        split
        · rename_i hnone
          have := List.getElem?_eq_none_iff.1 hnone
          omega
        · simp
  | roll =>
    simp only [execOp]
    split
    · simp
    · split
      · simp
      · simp only [if_true]
        split
        · simp
        · split <;> simp

theorem execInner_returns {V : Type} (A : Arith V) : ∀ (ops : List (PsOp V)) (st : List V),
    (execInner A true ops st).Returns := by
  simp only [Out.Returns]
  intro ops
  induction ops with
  | nil => intro st; simp [execInner]
  | cons op ops ih =>
    intro st
    unfold execInner
    have h := execOp_returns A op st
    split
    · exact ih _
    · simp
    · rename_i e; exact absurd e h.1
    · rename_i e; exact absurd e h.2


-- ---------------------------------------------------------------------------------------------------
-- key lengths

theorem sliceTo_ok {n len : Nat} (h : n ≤ len) : sliceTo n len = .ok () := by simp [sliceTo, h]
theorem rc4Key_ok {len : Nat} (h : 0 < len ∧ len ≤ 256) : rc4Key len = .ok () := by simp [rc4Key, h]
theorem seqU_ok (b : Out Unit) : seqU (.ok ()) b = b := rfl

theorem userKeySlices_ok (revision keySize : Nat) : userKeySlices true revision keySize = .ok () := by
  unfold userKeySlices
  rw [sliceTo_ok (show 16 ≤ max keySize 16 by omega)]
  split
  · simp only [if_true]; rw [sliceTo_ok (show min keySize 16 ≤ 16 by omega)]; rfl
  · rfl

theorem keySchedule_returns (revision keyBits : Nat) (userOk : Bool) :
    keySchedule true revision keyBits userOk = .ok () ∨ keySchedule true revision keyBits userOk = .err := by
  unfold keySchedule
  simp only []
  by_cases h0 : keyBits / 8 = 0
  · right; rw [if_pos h0]
  · rw [if_neg h0]
    by_cases h32 : keyBits / 8 > 32
    · right; rw [if_pos h32]
    rw [if_neg h32, userKeySlices_ok, seqU_ok, sliceTo_ok (show min (keyBits / 8) 16 ≤ max (keyBits / 8) 16 by omega), seqU_ok,
      rc4Key_ok (show 0 < min (keyBits / 8) 16 ∧ min (keyBits / 8) 16 ≤ 256 by omega), seqU_ok]
    cases userOk
    · simp only [Bool.false_eq_true, if_false]
      by_cases hb : keyBits / 8 > 16
      · right; rw [if_pos hb]
      · left
        rw [if_neg hb]
        simp only [sliceTo_ok (show keyBits / 8 ≤ 16 by omega), sliceTo_ok (show keyBits / 8 ≤ max (keyBits / 8) 16 by omega),
          rc4Key_ok (show 0 < keyBits / 8 ∧ keyBits / 8 ≤ 256 by omega), seqU_ok]
    · left; rfl

theorem objectKeySlices_ok (aes : Bool) (keySize keyLen : Nat) (h : min keySize 16 ≤ keyLen) :
    objectKeySlices aes keySize keyLen = .ok () := by
  unfold objectKeySlices
  simp only []
  rw [sliceTo_ok h, seqU_ok]
  cases aes
  · simp only [Bool.false_eq_true, if_false]
    rw [sliceTo_ok (show min keySize 16 + 5 ≤ 21 by omega), seqU_ok]
    exact rc4Key_ok (by omega)
  · simp only [if_true]
    rw [sliceTo_ok (show min keySize 16 + 9 ≤ 41 by omega), seqU_ok]

end Numeric
