import PdfModel.Lemmas.OffsetsFuel
import PdfModel.Lemmas.Xref
import PdfModel.Lemmas.ObjStm
import PdfModel.Lemmas.TypedLoad

/-!
  Totality of the open path of `Model/Offsets` (C01): header search, `startxref`, the chain of sections and
  their merge, resolving an object by number through direct or compressed storage, raw stream data, `scan`.

  The token-level parsers are parameters of that model (`Offsets.Parsers`); `TotalOn P n` says of them, on the
  suffixes of a file of `n` bytes, what `Lemmas/TotalGlue` proves of the concrete ones (`Model/Parser`,
  `Model/XrefTable`, `Model/ObjStm`, `Model/Enc`): they return `Ok` or `Err`, a section reader only produces
  `Free` / `Raw` / `Stream` entries, and an object read with `ParseFlags::INTEGER` (the indirect `/Length`) is never
  a stream (`check(flags, DICT)` fails first).  Every theorem here takes `TotalOn`; `Total` is the same without the
  length bound and implies it (`Total.on`).

  * `loadTable_returns`, `openFile_returns`: for every buffer, with fuel `len + 2` for the `/Prev` loop.
  * `resolveRef_returns`: fuel `2 · table length + 3` always suffices.  The guard `chain` holds distinct object
    numbers; only numbers inside the table can lead any further, so (pigeonhole) at most `table length`
    containers nest, and between two containers there is at most one `/Length` indirection.
-/

namespace Offsets
open OffLex

variable {V T : Type}

/-- the parsers are total on the suffixes of a buffer of `n` bytes (the only ones the open path hands them) and on
    the members of what `decode` delivers -/
structure TotalOn (P : Parsers V T) (n : Nat) : Prop where
  xrefAt : ∀ sfx, sfx.length ≤ n → (P.xrefAt sfx).Returns
  xrefSubs : ∀ sfx subs tr, sfx.length ≤ n → P.xrefAt sfx = .ok (subs, tr) → Xref.pairsOK (Xref.secPairs subs)
  sizeOf : ∀ tr, (P.sizeOf tr).Returns
  prevOf : ∀ tr r, P.prevOf tr = some r → r.Returns
  objAt : ∀ fl sfx, sfx.length ≤ n → (P.objAt fl sfx).Returns
  objAtInt : ∀ sfx info rel len, P.objAt .integer sfx ≠ .ok (.stream info rel len)
  streamEnd : ∀ sfx, sfx.length ≤ n → (P.streamEnd sfx).Returns
  asLen : ∀ v, (P.asLen v).Returns
  stmHead : ∀ v, (P.stmHead v).Returns
  decode : ∀ v raw, (P.decode v raw).Returns
  parseMember : ∀ fl s v raw data, P.decode v raw = .ok data → s.length ≤ data.length → (P.parseMember fl s).Returns
  scanItems : ∀ s, ∀ it ∈ P.scanItems s, it.Returns

/-- total on every suffix -/
structure Total (P : Parsers V T) : Prop where
  xrefAt : ∀ sfx, (P.xrefAt sfx).Returns
  xrefSubs : ∀ sfx subs tr, P.xrefAt sfx = .ok (subs, tr) → Xref.pairsOK (Xref.secPairs subs)
  sizeOf : ∀ tr, (P.sizeOf tr).Returns
  prevOf : ∀ tr r, P.prevOf tr = some r → r.Returns
  objAt : ∀ fl sfx, (P.objAt fl sfx).Returns
  objAtInt : ∀ sfx info rel len, P.objAt .integer sfx ≠ .ok (.stream info rel len)
  streamEnd : ∀ sfx, (P.streamEnd sfx).Returns
  asLen : ∀ v, (P.asLen v).Returns
  stmHead : ∀ v, (P.stmHead v).Returns
  decode : ∀ v raw, (P.decode v raw).Returns
  parseMember : ∀ fl s, (P.parseMember fl s).Returns
  scanItems : ∀ s, ∀ it ∈ P.scanItems s, it.Returns

theorem Total.on {P : Parsers V T} (h : Total P) (n : Nat) : TotalOn P n :=
  ⟨fun sfx _ => h.xrefAt sfx, fun sfx subs tr _ hx => h.xrefSubs sfx subs tr hx, h.sizeOf, h.prevOf,
   fun fl sfx _ => h.objAt fl sfx, h.objAtInt, fun sfx _ => h.streamEnd sfx, h.asLen, h.stmHead, h.decode,
   fun fl s _ _ _ _ _ => h.parseMember fl s, h.scanItems⟩

/-- `P` with its section reader cut off beyond `n` bytes: on a buffer of `n` bytes the open path cannot tell
    the difference (`loadTable_clamp`), and the clamped reader answers on every suffix -/
def clampX (P : Parsers V T) (n : Nat) : Parsers V T :=
  { P with xrefAt := fun sfx => if sfx.length ≤ n then P.xrefAt sfx else .err }

/-- `start + off` checked, then `backend.read(pos ..)`: an error or a suffix of the buffer -/
theorem suffixAt_spec (buf : Bytes) (start off : Nat) :
    suffixAt buf start off = .err ∨ ∃ pos sfx, suffixAt buf start off = .ok (pos, sfx) ∧ sfx.length ≤ buf.length := by
  unfold suffixAt checkedAdd readFrom
  by_cases h1 : start + off > usizeMax
  · simp [h1]
  · by_cases h2 : start + off ≤ buf.length <;> simp [h1, h2]

theorem suffixAtStrict_spec (buf : Bytes) (start off : Nat) :
    suffixAtStrict buf start off = .err ∨
    ∃ pos sfx, suffixAtStrict buf start off = .ok (pos, sfx) ∧ sfx.length ≤ buf.length := by
  unfold suffixAtStrict checkedAdd
  by_cases h1 : start + off > usizeMax
  · simp [h1]
  · by_cases h2 : start + off ≥ buf.length <;> simp [h1, h2]

theorem readRange_returns (buf : Bytes) (a b : Nat) : (readRange buf a b).Returns := by
  unfold readRange; split
  · exact .ok _
  · exact .err

theorem locateXref_ne_panic (buf : Bytes) : locateXref buf ≠ .panic := (locateXref_returns buf).1

/-- the merge step on what a total section reader delivers: `Ok`, and no `Promised` entry appears -/
theorem addSubs_total {P : Parsers V T} {n : Nat} (hP : TotalOn P n) (sfx : Bytes) (hlen : sfx.length ≤ n) (subs : List Xref.Sub) (tr : T)
    (hx : P.xrefAt sfx = .ok (subs, tr)) (t : Xref.Table) (ht : Xref.noProm t) :
    ∃ t', Xref.addSubs t subs = .ok t' ∧ Xref.noProm t' :=
  ⟨_, Xref.addSubs_eq t subs ht (hP.xrefSubs sfx subs tr hlen hx), Xref.pureAdd_noProm t _ ht (hP.xrefSubs sfx subs tr hlen hx)⟩

/-- what both loops do with the `/Prev` entry of a trailer, once the rest of the walk is known not to panic -/
theorem prevOf_ne_panic {P : Parsers V T} {n : Nat} (hP : TotalOn P n) (tr : T) {α : Type} (k : Nat → Out α) (r : Out α)
    (hk : ∀ pv, k pv ≠ .panic) (hr : r ≠ .panic) :
    (match P.prevOf tr with
      | none => r
      | some (.ok pv) => k pv
      | some .err => .err | some .panic => .panic | some .oof => .oof) ≠ .panic := by
  cases hpv : P.prevOf tr with
  | none => exact hr
  | some o =>
    have hp := hP.prevOf tr o hpv
    cases o with
    | ok pv => exact hk pv
    | err => nofun
    | panic => exact absurd rfl hp.1
    | oof => nofun

theorem prevLoop_ne_panic (P : Parsers V T) (buf : Bytes) (hP : TotalOn P buf.length) (start : Nat) :
    ∀ (fuel : Nat) (seen : List Nat) (pv : Option Nat) (t : Xref.Table), Xref.noProm t →
      prevLoop P buf start fuel seen pv t ≠ .panic := by
  intro fuel
  induction fuel with
  | zero => intro seen pv t _; cases pv <;> simp [prevLoop]
  | succ fuel ih =>
    intro seen pv t ht
    cases pv with
    | none => simp [prevLoop]
    | some v =>
      simp only [prevLoop]
      split
      · nofun
      rcases suffixAt_spec buf start v with e | ⟨q, sfx, e, hlen⟩ <;> rw [e]
      · nofun
      rcases (hP.xrefAt sfx hlen).cases with hxr | ⟨⟨subs, tr⟩, hxr⟩ <;> simp only [hxr]
      · nofun
      obtain ⟨t', had, ht'⟩ := addSubs_total hP sfx hlen subs tr hxr t ht
      rw [had]
      exact prevOf_ne_panic hP tr _ _ (fun _ => ih _ _ _ ht') nofun

theorem newTable_noProm (size : Nat) : Xref.noProm (Xref.newTable size) := by
  intro e he; simp [Xref.newTable] at he; rcases he with ⟨_, rfl⟩ | rfl <;> simp

theorem loadTable_ne_panic (P : Parsers V T) (buf : Bytes) (hP : TotalOn P buf.length) (start fuel : Nat) :
    loadTable P fuel buf start ≠ .panic := by
  unfold loadTable
  rcases Out.Returns.cases ⟨locateXref_ne_panic buf, locateXref_ne_oof buf⟩ with e | ⟨x, e⟩ <;> simp only [e]
  · nofun
  rcases suffixAtStrict_spec buf start x with e | ⟨q, sfx, e, hlen⟩ <;> simp only [e]
  · nofun
  rcases (hP.xrefAt sfx hlen).cases with hxr | ⟨⟨subs, tr⟩, hxr⟩ <;> simp only [hxr]
  · nofun
  rcases (hP.sizeOf tr).cases with e | ⟨size, e⟩ <;> simp only [e]
  · nofun
  split
  · nofun
  obtain ⟨t, had, ht⟩ := addSubs_total hP sfx hlen subs tr hxr (Xref.newTable size) (newTable_noProm size)
  rw [had]
  refine prevOf_ne_panic hP tr _ _ (fun pv => ?_) nofun
  have := prevLoop_ne_panic P buf hP start fuel [] (some pv) t ht
  cases hl : prevLoop P buf start fuel [] (some pv) t <;> first | exact absurd hl this | simp

theorem clampX_xrefAt (P : Parsers V T) (n : Nat) (sfx : Bytes) (h : sfx.length ≤ n) :
    (clampX P n).xrefAt sfx = P.xrefAt sfx := by simp [clampX, h]

theorem clampX_prevOf (P : Parsers V T) (n : Nat) : (clampX P n).prevOf = P.prevOf := rfl
theorem clampX_sizeOf (P : Parsers V T) (n : Nat) : (clampX P n).sizeOf = P.sizeOf := rfl

theorem prevLoop_clamp (P : Parsers V T) (buf : Bytes) (start : Nat) :
    ∀ (fuel : Nat) (seen : List Nat) (pv : Option Nat) (t : Xref.Table),
      prevLoop (clampX P buf.length) buf start fuel seen pv t = prevLoop P buf start fuel seen pv t := by
  intro fuel
  induction fuel with
  | zero => intro seen pv t; cases pv <;> rfl
  | succ fuel ih =>
    intro seen pv t
    cases pv with
    | none => rfl
    | some v =>
      simp only [prevLoop, clampX_prevOf, ih]
      rcases suffixAt_spec buf start v with e | ⟨q, sfx, e, hlen⟩
      · simp only [e]
      · simp only [e, clampX_xrefAt P _ sfx hlen]

theorem loadTable_clamp (P : Parsers V T) (buf : Bytes) (start fuel : Nat) :
    loadTable (clampX P buf.length) fuel buf start = loadTable P fuel buf start := by
  simp only [loadTable, clampX_sizeOf, clampX_prevOf, prevLoop_clamp]
  cases locateXref buf with
  | ok x =>
    rcases suffixAtStrict_spec buf start x with e | ⟨q, sfx, e, hlen⟩
    · simp only [e]
    · simp only [e, clampX_xrefAt P _ sfx hlen]
  | _ => rfl

theorem clampX_noOof (P : Parsers V T) (n : Nat) (hP : TotalOn P n) : NoOof (clampX P n) := by
  refine ⟨fun sfx => ?_, fun tr => (hP.sizeOf tr).2, fun tr hh => (hP.prevOf tr _ hh).2 rfl⟩
  show (if sfx.length ≤ n then P.xrefAt sfx else Out.err) ≠ .oof
  split
  · rename_i h; exact (hP.xrefAt sfx h).2
  · simp

/-- `Backend::read_xref_table_and_trailer`: `Ok` or `Err` for every buffer, with `len + 2` rounds of the `/Prev` loop -/
theorem loadTable_returns (P : Parsers V T) (buf : Bytes) (hP : TotalOn P buf.length) (start fuel : Nat)
    (hf : buf.length + 2 ≤ fuel) : (loadTable P fuel buf start).Returns := by
  refine ⟨loadTable_ne_panic P buf hP start fuel, ?_⟩
  rw [← loadTable_clamp P buf start fuel]
  exact loadTable_ne_oof (clampX P buf.length) (clampX_noOof P buf.length hP) buf start fuel hf

theorem locateStart_returns (buf : Bytes) : (locateStart buf).Returns := by
  unfold locateStart; split
  · exact .ok _
  · exact .err

/-- header search, `startxref`, sections, merge -/
theorem openFile_returns (P : Parsers V T) (buf : Bytes) (hP : TotalOn P buf.length) (fuel : Nat) (hf : buf.length + 2 ≤ fuel) :
    (openFile P fuel buf).Returns := by
  unfold openFile
  rcases (locateStart_returns buf).cases with e | ⟨start, e⟩ <;> simp only [e]
  · exact .err
  rcases (loadTable_returns P buf hP start fuel hf).cases with e | ⟨⟨t, tr⟩, e⟩ <;> simp only [e]
  · exact .err
  · exact .ok _

theorem finishStream_returns (P : Parsers V T) {N : Nat} (hP : TotalOn P N) (suffix : Bytes) (hlen : suffix.length ≤ N)
    (q : Nat) (info : V) (rel n : Nat) :
    (finishStream P suffix q info rel n).Returns := by
  unfold finishStream
  split
  · exact .err
  rcases (hP.streamEnd (suffix.drop (rel + n)) (by simp; omega)).cases with e | ⟨_, e⟩ <;> rw [e]
  · exact .err
  · exact .ok _

theorem streamWithLen_returns (P : Parsers V T) {N : Nat} (hP : TotalOn P N) (resolveLen : Nat → Out (Obj V))
    (hr : ∀ lid, (resolveLen lid).Returns) (suffix : Bytes) (hlen : suffix.length ≤ N) (q : Nat) (info : V) (rel : Nat) (ls : LenSpec) :
    (streamWithLen P resolveLen suffix q info rel ls).Returns := by
  unfold streamWithLen
  cases ls with
  | direct n => exact finishStream_returns P hP suffix hlen q info rel n
  | indirect lid =>
    rcases (hr lid).cases with e | ⟨v | _, e⟩ <;> simp only [e]
    · exact .err
    · rcases (hP.asLen v).cases with e | ⟨n, e⟩ <;> simp only [e]
      · exact .err
      · exact finishStream_returns P hP suffix hlen q info rel n
    · exact .err
  | bad => exact .err

/-- the `XRef::Raw` branch; with `ParseFlags::INTEGER` the length resolver is never asked -/
theorem directBody_returns (P : Parsers V T) (buf : Bytes) (hP : TotalOn P buf.length) (resolveLen : Nat → Out (Obj V))
    (start : Nat) (flags : Flags) (pos : Nat) (hr : flags = .any → ∀ lid, (resolveLen lid).Returns) :
    (directBody P resolveLen buf start flags pos).Returns := by
  unfold directBody
  rcases suffixAt_spec buf start pos with e | ⟨q, suffix, e, hlen⟩ <;> simp only [e]
  · exact .err
  rcases (hP.objAt flags suffix hlen).cases with hobj | ⟨_ | ⟨info, rel, ls⟩, hobj⟩ <;> simp only [hobj]
  · exact .err
  · exact .ok _
  · cases flags with
    | any => exact streamWithLen_returns P hP resolveLen (hr rfl) suffix hlen q info rel ls
    | integer => exact absurd hobj (hP.objAtInt suffix info rel ls)

theorem memberSlice_len (d : Bytes) (a b : Nat) (slice : Bytes) (h : ObjStm.memberSlice d a b = .ok slice) :
    slice.length ≤ d.length := by
  -- the only `ok` is `(d.drop a).take (b - a)`
  unfold ObjStm.memberSlice at h
  grind

theorem getObjectSlice_data (offsets : List Nat) (first : Nat) (data : Bytes) (idx : Nat) (d : Bytes) (s e : Nat)
    (h : ObjStm.getObjectSlice offsets first (.ok data) idx = .ok (d, s, e)) : d = data := by
  -- every `ok` of `get_object_slice` hands on the data it was given
  unfold ObjStm.getObjectSlice at h
  grind

theorem memberSlice_returns (d : Bytes) (a b : Nat) : (ObjStm.memberSlice d a b).Returns := by
  unfold ObjStm.memberSlice; split
  · exact .ok _
  · exact .err

/-- the `XRef::Stream` branch behind the guard -/
theorem compressedBody_returns (P : Parsers V T) {n : Nat} (hP : TotalOn P n) (container : Out (Obj V)) (hc : container.Returns)
    (buf : Bytes) (flags : Flags) (idx : Nat) : (compressedBody P container buf flags idx).Returns := by
  unfold compressedBody
  rcases hc.cases with e | ⟨_ | ⟨info, a, b⟩, e⟩ <;> simp only [e]
  · exact .err
  · exact .err
  rcases (hP.stmHead info).cases with e | ⟨⟨n, first⟩, e⟩ <;> simp only [e]
  · exact .err
  rcases (readRange_returns buf a b).cases with e | ⟨raw, e⟩ <;> simp only [e]
  · exact .err
  rcases (hP.decode info raw).cases with hd | ⟨data, hd⟩ <;> simp only [hd]
  · exact .err
  rcases Out.Returns.cases (ObjStmSpec.parseHeader_returns n data) with e | ⟨offsets, e⟩ <;> simp only [e]
  · exact .err
  rcases Out.Returns.cases (ObjStmSpec.getObjectSlice_returns offsets first data idx) with hg | ⟨⟨d, s, e⟩, hg⟩ <;>
    simp only [hg]
  · exact .err
  rcases (memberSlice_returns d s e).cases with hm | ⟨slice, hm⟩ <;> simp only [hm]
  · exact .err
  have hlen : slice.length ≤ data.length :=
    getObjectSlice_data offsets first data idx d s e hg ▸ memberSlice_len d s e slice hm
  rcases (hP.parseMember flags slice info raw data hd hlen).cases with e | ⟨v, e⟩ <;> simp only [e]
  · exact .err
  · exact .ok _

/-- room left in the guard: table slots not yet on the chain -/
def room (t : Xref.Table) (chain : List Nat) : Nat := t.length - (chain.filter (· < t.length)).length

theorem room_cons_inside (t : Xref.Table) (chain : List Nat) (sid : Nat) (hn : chain.Nodup) (hs : sid ∉ chain)
    (hlt : sid < t.length) : room t (sid :: chain) + 1 = room t chain ∧ 1 ≤ room t chain := by
  unfold room
  have hf : (sid :: chain).filter (· < t.length) = sid :: chain.filter (· < t.length) := by
    simp [hlt]
  have hnd : (sid :: chain.filter (· < t.length)).Nodup := by
    refine List.nodup_cons.2 ⟨?_, hn.sublist List.filter_sublist⟩
    intro hm; exact hs (List.mem_filter.1 hm).1
  have hb : ∀ x ∈ sid :: chain.filter (· < t.length), x < t.length := by
    intro x hx
    rcases List.mem_cons.1 hx with rfl | hx
    · exact hlt
    · simpa using (List.mem_filter.1 hx).2
  have := TypedLoad.nodup_bounded_length t.length _ hnd hb
  rw [hf]
  simp only [List.length_cons] at this ⊢
  omega

theorem room_cons_outside (t : Xref.Table) (chain : List Nat) (sid : Nat) (hge : ¬ sid < t.length) :
    room t (sid :: chain) = room t chain := by
  unfold room
  simp [hge]

theorem lookup_outside (t : Xref.Table) (id : Nat) (h : ¬ id < t.length) : Xref.lookup t id = .unspecified := by
  unfold Xref.lookup
  have : t[id]? = none := by simp; omega
  simp [this]

/-- **`Storage::resolve_ref` is total.**  For every table, every guard without duplicates, every request:
    `Ok` or `Err`, never out of fuel once the fuel is `2 · room + 3` (`+ 2` for an `INTEGER` request). -/
theorem resolveRef_returns (P : Parsers V T) (buf : Bytes) (hP : TotalOn P buf.length) (start : Nat) (t : Xref.Table) :
    ∀ (fuel : Nat) (chain : List Nat) (flags : Flags) (id : Nat), chain.Nodup →
      2 * room t chain + (if flags = .any then 3 else 2) ≤ fuel →
      (resolveRef P buf start t fuel chain flags id).Returns := by
  intro fuel
  induction fuel with
  | zero => intro chain flags id _ hf; cases flags <;> simp at hf
  | succ fuel ih =>
    intro chain flags id hn hf
    unfold resolveRef
    cases hl : Xref.lookup t id with
    | direct pos =>
      simp only
      apply directBody_returns P buf hP
      intro hfl lid
      subst hfl
      exact ih chain .integer lid hn (by simp at hf ⊢; omega)
    | compressed sid idx =>
      simp only
      by_cases hc : chain.contains sid = true
      · simp only [hc, if_true]; exact .err
      · simp only [hc, Bool.false_eq_true, if_false]
        have hnot : sid ∉ chain := by simpa using hc
        apply compressedBody_returns P hP
        by_cases hlt : sid < t.length
        · obtain ⟨h1, h2⟩ := room_cons_inside t chain sid hn hnot hlt
          apply ih (sid :: chain) .any sid (List.nodup_cons.2 ⟨hnot, hn⟩)
          cases flags <;> simp at hf ⊢ <;> omega
        · -- an object number beyond the table: the next call ends at the lookup
          have hf1 : 1 ≤ fuel := by cases flags <;> simp at hf <;> omega
          obtain ⟨k, hk⟩ : ∃ k, fuel = k + 1 := ⟨fuel - 1, by omega⟩
          rw [hk]; unfold resolveRef
          rw [lookup_outside t sid hlt]
          exact .err
    | freeObject => exact .err
    | nullRef => exact .err
    | unspecified => exact .err
    | unimplemented => exact .err

/-- from the empty guard: `2 · table length + 3` -/
theorem resolveRef_returns_top (P : Parsers V T) (buf : Bytes) (hP : TotalOn P buf.length) (start : Nat) (t : Xref.Table)
    (fuel : Nat) (flags : Flags) (id : Nat) (hf : 2 * t.length + 3 ≤ fuel) :
    (resolveRef P buf start t fuel [] flags id).Returns := by
  apply resolveRef_returns P buf hP start t fuel [] flags id List.nodup_nil
  have : room t [] = t.length := by simp [room]
  rw [this]; cases flags <;> simp <;> omega

theorem rawData_returns (buf : Bytes) (o : Obj V) : (rawData buf o).Returns := by
  unfold rawData
  cases o with
  | plain _ => exact .err
  | stream _ a b => exact readRange_returns buf a b

theorem version_returns (buf : Bytes) (start : Nat) : (version buf start).Returns := readRange_returns buf _ _

/-- `Storage::scan`: the call returns, and so does every item of the iterator -/
theorem scan_returns (P : Parsers V T) (buf : Bytes) (hP : TotalOn P buf.length) (start : Nat) :
    (scan P buf start).Returns ∧ ∀ items, scan P buf start = .ok items → ∀ it ∈ items, it.Returns := by
  unfold scan
  rcases Out.Returns.cases ⟨locateXref_ne_panic buf, locateXref_ne_oof buf⟩ with e | ⟨x, e⟩ <;> simp only [e]
  · exact ⟨.err, nofun⟩
  unfold checkedAdd
  by_cases h1 : start + x > usizeMax <;> simp only [h1, if_true, if_false]
  · exact ⟨.err, nofun⟩
  rcases (readRange_returns buf start (start + x)).cases with e | ⟨slice, e⟩ <;> simp only [e]
  · exact ⟨.err, nofun⟩
  refine ⟨.ok _, fun items hh it hit => ?_⟩
  cases hh
  obtain ⟨it0, hit0, rfl⟩ := List.mem_map.1 hit
  rcases (hP.scanItems slice it0 hit0).cases with rfl | ⟨o, rfl⟩
  · exact .err
  · exact .ok _

end Offsets
