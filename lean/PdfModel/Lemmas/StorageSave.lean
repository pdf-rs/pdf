import PdfModel.Lemmas.StorageInv

/-! `save`: what `prep` leaves, the shape of a successful save, preservation of the invariant by
    successful and failed saves. -/

namespace Storage
open Xref

variable {V : Type}

/-- layouts the theorems quantify over: every record takes at least one byte -/
def Layout.Pos (L : Layout) : Prop := (∀ id, 0 < L.recLen id) ∧ ∀ i, 0 < L.xrefLen i

/-- What `prep` leaves: `pr.st2` is `d.st` with the info dictionary (if any) created and pending under `pr.infoRef`
    and a promised last slot `pr.xid` for the cross-reference stream; the backend is untouched. `len_eq` is about the
    length of the table, `len_same` about the length of the file; `ch_sub` / `ch_sup`: the pending values of `st2`
    restricted to the old numbers are those of `d.st` / contain those of `d.st`. -/
structure PrepFacts (d0 d : Doc V) (pr : Prep V) : Prop where
  inv : Inv d0 ⟨pr.st2, d.tr⟩
  len_eq : pr.st2.refs.length = pr.xid + 1
  xid_ge : d.st.refs.length ≤ pr.xid
  xid_le : pr.xid ≤ d.st.refs.length + 1
  refs_eq : ∃ r, pr.st2.refs = r ++ [.promised] ∧ r.length = pr.xid
  xid_free : chLookup pr.st2.changes pr.xid = none
  size_eq : pr.size = d.st.refs.length + 2
  size_ge : pr.xid + 1 ≤ pr.size
  objs_eq : pr.st2.objs = d.st.objs
  secs_eq : pr.st2.secs = d.st.secs
  len_same : pr.st2.len = d.st.len
  start_same : pr.st2.start = d.st.start
  sx_same : pr.st2.startxref = d.st.startxref
  info_some : ∀ i, pr.infoRef = some i → ∃ v, d.tr.info = some v ∧ chLookup pr.st2.changes i = some (v, 0) ∧
      i = d.st.refs.length ∧ pr.st2.changes = chInsert d.st.changes i (v, 0) ∧ pr.st2.cache = []
  info_none : pr.infoRef = none → d.tr.info = none ∧ pr.st2.changes = d.st.changes ∧ pr.st2.cache = d.st.cache ∧
      pr.st2.refs = d.st.refs ++ [.promised]
  refs_sub : ∀ j : Nat, j < d.st.refs.length → pr.st2.refs[j]? = d.st.refs[j]?
  ch_sub : ∀ j : Nat, j < d.st.refs.length → chLookup pr.st2.changes j = chLookup d.st.changes j
  ch_mid : ∀ j : Nat, d.st.refs.length ≤ j → j < pr.xid → chLookup pr.st2.changes j ≠ none
  ch_sup : ∀ (j : Nat) (x : V × Nat), chLookup d.st.changes j = some x → chLookup pr.st2.changes j = some x

theorem prep_facts (d0 d : Doc V) (chain0) (hb : BaseOK d0 chain0) (hi : Inv d0 d) : PrepFacts d0 d (prep d) := by
  -- numbers beyond the table have no pending value
  have hfree : ∀ n, d.st.refs.length ≤ n → chLookup d.st.changes n = none := fun n hn => by
    cases hc : chLookup d.st.changes n with
    | none => rfl
    | some x => exact absurd (hi.ch_lt _ x hc) (Nat.not_lt_of_le hn)
  cases hinfo : d.tr.info with
  | none =>
    rw [show prep d = ⟨{ d.st with refs := d.st.refs ++ [.promised] }, none, d.st.refs.length, d.st.refs.length + 2⟩ by
      simp [prep, prepInfo, hinfo, promise, alloc]]
    exact
      { inv := inv_alloc d0 d hi, len_eq := by simp, xid_ge := Nat.le_refl _, xid_le := by simp,
        refs_eq := ⟨_, rfl, rfl⟩, xid_free := hfree _ (Nat.le_refl _), size_eq := rfl, size_ge := by simp,
        objs_eq := rfl, secs_eq := rfl, len_same := rfl, start_same := rfl, sx_same := rfl,
        info_some := nofun, info_none := fun _ => ⟨hinfo, rfl, rfl, rfl⟩,
        refs_sub := fun j hj => List.getElem?_append_left hj,
        ch_sub := fun _ _ => rfl, ch_mid := fun j h1 h2 => absurd h2 (Nat.not_lt_of_le h1), ch_sup := fun _ _ h => h }
  | some v =>
    have hne : ∀ j, j ≠ d.st.refs.length →
        chLookup (chInsert d.st.changes d.st.refs.length (v, 0)) j = chLookup d.st.changes j := fun j h => by
      rw [chLookup_chInsert, if_neg h]
    have hself : chLookup (chInsert d.st.changes d.st.refs.length (v, 0)) d.st.refs.length = some (v, 0) := by
      rw [chLookup_chInsert, if_pos rfl]
    rw [show prep d = ⟨{ d.st with refs := (d.st.refs ++ [.promised]) ++ [.promised],
                                    changes := chInsert d.st.changes d.st.refs.length (v, 0), cache := [] },
                        some d.st.refs.length, d.st.refs.length + 1, d.st.refs.length + 2⟩ by
      simp [prep, prepInfo, hinfo, promise, alloc, create]]
    exact
      { inv := by simpa [create, alloc] using inv_alloc d0 _ (inv_create d0 d chain0 hb hi v),
        len_eq := by simp, xid_ge := by simp, xid_le := by simp, refs_eq := ⟨_, rfl, by simp⟩,
        xid_free := (hne _ (Nat.succ_ne_self _)).trans (hfree _ (Nat.le_succ _)), size_eq := rfl, size_ge := by simp,
        objs_eq := rfl, secs_eq := rfl, len_same := rfl, start_same := rfl, sx_same := rfl,
        info_some := fun i h => by cases h; exact ⟨v, hinfo, hself, rfl, rfl, rfl⟩, info_none := nofun,
        refs_sub := fun j hj => (List.getElem?_append_left (by simp; omega)).trans (List.getElem?_append_left hj),
        ch_sub := fun j hj => hne j (Nat.ne_of_lt hj),
        ch_mid := fun j h1 h2 => by
          have : j = d.st.refs.length := by simp only at h2; omega
          subst this; rw [hself]; nofun
        ch_sup := fun j x h => (hne j (Nat.ne_of_lt (hi.ch_lt j x h))).trans h }

/-- `write_revision` succeeded: the revision described by `i` was appended, `st'` is the storage after it (new table,
    cross-reference stream pending, backend grown). This is the state of a successful save and equally of a save that
    fails afterwards (`Trailer::from_dict`). A theorem with suffix `_c` assumes `Committed` where its namesake assumes
    a successful `save`. -/
def Committed (P : Params V) (L : Layout) (d : Doc V) (st' : St V) (i : SaveInfo) : Prop :=
  ∃ (w : Written V) (rows : List XRef),
    writeChanges P L (prep d).st2.start (prep d).st2.changes ⟨(prep d).st2.refs, (prep d).st2.objs, (prep d).st2.len⟩
      = (w, .ok ()) ∧
    rowsOf ((w.refs.set (prep d).xid (.raw (w.len - (prep d).st2.start) 0)).take ((prep d).xid + 1)) = some rows ∧
    st' = commit P L d (prep d) w (w.refs.set (prep d).xid (.raw (w.len - (prep d).st2.start) 0)) rows ∧
    i = saveInfoOf (prep d) w (w.refs.set (prep d).xid (.raw (w.len - (prep d).st2.start) 0)) rows ∧
    d.st.refs.length + 2 ≤ MAX_ID

/-- a successful save: its revision was written, the trailer was loaded from the new state, the typed reload
    succeeded -/
theorem save_ok_committed (P : Params V) (L : Layout) (d d' : Doc V) (i : SaveInfo) (h : save P L d = (d', .ok i)) :
    Committed P L d d'.st i ∧ loadTrailer d'.st d.tr.root (prep d).infoRef d.tr.prev = .ok d'.tr ∧
      L.typed = true := by
  unfold save at h
  split at h
  · cases h
  rename_i hbig
  simp only at h
  split at h
  · rename_i w hw
    split at h
    · cases h
    · rename_i rows hr
      split at h
      · rename_i tr hl
        split at h
        · rename_i ht
          cases h
          exact ⟨⟨w, rows, hw, hr, rfl, rfl, by omega⟩, hl, ht⟩
        · cases h
      all_goals cases h
  all_goals cases h

theorem committed_of_ok (P : Params V) (L : Layout) (d d' : Doc V) (i : SaveInfo) (h : save P L d = (d', .ok i)) :
    Committed P L d d'.st i :=
  (save_ok_committed P L d d' i h).1

/-- a save succeeds only if the typed reload of the trailer does -/
theorem save_ok_typed (P : Params V) (L : Layout) (d d' : Doc V) (i : SaveInfo) (h : save P L d = (d', .ok i)) :
    L.typed = true :=
  (save_ok_committed P L d d' i h).2.2

theorem save_ok_spec (P : Params V) (L : Layout) (d d' : Doc V) (i : SaveInfo) (h : save P L d = (d', .ok i)) :
    ∃ (w : Written V) (rows : List XRef),
      writeChanges P L (prep d).st2.start (prep d).st2.changes ⟨(prep d).st2.refs, (prep d).st2.objs, (prep d).st2.len⟩
        = (w, .ok ()) ∧
      rowsOf ((w.refs.set (prep d).xid (.raw (w.len - (prep d).st2.start) 0)).take ((prep d).xid + 1)) = some rows ∧
      d'.st = commit P L d (prep d) w (w.refs.set (prep d).xid (.raw (w.len - (prep d).st2.start) 0)) rows ∧
      loadTrailer d'.st d.tr.root (prep d).infoRef d.tr.prev = .ok d'.tr ∧
      i.xid = (prep d).xid ∧ i.xpos = w.len - (prep d).st2.start ∧ i.size = (prep d).size ∧ i.rows = rows ∧
      d.st.refs.length + 2 ≤ MAX_ID := by
  obtain ⟨⟨w, rows, hw, hr, hst, hi, hmax⟩, hl, _⟩ := save_ok_committed P L d d' i h
  subst hi
  exact ⟨w, rows, hw, hr, hst, hl, rfl, rfl, rfl, rfl, hmax⟩

theorem take_all (l : List XRef) (n : Nat) (h : l.length ≤ n) : l.take n = l := List.take_of_length_le h

theorem set_get_ne (l : List XRef) (i j : Nat) (x : XRef) (h : i ≠ j) : (l.set i x)[j]? = l[j]? :=
  List.getElem?_set_ne h

theorem set_get_self (l : List XRef) (i : Nat) (x : XRef) (h : i < l.length) : (l.set i x)[i]? = some x :=
  List.getElem?_set_self h

/-- the pending values after the revision: those before it and the cross-reference stream -/
theorem commit_changes (P : Params V) (L : Layout) (d : Doc V) (pr : Prep V) (w : Written V) (refs rows : List XRef)
    (j : Nat) : chLookup (commit P L d pr w refs rows).changes j =
      if j = pr.xid then some (P.xrefVal (saveInfoOf pr w refs rows), 0) else chLookup pr.st2.changes j :=
  chLookup_chInsert _ _ _ _

theorem Committed.changes {P : Params V} {L : Layout} {d : Doc V} {st' : St V} {i : SaveInfo} (h : Committed P L d st' i)
    (j : Nat) : chLookup st'.changes j =
      if j = (prep d).xid then some (P.xrefVal i, 0) else chLookup (prep d).st2.changes j := by
  obtain ⟨w, rows, _, _, hst, hi, _⟩ := h
  rw [hst, hi]; exact commit_changes ..

/-- the state after the write is a state of the invariant (with the caller's trailer, replaced or not) -/
theorem inv_committed (P : Params V) (L : Layout) (hL : L.Pos) (d0 d d' : Doc V) (chain0) (i : SaveInfo)
    (hb : BaseOK d0 chain0) (hi : Inv d0 d) (h : Committed P L d d'.st i) (htr : d'.tr = d.tr) : Inv d0 d' := by
  have pf := prep_facts d0 d chain0 hb hi
  obtain ⟨w, rows, hw, _, hst, hinfo, _⟩ := h
  obtain ⟨k1, ⟨ext, k2, k3⟩, k4, _⟩ := writeChanges_ok P L _ hL.1 _ _ _ hw pf.inv.sorted pf.inv.objs_lt
  simp only at k1 k2 k3
  obtain ⟨f1, _, f3⟩ := writeChanges_rows P L _ _ _ _ _ hw pf.inv.sorted
  have hx : w.refs[(prep d).xid]? = some .promised := by
    obtain ⟨r, hr, hrl⟩ := pf.refs_eq
    rcases f3 (prep d).xid with h | ⟨_, _, _, hc, _⟩
    · rw [h]; show (prep d).st2.refs[(prep d).xid]? = _
      rw [hr, ← hrl]; exact List.getElem?_concat_length
    · rw [pf.xid_free] at hc; cases hc
  -- the loop, then `fulfill(xref_promise, stream)`, then the row of the cross-reference stream, then the backend
  have h1 := inv_refs d0 _ pf.inv w.refs f1 f3
  have h2 := inv_put d0 _ chain0 hb h1 (prep d).xid (P.xrefVal i) .promised hx (Or.inl rfl)
  have h3 := inv_refs d0 _ h2 (w.refs.set (prep d).xid (.raw (w.len - (prep d).st2.start) 0)) List.length_set fun j => by
    by_cases hj : (prep d).xid = j
    · subst hj
      exact Or.inr ⟨_, 0, _, (chLookup_chInsert _ _ _ _).trans (if_pos rfl),
        List.getElem?_set_self (List.getElem?_eq_some_iff.mp hx).1⟩
    · exact Or.inl (List.getElem?_set_ne hj)
  have hx := hL.2 i
  have h4 := inv_grow d0 _ h3 rfl (w.objs ++ [⟨w.len, (prep d).xid, 0, P.xrefRec d.tr (prep d).infoRef i, []⟩])
    (ext ++ [⟨w.len, (prep d).xid, 0, P.xrefRec d.tr (prep d).infoRef i, []⟩])
    ((prep d).st2.secs ++ [⟨w.len, [⟨0, rows⟩], (prep d).size, d.tr.prev, d.tr.root, (prep d).infoRef⟩]) [_]
    (w.len + L.xrefLen i + L.tailLen i) (w.len - (prep d).st2.start)
    (by rw [k2, List.append_assoc]) rfl
    (fun o ho => by
      rcases List.mem_append.mp ho with ho | ho
      · have := k3 o ho; have := k4 o (by rw [k2]; exact List.mem_append_right _ ho)
        exact ⟨k3 o ho, by omega⟩
      · cases List.mem_singleton.mp ho; exact ⟨k1, show w.len < _ by omega⟩)
    (fun s hs => by cases List.mem_singleton.mp hs; exact ⟨k1, show w.len < _ by omega⟩)
    (show (prep d).st2.len ≤ _ by omega)
  obtain ⟨st', tr'⟩ := d'
  cases htr
  rw [show st' = _ from hst, commit, ← hinfo]
  exact h4

theorem save_tr_eq (P : Params V) (L : Layout) (d0 d d' : Doc V) (chain0) (i : SaveInfo)
    (hb : BaseOK d0 chain0) (hi : Inv d0 d) (h : save P L d = (d', .ok i)) : d'.tr = d.tr := by
  have pf := prep_facts d0 d chain0 hb hi
  obtain ⟨w, rows, hw, hr, hst, hl, _, _, _, _, _⟩ := save_ok_spec P L d d' i h
  obtain ⟨t1, t2, _, t4, t5⟩ := loadTrailer_ok _ _ _ _ _ hl
  refine trailer_ext _ _ t1 ?_ t2
  cases hir : (prep d).infoRef with
  | none => rw [t4 hir, (pf.info_none hir).1]
  | some ii =>
    obtain ⟨v, a, b, _, _, _⟩ := pf.info_some ii hir
    have hne : ii ≠ (prep d).xid := fun heq => by rw [heq, pf.xid_free] at b; cases b
    rw [t5 ii v hir (resolve_changed _ _ v 0 (by rw [hst, commit_changes, if_neg hne]; exact b)), a]

theorem inv_save_ok (P : Params V) (L : Layout) (hL : L.Pos) (d0 d d' : Doc V) (chain0) (i : SaveInfo)
    (hb : BaseOK d0 chain0) (hi : Inv d0 d) (h : save P L d = (d', .ok i)) : Inv d0 d' :=
  inv_committed P L hL d0 d d' chain0 i hb hi (committed_of_ok P L d d' i h) (save_tr_eq P L d0 d d' chain0 i hb hi h)

theorem dropLast_get_none (l : List XRef) (j : Nat) (hj : l.length ≤ j + 1) : (l.dropLast)[j]? = none := by
  simp; omega

/-- the state a failed save leaves: the promise for the cross-reference stream withdrawn, entries of
    pending objects possibly moved to (dangling) direct positions -/
theorem inv_rollback (d0 d : Doc V) (chain0) (hb : BaseOK d0 chain0) (hi : Inv d0 d) (R : List XRef)
    (hlen : R.length = (prep d).st2.refs.length)
    (hrow : ∀ j : Nat, j ≠ (prep d).xid → R[j]? = (prep d).st2.refs[j]? ∨
      ∃ v g pos, chLookup (prep d).st2.changes j = some (v, g) ∧ R[j]? = some (.raw pos g)) :
    Inv d0 ⟨{ (prep d).st2 with refs := R.dropLast }, d.tr⟩ := by
  have pf := prep_facts d0 d chain0 hb hi
  obtain ⟨r, hr, hrl⟩ := pf.refs_eq
  have hRl : R.length = r.length + 1 := by rw [hlen, hr, List.length_append]; rfl
  have h1 := inv_dropLast d0 ⟨(prep d).st2, d.tr⟩ pf.inv r hr
    (hrl ▸ Nat.le_trans hi.refs_len pf.xid_ge) (hrl ▸ pf.xid_free)
  refine inv_refs d0 _ h1 R.dropLast (by rw [List.length_dropLast, hRl]; rfl) fun j => ?_
  show R.dropLast[j]? = r[j]? ∨ _
  by_cases hj : j < r.length
  · rw [List.getElem?_dropLast, if_pos (by omega), ← List.getElem?_append_left (l₂ := [XRef.promised]) hj, ← hr]
    exact hrow j (by omega)
  · exact Or.inl (by rw [List.getElem?_eq_none_iff.mpr (by rw [List.length_dropLast]; omega),
      List.getElem?_eq_none_iff.mpr (by omega)])

/-! ### any outcome of `save` -/

theorem keys_lt (d0 d : Doc V) (hi : Inv d0 d) : ∀ id ∈ keys d.st.changes, id < d.st.refs.length := by
  intro id hid
  cases hc : chLookup d.st.changes id with
  | none => rw [chLookup_none_iff] at hc; exact absurd hid hc
  | some x => exact hi.ch_lt id x hc

theorem save_too_big (P : Params V) (L : Layout) (d : Doc V) (h : MAX_ID < d.st.refs.length + 2) :
    save P L d = (d, .err) := by
  unfold save; simp [h]

/-- the three ways `save` ends for a reachable document within the reader's limit: the loop fails, `write_stream`
    fails (both rolled back), or the revision is written — and then the trailer loads or it does not -/
theorem save_cases (P : Params V) (L : Layout) (d0 d : Doc V) (chain0) (hb : BaseOK d0 chain0) (hi : Inv d0 d)
    (hsz : d.st.refs.length + 2 ≤ MAX_ID) :
    (∃ w, writeChanges P L (prep d).st2.start (prep d).st2.changes ⟨(prep d).st2.refs, (prep d).st2.objs, (prep d).st2.len⟩
            = (w, .err) ∧
          save P L d = (⟨{ (prep d).st2 with refs := w.refs.dropLast }, d.tr⟩, .err)) ∨
    (∃ w, writeChanges P L (prep d).st2.start (prep d).st2.changes ⟨(prep d).st2.refs, (prep d).st2.objs, (prep d).st2.len⟩
            = (w, .ok ()) ∧
          rowsOf ((w.refs.set (prep d).xid (.raw (w.len - (prep d).st2.start) 0)).take ((prep d).xid + 1)) = none ∧
          save P L d = (⟨{ (prep d).st2 with
              refs := (w.refs.set (prep d).xid (.raw (w.len - (prep d).st2.start) 0)).dropLast }, d.tr⟩, .err)) ∨
    (∃ w rows, writeChanges P L (prep d).st2.start (prep d).st2.changes ⟨(prep d).st2.refs, (prep d).st2.objs, (prep d).st2.len⟩
            = (w, .ok ()) ∧
          rowsOf ((w.refs.set (prep d).xid (.raw (w.len - (prep d).st2.start) 0)).take ((prep d).xid + 1)) = some rows ∧
          ((∃ i tr, save P L d =
              (⟨commit P L d (prep d) w (w.refs.set (prep d).xid (.raw (w.len - (prep d).st2.start) 0)) rows, tr⟩, .ok i)) ∨
            ((loadTrailer (commit P L d (prep d) w (w.refs.set (prep d).xid (.raw (w.len - (prep d).st2.start) 0)) rows)
                d.tr.root (prep d).infoRef d.tr.prev = .err ∨ L.typed = false) ∧
             save P L d =
              (⟨commit P L d (prep d) w (w.refs.set (prep d).xid (.raw (w.len - (prep d).st2.start) 0)) rows, d.tr⟩, .err)))) := by
  have hout := writeChanges_outcome P L (prep d).st2.start (prep d).st2.changes
    ⟨(prep d).st2.refs, (prep d).st2.objs, (prep d).st2.len⟩ (keys_lt d0 _ (prep_facts d0 d chain0 hb hi).inv)
  unfold save
  rw [if_neg (Nat.not_lt_of_le hsz)]
  simp only
  generalize writeChanges P L _ _ _ = res at hout ⊢
  obtain ⟨w, o⟩ := res
  simp only at hout
  by_cases hall : allOk P (prep d).st2.changes = true
  · rw [if_pos hall] at hout
    subst hout
    refine Or.inr ?_
    simp only
    generalize hr : rowsOf _ = rr
    cases rr with
    | none => exact Or.inl ⟨w, rfl, hr, rfl⟩
    | some rows =>
      refine Or.inr ⟨w, rows, rfl, hr, ?_⟩
      simp only
      generalize hl : loadTrailer _ _ _ _ = lt
      cases lt with
      | ok tr =>
        cases ht : L.typed with
        | true => exact Or.inl ⟨_, tr, rfl⟩
        | false => exact Or.inr ⟨Or.inr rfl, rfl⟩
      | err => exact Or.inr ⟨Or.inl rfl, rfl⟩
      | panic => exact absurd hl (loadTrailer_total _ _ _ _).1
      | oof => exact absurd hl (loadTrailer_total _ _ _ _).2
  · rw [if_neg hall] at hout
    subst hout
    exact Or.inl ⟨w, rfl, rfl⟩

theorem inv_save (P : Params V) (L : Layout) (hL : L.Pos) (d0 d : Doc V) (chain0) (hb : BaseOK d0 chain0)
    (hi : Inv d0 d) : Inv d0 (save P L d).1 ∧ ((∃ i, (save P L d).2 = .ok i) ∨ (save P L d).2 = .err) := by
  have pf := prep_facts d0 d chain0 hb hi
  by_cases hsz : d.st.refs.length + 2 ≤ MAX_ID
  case neg => rw [save_too_big P L d (by omega)]; exact ⟨hi, Or.inr rfl⟩
  rcases save_cases P L d0 d chain0 hb hi hsz with ⟨w, hw, hs⟩ | ⟨w, hw, hr, hs⟩ | ⟨w, rows, hw, hr, hs⟩
  · obtain ⟨f1, _, f3⟩ := writeChanges_rows P L _ _ _ _ _ hw pf.inv.sorted
    rw [hs]
    exact ⟨inv_rollback d0 d chain0 hb hi w.refs f1 fun j _ => f3 j, Or.inr rfl⟩
  · obtain ⟨f1, _, f3⟩ := writeChanges_rows P L _ _ _ _ _ hw pf.inv.sorted
    rw [hs]
    refine ⟨inv_rollback d0 d chain0 hb hi _ (List.length_set.trans f1) fun j hne => ?_, Or.inr rfl⟩
    rw [List.getElem?_set_ne (Ne.symm hne)]; exact f3 j
  · rcases hs with ⟨i, tr, hs⟩ | ⟨_, hs⟩
    · have htr := save_tr_eq P L d0 d _ chain0 i hb hi hs
      rw [hs]
      exact ⟨inv_committed P L hL d0 d _ chain0 _ hb hi ⟨w, rows, hw, hr, rfl, rfl, hsz⟩ htr, Or.inl ⟨i, rfl⟩⟩
    · rw [hs]
      exact ⟨inv_committed P L hL d0 d _ chain0 _ hb hi ⟨w, rows, hw, hr, rfl, rfl, hsz⟩ rfl, Or.inr rfl⟩

/-! ### the revision is in the backend: what holds as soon as `write_revision` succeeded, whatever follows -/

/-- `Committed` with the fields of `i` spelt out (`save_ok_spec` without the trailer load) -/
theorem Committed.spec' {P : Params V} {L : Layout} {d : Doc V} {st' : St V} {i : SaveInfo} (h : Committed P L d st' i) :
    ∃ (w : Written V) (rows : List XRef),
      writeChanges P L (prep d).st2.start (prep d).st2.changes ⟨(prep d).st2.refs, (prep d).st2.objs, (prep d).st2.len⟩
        = (w, .ok ()) ∧
      rowsOf ((w.refs.set (prep d).xid (.raw (w.len - (prep d).st2.start) 0)).take ((prep d).xid + 1)) = some rows ∧
      st' = commit P L d (prep d) w (w.refs.set (prep d).xid (.raw (w.len - (prep d).st2.start) 0)) rows ∧
      i.xid = (prep d).xid ∧ i.xpos = w.len - (prep d).st2.start ∧ i.size = (prep d).size ∧ i.rows = rows ∧
      d.st.refs.length + 2 ≤ MAX_ID := by
  obtain ⟨w, rows, hw, hr, hst, hi, hmax⟩ := h
  subst hi
  exact ⟨w, rows, hw, hr, hst, rfl, rfl, rfl, rfl, hmax⟩

theorem Committed.info {P : Params V} {L : Layout} {d : Doc V} {st' : St V} {i : SaveInfo} (h : Committed P L d st' i)
    (w : Written V) (rows : List XRef)
    (hw : writeChanges P L (prep d).st2.start (prep d).st2.changes ⟨(prep d).st2.refs, (prep d).st2.objs, (prep d).st2.len⟩
        = (w, .ok ()))
    (hr : rowsOf ((w.refs.set (prep d).xid (.raw (w.len - (prep d).st2.start) 0)).take ((prep d).xid + 1)) = some rows) :
    i = saveInfoOf (prep d) w (w.refs.set (prep d).xid (.raw (w.len - (prep d).st2.start) 0)) rows := by
  obtain ⟨w', rows', hw', hr', _, hi, _⟩ := h
  cases hw.symm.trans hw'
  cases hr.symm.trans hr'
  exact hi

/-- `commitInfo` says whether, and with which `SaveInfo`, `save` appended its revision -/
theorem commitInfo_spec (P : Params V) (L : Layout) (d0 d : Doc V) (chain0) (hb : BaseOK d0 chain0) (hi : Inv d0 d) :
    match commitInfo P L d with
    | some i => Committed P L d (save P L d).1.st i ∧ ((save P L d).1.tr = d.tr ∨ ∃ i', (save P L d).2 = .ok i')
    | none =>
      ((save P L d).1.st.objs = d.st.objs ∧ (save P L d).1.st.secs = d.st.secs ∧ (save P L d).1.st.len = d.st.len ∧
        (save P L d).1.st.start = d.st.start ∧ (save P L d).1.st.startxref = d.st.startxref ∧
        (save P L d).1.st.changes = (prep d).st2.changes) ∨ (save P L d).1 = d := by
  have pf := prep_facts d0 d chain0 hb hi
  by_cases hsz : d.st.refs.length + 2 ≤ MAX_ID
  case neg =>
    rw [show commitInfo P L d = none by unfold commitInfo; rw [if_pos (by omega)], save_too_big P L d (by omega)]
    exact Or.inr rfl
  have hnb : ¬ (d.st.refs.length + 2 > MAX_ID) := Nat.not_lt_of_le hsz
  rcases save_cases P L d0 d chain0 hb hi hsz with ⟨w, hw, hs⟩ | ⟨w, hw, hr, hs⟩ | ⟨w, rows, hw, hr, hs⟩
  · rw [show commitInfo P L d = none by unfold commitInfo; simp only [if_neg hnb, hw], hs]
    exact Or.inl ⟨pf.objs_eq, pf.secs_eq, pf.len_same, pf.start_same, pf.sx_same, rfl⟩
  · rw [show commitInfo P L d = none by unfold commitInfo; simp only [if_neg hnb, hw, hr], hs]
    exact Or.inl ⟨pf.objs_eq, pf.secs_eq, pf.len_same, pf.start_same, pf.sx_same, rfl⟩
  · rw [show commitInfo P L d = some _ by unfold commitInfo; simp only [if_neg hnb, hw, hr]; rfl]
    rcases hs with ⟨i', tr, hs⟩ | ⟨_, hs⟩ <;> rw [hs]
    · exact ⟨⟨w, rows, hw, hr, rfl, rfl, hsz⟩, Or.inr ⟨i', rfl⟩⟩
    · exact ⟨⟨w, rows, hw, hr, rfl, rfl, hsz⟩, Or.inl rfl⟩

theorem commitInfo_some (P : Params V) (L : Layout) (d0 d : Doc V) (chain0) (hb : BaseOK d0 chain0) (hi : Inv d0 d)
    (i : SaveInfo) (h : commitInfo P L d = some i) :
    Committed P L d (save P L d).1.st i ∧ ((save P L d).1.tr = d.tr ∨ ∃ i', (save P L d).2 = .ok i') := by
  have := commitInfo_spec P L d0 d chain0 hb hi
  rwa [h] at this

theorem commitInfo_none (P : Params V) (L : Layout) (d0 d : Doc V) (chain0) (hb : BaseOK d0 chain0) (hi : Inv d0 d)
    (h : commitInfo P L d = none) :
    ((save P L d).1.st.objs = d.st.objs ∧ (save P L d).1.st.secs = d.st.secs ∧ (save P L d).1.st.len = d.st.len ∧
      (save P L d).1.st.start = d.st.start ∧ (save P L d).1.st.startxref = d.st.startxref ∧
      (save P L d).1.st.changes = (prep d).st2.changes) ∨ (save P L d).1 = d := by
  have := commitInfo_spec P L d0 d chain0 hb hi
  rwa [h] at this

end Storage
