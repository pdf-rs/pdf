import PdfModel.Lemmas.EncTotal

/-! The encoders of the model emit conforming text (C16). -/

namespace Enc
open Codecs

theorem encodeNibble_lt16 : ∀ n : UInt8, n < 16 → encodeNibble n = .ok (if n < 10 then 48 + n else 87 + n) := by decide +kernel

theorem isHexDigit_encoded : ∀ n : UInt8, n < 16 → IsHexDigit (if n < 10 then 48 + n else 87 + n) n := by
  intro n hn
  by_cases h : n < 10
  · simp [h, IsHexDigit]
  · simp only [h, if_false]
    right
    refine ⟨?_, hn, Or.inl rfl⟩
    rw [UInt8.le_iff_toNat_le]; rw [UInt8.lt_iff_toNat_lt] at h
    simp at h ⊢; omega

theorem encodeHexGo_spec (bs : Bytes) : ∃ body, encodeHexGo bs = .ok (body ++ [62]) ∧ HexBody bs body := by
  induction bs with
  | nil => exact ⟨[], rfl, .nil⟩
  | cons b bs ih =>
    obtain ⟨body, h1, h2⟩ := ih
    refine ⟨_ :: _ :: body, ?_, .byte (isHexDigit_encoded _ (hi_lt b)) (isHexDigit_encoded _ (lo_lt b)) h2⟩
    simp [encodeHexGo, encodeNibble_lt16 _ (hi_lt b), encodeNibble_lt16 _ (lo_lt b), h1]

theorem base85Chunk_eq (n : Nat) (h : n < 4294967296) : base85Chunk n = .ok (group85 n) := by
  obtain ⟨p4, p3, p2, p1, p0⟩ := div_pow85 n
  unfold base85Chunk group85 digit85
  rw [p4, p3, p2, p1, p0, top_digit_mod n h]
  dsimp only
  rw [if_neg (by omega)]

theorem be32_eq (b0 b1 b2 b3 : UInt8) : Enc.be32 b0 b1 b2 b3 = Codecs.be32 b0 b1 b2 b3 := rfl

theorem encode85Go_spec : ∀ (bs : Bytes), ∃ body, encode85Go bs = .ok (body ++ [126, 62]) ∧ A85Body bs body
  | [] => ⟨[], rfl, .nil⟩
  | [b0] => ⟨_, by simp [encode85Go, be32_eq, base85Chunk_eq _ (be32_lt b0 0 0 0)], .tail1⟩
  | [b0, b1] => ⟨_, by simp [encode85Go, be32_eq, base85Chunk_eq _ (be32_lt b0 b1 0 0)], .tail2⟩
  | [b0, b1, b2] => ⟨_, by simp [encode85Go, be32_eq, base85Chunk_eq _ (be32_lt b0 b1 b2 0)], .tail3⟩
  | b0 :: b1 :: b2 :: b3 :: rest => by
    obtain ⟨body, h1, h2⟩ := encode85Go_spec rest
    by_cases hz : b0 = 0 ∧ b1 = 0 ∧ b2 = 0 ∧ b3 = 0
    · obtain ⟨rfl, rfl, rfl, rfl⟩ := hz
      exact ⟨122 :: body, by simp [encode85Go, h1], .z h2⟩
    · exact ⟨group85 (Codecs.be32 b0 b1 b2 b3) ++ body,
        by simp [encode85Go, hz, be32_eq, base85Chunk_eq _ (be32_lt b0 b1 b2 b3), h1], .group h2⟩

end Enc
