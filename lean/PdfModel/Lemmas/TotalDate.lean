import PdfModel.Model.DateRead
import PdfModel.Lemmas.Lexer
import PdfModel.Lemmas.TotalParser

/-!
  `Date::from_primitive` never panics (C01): the three slicing expressions that would panic off a character boundary
  are only reached with the index of an ASCII byte of a validated UTF-8 string, and both sides of an ASCII byte are
  boundaries.
-/

namespace DateRead
open PdfLex

theorem sign_cases (b : UInt8) (h : isSign b = true) : b = 43 ∨ b = 45 ∨ b = 90 := by
  simpa only [isSign, Bool.or_eq_true, beq_iff_eq, or_assoc] using h

theorem sign_ascii (b : UInt8) (h : isSign b = true) : b < 128 := by
  rcases sign_cases b h with rfl | rfl | rfl <;> decide

theorem ascii_not_cont (b : UInt8) (h : b < 128) : isCont b = false := by grind [isCont]

theorem cont_not_ascii (b : UInt8) (h : isCont b = true) : ¬ b < 128 :=
  fun hb => by rw [ascii_not_cont b hb] at h; cases h

theorem range_not_ascii {lo hi b : UInt8} (h : (lo ≤ b && b ≤ hi) = true) (hlo : 128 ≤ lo := by decide) : ¬ b < 128 := by
  grind

/-- a byte in a range above the continuation bytes (the lead bytes of table 3-7, "Well-Formed UTF-8 Byte Sequences", of the Unicode Standard) -/
theorem above_not_cont {lo hi b : UInt8} (h : (lo ≤ b && b ≤ hi) = true) (hlo : 191 < lo := by decide) :
    isCont b = false := by
  grind [isCont]

/-- a byte in a range inside the continuation bytes (the restricted second bytes of table 3-7) -/
theorem range_cont {lo hi b : UInt8} (h : (lo ≤ b && b ≤ hi) = true) (hlo : 128 ≤ lo := by decide)
    (hhi : hi ≤ 191 := by decide) : isCont b = true := by
  grind [isCont]

/-- a well-formed string does not start with a continuation byte -/
theorem utf8_head (b : UInt8) (r : Bytes) (h : utf8Valid (b :: r) = true) : isCont b = false := by
  unfold utf8Valid at h
  by_cases h0 : b < 128
  · exact ascii_not_cont b h0
  by_cases h2 : (194 ≤ b && b ≤ 223) = true
  · exact above_not_cont h2
  by_cases h3 : (224 ≤ b && b ≤ 239) = true
  · exact above_not_cont h3
  by_cases h4 : (240 ≤ b && b ≤ 244) = true
  · exact above_not_cont h4
  rw [if_neg h0, if_neg h2, if_neg h3, if_neg h4] at h
  cases h

/-- in a well-formed string the byte after an ASCII byte is not a continuation byte -/
theorem after_ascii : ∀ (s : Bytes), utf8Valid s = true → ∀ (p : Nat) (b b' : UInt8), s[p]? = some b → b < 128 →
    s[p + 1]? = some b' → isCont b' = false := by
  intro s
  fun_induction utf8Valid s with
  | case1 => intro _ p b b' h; simp at h
  | case2 b0 rest h0 ih =>
    intro hv p b b' hp hb hp'
    cases p with
    | zero =>
      cases rest with
      | nil => simp at hp'
      | cons c r => simp at hp'; subst hp'; exact utf8_head c r hv
    | succ p => exact ih hv p b b' hp hb hp'
  | case3 b0 h0 h1 b1 r ih =>
    intro hv p b b' hp hb hp'
    simp only [Bool.and_eq_true] at hv
    match p with
    | 0 => cases hp; exact absurd hb (range_not_ascii h1)
    | 1 => cases hp; exact absurd hb (cont_not_ascii _ hv.1)
    | p + 2 => exact ih hv.2 p b b' hp hb hp'
  | case4 => intro hv; cases hv
  | case5 b0 h0 h1 h2 b1 b2 r ih =>
    intro hv p b b' hp hb hp'
    simp only [Bool.and_eq_true] at hv
    have c1 : isCont b1 = true := by
      obtain ⟨⟨hh, _⟩, _⟩ := hv
      split at hh
      · exact range_cont hh
      · split at hh
        · exact range_cont hh
        · exact hh
    match p with
    | 0 => cases hp; exact absurd hb (range_not_ascii h2)
    | 1 => cases hp; exact absurd hb (cont_not_ascii _ c1)
    | 2 => cases hp; exact absurd hb (cont_not_ascii _ hv.1.2)
    | p + 3 => exact ih hv.2 p b b' hp hb hp'
  | case6 => intro hv; cases hv
  | case7 b0 h0 h1 h2 h3 b1 b2 b3 r ih =>
    intro hv p b b' hp hb hp'
    simp only [Bool.and_eq_true] at hv
    have c1 : isCont b1 = true := by
      obtain ⟨⟨⟨hh, _⟩, _⟩, _⟩ := hv
      split at hh
      · exact range_cont hh
      · split at hh
        · exact range_cont hh
        · exact hh
    match p with
    | 0 => cases hp; exact absurd hb (range_not_ascii h3)
    | 1 => cases hp; exact absurd hb (cont_not_ascii _ c1)
    | 2 => cases hp; exact absurd hb (cont_not_ascii _ hv.1.1.2)
    | 3 => cases hp; exact absurd hb (cont_not_ascii _ hv.1.2)
    | p + 4 => exact ih hv.2 p b b' hp hb hp'
  | case8 => intro hv; cases hv
  | case9 => intro hv; cases hv

theorem findSign_spec : ∀ (s : Bytes) (p : Nat), findSign s = some p → ∃ b, s[p]? = some b ∧ isSign b = true := by
  intro s
  induction s with
  | nil => intro p h; simp [findSign] at h
  | cons c r ih =>
    intro p h
    unfold findSign at h
    split at h
    · cases h; exact ⟨c, by simp, ‹_›⟩
    · cases hr : findSign r with
      | none => simp [hr] at h
      | some q =>
        simp [hr] at h; subst h
        obtain ⟨b, hb, hs⟩ := ih q hr
        exact ⟨b, by simpa using hb, hs⟩

theorem isBoundary_zero (s : Bytes) : isBoundary s 0 = true := by simp [isBoundary]

theorem isBoundary_len (s : Bytes) : isBoundary s s.length = true := by simp [isBoundary]

/-- both sides of an ASCII byte of a well-formed string are character boundaries -/
theorem boundary_around_ascii (s : Bytes) (hv : utf8Valid s = true) (p : Nat) (b : UInt8) (hp : s[p]? = some b)
    (hb : b < 128) : isBoundary s p = true ∧ isBoundary s (p + 1) = true := by
  constructor
  · simp [isBoundary, hp, ascii_not_cont b hb]
  · cases hq : s[p + 1]? with
    | none =>
      have h1 : p < s.length := by
        rcases Nat.lt_or_ge p s.length with h | h
        · exact h
        · rw [List.getElem?_eq_none h] at hp; cases hp
      have h2 : s.length ≤ p + 1 := by
        rcases Nat.lt_or_ge (p + 1) s.length with h | h
        · rw [List.getElem?_eq_getElem h] at hq; cases hq
        · exact h
      have : p + 1 = s.length := by omega
      rw [this]; exact isBoundary_len s
    | some b' => simp [isBoundary, hq, after_ascii s hv p b b' hp hb hq]

/-- `Date::from_primitive` on EVERY byte string: no slicing panic, the `unreachable!()` is unreachable -/
theorem readDate_total (data : Bytes) : (readDate data).Returns := by
  unfold readDate
  by_cases hv : (!utf8Valid data) = true
  · rw [if_pos hv]; exact .err
  by_cases hd : (!startsD data) = true
  · rw [if_neg hv, if_pos hd]; exact .err
  rw [if_neg hv, if_neg hd]
  have hv : utf8Valid data = true := by simpa using hv
  cases strGet data 2 6 with
  | none => exact .err
  | some y =>
    simp only []
    cases parseUnsigned 65535 y with
    | none => exact .err
    | some year =>
      simp only []
      cases hp : findSign data with
      | none => exact .ok _
      | some p =>
        obtain ⟨b, hb, hs⟩ := findSign_spec data p hp
        obtain ⟨b1, b2⟩ := boundary_around_ascii data hv p b hb (sign_ascii b hs)
        have hlt : p < data.length := (List.getElem?_eq_some_iff.1 hb).1
        have hc : strIndex data p (p + 1) = .ok [b] := by
          have : List.take 1 (List.drop p data) = [b] := by
            rw [List.getElem?_eq_getElem hlt] at hb
            cases hb
            rw [List.drop_eq_getElem_cons hlt]; simp [List.take]
          simp [strIndex, strGet, b1, b2, this]
        have ht : strIndex data 0 p = .ok (data.take p) := by
          simp [strIndex, strGet, b1, isBoundary_zero]
        have hz : strIndex data (p + 1) data.length = .ok (data.drop (p + 1)) := by
          have : p + 1 ≤ data.length := hlt
          have h2 : List.take (List.length data - (p + 1)) (List.drop (p + 1) data) = List.drop (p + 1) data :=
            List.take_of_length_le (by simp)
          simp [strIndex, strGet, b2, isBoundary_len, this, h2]
        simp only [hc, ht, hz]
        rcases sign_cases b hs with rfl | rfl | rfl <;> simp [relOf, Out.Returns]

theorem digitsVal_le (max : Nat) : ∀ (s : Bytes) (acc v : Nat), acc ≤ max → digitsVal? max s acc = some v → v ≤ max := by
  intro s
  induction s with
  | nil => intro acc v h hv; simp [digitsVal?] at hv; omega
  | cons c r ih =>
    intro acc v h hv
    unfold digitsVal? at hv
    split at hv
    · simp only [] at hv
      split at hv
      · cases hv
      · exact ih _ v (by omega) hv
    · cases hv

/-- what `parse::<uN>` returns fits the type -/
theorem parseUnsigned_le (max : Nat) (s : Bytes) (v : Nat) (h : parseUnsigned max s = some v) : v ≤ max := by
  unfold parseUnsigned at h
  split at h
  · cases h
  · split at h
    · cases h
    · exact digitsVal_le max _ 0 v (Nat.zero_le _) h
  · split at h <;> exact digitsVal_le max _ 0 v (Nat.zero_le _) h

theorem parseOr_le (s : Bytes) (a b d : Nat) (hd : d ≤ 255) : parseOr s a b d ≤ 255 := by
  unfold parseOr
  split
  · rename_i t _
    cases hp : parseUnsigned 255 t with
    | none => simpa using hd
    | some v => simpa using parseUnsigned_le 255 t v hp
  · exact hd

theorem relOf_le (c : Bytes) (r : Nat) (h : relOf c = .ok r) : r ≤ 2 := by
  unfold relOf at h
  repeat' split at h
  all_goals cases h
  all_goals omega

/-- what a successful read is made of -/
theorem readDate_ok_form (data : Bytes) (d : Derive.Date) (h : readDate data = .ok d) :
    ∃ (y : Bytes) (year : Nat) (time : Bytes) (rel : Nat) (zone : Bytes),
      parseUnsigned 65535 y = some year ∧ rel ≤ 2 ∧ d = finish year time rel zone := by
  unfold readDate at h
  split at h
  · cases h
  · split at h
    · cases h
    · split at h
      · cases h
      · rename_i y _
        split at h
        · cases h
        · rename_i year hy
          split at h
          · cases h; exact ⟨y, year, data, 2, [], hy, by omega, rfl⟩
          · split at h
            · rename_i c _
              split at h
              · rename_i rel hrel
                split at h
                · rename_i time zone _ _
                  cases h
                  exact ⟨y, year, time, rel, zone, hy, relOf_le c rel hrel, rfl⟩
                · cases h
              · cases h
            · cases h

/-- the fields of a date that was read fit their types (`u16`, `u8`; `TimeRel` has three values) -/
theorem readDate_bounds (data : Bytes) (d : Derive.Date) (h : readDate data = .ok d) :
    d.year ≤ 65535 ∧ d.month ≤ 255 ∧ d.day ≤ 255 ∧ d.hour ≤ 255 ∧ d.minute ≤ 255 ∧ d.second ≤ 255 ∧
    d.rel ≤ 2 ∧ d.tzHour ≤ 255 ∧ d.tzMinute ≤ 255 := by
  obtain ⟨y, year, time, rel, zone, hy, hr, rfl⟩ := readDate_ok_form data d h
  simp only [finish]
  exact ⟨parseUnsigned_le 65535 y year hy, parseOr_le _ _ _ _ (by decide), parseOr_le _ _ _ _ (by decide),
    parseOr_le _ _ _ _ (by decide), parseOr_le _ _ _ _ (by decide), parseOr_le _ _ _ _ (by decide), hr,
    parseOr_le _ _ _ _ (by decide), parseOr_le _ _ _ _ (by decide)⟩

end DateRead
