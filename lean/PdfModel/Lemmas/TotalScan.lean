import PdfModel.Model.ScanLoop
import PdfModel.Lemmas.TotalXrefTable
import PdfModel.Lemmas.TotalGlue

/-!
  The item loop of `Storage::scan` on the concrete lexer / parser (`Model/ScanLoop.lean`, C17) is total — C01.

  Every call of the iterator's closure (`ScanLoop.step`) answers `None` (the iteration ends) or an item at a cursor
  strictly further inside the slice; it never answers `Err` itself (errors are items), never panics, and the fuel
  `len + 2` for its `startxref … continue` recursion never runs out. Hence the iterator ends after at most `len`
  items (`ScanLoop.items` with fuel `len + 2`). `scanItemsOf` turns the loop into the `scanItems` parameter of
  `Offsets.Parsers` WITHOUT hiding a failure of the loop: a `panic` / `oof` of `items` would be an item that does not
  return — so `ParamsOk.scan` for it is a consequence of the totality proved here, not of the shape of a map.
-/

namespace ScanLoop
open PdfLex XrefTable Offsets

variable {R : Type}

theorem skipXref_spec (buf : Buf) : ∀ (fuel pos : Nat), pos ≤ buf.size → buf.size - pos < fuel →
    skipXref buf fuel pos = .err ∨ ∃ q, skipXref buf fuel pos = .ok q ∧ pos < q ∧ q ≤ buf.size := by
  intro fuel
  induction fuel with
  | zero => intro pos _ hf; omega
  | succ fuel ih =>
    intro pos h hf
    unfold skipXref
    rcases next_spec buf pos h with he | ⟨w, hw, a1, a2, a3⟩
    · left; rw [he]
    · rw [hw]; simp only []
      split
      · right; exact ⟨w.2, rfl, by omega, a3⟩
      · rcases ih w.2 a3 (by omega) with he | ⟨q, hq, q1, q2⟩
        · left; exact he
        · right; exact ⟨q, hq, by omega, q2⟩

/-- one call of the closure: the end of the iteration, or an item and a cursor strictly further inside the slice -/
theorem step_spec (env : Env R) (henv : EnvOk env) (buf : Buf) (hs : RealSize buf) :
    ∀ (fuel pos : Nat), pos ≤ buf.size → buf.size - pos < fuel →
    (∃ p, step env buf (PdfLex.defaultFuel buf) fuel pos = .ok (none, p)) ∨
    ∃ it q, step env buf (PdfLex.defaultFuel buf) fuel pos = .ok (some it, q) ∧ pos < q ∧ q ≤ buf.size := by
  intro fuel
  induction fuel with
  | zero => intro pos _ hf; omega
  | succ fuel ih =>
    intro pos h hf
    unfold step
    -- `1023` is `Flags.any` (`ParseFlags::all()`)
    rcases parseIndirectObject_good env henv buf hs (PdfLex.defaultFuel buf) pos 1023 h
        (by unfold PdfLex.defaultFuel; omega) with he | ⟨v, q, hq, q1, q2⟩
    · rw [he]; simp only []
      by_cases hne : eofInHeader buf pos = true
      · rw [if_pos hne]; left; exact ⟨pos, rfl⟩
      · rw [if_neg hne]
        rcases next_spec buf pos h with hn | ⟨w, hw, a1, a2, a3⟩
        · -- no lexeme left is EOF in the header, which ended the iteration above: every other branch has a
          -- lexeme `w` behind which its item lies, and that is the progress
          exfalso; apply hne; unfold eofInHeader; rw [hn]
        · rw [hw]; simp only []
          by_cases hx : (slice buf w.1 w.2 == kwXref) = true <;> simp only [hx, if_true, if_false, Bool.false_eq_true]
          · rcases skipXref_spec buf (buf.size + 1) w.2 a3 (by omega) with hk | ⟨k, hk, k1, k2⟩
            · rw [hk]; right; exact ⟨_, w.2, rfl, by omega, a3⟩
            · rw [hk]; simp only []
              rcases trailerDict_good env henv buf hs k k2 with ht | ⟨d, q2, ht, t1, t2⟩
              · rw [ht]; right; exact ⟨_, k, rfl, by omega, k2⟩
              · rw [ht]; right; exact ⟨_, q2, rfl, by omega, t2⟩
          · by_cases hsx : (slice buf w.1 w.2 == kwStartxref) = true <;>
              simp only [hsx, if_true, if_false, Bool.false_eq_true]
            · rcases next_spec buf w.2 a3 with hn2 | ⟨w2, hw2, b1, b2, b3⟩
              · rw [hn2]; right; exact ⟨_, w.2, rfl, by omega, a3⟩
              · rw [hw2]; simp only []
                rcases ih w2.2 b3 (by omega) with ⟨p, hr⟩ | ⟨it, q, hr, r1, r2⟩
                · left; exact ⟨p, hr⟩
                · right; exact ⟨it, q, hr, by omega, r2⟩
            · right; exact ⟨_, w.2, rfl, by omega, a3⟩
    · rcases v with ⟨⟨id, gen⟩, v⟩
      rw [hq]; right; exact ⟨_, q, rfl, q1, q2⟩

/-- the iterator: it ends, with at most one item per byte of the slice -/
theorem items_spec (env : Env R) (henv : EnvOk env) (buf : Buf) (hs : RealSize buf) :
    ∀ (fuel pos : Nat), pos ≤ buf.size → buf.size - pos < fuel →
    ∃ l, items env buf (PdfLex.defaultFuel buf) fuel pos = .ok l ∧ l.length ≤ buf.size - pos := by
  intro fuel
  induction fuel with
  | zero => intro pos _ hf; omega
  | succ fuel ih =>
    intro pos h hf
    unfold items
    rcases step_spec env henv buf hs (buf.size + 2) pos h (by omega) with ⟨p, hp⟩ | ⟨it, q, hq, q1, q2⟩
    · rw [hp]; exact ⟨[], rfl, Nat.zero_le _⟩
    · rw [hq]; simp only []
      obtain ⟨l, hl, hlen⟩ := ih q q2 (by omega)
      rw [hl]; exact ⟨it :: l, rfl, by simp; omega⟩

/-- what an item is for `Offsets.Parsers.scanItems`: an object, a trailer dictionary, or an error -/
def itemOut : Item R → Out (Obj (Prim R))
  | .obj _ _ v => .ok (.plain v)
  | .trailer d => .ok (.plain (.dict d))
  | .error => .err

/-- the item loop as the `scanItems` parameter of the open path (the file ranges of stream objects are dropped: only
    totality is asked of this parameter). A `panic` / `oof` of the loop is NOT hidden: it would be an item that does
    not return. A slice longer than `isize::MAX` does not exist in Rust. -/
def scanItemsOf (env : Env R) (sl : OffLex.Bytes) : List (Out (Obj (Prim R))) :=
  if sl.length ≤ isizeMax then
    match items { env with fileOffset := 0 } sl.toArray (PdfLex.defaultFuel sl.toArray) (sl.length + 2) 0 with
    | .ok l => l.map itemOut
    | .err => [.err]
    | .panic => [.panic]
    | .oof => [.oof]
  else []

theorem itemOut_returns (it : Item R) : (itemOut it).Returns := by
  cases it <;> simp [itemOut, Out.Returns]

/-- **every item of the recovery scan returns, and there are at most `len` of them** -/
theorem scanItemsOf_spec (env : Env R) (henv : EnvOk env) (sl : OffLex.Bytes) :
    (∀ it ∈ scanItemsOf env sl, it.Returns) ∧ (scanItemsOf env sl).length ≤ sl.length := by
  unfold scanItemsOf
  split
  · rename_i hlen
    have henv' : EnvOk { env with fileOffset := 0 } := ⟨henv.1, henv.2⟩
    obtain ⟨l, hl, hn⟩ := items_spec _ henv' sl.toArray (realSize_of_len (by simpa using hlen))
      (sl.length + 2) 0 (Nat.zero_le _) (by simp)
    rw [hl]
    refine ⟨fun it hit => ?_, by simpa using hn⟩
    obtain ⟨x, _, rfl⟩ := List.mem_map.1 hit
    exact itemOut_returns x
  · exact ⟨fun it hit => (by cases hit), Nat.zero_le _⟩

/-- the parameters of `coreParsers` with the scan loop made concrete: nothing is assumed about the scan -/
theorem paramsOk_scan (env : Env R) (typed : Dict R → Out XrefTable.XInfo)
    (sdata : Dict R → StreamInner → Out (List UInt8)) (dec : Dict R → OffLex.Bytes → Out OffLex.Bytes)
    (henv : EnvOk env) (htyped : ∀ d, Ret (typed d)) (hsdata : ∀ d i, Ret (sdata d i))
    (hdec : ∀ d raw, Ret (dec d raw) ∧ ∀ out, dec d raw = .ok out → out.length ≤ isizeMax) :
    ParamsOk env typed sdata dec (scanItemsOf env) :=
  ⟨henv, htyped, hsdata, hdec, fun s => (scanItemsOf_spec env henv s).1⟩

end ScanLoop
