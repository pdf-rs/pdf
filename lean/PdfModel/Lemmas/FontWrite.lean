import PdfModel.Model.FontWrite
import PdfModel.Lemmas.Derive

/-! `Font::to_primitive` against `FontLoad.fontPlan` (C15). -/

namespace FontLoad
open Derive

/-- the tags of the written dictionary: `/Subtype` is the tag of the VARIANT of the data, `/Type` is `/Font` -/
theorem finish_tags (f : FontW) (encP : Option Prim) (d : Dict) :
    dget "Subtype" (finish f encP d) = some (.name f.variant.tag) ∧
    dget "Type" (finish f encP d) = some (.name "Font") := by
  simp [finish, dget_dinsert]

theorem finish_baseFont (f : FontW) (encP : Option Prim) (d : Dict) (n : String) (hn : f.name = some n) :
    dget "BaseFont" (finish f encP d) = some (.name n) := by
  simp [finish, dget_dinsert, hn]

theorem finish_toUnicode (f : FontW) (encP : Option Prim) (d : Dict) :
    dget "ToUnicode" (finish f encP d) = (match f.toUnicode with | some r => some r | none => dget "ToUnicode" d) := by
  cases hu : f.toUnicode <;> cases encP <;> cases hn : f.name <;> simp [finish, dget_dinsert, hu, hn]

theorem finish_encoding (f : FontW) (encP : Option Prim) (d : Dict) :
    dget "Encoding" (finish f encP d) = (match encP with | some q => some q | none => dget "Encoding" d) := by
  cases hu : f.toUnicode <;> cases encP <;> cases hn : f.name <;> simp [finish, dget_dinsert, hu, hn]

/-- every other entry is the data's own -/
theorem finish_foreign (f : FontW) (encP : Option Prim) (d : Dict) (k : String)
    (hk : k ≠ "Subtype" ∧ k ≠ "Type" ∧ k ≠ "BaseFont" ∧ k ≠ "Encoding" ∧ k ≠ "ToUnicode") :
    dget k (finish f encP d) = dget k d := by
  obtain ⟨h1, h2, h3, h4, h5⟩ := hk
  cases hu : f.toUnicode <;> cases encP <;> cases hn : f.name <;>
    simp [finish, dget_dinsert, hu, hn, Ne.symm h1, Ne.symm h2, Ne.symm h3, Ne.symm h4, Ne.symm h5]

/-- reading the tag back selects the variant it was written for, and that variant's `from_dict` -/
theorem tag_selects_variant (v : Variant) (hv : v ≠ .other) :
    variantOf v.tag = v ∧ loaderOf v.tag = v.loader := by
  cases v <;> simp [Variant.tag, variantOf, loaderOf, Variant.loader] at hv ⊢

/-- distinct variants have distinct tags: no two variants are written alike -/
theorem tag_injective (a b : Variant) (ha : a ≠ .other) (hb : b ≠ .other) (h : a.tag = b.tag) : a = b := by
  have := (tag_selects_variant a ha).1
  rw [h, (tag_selects_variant b hb).1] at this
  exact this.symm

theorem trunc_ok (env : Env) (dd : Dict) (h : ∀ q, dget "DescendantFonts" dd = some q → ∃ xs, q = .arr xs) :
    ∃ d4, truncDescendants env dd = .ok d4 := by
  simp only [truncDescendants]
  cases hq : dget "DescendantFonts" dd with
  | none => exact ⟨_, rfl⟩
  | some q =>
    obtain ⟨xs, rfl⟩ := h q hq
    exact ⟨dinsert "DescendantFonts" (.arr (xs.take 1)) (derase "DescendantFonts" dd), by simp [resolve1, resolveP]⟩

/-- **what `Font::to_primitive` writes is accepted by `Font::from_primitive` up to the subtype's `from_dict`, as the
    same variant**: the plan of the reader (C01) for the written dictionary exists, its subtype is the tag of the
    variant of the data, its loader is the one `loaderOf` gives for that tag (the variant's own: `tag_selects_variant`), and the
    name and the `/ToUnicode` reference are the value's -/
theorem fontPlan_written (env : Env) (fontType : Schema) (f : FontW)
    (hft : readSubtype env fontType (.name f.variant.tag) = .ok f.variant.tag)
    (n : String) (hn : f.name = some n) (encP : Option Prim)
    (henc : ∀ q, encP = some q → ∃ e, readEncoding env env.depth q = .ok e)
    (d : Dict) (hnoenc : encP = none → dget "Encoding" d = none)
    (hdesc : ∀ q, dget "DescendantFonts" d = some q → ∃ xs, q = .arr xs) :
    ∃ pl, fontPlan env fontType (.dict (finish f encP d)) = .ok pl ∧
      pl.subtype = f.variant.tag ∧ pl.loader = loaderOf f.variant.tag ∧ pl.name = some n ∧
      pl.toUnicode = (match f.toUnicode with | some r => some r | none => dget "ToUnicode" d) ∧
      readEncodingOpt env (derase "Subtype" (finish f encP d)) = .ok pl.encoding := by
  have hS := (finish_tags f encP d).1
  have hT := (finish_tags f encP d).2
  have hB := finish_baseFont f encP d n hn
  have hU := finish_toUnicode f encP d
  have hE := finish_encoding f encP d
  have hD : dget "DescendantFonts" (finish f encP d) = dget "DescendantFonts" d :=
    finish_foreign f encP d "DescendantFonts" (by decide)
  -- the encoding entry is readable (or absent)
  have hencR : ∃ eo, readEncodingOpt env (derase "Subtype" (finish f encP d)) = .ok eo := by
    simp only [readEncodingOpt, dget_derase, hE]
    cases encP with
    | none => simp [hnoenc rfl]
    | some q =>
      obtain ⟨e, he⟩ := henc q rfl
      simp [he]
  obtain ⟨eo, heo⟩ := hencR
  -- the cut of /DescendantFonts cannot fail on an array
  have htr : ∃ d4, (if loaderOf f.variant.tag = Loader.type0
      then truncDescendants env (derase "ToUnicode" (derase "Encoding" (derase "Subtype" (finish f encP d))))
      else .ok (derase "ToUnicode" (derase "Encoding" (derase "Subtype" (finish f encP d))))) = .ok d4 := by
    by_cases hl : loaderOf f.variant.tag = Loader.type0
    · simp only [hl, if_true]
      exact trunc_ok env _ (by
        intro q hq
        simp [dget_derase, hD] at hq
        exact hdesc q hq)
    · exact ⟨derase "ToUnicode" (derase "Encoding" (derase "Subtype" (finish f encP d))), by simp [hl]⟩
  obtain ⟨d4, h4⟩ := htr
  refine ⟨{ subtype := f.variant.tag, name := some n, encoding := eo,
            toUnicode := dget "ToUnicode" (derase "Encoding" (derase "Subtype" (finish f encP d))),
            other := derase "ToUnicode" (derase "Encoding" (derase "Subtype" (finish f encP d))),
            loader := loaderOf f.variant.tag, dict := d4 }, ?_, rfl, rfl, rfl, ?_, heo⟩
  · simp only [fontPlan, resolve1, resolveP, hS, hft, expect, dget_derase, hT, baseFont, hB, heo, h4]
    simp
  · simp [dget_derase, hU]

end FontLoad
