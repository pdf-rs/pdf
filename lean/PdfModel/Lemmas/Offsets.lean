import PdfModel.Model.Offsets

/-! Helper lemmas for Props/C17: the two searches under a prefix, and the offset algebra of every
    consumer under a prefix. -/

namespace Offsets
open OffLex

/-! ## forward search -/

theorem isPrefixOf_iff (pat l : Bytes) : pat.isPrefixOf l = true ↔ pat <+: l := List.isPrefixOf_iff_prefix

/-- no occurrence starts inside `p` ⇒ the first occurrence in `p ++ g` is the first one in `g` -/
theorem findFirst_append (pat p g : Bytes)
    (hno : ∀ j, j < p.length → ¬ pat <+: (p ++ g).drop j) :
    findFirst pat (p ++ g) = (findFirst pat g).map (· + p.length) := by
  induction p with
  | nil => simp
  | cons a p ih =>
    have h0 : ¬ pat <+: (a :: p ++ g) := by simpa using hno 0 (by simp)
    have h0' : pat.isPrefixOf (a :: (p ++ g)) = false := by
      cases h : pat.isPrefixOf (a :: (p ++ g)) with
      | false => rfl
      | true => exact absurd ((isPrefixOf_iff _ _).1 h) (by simpa using h0)
    have ih' := ih (by
      intro j hj
      have := hno (j + 1) (by simp; omega)
      simpa using this)
    simp only [List.cons_append, findFirst, h0', Bool.false_eq_true, if_false, ih', List.length_cons]
    cases findFirst pat g <;> simp [Nat.add_assoc]

theorem findFirst_some_prefix (pat : Bytes) : ∀ (l : Bytes) (s : Nat), findFirst pat l = some s → pat <+: l.drop s := by
  intro l
  induction l with
  | nil => intro s h; simp [findFirst] at h
  | cons a l ih =>
    intro s h
    simp only [findFirst] at h
    split at h
    · rename_i hp; cases h; simpa using (isPrefixOf_iff _ _).1 hp
    · cases hf : findFirst pat l with
      | none => simp [hf] at h
      | some i => simp [hf] at h; subst h; simpa using ih i hf

/-- cutting the buffer behind the first occurrence does not move it -/
theorem findFirst_take (pat : Bytes) (hpat : 0 < pat.length) : ∀ (l : Bytes) (n s : Nat),
    findFirst pat l = some s → s + pat.length ≤ n → findFirst pat (l.take n) = some s := by
  intro l
  induction l with
  | nil => intro n s h; simp [findFirst] at h
  | cons a l ih =>
    intro n s h hn
    simp only [findFirst] at h
    split at h
    · rename_i hp
      cases h
      have hp' := (isPrefixOf_iff _ _).1 hp
      cases n with
      | zero => omega
      | succ n =>
        have : pat.isPrefixOf ((a :: l).take (n + 1)) = true := by
          rw [isPrefixOf_iff]
          exact List.prefix_take_iff.2 ⟨hp', by omega⟩
        simp only [List.take_succ_cons] at this ⊢
        simp [findFirst, this]
    · rename_i hp
      cases hf : findFirst pat l with
      | none => simp [hf] at h
      | some i =>
        simp [hf] at h; subst h
        cases n with
        | zero => omega
        | succ n =>
          have hnp : pat.isPrefixOf (a :: l.take n) = false := by
            cases hq : pat.isPrefixOf (a :: l.take n) with
            | false => rfl
            | true =>
              have h1 : pat <+: (a :: l).take (n + 1) := by simpa using (isPrefixOf_iff _ _).1 hq
              have h2 := (List.prefix_take_iff.1 h1).1
              exact absurd ((isPrefixOf_iff _ _).2 h2) (by simpa using hp)
          simp only [List.take_succ_cons, findFirst, hnp, Bool.false_eq_true, if_false]
          rw [ih n i hf (by omega)]; rfl

theorem findFirst_le (pat : Bytes) : ∀ (l : Bytes) (j : Nat), pat <+: l.drop j → j < l.length →
    ∃ i, i ≤ j ∧ findFirst pat l = some i := by
  intro l
  induction l with
  | nil => intro j _ hj; simp at hj
  | cons a l ih =>
    intro j h hj
    by_cases hp : pat.isPrefixOf (a :: l) = true
    · exact ⟨0, by omega, by simp [findFirst, hp]⟩
    · cases j with
      | zero => exact absurd ((isPrefixOf_iff _ _).2 (by simpa using h)) hp
      | succ j =>
        obtain ⟨i, hi, hfi⟩ := ih j (by simpa using h) (by simpa using hj)
        exact ⟨i + 1, by omega, by simp [findFirst, hp, hfi]⟩

/-- `locate_start_offset` under a prefix, exact form: no occurrence of the marker starts inside the
    prefix, and the header found in `f` still ends inside the first kilobyte. -/
theorem locateStart_append (p f : Bytes) (s : Nat) (hs : locateStart f = .ok s)
    (hno : ∀ j, j < p.length → ¬ headerMarker <+: (p ++ f).drop j)
    (hl : p.length + s + 5 ≤ headerWindow) :
    locateStart (p ++ f) = .ok (p.length + s) := by
  unfold locateStart at hs ⊢
  cases hf : findFirst headerMarker (f.take (min headerWindow f.length)) with
  | none => simp [hf] at hs
  | some s' =>
    simp only [hf] at hs
    cases hs
    have hocc := findFirst_some_prefix _ _ _ hf
    have hlen5 : headerMarker.length = 5 := rfl
    have h5 : s + 5 ≤ min headerWindow f.length := by
      have := hocc.length_le
      simp only [List.length_drop, List.length_take, hlen5] at this
      omega
    -- the window of `p ++ f` is `p` followed by a (shorter) window of `f`
    have hW : (p ++ f).take (min headerWindow (p ++ f).length)
        = p ++ (f.take (min headerWindow f.length)).take (min headerWindow (p ++ f).length - p.length) := by
      rw [List.take_append, List.take_take]
      have h1 : p.take (min headerWindow (p ++ f).length) = p := by
        apply List.take_of_length_le; simp; omega
      rw [h1]
      congr 2
      simp; omega
    rw [hW]
    have hfw := findFirst_take headerMarker (by decide) _ (min headerWindow (p ++ f).length - p.length) s hf
      (by simp only [hlen5, List.length_append]; omega)
    rw [findFirst_append, hfw]
    · simp [Nat.add_comm]
    · intro j hj hpre
      apply hno j hj
      rw [← hW] at hpre
      rw [List.drop_take] at hpre
      exact hpre.trans (List.take_prefix _ _)

/-- An occurrence of the marker that *straddles* the boundary between a prefix and a file that itself
    begins with the marker is impossible: it would need one of `P D F -` to equal `%`. -/
theorem no_straddle (q f' : Bytes) (hq : 0 < q.length) (hq5 : q.length < 5) :
    ¬ headerMarker <+: q ++ (headerMarker ++ f') := by
  intro h
  have h' := (isPrefixOf_iff _ _).2 h
  match q, hq, hq5 with
  | [a], _, _ => simp [headerMarker, List.isPrefixOf] at h'
  | [a, b], _, _ => simp [headerMarker, List.isPrefixOf] at h'
  | [a, b, c], _, _ => simp [headerMarker, List.isPrefixOf] at h'
  | [a, b, c, d], _, _ => simp [headerMarker, List.isPrefixOf] at h'
  | _ :: _ :: _ :: _ :: _ :: _, _, h5 => simp at h5; omega

/-- the marker neither inside the prefix nor across its end -/
theorem no_occurrence_before (p f : Bytes) (hf : headerMarker <+: f) (hp : ¬ headerMarker <:+: p) :
    ∀ j, j < p.length → ¬ headerMarker <+: (p ++ f).drop j := by
  intro j hj h
  rw [List.drop_append_of_le_length (by omega)] at h
  obtain ⟨f', rfl⟩ := hf
  by_cases h5 : (p.drop j).length < 5
  · exact no_straddle (p.drop j) f' (by simp; omega) h5 h
  · have hpre : headerMarker <+: p.drop j :=
      List.prefix_of_prefix_length_le h (List.prefix_append _ _) (by simp [headerMarker] at h5 ⊢; omega)
    exact hp (hpre.isInfix.trans (List.drop_suffix j p).isInfix)

/-! ## backward search -/

theorem findLast_append (pat p g : Bytes) (s : Nat) (h : findLast pat g = some s) :
    findLast pat (p ++ g) = some (p.length + s) := by
  induction p with
  | nil => simpa using h
  | cons a p ih => simp only [List.cons_append, findLast, ih, List.length_cons]; congr 1; omega

theorem drop_prefix {α : Type} (p f : List α) (q : Nat) : (p ++ f).drop (p.length + q) = f.drop q := by
  rw [List.drop_append]
  have : List.drop (p.length + q) p = [] := List.drop_eq_nil_of_le (by omega)
  rw [this]; simp

/-- the search window `buf[.. len - 1]` of a prefixed file, when `startxref` was found in the file's own window -/
theorem searchWindow_append (p f : Bytes) (s : Nat) (h : findLast startxrefKw (f.take (f.length - 1)) = some s) :
    findLast startxrefKw ((p ++ f).take ((p ++ f).length - 1)) = some (p.length + s) := by
  -- `f` is not empty (the keyword was found in it), so the window of `p ++ f` is `p` followed by the window
  -- of `f`, and the backward search stops at `f`'s own last occurrence
  have hlen : 1 ≤ f.length := by cases f <;> simp_all [findLast]
  have htake : (p ++ f).take ((p ++ f).length - 1) = p ++ f.take (f.length - 1) := by
    rw [List.take_append, List.take_of_length_le (by simp; omega)]; congr 2; simp; omega
  rw [htake, findLast_append _ _ _ _ h]

/-- `locate_xref_offset` only looks at the last `startxref` and what follows it -/
theorem locateXref_append (p f : Bytes) (s : Nat)
    (h : findLast startxrefKw (f.take (f.length - 1)) = some s) :
    locateXref (p ++ f) = locateXref f := by
  unfold locateXref
  rw [searchWindow_append p f s h, h]
  simp only
  rw [Nat.add_assoc, drop_prefix]

/-! ## offset algebra under a prefix -/

def shiftOut {V : Type} (k : Nat) : Out (Obj V) → Out (Obj V)
  | .ok o => .ok (o.shift k)
  | .err => .err | .panic => .panic | .oof => .oof

theorem readFrom_append (p f : Bytes) (q : Nat) :
    readFrom (p ++ f) (p.length + q) = readFrom f q := by
  unfold readFrom
  simp only [List.length_append, Nat.add_le_add_iff_left, drop_prefix]

theorem readRange_append (p f : Bytes) (a b : Nat) :
    readRange (p ++ f) (p.length + a) (p.length + b) = readRange f a b := by
  unfold readRange
  simp only [List.length_append, Nat.add_le_add_iff_left, drop_prefix]
  have : p.length + b - (p.length + a) = b - a := by omega
  rw [this]

/-- the prefixed file still fits the address space (every `Vec<u8>` does) -/
def Fits (p f : Bytes) : Prop := p.length + f.length ≤ usizeMax

theorem suffixAt_append (p f : Bytes) (s off : Nat) (hfit : Fits p f) :
    suffixAt (p ++ f) (p.length + s) off =
      match suffixAt f s off with
      | .ok (q, sfx) => .ok (p.length + q, sfx)
      | .err => .err | .panic => .panic | .oof => .oof := by
  unfold Fits at hfit
  unfold suffixAt checkedAdd
  by_cases h1 : s + off > usizeMax
  · have h2 : p.length + s + off > usizeMax := by omega
    simp [h1, h2]
  · by_cases h2 : p.length + s + off > usizeMax
    · -- only the prefixed sum overflows: then the unprefixed position is already beyond the file
      have : ¬ s + off ≤ f.length := by omega
      simp [h1, h2, readFrom, this]
    · simp only [h1, h2, if_false]
      rw [Nat.add_assoc, readFrom_append]
      cases readFrom f (s + off) <;> simp

theorem suffixAtStrict_append (p f : Bytes) (s off : Nat) (hfit : Fits p f) :
    suffixAtStrict (p ++ f) (p.length + s) off =
      match suffixAtStrict f s off with
      | .ok (q, sfx) => .ok (p.length + q, sfx)
      | .err => .err | .panic => .panic | .oof => .oof := by
  unfold Fits at hfit
  unfold suffixAtStrict checkedAdd
  by_cases h1 : s + off > usizeMax
  · have h2 : p.length + s + off > usizeMax := by omega
    simp [h1, h2]
  · by_cases h2 : p.length + s + off > usizeMax
    · have : s + off ≥ f.length := by omega
      simp [h1, h2, this]
    · simp only [h1, h2, if_false, List.length_append]
      by_cases h3 : s + off ≥ f.length
      · have : p.length + s + off ≥ p.length + f.length := by omega
        simp [h3, this]
      · have : ¬ p.length + s + off ≥ p.length + f.length := by omega
        simp only [h3, this, if_false]
        rw [Nat.add_assoc, drop_prefix]

variable {V T : Type}

/-- one round of the `/Prev` loop as a chain of `bind`s -/
theorem prevLoop_succ (P : Parsers V T) (buf : Bytes) (start fuel : Nat) (seen : List Nat) (pv : Nat)
    (t : Xref.Table) :
    prevLoop P buf start (fuel + 1) seen (some pv) t =
      if seen.contains pv then .err else
      (suffixAt buf start pv).bind fun qs => (P.xrefAt qs.2).bind fun st => (Xref.addSubs t st.1).bind fun t' =>
      match P.prevOf st.2 with
      | none => .ok t'
      | some o => o.bind fun pv' => prevLoop P buf start fuel (pv :: seen) (some pv') t' := by
  rw [prevLoop]
  split
  · rfl
  · cases suffixAt buf start pv with
    | ok qs =>
      obtain ⟨q, sfx⟩ := qs
      simp only [Out.bind_ok]
      cases P.xrefAt sfx with
      | ok st =>
        obtain ⟨subs, tr⟩ := st
        simp only [Out.bind_ok]
        cases Xref.addSubs t subs with
        | ok t' =>
          simp only [Out.bind_ok]
          cases P.prevOf tr with
          | none => rfl
          | some o => cases o <;> rfl
        | _ => rfl
      | _ => rfl
    | _ => rfl

/-- `read_xref_table_and_trailer` as a chain of `bind`s -/
theorem loadTable_eq (P : Parsers V T) (fuel : Nat) (buf : Bytes) (start : Nat) :
    loadTable P fuel buf start =
      (locateXref buf).bind fun x => (suffixAtStrict buf start x).bind fun qs => (P.xrefAt qs.2).bind fun st =>
      (P.sizeOf st.2).bind fun size => if size > maxId then .err else
      (Xref.addSubs (Xref.newTable size) st.1).bind fun t =>
      match P.prevOf st.2 with
      | none => .ok (t, st.2)
      | some o => o.bind fun pv => (prevLoop P buf start fuel [] (some pv) t).bind fun t' => .ok (t', st.2) := by
  unfold loadTable
  cases locateXref buf with
  | ok x =>
    simp only [Out.bind_ok]
    cases suffixAtStrict buf start x with
    | ok qs =>
      obtain ⟨q, sfx⟩ := qs
      simp only [Out.bind_ok]
      cases P.xrefAt sfx with
      | ok st =>
        obtain ⟨subs, tr⟩ := st
        simp only [Out.bind_ok]
        cases P.sizeOf tr with
        | ok size =>
          simp only [Out.bind_ok]
          split
          · rfl
          · cases Xref.addSubs (Xref.newTable size) subs with
            | ok t =>
              simp only [Out.bind_ok]
              cases P.prevOf tr with
              | none => rfl
              | some o =>
                cases o with
                | ok pv => simp only [Out.bind_ok]; cases prevLoop P buf start fuel [] (some pv) t <;> rfl
                | _ => rfl
            | _ => rfl
        | _ => rfl
      | _ => rfl
    | _ => rfl
  | _ => rfl

theorem prevLoop_append (P : Parsers V T) (p f : Bytes) (s : Nat) (hfit : Fits p f) :
    ∀ (fuel : Nat) (seen : List Nat) (pv : Option Nat) (t : Xref.Table),
      prevLoop P (p ++ f) (p.length + s) fuel seen pv t = prevLoop P f s fuel seen pv t := by
  intro fuel
  induction fuel with
  | zero => intro seen pv t; cases pv <;> simp [prevLoop]
  | succ fuel ih =>
    intro seen pv t
    cases pv with
    | none => simp [prevLoop]
    | some pv =>
      rw [prevLoop_succ, prevLoop_succ, suffixAt_append p f s pv hfit]
      simp only [ih]
      cases suffixAt f s pv <;> rfl

theorem loadTable_append (P : Parsers V T) (p f : Bytes) (s k fuel : Nat) (hfit : Fits p f)
    (hk : findLast startxrefKw (f.take (f.length - 1)) = some k) :
    loadTable P fuel (p ++ f) (p.length + s) = loadTable P fuel f s := by
  rw [loadTable_eq, loadTable_eq, locateXref_append p f k hk]
  refine Out.bind_congr_ok fun x _ => ?_
  simp only [suffixAtStrict_append p f s x hfit, prevLoop_append P p f s hfit]
  cases suffixAtStrict f s x <;> rfl

theorem finishStream_shift (P : Parsers V T) (sfx : Bytes) (k q : Nat) (info : V) (rel n : Nat) :
    finishStream P sfx (k + q) info rel n = shiftOut k (finishStream P sfx q info rel n) := by
  unfold finishStream
  split
  · rfl
  · cases P.streamEnd (sfx.drop (rel + n)) <;> simp [shiftOut, Obj.shift, Nat.add_assoc]

theorem streamWithLen_shift (P : Parsers V T) (k : Nat) (r r' : Nat → Out (Obj V))
    (hr : ∀ lid, r' lid = shiftOut k (r lid)) (sfx : Bytes) (q : Nat) (info : V) (rel : Nat) (ls : LenSpec) :
    streamWithLen P r' sfx (k + q) info rel ls = shiftOut k (streamWithLen P r sfx q info rel ls) := by
  cases ls with
  | direct n => simp only [streamWithLen, finishStream_shift]
  | indirect lid =>
    simp only [streamWithLen, hr lid]
    cases r lid with
    | ok o2 =>
      cases o2 with
      | plain v =>
        simp only [shiftOut, Obj.shift]
        cases P.asLen v with
        | ok n => simp only [finishStream_shift]; rfl
        | _ => rfl
      | stream _ _ _ => simp [shiftOut, Obj.shift]
    | _ => rfl
  | bad => rfl

theorem directBody_append (P : Parsers V T) (p f : Bytes) (s : Nat) (hfit : Fits p f)
    (r r' : Nat → Out (Obj V)) (hr : ∀ lid, r' lid = shiftOut p.length (r lid)) (flags : Flags) (pos : Nat) :
    directBody P r' (p ++ f) (p.length + s) flags pos = shiftOut p.length (directBody P r f s flags pos) := by
  unfold directBody
  rw [suffixAt_append p f s pos hfit]
  cases suffixAt f s pos with
  | ok qs =>
    obtain ⟨q, sfx⟩ := qs
    simp only
    cases P.objAt flags sfx with
    | ok o =>
      cases o with
      | plain v => simp [shiftOut, Obj.shift]
      | stream info rel ls => exact streamWithLen_shift P p.length r r' hr sfx q info rel ls
    | _ => rfl
  | _ => rfl

theorem compressedBody_append (P : Parsers V T) (p f : Bytes) (c : Out (Obj V)) (flags : Flags) (idx : Nat) :
    compressedBody P (shiftOut p.length c) (p ++ f) flags idx = shiftOut p.length (compressedBody P c f flags idx) := by
  unfold compressedBody
  cases c with
  | ok o =>
    cases o with
    | plain v => rfl
    | stream info a b =>
      simp only [shiftOut, Obj.shift, readRange_append]
      cases P.stmHead info with
      | ok nf =>
        obtain ⟨n, first⟩ := nf
        simp only
        cases readRange f a b with
        | ok raw =>
          simp only
          cases P.decode info raw with
          | ok data =>
            simp only
            cases ObjStm.parseHeader n data with
            | ok offsets =>
              simp only
              cases ObjStm.getObjectSlice offsets first (.ok data) idx with
              | ok dse =>
                obtain ⟨d, s, e⟩ := dse
                simp only
                cases ObjStm.memberSlice d s e with
                | ok slice =>
                  simp only
                  cases P.parseMember flags slice <;> rfl
                | _ => rfl
              | _ => rfl
            | _ => rfl
          | _ => rfl
        | _ => rfl
      | _ => rfl
  | _ => rfl

theorem resolveRef_append (P : Parsers V T) (p f : Bytes) (s : Nat) (t : Xref.Table) (hfit : Fits p f) :
    ∀ (fuel : Nat) (chain : List Nat) (flags : Flags) (id : Nat),
      resolveRef P (p ++ f) (p.length + s) t fuel chain flags id
        = shiftOut p.length (resolveRef P f s t fuel chain flags id) := by
  intro fuel
  induction fuel with
  | zero => intro chain flags id; rfl
  | succ fuel ih =>
    intro chain flags id
    simp only [resolveRef]
    cases Xref.lookup t id with
    | direct pos =>
      simp only
      exact directBody_append P p f s hfit _ _ (fun lid => ih chain .integer lid) flags pos
    | compressed sid idx =>
      simp only
      split
      · rfl
      · rw [ih (sid :: chain) .any sid]
        exact compressedBody_append P p f _ flags idx
    | freeObject => rfl
    | nullRef => rfl
    | unspecified => rfl
    | unimplemented => rfl

theorem rawData_shift (p f : Bytes) (o : Obj V) : rawData (p ++ f) (o.shift p.length) = rawData f o := by
  cases o with
  | plain v => rfl
  | stream i a b => simp [rawData, Obj.shift, readRange_append]

theorem shift_shift (a b : Nat) (o : Obj V) : (o.shift b).shift a = o.shift (a + b) := by
  cases o <;> simp [Obj.shift, Nat.add_assoc]

theorem scan_append (P : Parsers V T) (p f : Bytes) (s k : Nat) (hfit : Fits p f)
    (hk : findLast startxrefKw (f.take (f.length - 1)) = some k) :
    scan P (p ++ f) (p.length + s) =
      match scan P f s with
      | .ok items => .ok (items.map (shiftOut p.length))
      | .err => .err | .panic => .panic | .oof => .oof := by
  unfold Fits at hfit
  unfold scan
  rw [locateXref_append p f k hk]
  cases locateXref f with
  | ok x =>
    simp only [checkedAdd]
    by_cases h1 : s + x > usizeMax
    · have h2 : p.length + s + x > usizeMax := by omega
      simp [h1, h2]
    · by_cases h2 : p.length + s + x > usizeMax
      · have : ¬ (s + x ≤ f.length) := by omega
        simp [h1, h2, readRange, this]
      · simp only [h1, h2, if_false]
        rw [Nat.add_assoc, readRange_append]
        cases readRange f s (s + x) with
        | ok slice =>
          simp only [List.map_map]
          congr 1
          apply List.map_congr_left
          intro it _
          cases it <;> simp [shiftOut, shift_shift]
        | _ => rfl
  | _ => rfl

end Offsets

namespace C11
open Offsets

/-- the direct branch of `resolve_ref` returns the plain value that the object parser finds at the offset -/
theorem direct_reads {V T : Type} (P : Parsers V T) (buf : OffLex.Bytes) (start : Nat) (t : Xref.Table) (fuel : Nat)
    (chain : List Nat) (flags : Offsets.Flags) (id pos q : Nat) (sfx : OffLex.Bytes) (v : V)
    (hlook : Xref.lookup t id = .direct pos) (hsfx : suffixAt buf start pos = .ok (q, sfx))
    (hobj : P.objAt flags sfx = .ok (.plain v)) :
    resolveRef P buf start t (fuel + 1) chain flags id = .ok (.plain v) := by
  simp only [resolveRef, hlook, directBody, hsfx, hobj]

end C11
