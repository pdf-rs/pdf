import PdfModel.Lemmas.DeriveShape

/-! The field loops of the derived reader and writer (C15). -/

namespace Derive

/-- the dictionary key of a keyed field, as the loops of `Model/Derive` compute it (`f.key.getD ""`) -/
def keyOf (f : Field) : String := f.key.getD ""

theorem keyOf_eq (f : Field) : f.key.getD "" = keyOf f := rfl

/-- keys of the fields the loops touch, in order: the recursion of the loops themselves; `Schema.fieldKeys` is the same
    list for a well-formed schema (`fieldKeys_eq_fkeys`) -/
def fkeys : List Field → List String
  | [] => []
  | f :: fs => if f.skip || f.other then fkeys fs else keyOf f :: fkeys fs

/-- `vs'` holds one value per keyed field, related by `P` to the value of `vs` for that field -/
def FieldsRel (P : Field → Val → Val → Prop) : List Field → List Val → List Val → Prop
  | [], _, vs' => vs' = []
  | f :: fs, vs, vs' =>
    if f.skip || f.other then FieldsRel P fs vs vs'
    else match vs, vs' with
      | v :: t, v' :: t' => P f v v' ∧ FieldsRel P fs t t'
      | _, _ => False

theorem FieldsRel_eq {Q : Field → Val → Prop} :
    ∀ (fs : List Field) (vs vs' : List Val), FieldsOk Q fs vs → FieldsRel (fun _ v v' => v' = v) fs vs vs' → vs' = vs := by
  intro fs
  induction fs with
  | nil => intro vs vs' h h'; rw [h', h]
  | cons f fs ih =>
    intro vs vs' h h'
    simp only [FieldsOk, FieldsRel] at h h'
    cases hso : (f.skip || f.other) with
    | true => simp only [hso, if_true] at h h'; exact ih vs vs' h h'
    | false =>
      simp only [hso, Bool.false_eq_true, if_false] at h h'
      match vs, vs', h, h' with
      | v :: t, v' :: t', h, h' => rw [h'.1, ih t t' h.2 h'.2]
      | [], _, h, _ => exact h.elim

theorem FieldsOk_mono {P Q : Field → Val → Prop} (h : ∀ f v, P f v → Q f v) :
    ∀ (fs : List Field) (vs : List Val), FieldsOk P fs vs → FieldsOk Q fs vs := by
  intro fs
  induction fs with
  | nil => intro vs hv; simpa [FieldsOk] using hv
  | cons f fs ih =>
    intro vs hv
    simp only [FieldsOk] at hv ⊢
    cases hso : (f.skip || f.other) with
    | true => simp only [hso, if_true] at hv ⊢; exact ih vs hv
    | false =>
      simp [hso] at hv ⊢
      cases vs with
      | nil => simp at hv
      | cons v vs' => simp only at hv ⊢; exact ⟨h f v hv.1, ih vs' hv.2⟩

/-- the law of one keyed field with the relation left open: reading what the writer emits for `v` (`null` if it emits
    nothing) succeeds with some `v'` such that `P f v v'`. `FieldLaw` is this for `P f v v' := emit sem f v' = emit sem f v`,
    `FieldLawV` for `P _ v v' := v' = v` (instantiated so in `struct_law`, `struct_reads_back`). -/
def ReadsAs (cfg : Cfg) (sem : Sem) (env : Env) (P : Field → Val → Val → Prop) (f : Field) (v : Val) : Prop :=
  ∀ e, emit sem f v = .ok e → ∃ v', readShape cfg sem env f.shape (e.getD .null) = .ok v' ∧ P f v v'

/-! ## `distinct` -/

theorem distinct_cons (x : String) (xs : List String) :
    distinct (x :: xs) = true ↔ x ∉ xs ∧ distinct xs = true := by
  simp [distinct]

theorem distinct_append {xs ys : List String} (h : distinct (xs ++ ys) = true) :
    distinct xs = true ∧ distinct ys = true ∧ ∀ x ∈ xs, x ∉ ys := by
  induction xs with
  | nil => simp [distinct] at *; exact h
  | cons x xs ih =>
    rw [List.cons_append, distinct_cons] at h
    obtain ⟨hx, hr⟩ := h
    obtain ⟨h1, h2, h3⟩ := ih hr
    refine ⟨(distinct_cons x xs).2 ⟨fun hm => hx (List.mem_append_left _ hm), h1⟩, h2, ?_⟩
    intro y hy
    cases List.mem_cons.1 hy with
    | inl e => subst e; exact fun hm => hx (List.mem_append_right _ hm)
    | inr hm => exact h3 y hm

/-! ## the writer loop -/

/-- one step of the writer loop: a skipped or catch-all field writes nothing; a keyed field takes the next value and
    puts what `emit` gives for it (if anything) under its key -/
theorem writeFields_cons_ok {sem : Sem} {f : Field} {fs : List Field} {vs : List Val} {d D : Dict} :
    writeFields sem (f :: fs) vs d = .ok D ↔
      if (f.skip || f.other) = true then writeFields sem fs vs d = .ok D
      else ∃ v vs' e, vs = v :: vs' ∧ emit sem f v = .ok e ∧
        writeFields sem fs vs' (e.elim d fun q => dinsert (keyOf f) q d) = .ok D := by
  by_cases hso : (f.skip || f.other) = true
  · simp only [writeFields, if_pos hso]
  · simp only [writeFields, if_neg hso]
    cases vs with
    | nil => simp
    | cons v vs' =>
      cases he : emit sem f v with
      | error e => simp [he]
      | ok e =>
        refine Iff.trans ?_ ⟨fun h => ⟨v, vs', e, rfl, he, h⟩, ?_⟩
        · cases e <;> simp [he, keyOf]
        · rintro ⟨_, _, e', hvs, he', h⟩; cases hvs; cases he.symm.trans he'; exact h

theorem writeFields_foreign (sem : Sem) (k : String) :
    ∀ (fs : List Field) (vs : List Val) (d D : Dict), writeFields sem fs vs d = .ok D → k ∉ fkeys fs →
      dget k D = dget k d := by
  intro fs
  induction fs with
  | nil => intro vs d D h _; cases h; rfl
  | cons f fs ih =>
    intro vs d D h hk
    rw [writeFields_cons_ok] at h
    by_cases hso : (f.skip || f.other) = true
    · rw [if_pos hso] at h; exact ih vs d D h (by simpa [fkeys, hso] using hk)
    · rw [if_neg hso] at h
      obtain ⟨v, vs', e, rfl, -, h⟩ := h
      have hk : keyOf f ≠ k ∧ k ∉ fkeys fs := by simpa [fkeys, hso, eq_comm] using hk
      rw [ih vs' _ D h hk.2]
      cases e
      · rfl
      · exact dget_dinsert_ne hk.1 _ d

theorem writeFields_derase (sem : Sem) (k : String) :
    ∀ (fs : List Field) (vs : List Val) (d D : Dict), writeFields sem fs vs d = .ok D → k ∉ fkeys fs →
      writeFields sem fs vs (derase k d) = .ok (derase k D) := by
  intro fs
  induction fs with
  | nil => intro vs d D h _; cases h; rfl
  | cons f fs ih =>
    intro vs d D h hk
    rw [writeFields_cons_ok] at h ⊢
    by_cases hso : (f.skip || f.other) = true
    · rw [if_pos hso] at h ⊢; exact ih vs d D h (by simpa [fkeys, hso] using hk)
    · rw [if_neg hso] at h ⊢
      obtain ⟨v, vs', e, rfl, he, h⟩ := h
      have hk : keyOf f ≠ k ∧ k ∉ fkeys fs := by simpa [fkeys, hso, eq_comm] using hk
      refine ⟨v, vs', e, rfl, he, ?_⟩
      have := ih vs' _ D h hk.2
      cases e
      · exact this
      · rwa [Option.elim, derase_dinsert_comm hk.1] at this
theorem writeFields_emitsEq (sem : Sem) :
    ∀ (fs : List Field) (vs vs' : List Val) (d D : Dict),
      FieldsRel (fun f v v' => emit sem f v' = emit sem f v) fs vs vs' →
      writeFields sem fs vs d = .ok D → writeFields sem fs vs' d = .ok D := by
  intro fs
  induction fs with
  | nil => intro vs vs' d D _ h; cases h; rfl
  | cons f fs ih =>
    intro vs vs' d D he h
    rw [writeFields_cons_ok] at h ⊢
    simp only [FieldsRel] at he
    by_cases hso : (f.skip || f.other) = true
    · rw [if_pos hso] at h he ⊢; exact ih vs vs' d D he h
    · rw [if_neg hso] at h he ⊢
      obtain ⟨v, t, e, rfl, hem, h⟩ := h
      cases vs' with
      | nil => exact he.elim
      | cons v' t' => exact ⟨v', t', e, rfl, he.1.trans hem, ih t t' _ D he.2 h⟩

/-- the derived writer succeeds exactly when the field loop over the base dictionary does -/
theorem writeStruct_ok {sem : Sem} {S : Schema} {vals : List Val} {other : Dict} {p : Prim} :
    writeStruct sem S (.struct vals other) = .ok p ↔
      ∃ D, writeFields sem S.fields vals (writeBase S other) = .ok D ∧ p = .dict D := by
  simp only [writeStruct]
  cases writeFields sem S.fields vals (writeBase S other) <;> simp [eq_comm]

/-! ## write, then read -/

theorem indirectOf_not_null (f : Field) {p : Prim} (h : p.isNull = false) : (indirectOf f p).isNull = false := by
  simp only [indirectOf]
  split
  · split
    · exact h
    · rfl
  · exact h

theorem emit_some_not_null {sem : Sem} {f : Field} {v : Val} {q : Prim} (h : emit sem f v = .ok (some q)) :
    q.isNull = false := by
  simp only [emit] at h
  cases hw : writeShape sem f.shape v with
  | error e => simp [hw] at h
  | ok p =>
    simp only [hw] at h
    cases hp : p.isNull with
    | true => simp [hp] at h
    | false => simp [hp] at h; subst h; exact indirectOf_not_null f hp

theorem lastIsOther_cons_other {f : Field} {fs : List Field} (h : lastIsOther (f :: fs) = true) (ho : f.other = true) :
    fs = [] := by
  cases fs with
  | nil => rfl
  | cons g gs => simp [lastIsOther, ho] at h

theorem lastIsOther_tail {f : Field} {fs : List Field} (h : lastIsOther (f :: fs) = true) :
    lastIsOther fs = true := by
  cases fs with
  | nil => simp [lastIsOther]
  | cons g gs => simp [lastIsOther] at h; exact h.2

/-- what the reader makes of the entry the writer emitted for a field: the shape reader's result on it (on `null` if
    nothing was emitted, which for a field with a default cannot happen) -/
theorem readField_emitted (cfg : Cfg) (sem : Sem) (env : Env) (f : Field) (acc : List Val) {e : Option Prim} {v' : Val}
    (hr : readShape cfg sem env f.shape (e.getD .null) = .ok v') (hdef : e = none → f.default = none)
    (hqn : ∀ q, e = some q → q.isNull = false) : readField cfg sem env f acc e = .ok v' := by
  cases e with
  | none => simp [readField, hdef rfl, readPlain, readAbsent, show readShape cfg sem env f.shape .null = .ok v' from hr]
  | some q =>
    have hr : readShape cfg sem env f.shape q = .ok v' := hr
    cases hd : f.default with
    | none => simp [readField, hd, readPlain, hr]
    | some dx => simp [readField, hd, readDefaulted, hqn q rfl, hr]

/-- the heart of the struct laws: what the writer loop produced over `d` is read back field by field, leaving `d`,
    each value read standing in relation `P` to the value written (`P`: "the writer emits the same again" for the
    round-trip law, equality for the exact one) -/
theorem read_written (cfg : Cfg) (sem : Sem) (env : Env) (P : Field → Val → Val → Prop) :
    ∀ (fs : List Field) (d : Dict) (vs : List Val) (D : Dict) (acc : List Val) (oth : Option Dict),
      (∀ f ∈ fs, f.skip = false) → lastIsOther fs = true → distinct (fkeys fs) = true →
      (∀ k ∈ fkeys fs, dget k d = none) →
      writeFields sem fs vs d = .ok D →
      FieldsOk (fun f v => ReadsAs cfg sem env P f v ∧ DefaultedNonNull sem f v) fs vs →
      ∃ vs', readFields cfg sem env fs D acc oth
              = .ok (acc ++ vs', d, if fs.any (·.other) then some d else oth)
        ∧ FieldsRel P fs vs vs' := by
  intro fs
  induction fs with
  | nil =>
    intro d vs D acc oth _ _ _ _ hw _
    simp [writeFields] at hw; subst hw
    exact ⟨[], by simp [readFields], rfl⟩
  | cons f fs ih =>
    intro d vs D acc oth hskip hlast hdist hfresh hw hok
    have hs : f.skip = false := hskip f (by simp)
    cases ho : f.other with
    | true =>
      have hnil := lastIsOther_cons_other hlast ho
      subst hnil
      simp [writeFields, hs, ho] at hw; subst hw
      exact ⟨[], by simp [readFields, hs, ho], by simp [FieldsRel, hs, ho]⟩
    | false =>
      have hso : (f.skip || f.other) = false := by simp [hs, ho]
      simp only [FieldsOk, hso] at hok
      simp [fkeys, hso] at hdist hfresh
      rw [distinct_cons] at hdist
      cases vs with
      | nil => simp at hok
      | cons v vs₀ =>
        simp only at hok
        obtain ⟨⟨hlaw, hnn⟩, hok'⟩ := hok
        rw [writeFields_cons_ok, if_neg (by simp [hso])] at hw
        obtain ⟨_, _, e, hvs, hem, hw⟩ := hw
        cases hvs
        obtain ⟨v', hr, hP⟩ := hlaw e hem
        -- the entry under the field's key is what was emitted; without it, the rest of the loop wrote over `d`
        have hent : dget (keyOf f) D = e := by
          rw [writeFields_foreign sem (keyOf f) fs vs₀ _ D hw hdist.1]
          cases e
          · exact hfresh.1
          · exact dget_dinsert_self ..
        have hw2 := writeFields_derase sem (keyOf f) fs vs₀ _ D hw hdist.1
        have hke : derase (keyOf f) (e.elim d fun q => dinsert (keyOf f) q d) = d := by
          cases e
          · exact derase_fresh hfresh.1
          · exact derase_dinsert_fresh _ hfresh.1
        rw [hke] at hw2
        obtain ⟨vs'', hrd, heq⟩ := ih d vs₀ (derase (keyOf f) D) (acc ++ [v']) oth
          (fun g hg => hskip g (by simp [hg])) (lastIsOther_tail hlast) hdist.2 hfresh.2 hw2 hok'
        refine ⟨v' :: vs'', ?_, by simp [FieldsRel, hso, hP, heq]⟩
        have hk := keyOf_eq f
        simp only [readFields, hs, ho, hk, hent]
        rw [readField_emitted cfg sem env f acc hr (fun he => ?_) (fun q he => emit_some_not_null (he ▸ hem))]
        · simp [hrd, ho]
        · cases hd : f.default with
          | none => rfl
          | some dx => exact absurd (he ▸ hem) (hnn (by simp [hd]))

/-! ## the base dictionary: catch-all, `/Type`, checks -/

theorem dget_insertChecks_foreign (k : String) :
    ∀ (cs : List (String × String)) (d : Dict), k ∉ cs.map (·.1) → dget k (insertChecks cs d) = dget k d := by
  intro cs
  induction cs with
  | nil => intro d _; rfl
  | cons c cs ih =>
    obtain ⟨k0, v0⟩ := c
    intro d hk
    simp at hk
    simp only [insertChecks]
    rw [ih _ (by simpa using hk.2)]
    exact dget_dinsert_ne (fun h => hk.1 h.symm) _ d

theorem dget_insertChecks_mem :
    ∀ (cs : List (String × String)) (d : Dict), distinct (cs.map (·.1)) = true → ∀ k v, (k, v) ∈ cs →
      dget k (insertChecks cs d) = some (.name v) := by
  intro cs
  induction cs with
  | nil => intro d _ k v h; simp at h
  | cons c cs ih =>
    obtain ⟨k0, v0⟩ := c
    intro d hd k v hm
    simp only [List.map_cons, distinct_cons] at hd
    simp only [insertChecks]
    cases List.mem_cons.1 hm with
    | inl e =>
      cases e
      rw [dget_insertChecks_foreign k0 cs _ hd.1]; simp
    | inr hm' => exact ih _ hd.2 k v hm'

theorem insertChecks_idem :
    ∀ (cs : List (String × String)) (d : Dict), (∀ k v, (k, v) ∈ cs → dget k d = some (.name v)) →
      insertChecks cs d = d := by
  intro cs
  induction cs with
  | nil => intro d _; rfl
  | cons c cs ih =>
    obtain ⟨k0, v0⟩ := c
    intro d h
    simp only [insertChecks]
    rw [dinsert_idem (h k0 v0 (by simp))]
    exact ih d (fun k v hm => h k v (by simp [hm]))

theorem expectAll_ok (d : Dict) :
    ∀ cs : List (String × String), (∀ k v, (k, v) ∈ cs → dget k d = some (.name v)) → expectAll d cs = .ok () := by
  intro cs
  induction cs with
  | nil => intro _; rfl
  | cons c cs ih =>
    obtain ⟨k0, v0⟩ := c
    intro h
    simp only [expectAll, expect, h k0 v0 (by simp)]
    simp
    exact ih (fun k v hm => h k v (by simp [hm]))

theorem expect_derase {d : Dict} {key value : String} {req : Bool} {k : String} (h : key ≠ k) :
    expect (derase k d) key value req = expect d key value req := by
  simp only [expect, dget_derase_ne (k := key) (k' := k) (fun e => h e.symm) d]

theorem expectAll_derase {d : Dict} {k : String} :
    ∀ cs : List (String × String), k ∉ cs.map (·.1) → expectAll (derase k d) cs = expectAll d cs := by
  intro cs
  induction cs with
  | nil => intro _; rfl
  | cons c cs ih =>
    obtain ⟨k0, v0⟩ := c
    intro h
    simp at h
    simp only [expectAll, expect_derase (d := d) (key := k0) (value := v0) (req := true) (k := k) (fun e => h.1 e.symm)]
    cases expect d k0 v0 true with
    | error e => rfl
    | ok u => cases u; exact ih (by simpa using h.2)

end Derive
