import PdfModel.Spec.Derive

/-! Helper lemmas for Props/C15: dictionary algebra, all-or-nothing maps. -/

namespace Derive

/-! ## dictionaries -/

@[simp] theorem dget_dinsert_self (k : String) (v : Prim) (d : Dict) : dget k (dinsert k v d) = some v := by
  induction d with
  | nil => simp [dinsert, dget]
  | cons h t ih =>
    obtain ⟨k', v'⟩ := h
    by_cases hk : k' = k <;> simp [dinsert, dget, hk, ih]

theorem dget_dinsert_ne {k k' : String} (h : k' ≠ k) (v : Prim) (d : Dict) :
    dget k (dinsert k' v d) = dget k d := by
  induction d with
  | nil => simp [dinsert, dget, h]
  | cons hd t ih =>
    obtain ⟨k2, v2⟩ := hd
    by_cases hk : k2 = k'
    · subst hk; simp [dinsert, dget, h]
    · by_cases hk2 : k2 = k
      · subst hk2; simp [dinsert, dget, hk]
      · simp [dinsert, dget, hk, hk2, ih]

@[simp] theorem dget_derase_self (k : String) (d : Dict) : dget k (derase k d) = none := by
  induction d with
  | nil => simp [derase, dget]
  | cons hd t ih =>
    obtain ⟨k2, v2⟩ := hd
    by_cases hk : k2 = k <;> simp [derase, dget, hk, ih]

theorem dget_derase_ne {k k' : String} (h : k' ≠ k) (d : Dict) : dget k (derase k' d) = dget k d := by
  induction d with
  | nil => simp [derase, dget]
  | cons hd t ih =>
    obtain ⟨k2, v2⟩ := hd
    by_cases hk : k2 = k'
    · subst hk; simp [derase, dget, h, ih]
    · by_cases hk2 : k2 = k
      · subst hk2; simp [derase, dget, hk]
      · simp [derase, dget, hk, hk2, ih]

theorem dget_derase (k k' : String) (d : Dict) : dget k (derase k' d) = if k' = k then none else dget k d := by
  by_cases h : k' = k
  · subst h; simp
  · simp [h, dget_derase_ne h]

theorem derase_fresh {k : String} {d : Dict} (h : dget k d = none) : derase k d = d := by
  induction d with
  | nil => simp [derase]
  | cons hd t ih =>
    obtain ⟨k2, v2⟩ := hd
    by_cases hk : k2 = k
    · simp [dget, hk] at h
    · simp [dget, hk] at h; simp [derase, hk, ih h]

theorem derase_comm (k k' : String) (d : Dict) : derase k (derase k' d) = derase k' (derase k d) := by
  induction d with
  | nil => rfl
  | cons hd t ih =>
    obtain ⟨k2, v2⟩ := hd
    by_cases h1 : k2 = k'
    · subst h1
      by_cases h2 : k2 = k
      · subst h2; simp [derase]
      · simp [derase, h2, ih]
    · by_cases h2 : k2 = k
      · subst h2; simp [derase, h1, ih]
      · simp [derase, h1, h2, ih]

theorem derase_dinsert_fresh {k : String} {d : Dict} (v : Prim) (h : dget k d = none) :
    derase k (dinsert k v d) = d := by
  induction d with
  | nil => simp [dinsert, derase]
  | cons hd t ih =>
    obtain ⟨k2, v2⟩ := hd
    by_cases hk : k2 = k
    · simp [dget, hk] at h
    · simp [dget, hk] at h; simp [dinsert, derase, hk, ih h]

theorem derase_dinsert_comm {k k' : String} (h : k' ≠ k) (v : Prim) (d : Dict) :
    derase k (dinsert k' v d) = dinsert k' v (derase k d) := by
  induction d with
  | nil => simp [dinsert, derase, h]
  | cons hd t ih =>
    obtain ⟨k2, v2⟩ := hd
    by_cases hk : k2 = k'
    · subst hk; simp [dinsert, derase, h]
    · by_cases hk2 : k2 = k
      · subst hk2; simp [dinsert, derase, hk, ih]
      · simp [dinsert, derase, hk, hk2, ih]

theorem dinsert_idem {k : String} {v : Prim} {d : Dict} (h : dget k d = some v) : dinsert k v d = d := by
  induction d with
  | nil => simp [dget] at h
  | cons hd t ih =>
    obtain ⟨k2, v2⟩ := hd
    by_cases hk : k2 = k
    · simp [dget, hk] at h; subst hk; simp [dinsert, h]
    · simp [dget, hk] at h; simp [dinsert, hk, ih h]

theorem dget_dinsert (k k' : String) (v : Prim) (d : Dict) :
    dget k (dinsert k' v d) = if k' = k then some v else dget k d := by
  by_cases h : k' = k
  · subst h; simp
  · simp [h, dget_dinsert_ne h]

/-! ## all-or-nothing maps -/

theorem mapR_cons_ok {α β : Type} {f : α → R β} {x : α} {xs : List α} {ys : List β} :
    mapR f (x :: xs) = .ok ys ↔ ∃ y ys', f x = .ok y ∧ mapR f xs = .ok ys' ∧ ys = y :: ys' := by
  simp only [mapR]
  cases f x with
  | error e => simp
  | ok y => cases mapR f xs <;> simp [eq_comm]

theorem mapKV_cons_ok {α β : Type} {f : α → R β} {k : String} {x : α} {xs : List (String × α)}
    {ys : List (String × β)} :
    mapKV f ((k, x) :: xs) = .ok ys ↔ ∃ y ys', f x = .ok y ∧ mapKV f xs = .ok ys' ∧ ys = (k, y) :: ys' := by
  simp only [mapKV]
  cases f x with
  | error e => simp
  | ok y => cases mapKV f xs <;> simp [eq_comm]

theorem mapR_law {α β : Type} (f : α → R β) (g : β → R α) (P : α → Prop)
    (h : ∀ x, P x → ∀ y, f x = .ok y → ∃ x', g y = .ok x' ∧ f x' = .ok y) :
    ∀ xs, (∀ x ∈ xs, P x) → ∀ ys, mapR f xs = .ok ys → ∃ xs', mapR g ys = .ok xs' ∧ mapR f xs' = .ok ys := by
  intro xs
  induction xs with
  | nil => intro _ ys hy; cases hy; exact ⟨[], rfl, rfl⟩
  | cons x xs ih =>
    intro hP ys hy
    obtain ⟨y, ys', hfx, hrest, rfl⟩ := mapR_cons_ok.1 hy
    obtain ⟨x', hg, hf'⟩ := h x (hP x (by simp)) y hfx
    obtain ⟨xs', hgs, hfs⟩ := ih (fun z hz => hP z (by simp [hz])) ys' hrest
    exact ⟨x' :: xs', by simp [mapR, hg, hgs], by simp [mapR, hf', hfs]⟩

theorem mapKV_law {α β : Type} (f : α → R β) (g : β → R α) (P : α → Prop)
    (h : ∀ x, P x → ∀ y, f x = .ok y → ∃ x', g y = .ok x' ∧ f x' = .ok y) :
    ∀ xs : List (String × α), (∀ kv ∈ xs, P kv.2) → ∀ ys, mapKV f xs = .ok ys →
      ∃ xs', mapKV g ys = .ok xs' ∧ mapKV f xs' = .ok ys ∧ (xs = [] ↔ xs' = []) := by
  intro xs
  induction xs with
  | nil => intro _ ys hy; cases hy; exact ⟨[], rfl, rfl, Iff.rfl⟩
  | cons x xs ih =>
    obtain ⟨k, x⟩ := x
    intro hP ys hy
    obtain ⟨y, ys', hfx, hrest, rfl⟩ := mapKV_cons_ok.1 hy
    obtain ⟨x', hg, hf'⟩ := h x (hP (k, x) (by simp)) y hfx
    obtain ⟨xs', hgs, hfs, _⟩ := ih (fun z hz => hP z (by simp [hz])) ys' hrest
    exact ⟨(k, x') :: xs', by simp [mapKV, hg, hgs], by simp [mapKV, hf', hfs], by simp⟩

theorem mapKV_nil_iff {α β : Type} (f : α → R β) (xs : List (String × α)) (ys : List (String × β))
    (h : mapKV f xs = .ok ys) : xs = [] ↔ ys = [] := by
  cases xs with
  | nil => cases h; simp
  | cons x xs =>
    obtain ⟨k, x⟩ := x
    obtain ⟨y, ys', _, _, rfl⟩ := mapKV_cons_ok.1 h
    simp

/-- … and exactly: if `g` undoes `f` on every element, it does on the list -/
theorem mapR_exact {α β : Type} (f : α → R β) (g : β → R α) (P : α → Prop)
    (h : ∀ x, P x → ∀ y, f x = .ok y → g y = .ok x) :
    ∀ xs, (∀ x ∈ xs, P x) → ∀ ys, mapR f xs = .ok ys → mapR g ys = .ok xs := by
  intro xs
  induction xs with
  | nil => intro _ ys hy; cases hy; rfl
  | cons x xs ih =>
    intro hP ys hy
    obtain ⟨y, ys', hfx, hrest, rfl⟩ := mapR_cons_ok.1 hy
    simp [mapR, h x (hP x (by simp)) y hfx, ih (fun z hz => hP z (by simp [hz])) ys' hrest]

theorem mapKV_exact {α β : Type} (f : α → R β) (g : β → R α) (P : α → Prop)
    (h : ∀ x, P x → ∀ y, f x = .ok y → g y = .ok x) :
    ∀ xs : List (String × α), (∀ kv ∈ xs, P kv.2) → ∀ ys, mapKV f xs = .ok ys → mapKV g ys = .ok xs := by
  intro xs
  induction xs with
  | nil => intro _ ys hy; cases hy; rfl
  | cons x xs ih =>
    obtain ⟨k, x⟩ := x
    intro hP ys hy
    obtain ⟨y, ys', hfx, hrest, rfl⟩ := mapKV_cons_ok.1 hy
    simp [mapKV, h x (hP (k, x) (by simp)) y hfx, ih (fun z hz => hP z (by simp [hz])) ys' hrest]

end Derive
