import PdfModel.Model.ContentF32
import PdfModel.Lemmas.Content

/-! `RealLaws` for the bit-level `f32` instance of the driver (`Content.F32.ops`), proved:
    `==` is reflexive on finite values, symmetric, transitive; unary minus respects it; an integral value whose
    printed digits fit an `i32` / whose magnitude is below 2^31 converts back (`i32 as f32`) to an `==` value.
    The last two rest on: decoding an integral `f32` and re-encoding the integer gives the bits back
    (`enc_dec`: the value is the 24-bit significand shifted left or, exactly, right), and the digits printed are
    either the value itself or a shorter decimal that was *checked* to encode to the same bits
    (`ofNatBits_shortest`); neither needs the bound on the magnitude that the laws offer.
    What remains trusted for `f32` is that this instance agrees with Rust's `f32`
    (`==`, `-`, `as f32`, `{}`), which the streams `c08.real` and `c08.laws` sample. -/

namespace Content.F32
open Content

theorem expo_neg (a : Nat) : expo (negBits a) = expo a := by
  unfold negBits expo
  split <;> omega

theorem mant_neg (a : Nat) : mant (negBits a) = mant a := by
  unfold negBits mant
  split <;> omega

theorem isNaN_neg (a : Nat) : isNaN (negBits a) = isNaN a := by
  unfold isNaN
  rw [expo_neg, mant_neg]

theorem isNaN_of_special {a : Nat} (h : specialBits a = none) : isNaN a = false := by
  unfold specialBits at h
  unfold isNaN
  by_cases he : (expo a == 255) = true
  · rw [if_pos he] at h
    split at h
    · cases h
    · split at h <;> cases h
  · simp [he]

theorem beqBits_refl (a : Nat) (h : specialBits a = none) : beqBits a a = true := by
  simp [beqBits, isNaN_of_special h]

theorem beqBits_symm (a b : Nat) (h : beqBits a b = true) : beqBits b a = true := by
  unfold beqBits at *
  simp only [Bool.and_eq_true, Bool.or_eq_true, Bool.not_eq_true', beq_iff_eq] at *
  obtain ⟨⟨h1, h2⟩, h3⟩ := h
  refine ⟨⟨h2, h1⟩, ?_⟩
  rcases h3 with h3 | h3
  · left; exact h3.symm
  · right; exact ⟨h3.2, h3.1⟩

theorem beqBits_trans (a b c : Nat) (h : beqBits a b = true) (h' : beqBits b c = true) : beqBits a c = true := by
  unfold beqBits at *
  simp only [Bool.and_eq_true, Bool.or_eq_true, Bool.not_eq_true', beq_iff_eq] at *
  obtain ⟨⟨h1, h2⟩, h3⟩ := h
  obtain ⟨⟨h4, h5⟩, h6⟩ := h'
  refine ⟨⟨h1, h5⟩, ?_⟩
  rcases h3 with h3 | h3 <;> rcases h6 with h6 | h6
  · left; exact h3.trans h6
  · right; subst h3; exact h6
  · right; subst h6; exact h3
  · right; exact ⟨h3.1, h6.2⟩

theorem beqBits_neg (a b : Nat) (h : beqBits a b = true) : beqBits (negBits a) (negBits b) = true := by
  unfold beqBits at *
  rw [isNaN_neg a, isNaN_neg b]
  simp only [Bool.and_eq_true, Bool.or_eq_true, Bool.not_eq_true', beq_iff_eq] at *
  obtain ⟨⟨h1, h2⟩, h3⟩ := h
  refine ⟨⟨h1, h2⟩, ?_⟩
  rcases h3 with h3 | h3
  · left; rw [h3]
  · right; unfold negBits; constructor <;> split <;> omega

theorem negBits_lt (a : Nat) (h : a < 4294967296) : negBits a < 4294967296 := by
  unfold negBits; split <;> omega

theorem toNat_neg (a : UInt32) : (ops.neg a).toNat = negBits a.toNat := by
  show (UInt32.ofNat (negBits a.toNat)).toNat = negBits a.toNat
  have := negBits_lt a.toNat a.toNat_lt
  simp [UInt32.toNat_ofNat']
  omega

theorem log2_eq {n L : Nat} (h1 : 2 ^ L ≤ n) (h2 : n < 2 ^ (L + 1)) : Nat.log2 n = L := by
  have hn : n ≠ 0 := by
    have : 0 < 2 ^ L := Nat.two_pow_pos L
    omega
  have a : L ≤ n.log2 := (Nat.le_log2 hn).2 h1
  have b : n.log2 < L + 1 := (Nat.log2_lt hn).2 h2
  omega

/-- a 24-bit significand `s` shifted left by `k`: exact, exponent field `150 + k` -/
theorem magOfNat_shl (s k : Nat) (h1 : 8388608 ≤ s) (h2 : s < 16777216) :
    magOfNat (s * 2 ^ k) = (150 + k) * 8388608 + (s - 8388608) := by
  have hp : 0 < 2 ^ k := Nat.two_pow_pos k
  have hl : Nat.log2 (s * 2 ^ k) = 23 + k := by
    apply log2_eq
    · rw [Nat.pow_add]; exact Nat.mul_le_mul_right _ h1
    · rw [Nat.add_right_comm, Nat.pow_add]; exact Nat.mul_lt_mul_of_pos_right h2 hp
  unfold magOfNat
  simp only [hl]
  cases k with
  | zero => simp
  | succ k =>
    have hh : 0 < 2 ^ k := Nat.two_pow_pos k
    have e1 : 23 + (k + 1) - 23 = k + 1 := by omega
    simp only [e1, Nat.mul_div_cancel _ hp, Nat.mul_mod_left, Nat.add_sub_cancel]
    have c1 : ¬ 23 + (k + 1) ≤ 23 := by omega
    -- the round-up test of `magOfNat` with remainder 0: never rounds
    have c2 : ¬ (0 > 2 ^ k ∨ 0 = 2 ^ k ∧ s % 2 = 1) := by omega
    rw [if_neg c1, if_neg c2, if_neg (Nat.ne_of_lt h2)]
    omega

/-- a 24-bit significand `s` divisible by `2 ^ k`, shifted right by `k ≤ 23`: exponent field `150 - k` -/
theorem magOfNat_shr (s k : Nat) (h1 : 8388608 ≤ s) (h2 : s < 16777216) (hk : k ≤ 23) (hd : s % 2 ^ k = 0) :
    magOfNat (s / 2 ^ k) = (150 - k) * 8388608 + (s - 8388608) := by
  have hp : 0 < 2 ^ k := Nat.two_pow_pos k
  have hs : s / 2 ^ k * 2 ^ k = s := Nat.div_mul_cancel (Nat.dvd_of_mod_eq_zero hd)
  have hl : Nat.log2 (s / 2 ^ k) = 23 - k := by
    apply log2_eq
    · apply Nat.le_of_mul_le_mul_right _ hp
      rw [← Nat.pow_add, hs, Nat.sub_add_cancel hk]; exact h1
    · apply Nat.lt_of_mul_lt_mul_right (a := 2 ^ k)
      rw [← Nat.pow_add, hs, show 23 - k + 1 + k = 24 by omega]; exact h2
  unfold magOfNat
  simp only [hl]
  rw [if_pos (by omega), show 23 - (23 - k) = k by omega, hs]
  omega

theorem bits_split {b : Nat} (hb : b < 2147483648) : b = expo b * 8388608 + mant b ∧ mant b < 8388608 := by
  unfold expo mant; omega

/-- the three ways `magToNat` succeeds: zero; significand shifted left; significand shifted right, exactly -/
theorem magToNat_some {b v : Nat} (h : magToNat b = some v) :
    (expo b = 0 ∧ mant b = 0 ∧ v = 0) ∨
    (150 ≤ expo b ∧ v = (mant b + 8388608) * 2 ^ (expo b - 150)) ∨
    (127 ≤ expo b ∧ expo b < 150 ∧ (mant b + 8388608) % 2 ^ (150 - expo b) = 0 ∧
      v = (mant b + 8388608) / 2 ^ (150 - expo b)) := by
  unfold magToNat at h
  generalize expo b = e, mant b = m at *
  by_cases h255 : e = 255
  · simp [h255] at h
  by_cases h0 : e = 0
  · by_cases hm : m = 0 <;> simp [h0, hm] at h
    exact .inl ⟨h0, hm, h.symm⟩
  by_cases h150 : 150 ≤ e
  · simp [h255, h0, h150] at h
    exact .inr (.inl ⟨h150, h.symm⟩)
  by_cases h24 : 24 ≤ 150 - e
  · simp [h255, h0, h150, h24] at h
  simp [h255, h0, h150, h24] at h
  exact .inr (.inr ⟨by omega, by omega, h.1, h.2.symm⟩)

/-- decoding an integral `f32` (sign bit clear, not zero) and encoding the integer gives the bits back -/
theorem enc_dec (b v : Nat) (hb : b < 2147483648) (hv0 : v ≠ 0) (h : magToNat b = some v) : magOfNat v = b := by
  obtain ⟨hb', hm⟩ := bits_split hb
  have hc := magToNat_some h
  refine Eq.trans ?_ hb'.symm
  generalize expo b = e, mant b = m at hc hm ⊢
  rcases hc with ⟨_, _, h0⟩ | ⟨he, hv⟩ | ⟨he, he', hd, hv⟩
  · exact absurd h0 hv0
  · rw [hv, magOfNat_shl _ _ (by omega) (by omega)]; omega
  · rw [hv, magOfNat_shr _ _ (by omega) (by omega) (by omega) hd]; omega

theorem magToNat_zero {b : Nat} (hb : b < 2147483648) (h : magToNat b = some 0) : b = 0 := by
  obtain ⟨hb', hm⟩ := bits_split hb
  rcases magToNat_some h with ⟨h1, h2, _⟩ | ⟨_, hv⟩ | ⟨_, he, hd, hv⟩
  · omega
  · have := Nat.two_pow_pos (expo b - 150)
    rcases Nat.mul_eq_zero.mp hv.symm with h0 | h0 <;> omega
  · have := Nat.div_mul_cancel (Nat.dvd_of_mod_eq_zero hd)
    rw [← hv] at this
    omega
theorem magToNat_mod (b : Nat) : magToNat (b % 2147483648) = magToNat b := by
  have he : expo (b % 2147483648) = expo b := by unfold expo; omega
  have hm : mant (b % 2147483648) = mant b := by unfold mant; omega
  unfold magToNat
  rw [he, hm]

theorem ofIntBits_signed (d : Nat) (hd : d ≠ 0) (neg : Bool) :
    ofIntBits (if neg then -(Int.ofNat d) else Int.ofNat d) = (if neg then 2147483648 else 0) + magOfNat d := by
  unfold ofIntBits
  cases neg
  · have h2 : ¬ ((d : Int) < 0) := by omega
    simp [hd, h2]
  · have h2 : 0 < d := by omega
    simp [hd, h2]

theorem ofNatBits_pos {d : Nat} (hd : d ≠ 0) : ofNatBits d = magOfNat d := by
  simpa [ofNatBits] using ofIntBits_signed d hd false

/-- the digits `{}` prints encode to the bits they were printed for: they are the value itself, or a shorter
    decimal that `shortestLoop` checked -/
theorem ofNatBits_shortest {b v : Nat} (hb : b < 2147483648) (h : magToNat b = some v) :
    ∀ k, ofNatBits (shortestLoop v b k) = b
  | 0 => by
    by_cases hv : v = 0
    · subst hv; rw [magToNat_zero hb h]; rfl
    · exact (ofNatBits_pos hv).trans (enc_dec b v hb hv h)
  | k + 1 => by
    unfold shortestLoop
    simp only [Bool.and_eq_true, bne_iff_ne, beq_iff_eq]
    split
    · rename_i c; split
      · exact c.1.2
      · exact c.2
    split
    · rename_i c; exact c.2
    split
    · rename_i c; exact c
    · exact ofNatBits_shortest hb h k

/-- the printed digits convert back to the same bits (or to a zero of the other sign) -/
theorem digits_bits (b : Nat) (hb : b < 4294967296) (n : Int) (hs : specialBits b = none)
    (hd : intDigitsBits b = some n) : beqBits (ofIntBits n) b = true ∧ ofIntBits n < 4294967296 := by
  unfold intDigitsBits at hd
  cases hm : magToNat b with
  | none => simp [hm] at hd
  | some v =>
    simp only [hm, Option.some.injEq] at hd
    subst hd
    have hnan : isNaN b = false := isNaN_of_special hs
    -- 39 is the fuel `intDigitsBits` gives `shortestLoop` (a finite `f32` has at most 39 decimal digits); any fuel would do here
    have henc := ofNatBits_shortest (Nat.mod_lt b (by decide)) ((magToNat_mod b).trans hm) 39
    generalize shortestLoop v (b % 2147483648) 39 = d at henc ⊢
    by_cases hd0 : d = 0
    · subst hd0
      have hz : b % 2147483648 = 0 := henc.symm
      have h0 : ofIntBits (if signBit b then -(Int.ofNat 0) else Int.ofNat 0) = 0 := by split <;> rfl
      rw [h0]
      exact ⟨by simp [beqBits, hnan, hz, show isNaN 0 = false by decide], by decide⟩
    · have hsplit : (if signBit b then 2147483648 else 0) + b % 2147483648 = b := by
        unfold signBit
        by_cases h : b ≥ 2147483648 <;> simp [h] <;> omega
      rw [ofIntBits_signed d hd0, ← ofNatBits_pos hd0, henc, hsplit]
      exact ⟨by simp [beqBits, hnan], hb⟩

theorem digits_law (r : UInt32) (n : Int) (hs : ops.special r = none) (hd : ops.intDigits? r = some n) :
    ops.beq (ops.ofInt n) r = true := by
  obtain ⟨h1, h2⟩ := digits_bits r.toNat r.toNat_lt n hs hd
  show beqBits (UInt32.ofNat (ofIntBits n)).toNat r.toNat = true
  have : (UInt32.ofNat (ofIntBits n)).toNat = ofIntBits n := by
    simp [UInt32.toNat_ofNat']
    omega
  rw [this]
  exact h1

/-- **`RealLaws` holds for the bit-level `f32` instance of the driver** -/
theorem f32Laws : RealLaws ops where
  beq_refl := fun r h => beqBits_refl r.toNat h
  beq_symm := fun a b h => beqBits_symm a.toNat b.toNat h
  beq_trans := fun a b c h h' => beqBits_trans a.toNat b.toNat c.toNat h h'
  neg_congr := fun a b h => by
    show beqBits (ops.neg a).toNat (ops.neg b).toNat = true
    rw [toNat_neg, toNat_neg]
    exact beqBits_neg a.toNat b.toNat h
  digits_small := fun r n hs hd _ => digits_law r n hs hd
  digits_i32 := fun r n hs hd _ => digits_law r n hs hd

end Content.F32
