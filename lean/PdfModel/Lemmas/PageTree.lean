import PdfModel.Spec.PageTree

/-! Helper lemmas for C07: parent chains of a well-formed rendering load to the abstract ancestors; the
    kid loop finds the n-th leaf. -/

namespace PageTree

/-- `Depth tbl r d`: following /Parent from the /Pages object `r` reaches a root after exactly `d` steps -/
inductive Depth (tbl : Tbl) : Nat → Nat → Prop where
  | root {r kids count a} : tbl r = some (.pages none kids count a) → Depth tbl r 0
  | step {r p kids count a d} : tbl r = some (.pages (some p) kids count a) → Depth tbl p d → Depth tbl r (d + 1)

theorem Depth.functional {tbl : Tbl} {r d d' : Nat} (h : Depth tbl r d) (h' : Depth tbl r d') : d = d' := by
  induction h generalizing d' with
  | root e =>
    cases h' with
    | root e' => rfl
    | step e' _ => rw [e] at e'; cases e'
  | step e _ ih =>
    cases h' with
    | root e' => rw [e] at e'; cases e'
    | step e' hp =>
      rw [e] at e'
      cases e'
      rw [ih hp]

/-- the loaded value of node `P` is `P` with ancestors `anc`, whatever the guard stack holds, as long as every object on
    the stack that has a depth (a /Pages node on a rooted /Parent chain) lies deeper than `P`; objects without a depth,
    such as the page whose parent is being loaded, may be on it -/
def ChainInv (tbl : Tbl) (P : TreeRec) (anc : List TreeRec) (d : Nat) : Prop :=
  Depth tbl P.id d ∧
  ∀ fuel stack, d < fuel → (∀ x ∈ stack, ∀ d', Depth tbl x d' → d < d') →
    loadTree tbl fuel stack P.id = .ok (P, anc)

theorem chain_root {tbl : Tbl} {r : Nat} {kids : List Nat} {count : Nat} {a : Attrs}
    (e : tbl r = some (.pages none kids count a)) (hc : count < u32Max) :
    ChainInv tbl ⟨r, kids, count, a⟩ [] 0 := by
  refine ⟨Depth.root e, ?_⟩
  intro fuel stack hf hs
  cases fuel with
  | zero => omega
  | succ f =>
    have hns : r ∉ stack := fun hm => by
      have := hs r hm 0 (Depth.root e)
      omega
    simp [loadTree, hns, e, Nat.not_le.mpr hc]

theorem chain_step {tbl : Tbl} {P : TreeRec} {anc : List TreeRec} {d : Nat} (hP : ChainInv tbl P anc d)
    {c : Nat} {kids : List Nat} {count : Nat} {a : Attrs}
    (e : tbl c = some (.pages (some P.id) kids count a)) (hc : count < u32Max) :
    ChainInv tbl ⟨c, kids, count, a⟩ (P :: anc) (d + 1) := by
  have hd : Depth tbl c (d + 1) := Depth.step e hP.1
  refine ⟨hd, ?_⟩
  intro fuel stack hf hs
  cases fuel with
  | zero => omega
  | succ f =>
    have hns : c ∉ stack := fun hm => by
      have := hs c hm (d + 1) hd
      omega
    have hrec : loadTree tbl f (c :: stack) P.id = .ok (P, anc) := by
      apply hP.2 f (c :: stack) (by omega)
      intro x hx d' hx'
      rcases List.mem_cons.mp hx with rfl | hx
      · have := Depth.functional hd hx'
        omega
      · have := hs x hx d' hx'
        omega
    simp [loadTree, hns, e, Nat.not_le.mpr hc, hrec]

theorem loadNode_leaf {tbl : Tbl} {P : TreeRec} {anc : List TreeRec} {d : Nat} (hP : ChainInv tbl P anc d)
    {k : Nat} {a : Attrs} (e : tbl k = some (.page P.id a)) {fuel : Nat} (hf : d < fuel) :
    loadNode tbl fuel k = .ok (.leaf ⟨k, a, P, anc⟩) := by
  have hrec : loadTree tbl fuel [k] P.id = .ok (P, anc) := by
    apply hP.2 fuel [k] hf
    intro x hx d' hx'
    simp at hx
    subst hx
    cases hx' with
    | root e' => rw [e] at e'; cases e'
    | step e' _ => rw [e] at e'; cases e'
  simp [loadNode, e, hrec]

theorem loadNode_tree {tbl : Tbl} {C : TreeRec} {anc : List TreeRec} {d : Nat} (hC : ChainInv tbl C anc d)
    {fuel : Nat} (hf : d ≤ fuel) :
    loadNode tbl fuel C.id = .ok (.tree C anc) := by
  have hrec : loadTree tbl (fuel + 1) [] C.id = .ok (C, anc) := by
    apply hC.2 (fuel + 1) [] (by omega)
    intro x hx
    simp at hx
  have : ∃ p ks c a, tbl C.id = some (.pages p ks c a) := by
    cases hC.1 with
    | root e => exact ⟨_, _, _, _, e⟩
    | step e _ => exact ⟨_, _, _, _, e⟩
  obtain ⟨p, ks, c, a, e⟩ := this
  simp [loadNode, e, hrec]

mutual
theorem dfs_length : ∀ (t : PTree) (P : TreeRec) (anc : List TreeRec), (dfs P anc t).length = nLeaves t
  | .leaf _ _, _, _ => by simp [dfs, nLeaves]
  | .node _ _ ks, _, _ => by simp [dfs, nLeaves, dfsL_length ks]
theorem dfsL_length : ∀ (ks : List PTree) (P : TreeRec) (anc : List TreeRec), (dfsL P anc ks).length = nLeavesL ks
  | [], _, _ => by simp [dfsL, nLeavesL]
  | k :: ks, _, _ => by simp [dfsL, nLeavesL, dfs_length k, dfsL_length ks]
end

theorem representsL_mem {tbl : Tbl} {pid : Nat} : ∀ {ks : List PTree}, representsL tbl pid ks = true →
    ∀ k ∈ ks, represents tbl (some pid) k = true
  | [], _, k, hk => by simp at hk
  | k' :: ks, h, k, hk => by
    simp only [representsL, Bool.and_eq_true] at h
    rcases List.mem_cons.mp hk with rfl | hk
    · exact h.1
    · exact representsL_mem h.2 k hk

theorem height_le_heightL : ∀ {ks : List PTree} {k : PTree}, k ∈ ks → height k ≤ heightL ks
  | [], _, hk => by simp at hk
  | k' :: ks, k, hk => by
    simp only [heightL]
    rcases List.mem_cons.mp hk with rfl | hk
    · omega
    · have := height_le_heightL hk
      omega

theorem nLeaves_le_nLeavesL : ∀ {ks : List PTree} {k : PTree}, k ∈ ks → nLeaves k ≤ nLeavesL ks
  | [], _, hk => by simp at hk
  | k' :: ks, k, hk => by
    simp only [nLeavesL]
    rcases List.mem_cons.mp hk with rfl | hk
    · omega
    · have := nLeaves_le_nLeavesL hk
      omega

/-- the `i`-th element, or the out-of-bounds error -/
def nth {α : Type} (l : List α) (i : Nat) : Out α := if h : i < l.length then .ok l[i] else .err

theorem nth_append {α : Type} (l₁ l₂ : List α) (i : Nat) :
    nth (l₁ ++ l₂) i = if i < l₁.length then nth l₁ i else nth l₂ (i - l₁.length) := by
  simp only [nth, List.length_append]
  by_cases h : i < l₁.length
  · simp [h, Nat.lt_add_right _ h, List.getElem_append_left h]
  · by_cases h' : i - l₁.length < l₂.length
    · simp [h, h', show i < l₁.length + l₂.length by omega, List.getElem_append_right (Nat.le_of_not_lt h)]
    · simp [h, h', show ¬ i < l₁.length + l₂.length by omega]

/-- the kid loop of `page_limited` over a well-formed list of kids: running position, range test,
    accurate counts ⇒ the (n - pos)-th leaf of the kids in document order, or out of bounds. `sub` is only asked about
    indices inside a kid's sub-tree (the range test has passed), hence the guard `m < nLeavesL ks'`; its conclusion has the
    shape of `pageLimited_spec` so that the recursive call supplies it as it stands. -/
theorem pageKids_spec {tbl : Tbl} {fuel : Nat} {P : TreeRec} {anc : List TreeRec} {d : Nat}
    (hP : ChainInv tbl P anc d) (hf : d < fuel) (sub : TreeRec → Nat → Out Leaf) (n : Nat) :
    ∀ (ks : List PTree) (pos : Nat), representsL tbl P.id ks = true → pos + nLeavesL ks < u32Max → pos ≤ n →
    (∀ id a ks', PTree.node id a ks' ∈ ks → ∀ m, m < nLeavesL ks' →
        sub (nodeRec id a ks') m =
          if h : m < (dfsL (nodeRec id a ks') (P :: anc) ks').length
          then .ok ((dfsL (nodeRec id a ks') (P :: anc) ks')[m]) else .err) →
    pageKids (loadNode tbl fuel) sub n (ks.map PTree.id) pos =
      if h : n - pos < (dfsL P anc ks).length then .ok ((dfsL P anc ks)[n - pos]) else .err
  | [], pos, _, _, _, _ => by simp [pageKids, dfsL]
  | .leaf id a :: ks, pos, hr, hsz, hn, hsub => by
    simp only [representsL, represents, Bool.and_eq_true, decide_eq_true_eq] at hr
    simp only [nLeavesL, nLeaves] at hsz
    have ih := pageKids_spec hP hf sub n ks (pos + 1) hr.2 (by omega)
    show _ = nth (dfsL P anc (.leaf id a :: ks)) (n - pos)
    simp only [List.map_cons, PTree.id, pageKids, loadNode_leaf hP hr.1 hf, dfsL, dfs, nth_append, List.length_singleton]
    by_cases hpn : pos = n
    · subst hpn
      simp [nth]
    · rw [if_neg hpn, if_neg (by omega), if_neg (by omega), ih (by omega) fun id a ks' hm => hsub id a ks' (List.mem_cons_of_mem _ hm),
        Nat.sub_add_eq]
      rfl
  | .node id a ks' :: ks, pos, hr, hsz, hn, hsub => by
    simp only [representsL, represents, Bool.and_eq_true, decide_eq_true_eq] at hr
    obtain ⟨⟨he, -⟩, hrk⟩ := hr
    simp only [nLeavesL, nLeaves] at hsz
    have hl : loadNode tbl fuel id = .ok (.tree (nodeRec id a ks') (P :: anc)) :=
      loadNode_tree (C := nodeRec id a ks') (chain_step hP he (by omega)) (by omega)
    have ih := pageKids_spec hP hf sub n ks (pos + nLeavesL ks') hrk (by omega)
    show _ = nth (dfsL P anc (.node id a ks' :: ks)) (n - pos)
    simp only [List.map_cons, PTree.id, pageKids, hl, dfsL, dfs, nth_append, dfsL_length,
      show (nodeRec id a ks').count = nLeavesL ks' from rfl]
    rw [if_neg (by omega)]
    by_cases hin : n < pos + nLeavesL ks'
    · rw [if_pos ⟨hn, hin⟩, if_pos (by omega), hsub id a ks' (List.mem_cons_self ..) (n - pos) (by omega)]
      rfl
    · rw [if_neg (fun h => hin h.2), if_neg (by omega), ih (by omega) fun id a ks'' hm => hsub id a ks'' (List.mem_cons_of_mem _ hm),
        Nat.sub_add_eq]
      rfl

/-- `page_limited` on a well-formed node whose sub-tree fits the depth budget -/
theorem pageLimited_spec {tbl : Tbl} {fuel : Nat} : ∀ (depth : Nat) (id : Nat) (a : Attrs) (ks : List PTree)
    (anc : List TreeRec) (d : Nat), ChainInv tbl (nodeRec id a ks) anc d → representsL tbl id ks = true →
    heightL ks < depth → d + heightL ks < fuel → nLeavesL ks < u32Max → ∀ n,
    pageLimited tbl fuel depth (nodeRec id a ks) n = nth (dfsL (nodeRec id a ks) anc ks) n
  | 0, _, _, _, _, _, _, _, hh, _, _, _ => by omega
  | depth + 1, id, a, ks, anc, d, hP, hr, hh, hf, hsz, n => by
    have hkids : (nodeRec id a ks).kids = ks.map PTree.id := rfl
    simp only [pageLimited, hkids]
    have := pageKids_spec hP (by omega : d < fuel) (fun t n => pageLimited tbl fuel depth t n) n ks 0
      hr (by omega) (by omega)
      (by
        intro id' a' ks' hm m _
        have hrep := representsL_mem hr _ hm
        simp only [represents, Bool.and_eq_true, decide_eq_true_eq] at hrep
        have hht := height_le_heightL hm
        have hnl := nLeaves_le_nLeavesL hm
        simp only [height, nLeaves] at hht hnl
        exact pageLimited_spec depth id' a' ks' (nodeRec id a ks :: anc) (d + 1)
          (chain_step hP hrep.1 (by omega)) hrep.2 (by omega) (by omega) (by omega) m)
    simpa [nth] using this

theorem inherit_eq_findSome (f : Attrs → Option Nat) : ∀ (t : TreeRec) (anc : List TreeRec),
    inherit f t anc = ((t :: anc).map (·.a)).findSome? f
  | t, [] => by
    simp only [inherit, List.map_cons, List.map_nil, List.findSome?_cons, List.findSome?_nil]
    cases f t.a <;> rfl
  | t, p :: ps => by
    simp only [inherit, List.map_cons, List.findSome?_cons]
    cases h : f t.a with
    | some x => rfl
    | none =>
      simp only []
      rw [inherit_eq_findSome f p ps]
      simp [List.findSome?_cons]

/-- the recursion guard makes the /Parent walk finite: with more fuel than objects the model never runs dry -/
theorem loadTree_ne_oof (tbl : Tbl) (keys : List Nat) (hk : ∀ r o, tbl r = some o → r ∈ keys) :
    ∀ (fuel : Nat) (stack : List Nat) (r : Nat), stack.Nodup → stack ⊆ keys → keys.length < fuel + stack.length →
    loadTree tbl fuel stack r ≠ .oof
  | 0, stack, r, hn, hs, hl => by
    have := List.Nodup.length_le_of_subset hn hs
    omega
  | f + 1, stack, r, hn, hs, hl => by
    unfold loadTree
    split
    · simp
    · rename_i hmem
      split
      · rename_i parent kids count a he
        split
        · simp
        · split
          · simp
          · rename_i p
            have ih := loadTree_ne_oof tbl keys hk f (r :: stack) p (List.nodup_cons.mpr ⟨hmem, hn⟩)
              (List.cons_subset.mpr ⟨hk _ _ he, hs⟩) (by simp only [List.length_cons]; omega)
            cases h : loadTree tbl f (r :: stack) p <;> simp_all
      · simp

theorem loadNode_ne_oof (tbl : Tbl) (keys : List Nat) (hk : ∀ r o, tbl r = some o → r ∈ keys) (fuel : Nat)
    (hf : keys.length ≤ fuel) (r : Nat) : loadNode tbl fuel r ≠ .oof := by
  unfold loadNode
  split
  · rename_i p a he
    have := loadTree_ne_oof tbl keys hk fuel [r] p (by simp) (by simp [hk _ _ he]) (by simp; omega)
    cases h : loadTree tbl fuel [r] p <;> simp_all
  · have := loadTree_ne_oof tbl keys hk (fuel + 1) [] r (by simp) (by simp) (by simp; omega)
    cases h : loadTree tbl (fuel + 1) [] r <;> simp_all
  · simp

theorem pageKids_ne_oof (load : Nat → Out LNode) (sub : TreeRec → Nat → Out Leaf) (hl : ∀ r, load r ≠ .oof)
    (hs : ∀ t n, sub t n ≠ .oof) (n : Nat) : ∀ (ks : List Nat) (pos : Nat), pageKids load sub n ks pos ≠ .oof
  | [], _ => by simp [pageKids]
  | k :: ks, pos => by
    have ih := pageKids_ne_oof load sub hl hs n ks
    unfold pageKids
    split
    · split
      · simp
      · split
        · exact hs _ _
        · exact ih _
    · split
      · simp
      · split
        · simp
        · exact ih _
    · simp
    · simp
    · exact absurd ‹_› (hl k)

theorem pageLimited_ne_oof (tbl : Tbl) (keys : List Nat) (hk : ∀ r o, tbl r = some o → r ∈ keys) (fuel : Nat)
    (hf : keys.length ≤ fuel) : ∀ (depth : Nat) (t : TreeRec) (n : Nat), pageLimited tbl fuel depth t n ≠ .oof
  | 0, _, _ => by simp [pageLimited]
  | d + 1, t, n => by
    simp only [pageLimited]
    exact pageKids_ne_oof _ _ (loadNode_ne_oof tbl keys hk fuel hf) (fun t n => pageLimited_ne_oof tbl keys hk fuel hf d t n) n _ _

end PageTree
