import PdfModel.Model.OffLex

/-! Sanity lemmas on the lexer fragment: no panics, the fuel of the comment loop is never exhausted. -/

namespace OffLex

theorem length_dropWhile_le (p : UInt8 → Bool) (l : Bytes) : (l.dropWhile p).length ≤ l.length := by
  induction l with
  | nil => simp
  | cons a l ih => simp only [List.dropWhile]; split <;> simp <;> omega

theorem afterNl_length_le (tl : Bytes) : (afterNl tl).length ≤ tl.length := by
  unfold afterNl
  have := length_dropWhile_le (fun b => b != 10 && b != 13) tl
  split
  · omega
  · rename_i h; rw [h] at this; simp at this; omega

theorem skipCommentsF_ret : ∀ (fuel : Nat) (r : Bytes), r.length ≤ fuel → (skipCommentsF fuel r).Returns := by
  intro fuel
  induction fuel with
  | zero =>
    intro r h
    obtain rfl : r = [] := by cases r <;> simp_all
    exact .ok _
  | succ fuel ih =>
    intro r h
    cases r with
    | nil => exact .ok _
    | cons b tl =>
      simp only [skipCommentsF]
      split
      · split
        · exact .err
        · rename_i c r' heq
          apply ih
          have h1 := length_dropWhile_le isWs (afterNl tl)
          have h2 := afterNl_length_le tl
          rw [heq] at h1
          simp at h h1 ⊢
          omega
      · exact .ok _

theorem skipWs_ret (r : Bytes) : (skipWs r).Returns := by
  unfold skipWs; split
  · exact .err
  · exact .ok _

theorem nextWord_ret (r : Bytes) : (nextWord r).Returns := by
  unfold nextWord
  cases r with
  | nil => exact .err
  | cons a r =>
    rcases (skipWs_ret (a :: r)).cases with e | ⟨r1, e⟩ <;> simp only [e]
    · exact .err
    rcases (skipCommentsF_ret r1.length r1 (Nat.le_refl _)).cases with e | ⟨r2, e⟩ <;> simp only [skipComments, e]
    · exact .err
    cases r2 with
    | nil => exact .err
    | cons b tl =>
      simp only
      split
      · split
        · exact .ok _
        · split
          · split <;> exact .ok _
          · exact .ok _
      · exact .ok _

theorem parseUsize_ret (w : Bytes) : (parseUsize w).Returns := by
  unfold parseUsize
  simp only
  split
  · exact .err
  · split
    · split
      · exact .ok _
      · exact .err
    · exact .err


end OffLex
