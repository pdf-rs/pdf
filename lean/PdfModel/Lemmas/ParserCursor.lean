import PdfModel.Model.ParserCursor
import PdfModel.Lemmas.TotalLexer
import PdfModel.Lemmas.TotalParser

/-! `Model/ParserCursor` refines `Model/Parser` (same outcomes), the cursor stays inside the buffer, rests at the
    returned position after `Ok`, and is put back to where the call started after `Err` of `parse_with_lexer_ctx`. -/

namespace PdfLex

variable {R : Type}

/-- `x` (with cursor) tracks `y`: same outcome; after `Err` the cursor is inside the buffer; after `Ok` it is the
    returned position, which is inside the buffer -/
def Tracks {α : Type} (buf : Buf) (x : Cur (α × Nat)) (y : Out (α × Nat)) : Prop :=
  x.1 = y ∧ (y = .err → x.2 ≤ buf.size) ∧ (∀ a, y = .ok a → x.2 = a.2 ∧ a.2 ≤ buf.size)

theorem tracks_err {α : Type} (buf : Buf) (c : Nat) (h : c ≤ buf.size) : Tracks (α := α) buf (.err, c) .err := by
  simp [Tracks, h]

theorem tracks_ok {α : Type} (buf : Buf) (v : α) (p : Nat) (h : p ≤ buf.size) : Tracks buf (.ok (v, p), p) (.ok (v, p)) := by
  refine ⟨rfl, by simp, ?_⟩
  intro a e; cases e; exact ⟨rfl, h⟩

theorem tracks_panic {α : Type} (buf : Buf) (c : Nat) : Tracks (α := α) buf (.panic, c) .panic := by
  simp [Tracks]

theorem tracks_oof {α : Type} (buf : Buf) (c : Nat) : Tracks (α := α) buf (.oof, c) .oof := by
  simp [Tracks]

theorem tracks_bind {α β : Type} (buf : Buf) {x : Cur (α × Nat)} {y : Out (α × Nat)} (hx : Tracks buf x y)
    (f : α × Nat → Nat → Cur (β × Nat)) (g : α × Nat → Out (β × Nat))
    (hf : ∀ a, y = .ok a → Tracks buf (f a a.2) (g a)) : Tracks buf (x.bind f) (y.bind g) := by
  obtain ⟨x1, x2⟩ := x
  obtain ⟨h1, h2, h3⟩ := hx
  simp only at h1; subst h1
  cases x1 with
  | ok a =>
    obtain ⟨e, _⟩ := h3 a rfl
    simp only at e; subst e
    exact hf a rfl
  | err => exact tracks_err buf x2 (h2 rfl)
  | panic => exact tracks_panic buf x2
  | oof => exact tracks_oof buf x2

/-- a lexer-free step (`check`, `decode_name`, `f32::from_str`, …) in front of a tracked computation -/
theorem tracks_pure_bind {α β : Type} (buf : Buf) (o : Out β) (c : Nat) (hc : c ≤ buf.size)
    (f : β → Nat → Cur (α × Nat)) (g : β → Out (α × Nat)) (h : ∀ b, o = .ok b → Tracks buf (f b c) (g b)) :
    Tracks buf ((Cur.pure' o c).bind f) (o.bind g) := by
  cases o with
  | ok b => exact h b rfl
  | err => exact tracks_err buf c hc
  | panic => exact tracks_panic buf c
  | oof => exact tracks_oof buf c

theorem nextC_cases (buf : Buf) (cur : Nat) (h : cur ≤ buf.size) :
    (next buf cur = .err ∧ nextC buf cur = (.err, cur)) ∨
    ∃ w, next buf cur = .ok w ∧ nextC buf cur = (.ok w, w.2) ∧ cur < w.2 ∧ w.2 ≤ buf.size := by
  rcases next_spec buf cur h with he | ⟨w, hw, h1, h2, h3⟩
  · left; exact ⟨he, by simp [nextC, he]⟩
  · right; exact ⟨w, hw, by simp [nextC, hw], by omega, h3⟩

theorem tracks_ite {α : Type} (buf : Buf) {c : Prop} [Decidable c] {x1 x2 : Cur (α × Nat)} {y1 y2 : Out (α × Nat)}
    (h1 : Tracks buf x1 y1) (h2 : Tracks buf x2 y2) : Tracks buf (if c then x1 else x2) (if c then y1 else y2) := by
  by_cases h : c
  · rwa [if_pos h, if_pos h]
  · rwa [if_neg h, if_neg h]

/-- reading a lexeme in front of a tracked computation -/
theorem tracks_next {α : Type} (buf : Buf) (cur : Nat) (h : cur ≤ buf.size) (f : Nat × Nat → Nat → Cur (α × Nat))
    (g : Nat × Nat → Out (α × Nat)) (hfg : ∀ w, w.2 ≤ buf.size → Tracks buf (f w w.2) (g w)) :
    Tracks buf ((nextC buf cur).bind f) ((next buf cur).bind g) := by
  rcases nextC_cases buf cur h with ⟨he, hc⟩ | ⟨w, hw, hc, _, hw2⟩
  · rw [hc, he]; exact tracks_err buf cur h
  · rw [hc, hw]; exact hfg w hw2

theorem cur_bind_ok {α β : Type} (a : α) (c : Nat) (f : α → Nat → Cur β) : Cur.bind (Out.ok a, c) f = f a c := rfl
theorem cur_bind_err {α β : Type} (c : Nat) (f : α → Nat → Cur β) : Cur.bind ((Out.err : Out α), c) f = (.err, c) := rfl
theorem cur_bind_panic {α β : Type} (c : Nat) (f : α → Nat → Cur β) : Cur.bind ((Out.panic : Out α), c) f = (.panic, c) := rfl
theorem cur_bind_oof {α β : Type} (c : Nat) (f : α → Nat → Cur β) : Cur.bind ((Out.oof : Out α), c) f = (.oof, c) := rfl

theorem streamBodyC_tracks (env : Env R) (buf : Buf) (p : Nat) (hp2 : p ≤ buf.size) (dict : Dict R) (id : Nat × Nat) (n : Nat) :
    Tracks buf (streamBodyC env buf p dict id n)
      ((readN buf p n).bind fun (sub, pos) =>
        if sub.2 - sub.1 != n then .err else
        (nextExpect buf pos kwEndstream).bind fun pos =>
        .ok (.stream dict (.inFile id.1 id.2 (env.fileOffset + sub.1) (env.fileOffset + sub.1 + (sub.2 - sub.1))), pos)) := by
  unfold streamBodyC
  obtain ⟨s, q, hr, _, _, hq⟩ := readN_total buf p n hp2
  rw [readNC, hr]
  apply tracks_ite buf (tracks_err buf q hq)
  rcases nextC_cases buf q hq with ⟨he, hc⟩ | ⟨w, hw, hc, _, hw2⟩
  · simp only [nextExpectC, nextExpect, hc, he, cur_bind_err, Out.bind_err]; exact tracks_err buf q hq
  · simp only [nextExpectC, nextExpect, hc, hw, cur_bind_ok, Out.bind_ok]
    by_cases he : (slice buf w.1 w.2 == kwEndstream) = true
    · simp only [he, if_true, cur_bind_ok, Out.bind_ok]; exact tracks_ok buf _ _ hw2
    · simp only [he, Bool.false_eq_true, if_false, cur_bind_err, Out.bind_err]; exact tracks_err buf _ hw2

theorem parseStreamObjectC_tracks (env : Env R) (buf : Buf) (pos : Nat) (h : pos ≤ buf.size) (dict : Dict R)
    (id : Nat × Nat) :
    Tracks buf (parseStreamObjectC env buf pos dict id) (parseStreamObject env buf pos dict id) := by
  unfold parseStreamObjectC parseStreamObject
  rcases nextStream_cases buf pos h with he | ⟨p, hp, hp1, hp2⟩
  · have e : nextStreamC buf pos = (.err, pos) := by simp [nextStreamC, he]
    rw [e, he]; simp only [cur_bind_err, Out.bind_err]; exact tracks_err buf pos h
  · have e : nextStreamC buf pos = (.ok p, p) := by simp [nextStreamC, hp]
    rw [e, hp]; simp only [cur_bind_ok, Out.bind_ok]
    have key : ∀ (o : Out Nat), Tracks buf ((Cur.pure' o p).bind fun length _ => streamBodyC env buf p dict id length)
        (o.bind fun n => (readN buf p n).bind fun (sub, pos) =>
          if sub.2 - sub.1 != n then .err else
          (nextExpect buf pos kwEndstream).bind fun pos =>
          .ok (.stream dict (.inFile id.1 id.2 (env.fileOffset + sub.1) (env.fileOffset + sub.1 + (sub.2 - sub.1))), pos)) := by
      intro o
      exact tracks_pure_bind buf o p hp2 _ _ (fun n _ => streamBodyC_tracks env buf p hp2 dict id n)
    cases hd : dictGet dict kwLength with
    | none => exact key .err
    | some v =>
      cases v with
      | int n => exact key _
      | ref i g => exact key _
      | _ => exact key .err


theorem parseIntOrRefC_tracks (buf : Buf) (posBk : Nat) (first : List UInt8) (flags : Nat) (h : posBk ≤ buf.size) :
    Tracks buf (parseIntOrRefC (R := R) buf posBk first flags) (parseIntOrRef (R := R) buf posBk first flags) := by
  unfold parseIntOrRefC parseIntOrRef
  apply tracks_pure_bind buf _ posBk h
  intro _ _
  obtain ⟨la, cur, hla, c1, c2, c3⟩ := refLookahead_spec buf posBk h
  rw [hla]; simp only [Out.bind_ok]
  have asInt : Tracks buf
      ((Cur.pure' (check flags Flags.integer) cur).bind fun _ c =>
        (setPosC buf c posBk).bind fun p c =>
        match parseI32 first with
        | some i => (Out.ok ((.int i : Prim R), p), c)
        | none => (.err, c))
      ((check flags Flags.integer).bind fun _ => (setPos buf cur posBk).bind fun p =>
        match parseI32 first with
        | some i => Out.ok ((.int i : Prim R), p)
        | none => .err) := by
    apply tracks_pure_bind buf _ cur c2
    intro _ _
    have hmin : min posBk buf.size = posBk := by omega
    have e1 : setPos buf cur posBk = .ok posBk := by rw [setPos_spec buf cur posBk c2, hmin]
    have e2 : setPosC buf cur posBk = (.ok posBk, posBk) := by simp [setPosC, e1]
    rw [e1, e2]; simp only [cur_bind_ok, Out.bind_ok]
    cases parseI32 first with
    | none => exact tracks_err buf posBk h
    | some i => exact tracks_ok buf _ _ h
  cases la with
  | none => exact asInt
  | some ww =>
    obtain ⟨w2, w3⟩ := ww
    simp only []
    refine tracks_ite buf ?_ asInt
    apply tracks_pure_bind buf _ cur c2
    intro _ _
    cases parseU64 first with
    | none => exact tracks_err buf cur c2
    | some i =>
      cases parseU64 (slice buf w2.1 w2.2) with
      | none => exact tracks_err buf cur c2
      | some g => rw [(c3 w2 w3 rfl).1]; exact tracks_ok buf _ _ c2


/-- the four refinement statements for one amount of fuel -/
def TracksAt (env : Env R) (buf : Buf) (fuel : Nat) : Prop :=
  (∀ pos ctx flags depth, pos ≤ buf.size →
      Tracks buf (parseCtxC env buf fuel pos ctx flags depth) (parseCtx env buf fuel pos ctx flags depth)) ∧
  (∀ pos ctx flags depth, pos ≤ buf.size →
      Tracks buf (parseInnerC env buf fuel pos ctx flags depth) (parseInner env buf fuel pos ctx flags depth)) ∧
  (∀ pos ctx depth acc, pos ≤ buf.size →
      Tracks buf (parseArrayC env buf fuel pos ctx depth acc) (parseArray env buf fuel pos ctx depth acc)) ∧
  (∀ pos ctx depth acc, pos ≤ buf.size →
      Tracks buf (parseDictC env buf fuel pos ctx depth acc) (parseDict env buf fuel pos ctx depth acc))

theorem tracksAt_zero (env : Env R) (buf : Buf) : TracksAt env buf 0 := by
  refine ⟨?_, ?_, ?_, ?_⟩ <;> intros <;> simp only [parseCtxC, parseCtx, parseInnerC, parseInner, parseArrayC, parseArray,
    parseDictC, parseDict] <;> exact tracks_oof buf _

theorem parseCtxC_step (env : Env R) (buf : Buf) (fuel : Nat) (ih : TracksAt env buf fuel) (pos : Nat)
    (ctx : Option (Nat × Nat)) (flags depth : Nat) (h : pos ≤ buf.size) :
    Tracks buf (parseCtxC env buf (fuel + 1) pos ctx flags depth) (parseCtx env buf (fuel + 1) pos ctx flags depth) := by
  have hin := ih.2.1 pos ctx flags depth h
  simp only [parseCtxC, parseCtx]
  rcases hx : parseInnerC env buf fuel pos ctx flags depth with ⟨o, c⟩
  rw [hx] at hin
  obtain ⟨h1, h2, h3⟩ := hin
  simp only at h1
  rw [← h1]
  cases o with
  | ok r => rw [← h1] at h3; exact ⟨rfl, by simp, h3⟩
  | err =>
    have hc : c ≤ buf.size := h2 h1.symm
    have hmin : min pos buf.size = pos := by omega
    have e1 : setPos buf c pos = .ok pos := by rw [setPos_spec buf c pos hc, hmin]
    have e2 : setPos buf pos pos = .ok pos := by rw [setPos_spec buf pos pos h, hmin]
    simp only [setPosC, e1, e2, cur_bind_ok, Out.bind_ok]
    exact tracks_err buf pos h
  | panic => exact tracks_panic buf c
  | oof => exact tracks_oof buf c

theorem parseArrayC_step (env : Env R) (buf : Buf) (fuel : Nat) (ih : TracksAt env buf fuel) (pos : Nat)
    (ctx : Option (Nat × Nat)) (depth : Nat) (acc : List (Prim R)) (h : pos ≤ buf.size) :
    Tracks buf (parseArrayC env buf (fuel + 1) pos ctx depth acc) (parseArray env buf (fuel + 1) pos ctx depth acc) := by
  rw [parseArrayC, parseArray]
  obtain ⟨pk, hpk, _, _, _⟩ := peek_spec buf pos h
  rw [peekC, hpk]
  apply tracks_ite buf
  · exact tracks_next buf pos h _ _ fun w hw2 => tracks_ok buf _ _ hw2
  · apply tracks_bind buf (ih.1 pos ctx Flags.any depth h)
    intro a ha
    exact ih.2.2.1 a.2 ctx depth (a.1 :: acc) ((ih.1 pos ctx Flags.any depth h).2.2 a ha).2

theorem parseDictC_step (env : Env R) (buf : Buf) (fuel : Nat) (ih : TracksAt env buf fuel) (pos : Nat)
    (ctx : Option (Nat × Nat)) (depth : Nat) (acc : Dict R) (h : pos ≤ buf.size) :
    Tracks buf (parseDictC env buf (fuel + 1) pos ctx depth acc) (parseDict env buf (fuel + 1) pos ctx depth acc) := by
  rw [parseDictC, parseDict]
  apply tracks_next buf pos h
  intro w hw2
  apply tracks_ite buf
  · apply tracks_pure_bind buf _ w.2 hw2
    intro key _
    apply tracks_bind buf (ih.1 w.2 ctx Flags.any depth hw2)
    intro a ha
    exact ih.2.2.2 a.2 ctx depth (dictInsert acc key a.1) ((ih.1 w.2 ctx Flags.any depth hw2).2.2 a ha).2
  · exact tracks_ite buf (tracks_ok buf _ _ hw2) (tracks_err buf _ hw2)


theorem parseInnerC_step (env : Env R) (buf : Buf) (fuel : Nat) (ih : TracksAt env buf fuel) (pos : Nat)
    (ctx : Option (Nat × Nat)) (flags depth : Nat) (h : pos ≤ buf.size) :
    Tracks buf (parseInnerC env buf (fuel + 1) pos ctx flags depth) (parseInner env buf (fuel + 1) pos ctx flags depth) := by
  rw [parseInnerC, parseInner]
  apply tracks_pure_bind buf _ pos h
  intro _ _
  apply tracks_next buf pos h
  intro w hw2
  -- a check, then what it guards
  have guarded : ∀ (x : Nat) (f : Unit → Nat → Cur (Prim R × Nat)) (g : Unit → Out (Prim R × Nat)),
      Tracks buf (f () w.2) (g ()) → Tracks buf ((Cur.pure' (check flags x) w.2).bind f) ((check flags x).bind g) :=
    fun x f g hfg => tracks_pure_bind buf _ w.2 hw2 f g fun _ _ => hfg
  -- the two string readers
  have str : ∀ (o : Out (List UInt8 × Nat)),
      Tracks buf
        ((Cur.pure' (remainingStart buf w.2) w.2).bind fun _ c => (Cur.pure' o c).bind fun (s, p) c =>
          (offsetPosC buf c (p - w.2)).bind fun pos c =>
          (Cur.pure' (decryptStr env ctx s) c).bind fun s c => (.ok ((.str s : Prim R), pos), c))
        ((remainingStart buf w.2).bind fun _ => o.bind fun (s, p) => (offsetPos buf w.2 (p - w.2)).bind fun pos =>
          (decryptStr env ctx s).bind fun s => .ok (.str s, pos)) := by
    intro o
    apply tracks_pure_bind buf _ w.2 hw2
    intro _ _
    apply tracks_pure_bind buf _ w.2 hw2
    intro sp _
    obtain ⟨q, hq, hq2⟩ := offsetPos_spec buf w.2 (sp.2 - w.2) hw2
    simp only [offsetPosC, hq, cur_bind_ok, Out.bind_ok]
    exact tracks_pure_bind buf _ q hq2 _ _ fun s _ => tracks_ok buf _ _ hq2
  apply tracks_ite buf
  · apply guarded
    apply tracks_ite buf (tracks_err buf _ hw2)
    apply tracks_bind buf (ih.2.2.2 w.2 ctx (depth - 1) [] hw2)
    intro a ha
    have hb := ((ih.2.2.2 w.2 ctx (depth - 1) [] hw2).2.2 a ha).2
    obtain ⟨pk, hpk, _, _, _⟩ := peek_spec buf a.2 hb
    simp only [peekC, hpk, cur_bind_ok, Out.bind_ok]
    apply tracks_ite buf _ (tracks_ok buf _ _ hb)
    cases ctx with
    | none => exact tracks_err buf _ hb
    | some id => exact parseStreamObjectC_tracks env buf a.2 hb a.1 id
  apply tracks_ite buf (parseIntOrRefC_tracks buf w.2 _ flags hw2)
  cases realNumber (slice buf w.1 w.2) with
  | some s =>
    apply guarded
    cases env.parseReal s with
    | some r => exact tracks_ok buf _ _ hw2
    | none => exact tracks_err buf _ hw2
  | none =>
    apply tracks_ite buf
    · exact guarded _ _ _ (tracks_pure_bind buf _ w.2 hw2 _ _ fun s _ => tracks_ok buf _ _ hw2)
    apply tracks_ite buf
    · exact guarded _ _ _ (tracks_ite buf (tracks_err buf _ hw2) (ih.2.2.1 w.2 ctx (depth - 1) [] hw2))
    apply tracks_ite buf (guarded _ _ _ (str _))
    apply tracks_ite buf (guarded _ _ _ (str _))
    apply tracks_ite buf (guarded _ _ _ (tracks_ok buf _ _ hw2))
    apply tracks_ite buf (guarded _ _ _ (tracks_ok buf _ _ hw2))
    apply tracks_ite buf (guarded _ _ _ (tracks_ok buf _ _ hw2))
    obtain ⟨s, q, hr, _, _, hq⟩ := readN_total buf w.2 50 hw2
    simp only [readNC, hr, cur_bind_ok, Out.bind_ok]
    exact tracks_err buf q hq

theorem tracksAt_all (env : Env R) (buf : Buf) : ∀ fuel, TracksAt env buf fuel := by
  intro fuel
  induction fuel with
  | zero => exact tracksAt_zero env buf
  | succ fuel ih =>
    exact ⟨fun pos ctx flags depth h => parseCtxC_step env buf fuel ih pos ctx flags depth h,
      fun pos ctx flags depth h => parseInnerC_step env buf fuel ih pos ctx flags depth h,
      fun pos ctx depth acc h => parseArrayC_step env buf fuel ih pos ctx depth acc h,
      fun pos ctx depth acc h => parseDictC_step env buf fuel ih pos ctx depth acc h⟩

/-- the cursor-tracking model has the outcomes of `Model/Parser` -/
theorem parseCtxC_fst (env : Env R) (buf : Buf) (fuel pos : Nat) (ctx : Option (Nat × Nat)) (flags depth : Nat)
    (h : pos ≤ buf.size) : (parseCtxC env buf fuel pos ctx flags depth).1 = parseCtx env buf fuel pos ctx flags depth :=
  ((tracksAt_all env buf fuel).1 pos ctx flags depth h).1

/-- after `Ok` the cursor rests at the returned position, inside the buffer -/
theorem parseCtxC_ok (env : Env R) (buf : Buf) (fuel pos : Nat) (ctx : Option (Nat × Nat)) (flags depth : Nat)
    (h : pos ≤ buf.size) (v : Prim R) (p : Nat) (hok : parseCtx env buf fuel pos ctx flags depth = .ok (v, p)) :
    (parseCtxC env buf fuel pos ctx flags depth).2 = p ∧ p ≤ buf.size :=
  ((tracksAt_all env buf fuel).1 pos ctx flags depth h).2.2 (v, p) hok

/-- **after `Err` of `parse_with_lexer_ctx` the cursor is back where the call started** -/
theorem parseCtxC_err (env : Env R) (buf : Buf) (fuel pos : Nat) (ctx : Option (Nat × Nat)) (flags depth : Nat)
    (h : pos ≤ buf.size) (herr : (parseCtxC env buf fuel pos ctx flags depth).1 = .err) :
    (parseCtxC env buf fuel pos ctx flags depth).2 = pos := by
  cases fuel with
  | zero => simp [parseCtxC] at herr
  | succ fuel =>
    have hin := (tracksAt_all env buf fuel).2.1 pos ctx flags depth h
    simp only [parseCtxC] at herr ⊢
    rcases hx : parseInnerC env buf fuel pos ctx flags depth with ⟨o, c⟩
    rw [hx] at hin herr
    cases o with
    | ok r => simp at herr
    | panic => simp at herr
    | oof => simp at herr
    | err =>
      have hc : c ≤ buf.size := hin.2.1 hin.1.symm
      have hmin : min pos buf.size = pos := by omega
      have e1 : setPos buf c pos = .ok pos := by rw [setPos_spec buf c pos hc, hmin]
      simp [setPosC, e1, cur_bind_ok]

end PdfLex
