import PdfModel.Model.ContentLoop
import PdfModel.Lemmas.TotalParser

/-!
  Totality and progress of the content-stream loop and of the position arithmetic of inline images
  (`Model/ContentLoop`), for every buffer, every cursor inside it and EVERY oracle (error kinds, operand
  conversions): every round of `OpBuilder::parse` moves the cursor forward, the cursor never lies beyond the
  data (`ContentReadPastBoundary` is dead code), `data_start .. data_end` is always a range `new_substr` accepts.
-/

namespace PdfLex

variable {R : Type}

theorem noResolveEnv_ok (env : Env R) (henv : EnvOk env) : EnvOk (noResolveEnv env) :=
  ⟨fun _ _ => Or.inl rfl, henv.2⟩

/-- the key / value loop of `inline_image` always comes back, with the lexer at or behind where it started -/
theorem inlineDictLoop_spec (env : Env R) (henv : EnvOk env) (buf : Buf) (hs : RealSize buf) (o : Oracle)
    (fuel pos : Nat) (h : pos ≤ buf.size) (hf : buf.size - pos < fuel) :
    ∃ b p, inlineDictLoop env buf o fuel pos = .ok (b, p) ∧ pos ≤ p ∧ p ≤ buf.size := by
  induction fuel generalizing pos with
  | zero => omega
  | succ fuel ih =>
    unfold inlineDictLoop
    rcases parseWithLexer_good (noResolveEnv env) (noResolveEnv_ok env henv) buf hs (defaultFuel buf) pos Flags.any h
      (by have := defaultFuel_enough buf pos; omega) with he | ⟨v, p, hp, h1, h2⟩
    · rw [he]; simp only []
      split
      · exact ⟨false, pos, rfl, Nat.le_refl _, h⟩
      · rw [setPos_spec buf pos pos h]; simp only [Out.bind_ok]
        exact ⟨true, _, rfl, by omega, by omega⟩
    · rw [hp]
      cases v with
      | name s =>
        simp only []
        rcases parseWithLexer_good (noResolveEnv env) (noResolveEnv_ok env henv) buf hs (defaultFuel buf) p Flags.any h2
          (by have := defaultFuel_enough buf p; omega) with he | ⟨v2, p2, hp2, h3, h4⟩
        · rw [he]; exact ⟨false, p, rfl, by omega, h2⟩
        · rw [hp2]; simp only []
          obtain ⟨b, q, hq, q1, q2⟩ := ih p2 h4 (by omega)
          exact ⟨b, q, hq, by omega, q2⟩
      | _ => exact ⟨false, p, rfl, by omega, h2⟩

/-- what `inline_image` promises: it always comes back (its `Err` is the `false` flag); the lexer only moves forward
    and stays inside the data; the data range is one that `new_substr` accepts -/
def ImgGood (buf : Buf) (pos : Nat) (r : Out ((Bool × Nat) × Option (Nat × Nat))) : Prop :=
  ∃ b p d, r = .ok ((b, p), d) ∧ pos ≤ p ∧ p ≤ buf.size ∧ (∀ s, d = some s → s.1 ≤ s.2 ∧ s.2 ≤ buf.size)

theorem ImgGood.stop {buf : Buf} {pos p : Nat} (h1 : pos ≤ p) (h2 : p ≤ buf.size) :
    ImgGood buf pos (.ok ((false, p), none)) := ⟨false, p, none, rfl, h1, h2, nofun⟩

theorem ImgGood.data {buf : Buf} {pos p : Nat} {s : Nat × Nat} (h1 : pos ≤ p) (h2 : p ≤ buf.size) (hs1 : s.1 ≤ s.2)
    (hs2 : s.2 ≤ buf.size) : ImgGood buf pos (.ok ((true, p), some s)) :=
  ⟨true, p, some s, rfl, h1, h2, fun _ hh => by cases hh; exact ⟨hs1, hs2⟩⟩

/-- the part both end-of-data searches share: the key / value loop and `next_expect("ID")`; `tail w` is the search,
    started behind the lexeme `w` -/
theorem imgHead_spec (env : Env R) (henv : EnvOk env) (buf : Buf) (hs : RealSize buf) (o : Oracle)
    (pos : Nat) (h : pos ≤ buf.size) (tail : Nat × Nat → Out ((Bool × Nat) × Option (Nat × Nat)))
    (htail : ∀ w : Nat × Nat, pos < w.2 → w.2 ≤ buf.size → ImgGood buf pos (tail w)) :
    ImgGood buf pos ((inlineDictLoop env buf o (buf.size + 1) pos).bind fun (cont, p) =>
      if !cont then .ok ((false, p), none) else
      match next buf p with
      | .err => .ok ((false, p), none)
      | .panic => .panic
      | .oof => .oof
      | .ok w => if slice buf w.1 w.2 != kwID then .ok ((false, w.2), none) else tail w) := by
  obtain ⟨c, p, hp, h1, h2⟩ := inlineDictLoop_spec env henv buf hs o (buf.size + 1) pos h (by omega)
  rw [hp]; simp only [Out.bind_ok]
  refine iteInduction (fun _ => .stop h1 h2) fun _ => ?_
  rcases next_spec buf p h2 with e | ⟨w, e, a1, a2, a3⟩ <;> rw [e]
  · exact .stop h1 h2
  · exact iteInduction (fun _ => .stop (by omega) a3) fun _ => htail w (by omega) a3

/-- `inline_image`: `data_start = pos + 1` and `data_end = pos' - 3` never over- or underflow (an empty image gives the
    backward range `data_end + 1 .. data_start + 1`) -/
theorem inlineImage_spec (env : Env R) (henv : EnvOk env) (buf : Buf) (hs : RealSize buf) (o : Oracle)
    (pos : Nat) (h : pos ≤ buf.size) : ImgGood buf pos (inlineImage env buf o pos) := by
  refine imgHead_spec env henv buf hs o pos h _ fun w hw a3 => ?_
  have hu : ¬ (w.2 + 1 > usizeMax) := by unfold RealSize at hs; unfold usizeMax; omega
  rw [if_neg hu]
  obtain ⟨r, q, hq, q1, q2, q3, q4⟩ := seekSubstr_spec buf w.2 kwLfEI a3 (by decide)
  rw [hq]; simp only [Out.bind_ok]
  cases r with
  | none => exact .stop (by omega) q2
  | some sx =>
    have h3 : w.2 + 3 ≤ q := (q4 sx rfl).2
    simp only []
    rw [if_neg (by omega : ¬ q < 3)]
    refine iteInduction (fun _ => .stop (by omega) q2) fun _ => ?_
    by_cases hd : w.2 + 1 ≤ q - 3
    · rw [newSubstr_fwd hd (by omega)]
      exact .data (by omega) q2 hd (by simp; omega)
    · rw [newSubstr_bwd (by omega) (by omega)]
      exact .data (by omega) q2 (by simp; omega) (by simp; omega)

theorem addOp_spec (env : Env R) (henv : EnvOk env) (buf : Buf) (hs : RealSize buf) (o : Oracle) (w : Nat × Nat)
    (h : w.2 ≤ buf.size) :
    ∃ b p, addOp env buf o w = .ok (b, p) ∧ w.2 ≤ p ∧ p ≤ buf.size := by
  unfold addOp
  split
  · obtain ⟨b, p, d, hp, h1, h2, _⟩ := inlineImage_spec env henv buf hs o w.2 h
    rw [hp]; exact ⟨b, p, rfl, h1, h2⟩
  · exact ⟨_, _, rfl, Nat.le_refl _, h⟩

/-- one round of `OpBuilder::parse`: `Err`, `break`, or a cursor strictly further and inside the data -/
theorem contentStep_spec (env : Env R) (henv : EnvOk env) (buf : Buf) (hs : RealSize buf) (o : Oracle)
    (allow : Bool) (pos : Nat) (h : pos ≤ buf.size) :
    contentStep env buf o allow pos = .err ∨ contentStep env buf o allow pos = .ok none ∨
    ∃ p, contentStep env buf o allow pos = .ok (some p) ∧ pos < p ∧ p ≤ buf.size := by
  unfold contentStep
  rcases parseWithLexer_good env henv buf hs (defaultFuel buf) pos Flags.any h
      (by have := defaultFuel_enough buf pos; omega) with he | ⟨v, p, hp, h1, h2⟩
  · rw [he]; simp only []
    split
    · right; left; rfl
    · rw [setPos_spec buf pos pos h]; simp only [Out.bind_ok]
      have hmin : min pos buf.size = pos := by omega
      rw [hmin]
      rcases next_spec buf pos h with he | ⟨w, hw, a1, a2, a3⟩
      · left; rw [he]; rfl
      · rw [hw]; simp only [Out.bind_ok]
        split
        · left; rfl
        · obtain ⟨b, q, hq, q1, q2⟩ := addOp_spec env henv buf hs o w a3
          rw [hq]; simp only [Out.bind_ok]
          split
          · right; right; exact ⟨q, rfl, by omega, q2⟩
          · left; rfl
  · rw [hp]; right; right; exact ⟨p, rfl, h1, h2⟩

/-- `OpBuilder::parse`: `Ok` or `Err` within `buf.size - pos + 1` rounds -/
theorem contentLoop_spec (env : Env R) (henv : EnvOk env) (buf : Buf) (hs : RealSize buf) (o : Oracle)
    (allow : Bool) (fuel pos : Nat) (h : pos ≤ buf.size) (hf : buf.size - pos < fuel) :
    contentLoop env buf o allow fuel pos = .err ∨
    ∃ p, contentLoop env buf o allow fuel pos = .ok p ∧ pos ≤ p ∧ p ≤ buf.size := by
  induction fuel generalizing pos with
  | zero => omega
  | succ fuel ih =>
    unfold contentLoop
    rcases contentStep_spec env henv buf hs o allow pos h with he | he | ⟨p, hp, h1, h2⟩
    · left; rw [he]; rfl
    · right; rw [he]; exact ⟨pos, rfl, Nat.le_refl _, h⟩
    · rw [hp]; simp only [Out.bind_ok]
      have hn : ¬ p > buf.size := by omega
      simp only [hn, if_false]
      by_cases hlt : p < buf.size
      · simp only [hlt, if_true]
        rcases ih p h2 (by omega) with he | ⟨q, hq, q1, q2⟩
        · left; exact he
        · right; exact ⟨q, hq, by omega, q2⟩
      · simp only [hlt, if_false]
        right; exact ⟨p, rfl, by omega, h2⟩

theorem parseOps_ret (env : Env R) (henv : EnvOk env) (buf : Buf) (hs : RealSize buf) (o : Oracle) (allow : Bool) :
    Ret (parseOps env buf o allow) := by
  unfold parseOps
  rcases contentLoop_spec env henv buf hs o allow (buf.size + 1) 0 (Nat.zero_le _) (by omega) with he | ⟨p, hp, _, _⟩
  · exact Or.inl he
  · exact Or.inr ⟨p, hp⟩

end PdfLex
