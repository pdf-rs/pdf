import PdfModel.Model.StrLexer
import PdfModel.Lemmas.TotalLexer

/-!
  Totality of `Model/StrLexer` on ARBITRARY buffers (C01): `StringLexer::next_lexeme`, the iterator loops of
  the literal and the hexadecimal string, `HexStringLexer::next_hex_byte`.

  * no `panic`: the only panic site of the model is the overflow of the nesting counter; the counter grows
    by at most one per byte read, so it stays below `i64::MAX` on every buffer a Rust slice can be
    (`buf.size ≤ isize::MAX`).  With the `i32` counter the code had before the repair the same argument needs
    `buf.size < 2^31`, and `nested_i32_overflows` is the step that panicked.
  * no `oof`: every iteration of `next_lexeme` consumes at least one byte (two for a line continuation), every
    lexeme of the iterator loops at least one.
-/

namespace PdfLex

/-- `i64::MAX`, the room of the nesting counter; as a natural number the `isize::MAX` of `RealSize` -/
def i64Max : Int := 9223372036854775807

theorem nextByte_spec (buf : Buf) (pos : Nat) :
    (nextByte buf pos = .err ∧ buf.size ≤ pos) ∨
    ∃ b, nextByte buf pos = .ok (b, pos + 1) ∧ buf[pos]? = some b ∧ pos < buf.size := by
  unfold nextByte
  cases h : buf[pos]? with
  | none => left; simp at h; exact ⟨rfl, h⟩
  | some b => right; exact ⟨b, rfl, rfl, getElem?_lt h⟩

theorem peekByte_spec (buf : Buf) (pos : Nat) :
    peekByte buf pos = .err ∨ ∃ b, peekByte buf pos = .ok b ∧ pos < buf.size := by
  unfold peekByte
  cases h : buf[pos]? with
  | none => left; rfl
  | some b => right; exact ⟨b, rfl, getElem?_lt h⟩

theorem octalMore_spec (buf : Buf) (n code pos : Nat) (h : pos ≤ buf.size) :
    octalMore buf n code pos = .err ∨
    ∃ c p, octalMore buf n code pos = .ok (c, p) ∧ pos ≤ p ∧ p ≤ buf.size := by
  induction n generalizing code pos with
  | zero => right; exact ⟨code, pos, rfl, Nat.le_refl _, h⟩
  | succ n ih =>
    unfold octalMore
    rcases peekByte_spec buf pos with he | ⟨c, hc, hlt⟩
    · left; rw [he]; rfl
    · rw [hc]; simp only [Out.bind_ok]
      by_cases ho : isOctal c = true
      · simp only [ho, if_true]
        rcases ih (code * 8 + (c.toNat - 48)) (pos + 1) hlt with he | ⟨c', p, hp, h1, h2⟩
        · left; exact he
        · right; exact ⟨c', p, hp, by omega, h2⟩
      · right; exact ⟨code, pos, by simp [ho], Nat.le_refl _, h⟩

theorem skipIf_bounds (buf : Buf) (pos : Nat) (b : UInt8) (h : pos ≤ buf.size) :
    pos ≤ skipIf buf pos b ∧ skipIf buf pos b ≤ buf.size := by
  unfold skipIf
  by_cases hc : (buf[pos]? == some b) = true
  · have : buf[pos]? = some b := by simpa using hc
    have := getElem?_lt this
    simp [hc]; omega
  · simp [hc]; omega

/-- `StringLexer::next_lexeme`: `Err(EOF)`, or a lexeme (`Some(byte)`, or `None` at the closing parenthesis)
    with the cursor strictly further and inside the buffer; the nesting counter moves by at most one and is
    negative only at the closing parenthesis.  No panic while the counter has room for the bytes that are
    left; no `oof` when the fuel exceeds the number of bytes left. -/
theorem nextLexeme_spec (buf : Buf) (fuel pos : Nat) (nested : Int) (h : pos ≤ buf.size) (hn : 0 ≤ nested)
    (hm : nested + ((buf.size - pos : Nat) : Int) ≤ i64Max) (hf : buf.size - pos < fuel) :
    nextLexeme buf fuel pos nested = .err ∨
    ∃ r p n', nextLexeme buf fuel pos nested = .ok (r, p, n') ∧ pos < p ∧ p ≤ buf.size ∧
      n' ≤ nested + 1 ∧ (r ≠ none → 0 ≤ n') := by
  induction fuel generalizing pos with
  | zero => omega
  | succ fuel ih =>
    unfold nextLexeme
    rcases nextByte_spec buf pos with ⟨he, _⟩ | ⟨c, hc, _, hlt⟩
    · left; rw [he]; rfl
    · rw [hc]; simp only [Out.bind_ok]
      by_cases c92 : (c == 92) = true
      · simp only [c92, if_true]
        rcases nextByte_spec buf (pos + 1) with ⟨he, _⟩ | ⟨d, hd, _, hlt2⟩
        · left; rw [he]; rfl
        · rw [hd]; simp only [Out.bind_ok]
          cases hne : namedEsc d with
          | some v => right; exact ⟨some v, pos + 1 + 1, nested, rfl, by omega, by omega, by omega, fun _ => hn⟩
          | none =>
            simp only []
            by_cases d10 : (d == 10) = true
            · simp only [d10, if_true]
              have hm' : nested + ((buf.size - (pos + 1 + 1) : Nat) : Int) ≤ i64Max := by omega
              rcases ih (pos + 1 + 1) (by omega) hm' (by omega) with he | ⟨r, p, n', hp, h1, h2, h3, h4⟩
              · left; exact he
              · right; exact ⟨r, p, n', hp, by omega, h2, h3, h4⟩
            · simp only [d10, Bool.false_eq_true, if_false]
              by_cases d13 : (d == 13) = true
              · simp only [d13, if_true]
                have hs := skipIf_bounds buf (pos + 1 + 1) 10 (by omega)
                have hm' : nested + ((buf.size - skipIf buf (pos + 1 + 1) 10 : Nat) : Int) ≤ i64Max := by omega
                rcases ih (skipIf buf (pos + 1 + 1) 10) hs.2 hm' (by omega) with he | ⟨r, p, n', hp, h1, h2, h3, h4⟩
                · left; exact he
                · right; exact ⟨r, p, n', hp, by omega, h2, h3, h4⟩
              · simp only [d13, Bool.false_eq_true, if_false]
                by_cases doct : isOctal d = true
                · simp only [doct, if_true]
                  rcases octalMore_spec buf 2 (d.toNat - 48) (pos + 1 + 1) (by omega) with he | ⟨code, p, hp, h1, h2⟩
                  · left; rw [he]; rfl
                  · right; rw [hp]; simp only [Out.bind_ok]
                    exact ⟨_, p, nested, rfl, by omega, h2, by omega, fun _ => hn⟩
                · right; simp only [doct, Bool.false_eq_true, if_false]
                  exact ⟨some d, pos + 1 + 1, nested, rfl, by omega, by omega, by omega, fun _ => hn⟩
      · simp only [c92, Bool.false_eq_true, if_false]
        by_cases c40 : (c == 40) = true
        · simp only [c40, if_true]
          have : ¬ (nested + 1 > 9223372036854775807) := by unfold i64Max at hm; omega
          right; simp only [this, if_false]
          exact ⟨some 40, pos + 1, nested + 1, rfl, by omega, by omega, by omega, fun _ => by omega⟩
        · simp only [c40, Bool.false_eq_true, if_false]
          by_cases c41 : (c == 41) = true
          · simp only [c41, if_true]
            right
            by_cases hneg : nested - 1 < 0
            · simp only [hneg, if_true]
              exact ⟨none, pos + 1, nested - 1, rfl, by omega, by omega, by omega, fun hh => absurd rfl hh⟩
            · simp only [hneg, if_false]
              exact ⟨some 41, pos + 1, nested - 1, rfl, by omega, by omega, by omega, fun _ => by omega⟩
          · simp only [c41, Bool.false_eq_true, if_false]
            right
            by_cases c13 : (c == 13) = true
            · simp only [c13, if_true]
              have hs := skipIf_bounds buf (pos + 1) 10 (by omega)
              exact ⟨some 10, _, nested, rfl, by omega, hs.2, by omega, fun _ => hn⟩
            · simp only [c13, Bool.false_eq_true, if_false]
              exact ⟨some c, pos + 1, nested, rfl, by omega, by omega, by omega, fun _ => hn⟩

/-- the code before the repair counted the nesting in an `i32`: the 2^31-th unbalanced `(` panicked -/
def nestedStepOld32 (nested : Int) : Out Int := if nested + 1 > 2147483647 then .panic else .ok (nested + 1)

theorem nested_i32_overflows : nestedStepOld32 2147483647 = .panic := by decide

/-- the iterator loop over a literal string: `Err(EOF)` or the bytes and a cursor strictly further -/
theorem collectString_spec (buf : Buf) (fuel pos : Nat) (nested : Int) (acc : List UInt8) (h : pos ≤ buf.size)
    (hn : 0 ≤ nested) (hm : nested + ((buf.size - pos : Nat) : Int) ≤ i64Max) (hf : buf.size - pos + 1 < fuel) :
    collectString buf fuel pos nested acc = .err ∨
    ∃ s p, collectString buf fuel pos nested acc = .ok (s, p) ∧ pos < p ∧ p ≤ buf.size := by
  induction fuel generalizing pos nested acc with
  | zero => omega
  | succ fuel ih =>
    unfold collectString
    rcases nextLexeme_spec buf (fuel + 1) pos nested h hn hm (by omega) with he | ⟨r, p, n', hp, h1, h2, h3, h4⟩
    · left; rw [he]; rfl
    · rw [hp]; simp only [Out.bind_ok]
      cases r with
      | none => right; exact ⟨_, p, rfl, h1, h2⟩
      | some b =>
        simp only []
        have hn' : 0 ≤ n' := h4 (by simp)
        have hm' : n' + ((buf.size - p : Nat) : Int) ≤ i64Max := by omega
        rcases ih p n' (b :: acc) h2 hn' hm' (by omega) with he | ⟨s, q, hq, hq1, hq2⟩
        · left; exact he
        · right; exact ⟨s, q, hq, by omega, hq2⟩

theorem nextNonWs_spec (buf : Buf) (fuel pos : Nat) :
    nextNonWs buf fuel pos = .err ∨ ∃ c p, nextNonWs buf fuel pos = .ok (c, p) ∧ pos < p ∧ p ≤ buf.size := by
  induction fuel generalizing pos with
  | zero => left; rfl
  | succ fuel ih =>
    unfold nextNonWs
    cases hb : buf[pos]? with
    | none => left; rfl
    | some b =>
      have := getElem?_lt hb
      simp only []
      by_cases hw : isHexWs b = true
      · simp only [hw, if_true]
        rcases ih (pos + 1) with he | ⟨c, p, hp, h1, h2⟩
        · left; exact he
        · right; exact ⟨c, p, hp, by omega, h2⟩
      · right; simp only [hw, Bool.false_eq_true, if_false]
        exact ⟨b, pos + 1, rfl, by omega, by omega⟩

/-- `HexStringLexer::next_hex_byte`: the `back()` before a lone `>` cannot fail (two bytes were read) -/
theorem nextHexByte_spec (buf : Buf) (base pos : Nat) (hb : base ≤ pos) :
    nextHexByte buf base pos = .err ∨
    ∃ r p, nextHexByte buf base pos = .ok (r, p) ∧ pos < p ∧ p ≤ buf.size := by
  unfold nextHexByte
  rcases nextNonWs_spec buf (buf.size - pos + 1) pos with he | ⟨c1, p1, hp1, h1, h2⟩
  · left; rw [he]; rfl
  · rw [hp1]; simp only [Out.bind_ok]
    by_cases c62 : (c1 == 62) = true
    · right; simp only [c62, if_true]; exact ⟨none, p1, rfl, h1, h2⟩
    · simp only [c62, Bool.false_eq_true, if_false]
      cases hd : hexDigitVal c1 with
      | none => left; rfl
      | some hi =>
        simp only []
        rcases nextNonWs_spec buf (buf.size - p1 + 1) p1 with he | ⟨c2, p2, hp2, h3, h4⟩
        · left; rw [he]; rfl
        · rw [hp2]; simp only [Out.bind_ok]
          by_cases d62 : (c2 == 62) = true
          · right; simp only [d62, if_true]
            have hbk : hexBack base p2 = .ok (p2 - 1) := by simp [hexBack]; omega
            rw [hbk]; simp only [Out.bind_ok]
            exact ⟨_, p2 - 1, rfl, by omega, by omega⟩
          · simp only [d62, Bool.false_eq_true, if_false]
            cases hd2 : hexDigitVal c2 with
            | none => left; rfl
            | some lo => right; exact ⟨_, p2, rfl, by omega, h4⟩

/-- the iterator loop over a hexadecimal string -/
theorem collectHex_spec (buf : Buf) (base fuel pos : Nat) (acc : List UInt8) (hb : base ≤ pos)
    (h : pos ≤ buf.size) (hf : buf.size - pos < fuel) :
    collectHex buf base fuel pos acc = .err ∨
    ∃ s p, collectHex buf base fuel pos acc = .ok (s, p) ∧ pos < p ∧ p ≤ buf.size := by
  induction fuel generalizing pos acc with
  | zero => omega
  | succ fuel ih =>
    unfold collectHex
    rcases nextHexByte_spec buf base pos hb with he | ⟨r, p, hp, h1, h2⟩
    · left; rw [he]; rfl
    · rw [hp]; simp only [Out.bind_ok]
      cases r with
      | none => right; exact ⟨_, p, rfl, h1, h2⟩
      | some b =>
        simp only []
        rcases ih p (b :: acc) (by omega) h2 (by omega) with he | ⟨s, q, hq, hq1, hq2⟩
        · left; exact he
        · right; exact ⟨s, q, hq, by omega, hq2⟩

end PdfLex
