import PdfModel.Model.CacheDoc
import PdfModel.Lemmas.Cache

/-! Soundness of the decidable domain check `CacheDoc.okRanks`: a description that passes it gives a
document (`toDoc`) satisfying the hypothesis `WF` of the C12 / C13 theorems, and the call kinds of the
property are admissible calls (`Fine … (fun _ => True)`). The model driver evaluates `okRanks` on every
generated document, so the generated cases are certified to lie in the domain of the theorems. -/

namespace CacheDoc
open Cache

theorem find_mem {d : Desc} {id : Nat} {o : Obj} (h : d.find id = some o) : o ∈ d.objs ∧ o.id = id := by
  unfold Desc.find at h
  exact ⟨List.mem_of_find?_eq_some h, by simpa using List.find?_some h⟩

theorem dep_lt {d : Desc} (hok : okRanks d = true) {id : Nat} {o : Obj} (hf : d.find id = some o) {x : Nat}
    (hx : x ∈ depsOf d id) : rk d x < rk d id := by
  obtain ⟨hm, hid⟩ := find_mem hf
  unfold okRanks at hok
  rw [List.all_eq_true] at hok
  have := hok o hm
  rw [hid, List.all_eq_true] at this
  simpa using this x hx

theorem stm_dep {d : Desc} {id sid idx : Nat} {o : Obj} (hf : d.find id = some o) (hp : o.place = .inStm sid idx) :
    sid ∈ depsOf d id := by
  unfold depsOf
  rw [hf]
  simp [hp]

theorem errP_fine (filt : Nat → List Nat) (P : Nat → Prop) (e : String) : Fine filt P (errP e) := .ret _ (by simp)
theorem okP_fine (filt : Nat → List Nat) (P : Nat → Prop) (v : Val) : Fine filt P (okP v) := .ret _ (by simp)

theorem rawP_fine {d : Desc} (hok : okRanks d = true) (id : Nat) :
    Fine (filtersOf d) (fun r' => rk d r' < rk d id) (rawP d id) := by
  unfold rawP
  cases hf : d.find id with
  | none =>
    simp only
    split
    · exact errP_fine _ _ _
    · split <;> exact errP_fine _ _ _
  | some o =>
    simp only
    cases hp : o.place with
    | free => exact errP_fine _ _ _
    | direct => exact okP_fine _ _ _
    | inStm sid idx =>
      refine .get' (dep_lt hok hf (stm_dep hf hp)) (fun v => ?_) fun e => errP_fine _ _ _
      cases v with
      | objstm i n => exact .ite (.data' rfl (fun w => okP_fine _ _ _) fun e => errP_fine _ _ _) (errP_fine _ _ _)
      | _ => exact errP_fine _ _ _

theorem bindRaw_fine {filt : Nat → List Nat} {P : Nat → Prop} {p : CacheDoc.P} {f : Nat → CacheDoc.P}
    (hp : Fine filt P p) (hf : ∀ i, Fine filt P (f i)) : Fine filt P (bindRaw p f) := by
  induction hp with
  | ret x hx =>
    cases x with
    | oof => exact absurd rfl hx
    | err e => exact .ret _ (by simp)
    | ok v => cases v <;> first | exact hf _ | exact errP_fine _ _ _
  | get T r k hr _ ih => exact .get T r _ hr fun y hy => ih y hy
  | data r fs k hfs _ ih => exact .data r fs _ hfs fun y hy => ih y hy

theorem parentP_fine {d : Desc} {P : Nat → Prop} (p : Nat) (optional : Bool) (k : Val → CacheDoc.P)
    (hp : P p) (hk : ∀ v, Fine (filtersOf d) P (k v)) : Fine (filtersOf d) P (parentP d p optional k) := by
  unfold parentP
  refine .get' hp (fun v => ?_) fun e => .ite (hk _) (errP_fine _ _ _)
  cases v with
  | tree i q ks c => exact hk _
  | _ => exact .ite (hk _) (errP_fine _ _ _)

theorem pageRefP_fine {d : Desc} {P : Nat → Prop} (p : Nat) (k : CacheDoc.P)
    (hp : P p) (hk : Fine (filtersOf d) P k) : Fine (filtersOf d) P (pageRefP d p k) := by
  unfold pageRefP
  refine .get' hp (fun v => ?_) fun e => .ite hk (errP_fine _ _ _)
  cases v with
  | leaf i q => exact hk
  | _ => exact .ite hk (errP_fine _ _ _)

theorem annotsLoop_fine {d : Desc} {P : Nat → Prop} : ∀ (ids acc : List Nat), (∀ a ∈ ids, P a) →
    Fine (filtersOf d) P (annotsLoop ids acc) := by
  intro ids
  induction ids with
  | nil => intro acc _; exact okP_fine _ _ _
  | cons a rest ih =>
    intro acc h
    simp only [annotsLoop]
    exact .get' (h a (by simp)) (fun v => ih _ fun b hb => h b (by simp [hb])) fun e => errP_fine _ _ _

/-- the initialiser of a `Lazy` annotation array (given directly, by reference, or absent) -/
theorem lazyInit_fine (d : Desc) (f : CellForm) : Fine (filtersOf d) (fun _ => True) (lazyInit f) := by
  cases f with
  | direct ids => exact annotsLoop_fine ids [] fun _ _ => trivial
  | absent => exact okP_fine _ _ _
  | ref r =>
    exact .get' trivial (fun v => okP_fine _ _ _) fun e => .ite (okP_fine _ _ _) (errP_fine _ _ _)

theorem fromPrim_fine {d : Desc} (hok : okRanks d = true) (T id : Nat) (o : Obj) (hf : d.find id = some o) :
    Fine (filtersOf d) (fun r' => rk d r' < rk d id) (fromPrim d T id o.kind) := by
  have hdep : ∀ x, x ∈ depsOf d id → rk d x < rk d id := fun x hx => dep_lt hok hf hx
  have hdeps : depsOf d id = (match o.place with | .inStm sid _ => [sid] | _ => []) ++
      (match o.kind with
        | .pages p _ _ => if p = 0 then [] else [p]
        | .page p => [p]
        | .cat p => [p]
        | .annot p => if p = 0 then [] else [p]
        | .annots ids => ids
        | _ => []) := by
    unfold depsOf; rw [hf]; rfl
  unfold fromPrim
  refine .ite (okP_fine _ _ _) <| .ite ?_ <| .ite ?_ <| .ite ?_ <| .ite ?_ <| .ite ?_ <| .ite ?_ <| .ite ?_ <| .ite ?_ <|
    .ite ?_ (errP_fine _ _ _)
  · -- i32
    split <;> first | exact okP_fine _ _ _ | exact errP_fine _ _ _
  · -- Dictionary
    split <;> first | exact okP_fine _ _ _ | exact errP_fine _ _ _
  · -- PagesNode
    split
    · rename_i parent kids count hk
      split
      · exact okP_fine _ _ _
      · rename_i hne
        refine parentP_fine parent true _ (hdep parent ?_) fun v => okP_fine _ _ _
        rw [hdeps, hk]; simp [hne]
    · rename_i parent hk
      refine parentP_fine parent false _ (hdep parent ?_) fun v => okP_fine _ _ _
      rw [hdeps, hk]; simp
    · exact errP_fine _ _ _
  · -- Catalog
    split
    · rename_i pages hk
      refine parentP_fine pages false _ (hdep pages ?_) fun v => okP_fine _ _ _
      rw [hdeps, hk]; simp
    · exact errP_fine _ _ _
  · -- Stream<()>
    split <;> first | exact okP_fine _ _ _ | exact errP_fine _ _ _
  · -- ImageXObject
    split <;> first | exact okP_fine _ _ _ | exact errP_fine _ _ _
  · -- ObjectStream: reads its own data with its own filters
    split
    · rename_i n fs st hk
      have hfs : fs = filtersOf d id := by
        unfold filtersOf; rw [hf]
        show fs = o.kind.filters
        rw [hk]; rfl
      exact .data' hfs (fun w => okP_fine _ _ _) fun e => errP_fine _ _ _
    · exact errP_fine _ _ _
  · -- Annot
    split
    · rename_i page hk
      unfold annotP
      split
      · exact okP_fine _ _ _
      · rename_i hne
        refine pageRefP_fine page _ (hdep page ?_) (okP_fine _ _ _)
        rw [hdeps, hk]; simp [hne]
    · exact errP_fine _ _ _
  · -- Vec<MaybeRef<Annot>>
    split
    · rename_i ids hk
      refine annotsLoop_fine ids [] fun a ha => hdep a ?_
      rw [hdeps, hk]; simp [ha]
    · rename_i page hk
      unfold annotP
      split
      · exact okP_fine _ _ _
      · rename_i hne
        refine pageRefP_fine page _ (hdep page ?_) (okP_fine _ _ _)
        rw [hdeps, hk]; simp [hne]
    · exact errP_fine _ _ _

theorem bodyD_fine {d : Desc} (hok : okRanks d = true) (T id : Nat) :
    Fine (filtersOf d) (fun r' => rk d r' < rk d id) (bodyD d T id) := by
  unfold bodyD
  refine bindRaw_fine (rawP_fine hok id) fun _ => ?_
  cases hf : d.find id with
  | none => exact errP_fine _ _ _
  | some o => exact fromPrim_fine hok T id o hf

theorem decodeD_ne_oof (d : Desc) (id : Nat) (fs : List Nat) : decodeD d id fs ≠ .oof := by
  unfold decodeD
  split
  · split
    · split <;> simp
    · simp
  · simp

/-- **Soundness of the domain check.** -/
theorem wf_of_okRanks {d : Desc} (hok : okRanks d = true) : WF (toDoc d) (filtersOf d) (rk d) :=
  ⟨fun T r => bodyD_fine hok T r, fun r => rawP_fine hok r, fun r fs => decodeD_ne_oof d r fs⟩

theorem rkF_le (d : Desc) : ∀ f id, rkF d f id ≤ f := by
  intro f
  induction f with
  | zero => intro id; simp [rkF]
  | succ f ih =>
    intro id
    simp only [rkF]
    have : ∀ (l : List Nat) (m : Nat), m ≤ f + 1 → l.foldl (fun m x => max m (rkF d f x + 1)) m ≤ f + 1 := by
      intro l
      induction l with
      | nil => intro m hm; exact hm
      | cons x xs ihl =>
        intro m hm
        simp only [List.foldl_cons]
        apply ihl
        have := ih x
        omega
    exact this _ 0 (by omega)

theorem rk_lt (d : Desc) (r : Nat) : rk d r < d.objs.length + 2 := by
  have := rkF_le d (d.objs.length + 1) r
  unfold rk
  omega

theorem getP_fine (filt : Nat → List Nat) (T id : Nat) : Fine filt (fun _ => True) (getP T id) :=
  .get T id _ trivial fun x hx => .ret x hx

theorem resolve_fine {d : Desc} (hok : okRanks d = true) (id : Nat) : Fine (filtersOf d) (fun _ => True) (rawP d id) :=
  (rawP_fine hok id).mono fun _ _ => trivial

theorem sdataP_fine (d : Desc) (id : Nat) : Fine (filtersOf d) (fun _ => True) (sdataP d id) := by
  exact .get' trivial (fun v => .data _ _ _ rfl fun y hy => .ret y hy) fun e => errP_fine _ _ _

theorem take_of_drop_isEmpty (fs : List Nat) (e : Nat) (h : (fs.drop e).isEmpty = true) : fs.take e = fs := by
  have : fs.drop e = [] := by simpa using h
  have hl : fs.length ≤ e := by
    rw [List.drop_eq_nil_iff] at this; exact this
  exact List.take_of_length_le hl

/-- for the rule under test (`viaCache = false`); under the old rule the prefix goes through the stream cache, which is
    not `Fine` (`Cache.D27_old_rule_counterexample`) -/
theorem rawimgK_fine (d : Desc) (id : Nat) (k : String → Nat → CacheDoc.P)
    (hk : ∀ h f, Fine (filtersOf d) (fun _ => True) (k h f)) :
    Fine (filtersOf d) (fun _ => True) (rawimgK d false id k) := by
  unfold rawimgK
  refine .get' trivial (fun v => ?_) fun e => errP_fine _ _ _
  simp only
  -- what is done with the decoded prefix, whichever way it was obtained
  have fin_fine : ∀ y : R, y ≠ .oof → Fine (filtersOf d) (fun _ => True)
      (match y with
        | .ok (.bytes h) =>
          match (filtersOf d id).drop (imageSplit (filtersOf d id)) with
          | [] => k h 0
          | [f] => if f = 6 || f = 4 then k h f else errP "E"
          | _ => errP "E"
        | .ok _ => errP "E"
        | .err er => errP er
        | .oof => oofP) := by
    intro y hy
    cases y with
    | oof => exact absurd rfl hy
    | err e => exact errP_fine _ _ _
    | ok w =>
      cases w with
      | bytes h =>
        simp only
        split
        · exact hk _ _
        · exact .ite (hk _ _) (errP_fine _ _ _)
        · exact errP_fine _ _ _
      | _ => exact errP_fine _ _ _
  split
  · next hcond =>
    simp only [Bool.or_false] at hcond
    exact .data _ _ _ (take_of_drop_isEmpty _ _ hcond) fin_fine
  · exact fin_fine _ (decodeD_ne_oof d id _)

theorem rawimgP_fine (d : Desc) (id : Nat) : Fine (filtersOf d) (fun _ => True) (rawimgP d id) :=
  rawimgK_fine d id _ fun _ _ => okP_fine _ _ _

theorem imgdataP_fine (d : Desc) (id : Nat) : Fine (filtersOf d) (fun _ => True) (imgdataP d id) := by
  refine rawimgK_fine d id _ fun h f => ?_
  split
  · exact okP_fine _ _ _
  · have := decodeD_ne_oof d id (filtersOf d id)
    cases hdec : decodeD d id (filtersOf d id) with
    | ok v => exact okP_fine _ _ _
    | err e => exact errP_fine _ _ _
    | oof => exact absurd hdec this

theorem pageLoop_fine (filt : Nat → List Nat) : ∀ (dep : Nat) (kids : List Nat) (pos n : Nat),
    Fine filt (fun _ => True) (pageLoop dep kids pos n) := by
  intro dep
  induction dep with
  | zero => intro kids pos n; rw [pageLoop]; exact errP_fine _ _ _
  | succ dep ihd =>
    intro kids
    induction kids with
    | nil => intro pos n; rw [pageLoop]; exact errP_fine _ _ _
    | cons kid rest ihk =>
      intro pos n
      rw [pageLoop]
      refine .get' trivial (fun v => ?_) fun e => errP_fine _ _ _
      cases v with
      | tree i q ks c => exact .ite (ihd _ _ _) (ihk _ _)
      | leaf i p => exact .ite (okP_fine _ _ _) (ihk _ _)
      | _ => exact errP_fine _ _ _

theorem pageP_fine (filt : Nat → List Nat) (root : R) (n : Nat) : Fine filt (fun _ => True) (pageP root n) := by
  unfold pageP
  split
  · exact pageLoop_fine filt _ _ _ _
  · exact errP_fine _ _ _

/-- every call kind of the property is an admissible call on a description that passes the check -/
theorem callK_fine {d : Desc} (hok : okRanks d = true) (root : R) (c : CallK) :
    Fine (filtersOf d) (fun _ => True) (c.prog d root) := by
  cases c with
  | get T id => exact getP_fine _ T id
  | resolve id => exact resolve_fine hok id
  | sdata id => exact sdataP_fine d id
  | rawimg id => exact rawimgP_fine d id
  | imgdata id => exact imgdataP_fine d id
  | page n => exact pageP_fine _ root n

end CacheDoc
