import PdfModel.Lemmas.DeriveBase

/-! Lifting the laws through nested derived models: `structSem`, `semN`. -/

namespace Derive

theorem findSchema_mem {n : String} : ∀ {Ss : List Schema} {S : Schema}, findSchema n Ss = some S → S ∈ Ss ∧ S.name = n := by
  intro Ss
  induction Ss with
  | nil => intro S h; simp [findSchema] at h
  | cons T Ts ih =>
    intro S h
    simp only [findSchema] at h
    by_cases hn : T.name = n
    · simp [hn] at h; subst h; exact ⟨by simp, hn⟩
    · simp [hn] at h; exact ⟨by simp [(ih h).1], (ih h).2⟩

/-! ## `indirect` fields -/

theorem indirectOf_ref (f : Field) {q : Prim} (h : q.isRef = true) : indirectOf f q = q := by
  simp only [indirectOf, h, if_true]; split <;> rfl

/-- an `indirect` field of type `Option<T>`: the writer puts what `T` writes behind a reference (`indirectOf`) unless it
    is one already. The field law holds if `T`'s reader, handed that reference, gives a value that `T`'s writer turns
    into the same reference again. -/
theorem fieldLaw_indirect_option (cfg : Cfg) (sem : Sem) (env : Env) (f : Field) (a : Shape)
    (hs : f.shape = .option a) (v : Val) (hv : v = .none ∨ ∃ w, v = .some w)
    (h : ∀ w p, v = .some w → writeShape sem a w = .ok p → p.isNull = false →
      ∃ w' q, readShape cfg sem env a (indirectOf f p) = .ok w' ∧ writeShape sem a w' = .ok q ∧
        q.isNull = false ∧ indirectOf f q = indirectOf f p) :
    FieldLaw cfg sem env f v := by
  intro e he
  have hnone : ∃ v', readShape cfg sem env f.shape .null = .ok v' ∧ emit sem f v' = .ok none :=
    ⟨.none, by simp [hs, readShape], by simp [emit, hs, writeShape, Prim.isNull]⟩
  rw [hs]
  simp only [emit, hs] at he
  rcases hv with rfl | ⟨w, rfl⟩
  · simp [writeShape, Prim.isNull] at he; subst he; simpa [hs] using hnone
  · simp only [writeShape] at he
    cases hw : writeShape sem a w with
    | error err => simp [hw] at he
    | ok p =>
      simp only [hw] at he
      cases hpn : p.isNull with
      | true => simp [hpn] at he; subst he; simpa [hs] using hnone
      | false =>
        simp [hpn] at he; subst he
        obtain ⟨w', q, hr, hw', hqn, hq⟩ := h w p rfl hw hpn
        refine ⟨.some w', ?_, by simp [emit, hs, writeShape, hw', hqn, hq]⟩
        simpa [indirectOf_not_null f hpn] using readShape_option_ok (a := a) hr

theorem ValOk_option_cases {cfg : Cfg} {sem : Sem} {env : Env} {lok : Shape → Val → Prop} {a : Shape} {v : Val}
    (h : ValOk cfg sem env lok (.option a) v) : v = .none ∨ ∃ w, v = .some w := by
  cases v <;> first | exact .inl rfl | exact .inr ⟨_, rfl⟩ | exact h.elim

/-- `Option<MaybeRef<T>>` with `indirect` (`Page::resources`): a direct value goes into a new object, and is read
    back as `MaybeRef::Indirect` of that object -/
theorem fieldLaw_indirect_maybeRef (cfg : Cfg) (sem : Sem) (env : Env) (lok : Shape → Val → Prop)
    (law : sem.Law env lok) (f : Field) (a : Shape) (hs : f.shape = .option (.maybeRef a)) (v : Val)
    (hv : ValOk cfg sem env lok f.shape v) : FieldLaw cfg sem env f v := by
  by_cases hind : f.indirect = false
  · exact fieldLaw_of_roundTrips cfg sem env f v hind (shape_law cfg sem env lok law f.shape v hv)
  have hind' : f.indirect = true := by simpa using hind
  rw [hs] at hv
  refine fieldLaw_indirect_option cfg sem env f _ hs v (ValOk_option_cases hv) ?_
  rintro w p rfl hw hpn
  have hio : indirectOf f p = if p.isRef then p else .created p := by simp [indirectOf, hind']
  -- whatever is read is `Indirect` of the reference, which is written as that reference
  suffices ∃ x, getTyped env (fun q => readShape cfg sem env a q) (indirectOf f p) = .ok x ∧ (indirectOf f p).isRef = true by
    obtain ⟨x, hg, hr⟩ := this
    exact ⟨.indirect _ x, _, by simp [readShape, hr, hg], rfl, isRef_isNull hr, indirectOf_ref f hr⟩
  have hw' : ValOk cfg sem env lok (.maybeRef a) w := hv
  cases w with
  | direct x =>
    have hx : ValOk cfg sem env lok a x ∧ ∀ p, writeShape sem a x = .ok p → p.isRef = true →
        ∃ v', getTyped env (fun q => readShape cfg sem env a q) p = .ok v' := hw'
    rw [hio]
    cases hpr : p.isRef with
    | true => obtain ⟨x', hg⟩ := hx.2 p hw hpr; exact ⟨x', by simpa using hg, by simp [hpr]⟩
    | false =>
      obtain ⟨x', hrx, _⟩ := shape_law cfg sem env lok law a x hx.1 p hw
      exact ⟨x', by simp [getTyped, resolveP, hrx], rfl⟩
  | indirect r x =>
    have hx : r.isRef = true ∧ ∃ v', getTyped env (fun q => readShape cfg sem env a q) r = .ok v' := hw'
    cases hw
    obtain ⟨hr, x', hg⟩ := hx
    exact ⟨x', by simpa [hio, hr] using hg, by simpa [hio, hr] using hr⟩
  | _ => exact hw'.elim

/-- the reader of a leaf-ish shape treats a reference to a fresh object like the object itself -/
def Transparent (sem : Sem) (env : Env) (s : Shape) : Prop :=
  ∀ q, q.isRef = false → sem.rd env s (.created q) = sem.rd env s q

/-- `Option<T>` with `indirect`, `T` a derived struct (`Trailer::info_dict`): the dictionary goes into a new
    object; the reader follows the reference; the next write makes another object with the same content -/
theorem fieldLaw_indirect_model (cfg : Cfg) (sem : Sem) (env : Env) (lok : Shape → Val → Prop)
    (law : sem.Law env lok) (f : Field) (m : String) (hs : f.shape = .option (.model m))
    (htr : Transparent sem env (.model m)) (v : Val)
    (hv : ValOk cfg sem env lok f.shape v) : FieldLaw cfg sem env f v := by
  by_cases hind : f.indirect = false
  · exact fieldLaw_of_roundTrips cfg sem env f v hind (shape_law cfg sem env lok law f.shape v hv)
  have hind' : f.indirect = true := by simpa using hind
  rw [hs] at hv
  refine fieldLaw_indirect_option cfg sem env f _ hs v (ValOk_option_cases hv) ?_
  rintro x p rfl hw hpn
  -- the reader sees through the reference to the new object; the writer produces `p` again
  obtain ⟨x', hrx, hwx'⟩ := law (.model m) x rfl hv p hw
  refine ⟨x', p, ?_, hwx', hpn, rfl⟩
  simp only [indirectOf, hind', if_true, readShape]
  split
  · exact hrx
  · next hpr => rw [htr p (by simpa using hpr)]; exact hrx

/-! ## one more level of derived models -/

/-- `indirect` fields the lifting covers: `Option<MaybeRef<T>>`, and `Option<T>` for a `T` whose reader follows
    the reference to the new object -/
def IndirectCovered (inner : Sem) (env : Env) (f : Field) : Prop :=
  f.indirect = false ∨ (∃ a, f.shape = .option (.maybeRef a)) ∨
    (∃ m, f.shape = .option (.model m) ∧ Transparent inner env (.model m))

/-- a value of a derived struct: one well-formed value per keyed field, a catch-all of unrecognised entries only -/
def structOk (cfg : Cfg) (inner : Sem) (env : Env) (lok : Shape → Val → Prop) (S : Schema) (v : Val) : Prop :=
  ∃ vals other, v = .struct vals other ∧ (S.hasOther = true → otherUnrecognised S other) ∧
    FieldsOk (fun f w => IndirectCovered inner env f ∧ ValOk cfg inner env lok f.shape w ∧ DefaultedNonNull inner f w)
      S.fields vals

/-- values the level on top of `inner` speaks about -/
def modelOk (cfg : Cfg) (schemas : List Schema) (inner : Sem) (env : Env) (lok : Shape → Val → Prop) :
    Shape → Val → Prop
  | .model m, v => ∃ S, findSchema m schemas = some S ∧
      ((S.kind = .struct ∧ S.derivesRead = true ∧ structOk cfg inner env lok S v) ∨
       ((S.kind = .nameEnum ∨ S.kind = .intEnum) ∧ enumValid S v = true))
  | .modelApp _ _, _ => False
  | .leaf n, v =>
    if n = "PagesRc" then ∃ r w, v = .indirect r w ∧ ∃ v', readPagesRc cfg schemas inner env "Pages" r = .ok v'
    else if n = "PageRc" then ∃ r w, v = .indirect r w ∧ ∃ v', readPagesRc cfg schemas inner env "Page" r = .ok v'
    else if n = "PagesNode" then False
    else lok (.leaf n) v
  | s, v => lok s v

theorem readPagesRc_indirect {cfg : Cfg} {schemas : List Schema} {inner : Sem} {env : Env} {want : String}
    {p : Prim} {v : Val} (h : readPagesRc cfg schemas inner env want p = .ok v) : ∃ w, v = .indirect p w := by
  simp only [readPagesRc] at h
  split at h
  · split at h
    · simp at h
    · split at h
      · simp at h; exact ⟨_, h.symm⟩
      · simp at h
    · simp at h
  · simp at h

theorem structOk_roundTrips (cfg : Cfg) (inner : Sem) (env : Env) (lok : Shape → Val → Prop)
    (law : inner.Law env lok) (S : Schema) (hk : S.kind = .struct) (hrd : S.derivesRead = true) (wf : S.WF)
    (v : Val) (hv : structOk cfg inner env lok S v) :
    RoundTrips (readStruct cfg inner env S) (writeStruct inner S) v := by
  obtain ⟨vals, other, rfl, hoth, hok⟩ := hv
  refine struct_law cfg inner env S hk hrd wf vals other hoth (FieldsOk_mono ?_ S.fields vals hok)
  intro f w ⟨hcov, hval, hnn⟩
  refine ⟨?_, hnn⟩
  rcases hcov with hni | ⟨a, hs⟩ | ⟨m, hs, htr⟩
  · exact fieldLaw_of_roundTrips cfg inner env f w hni (shape_law cfg inner env lok law f.shape w hval)
  · exact fieldLaw_indirect_maybeRef cfg inner env lok law f a hs w hval
  · exact fieldLaw_indirect_model cfg inner env lok law f m hs htr w hval

/-! ## what `structSem` does on each kind of shape -/

section
variable (cfg : Cfg) (schemas : List Schema) (inner : Sem)

theorem structSem_model_struct {m : String} {S : Schema} (hf : findSchema m schemas = some S) (hk : S.kind = .struct)
    (env : Env) :
    (structSem cfg schemas inner).rd env (.model m) = readStruct cfg inner env S ∧
      (structSem cfg schemas inner).wr (.model m) = writeStruct inner S := by
  constructor <;> funext x <;> simp only [structSem, hf, hk]

theorem structSem_model_enum {m : String} {S : Schema} (hf : findSchema m schemas = some S)
    (hk : S.kind = .nameEnum ∨ S.kind = .intEnum) (env : Env) :
    (structSem cfg schemas inner).rd env (.model m) = readEnum env S ∧
      (structSem cfg schemas inner).wr (.model m) = writeEnum S := by
  rcases hk with hk | hk <;> constructor <;> funext x <;> simp only [structSem, hf, hk]

/-- a leaf other than the three page-tree types is handed on to `inner` (so are `.leafApp` and `.param`, by `rfl`) -/
theorem structSem_rd_other {x : String} (h1 : x ≠ "PagesRc") (h2 : x ≠ "PageRc") (h3 : x ≠ "PagesNode") (env : Env) :
    (structSem cfg schemas inner).rd env (.leaf x) = inner.rd env (.leaf x) := by
  funext p; simp only [structSem]; split <;> simp_all

theorem structSem_wr_other {x : String} (h1 : x ≠ "PagesRc") (h2 : x ≠ "PageRc") (h3 : x ≠ "PagesNode") :
    (structSem cfg schemas inner).wr (.leaf x) = inner.wr (.leaf x) := by
  funext v; simp only [structSem]; split <;> simp_all

end

/-- `PagesRc` / `PageRc`: the writer gives the reference back, so a value whose reference reads round-trips -/
theorem pagesRc_roundTrips {cfg : Cfg} {schemas : List Schema} {inner : Sem} {env : Env} {want : String} {v : Val}
    (hok : ∃ r w, v = .indirect r w ∧ ∃ v', readPagesRc cfg schemas inner env want r = .ok v') :
    RoundTrips (readPagesRc cfg schemas inner env want)
      (fun v => match v with | .indirect r _ => .ok r | _ => .error .other) v := by
  obtain ⟨r, w, rfl, v', hr⟩ := hok
  intro p hw
  cases hw
  obtain ⟨w', rfl⟩ := readPagesRc_indirect hr
  exact ⟨_, hr, rfl⟩

theorem structSem_law (cfg : Cfg) (schemas : List Schema) (inner : Sem) (env : Env) (lok : Shape → Val → Prop)
    (hwf : ∀ S ∈ schemas, S.WF) (law : inner.Law env lok) :
    (structSem cfg schemas inner).Law env (modelOk cfg schemas inner env lok) := by
  intro s v hnc hok
  cases s with
  | model m =>
    obtain ⟨S, hfind, hcase⟩ := hok
    rcases hcase with ⟨hk, hrd, hv⟩ | ⟨hk, hv⟩
    · obtain ⟨er, ew⟩ := structSem_model_struct cfg schemas inner hfind hk env
      rw [er, ew]
      exact structOk_roundTrips cfg inner env lok law S hk hrd (hwf S (findSchema_mem hfind).1) v hv
    · obtain ⟨er, ew⟩ := structSem_model_enum cfg schemas inner hfind hk env
      rw [er, ew]
      exact fun p hw => ⟨v, (enum_write_read env S v p hw).1, hw⟩
  | modelApp m a => exact hok.elim
  | leaf n =>
    simp only [modelOk] at hok
    by_cases h1 : n = "PagesRc"
    · rw [if_pos h1] at hok; subst h1; exact pagesRc_roundTrips hok
    by_cases h2 : n = "PageRc"
    · rw [if_neg h1, if_pos h2] at hok; subst h2; exact pagesRc_roundTrips hok
    by_cases h3 : n = "PagesNode"
    · rw [if_neg h1, if_neg h2, if_pos h3] at hok; exact hok.elim
    rw [if_neg h1, if_neg h2, if_neg h3] at hok
    rw [structSem_rd_other cfg schemas inner h1 h2 h3, structSem_wr_other cfg schemas inner h1 h2 h3]
    exact law _ v rfl hok
  | leafApp n a => exact law _ v rfl hok
  | param n => exact law _ v rfl hok
  | _ => simp [Shape.isContainer] at hnc

/-! ## every nesting depth -/

/-- the values the `n`-level semantics speaks about -/
def okN (cfg : Cfg) (schemas : List Schema) (env : Env) : Nat → Shape → Val → Prop
  | 0 => baseOk
  | n + 1 => modelOk cfg schemas (semN cfg schemas n) env (okN cfg schemas env n)

/-- a leaf other than the three page-tree types is read by `baseSem` at every level -/
theorem semN_rd_leaf (cfg : Cfg) (schemas : List Schema) (env : Env) {x : String}
    (h1 : x ≠ "PagesRc") (h2 : x ≠ "PageRc") (h3 : x ≠ "PagesNode") :
    ∀ n, (semN cfg schemas n).rd env (.leaf x) = baseSem.rd env (.leaf x)
  | 0 => rfl
  | n + 1 => (structSem_rd_other cfg schemas _ h1 h2 h3 env).trans (semN_rd_leaf cfg schemas env h1 h2 h3 n)

theorem semN_law (cfg : Cfg) (schemas : List Schema) (env : Env) (hwf : ∀ S ∈ schemas, S.WF) :
    ∀ n, (semN cfg schemas n).Law env (okN cfg schemas env n)
  | 0 => baseSem_law env
  | n + 1 => structSem_law cfg schemas (semN cfg schemas n) env (okN cfg schemas env n) hwf (semN_law cfg schemas env hwf n)

/-- a derived *struct* read through a reference to a fresh object is read like the object itself: `asDict` follows the
    reference, which takes one step of `chase` (hence `1 ≤ env.depth`) -/
theorem structSem_transparent (cfg : Cfg) (schemas : List Schema) (inner : Sem) (env : Env) (hd : 1 ≤ env.depth)
    (m : String) (S : Schema) (hf : findSchema m schemas = some S) (hk : S.kind = .struct) :
    Transparent (structSem cfg schemas inner) env (.model m) := by
  intro q hq
  obtain ⟨d, hd'⟩ : ∃ d, env.depth = d + 1 := ⟨env.depth - 1, by omega⟩
  have h1 : asDict env (.created q) = asDict env q := by
    simp only [asDict, hd', chase]
    have hc : (Prim.created q).isRef = true := rfl
    simp only [hc, if_true, resolveP, hq]
    simp [chase_nonref env d hq]
  rw [(structSem_model_struct cfg schemas inner hf hk env).1]
  simp only [readStruct, h1]

/-- decidable form of `IndirectCovered` over a registry -/
def indirectCoveredB (schemas : List Schema) (f : Field) : Bool :=
  !f.indirect ||
    match f.shape with
    | .option (.maybeRef _) => true
    | .option (.model m) =>
      match findSchema m schemas with
      | some S => S.kind == .struct
      | none => false
    | _ => false

theorem indirectCovered_of_B (cfg : Cfg) (schemas : List Schema) (n : Nat) (env : Env) (hd : 1 ≤ env.depth)
    (f : Field) (h : indirectCoveredB schemas f = true) : IndirectCovered (semN cfg schemas (n + 1)) env f := by
  simp only [indirectCoveredB, Bool.or_eq_true] at h
  rcases h with h | h
  · exact Or.inl (by simpa using h)
  · cases hs : f.shape with
    | option a =>
      cases a with
      | maybeRef b => exact Or.inr (Or.inl ⟨b, hs⟩)
      | model m =>
        simp only [hs] at h
        cases hf : findSchema m schemas with
        | none => simp [hf] at h
        | some S =>
          simp [hf] at h
          exact Or.inr (Or.inr ⟨m, hs, structSem_transparent cfg schemas _ env hd m S hf h⟩)
      | _ => simp [hs] at h
    | _ => simp [hs] at h

end Derive
