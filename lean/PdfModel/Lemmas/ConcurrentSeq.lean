import PdfModel.Lemmas.Concurrent

/-! The sequential invariant of `Model/Concurrent.lean`: on a document whose typed loads are well founded every thread
is, at every moment, on its way to the sequential answer of its current call (`TInv`), and the shared caches only ever
hold sequential answers (`SInv`); the step lemma `stepT_inv`, and the invariants over reachable states (`AllChainOK`,
`GInv`, `reachable_*`). -/

namespace Conc
open Cache
variable {V E : Type}

/-- the shared caches hold only uncached answers; in-process markers are unconstrained -/
def SInv (d : Doc V E) (filt : Nat → List Nat) (a : Nat → Nat → Res V E) (sh : Shared V E) : Prop :=
  (∀ r T res, sh.slots.lookup r = some (.computed T res) → res = a T r) ∧
  (∀ r x, sh.stm.lookup r = some x → x = d.decode r (filt r))

theorem SInv_empty (d : Doc V E) (filt : Nat → List Nat) (a : Nat → Nat → Res V E) (chain : List Nat) (poisoned : Bool) :
    SInv d filt a ⟨[], [], chain, poisoned⟩ :=
  ⟨nofun, nofun⟩

/-- rank bound of whatever runs on top of `stack`: below the reference of the top frame -/
def bnd (rank : Nat → Nat) (N : Nat) : List (Frame V E) → Nat
  | [] => N
  | f :: _ => rank f.r

/-- `StackOK v stack cur`: `v` is what the load of the top frame must produce, the caller's
    continuation then produces what the next frame must produce, …, down to the answer of the top
    level call `cur`; all continuations only load references of smaller rank. -/
def StackOK (d : Doc V E) (filt : Nat → List Nat) (rank : Nat → Nat) (N : Nat) (a : Nat → Nat → Res V E) :
    Res V E → List (Frame V E) → Prog V E → Prop
  | v, [], cur => v = canon a d cur
  | v, f :: rest, cur =>
    v = a f.T f.r ∧ Fine filt (fun r' => rank r' < bnd rank N rest) (.get f.T f.r f.k) ∧
      StackOK d filt rank N a (canon a d (.get f.T f.r f.k)) rest cur

/-- the rest of the program the thread is executing in its innermost activity -/
def resid : Ctl V E → Option (Prog V E)
  | .enter T r k => some (.get T r k)
  | .pushed T r k => some (.get T r k)
  | .waiting T r k => some (.get T r k)
  | .logging T r k => some (.get T r k)
  | .loading _ p => some p
  | .popping _ _ k res => some (k res)
  | .storing res => some (.ret res)
  | _ => none

/-- thread invariant, relative to the list `cs` of top level calls the thread was given -/
def TInv (d : Doc V E) (filt : Nat → List Nat) (rank : Nat → Nat) (N : Nat) (a : Nat → Nat → Res V E)
    (cs : List (Prog V E)) (t : Thread V E) : Prop :=
  ∃ done, t.out = done.map (canon a d) ∧
    match resid t.ctl with
    | none => t.stack = [] ∧ cs = done ++ t.todo ∧ (t.ctl.isFinal = true → t.todo = [])
    | some p => ∃ cur, cs = done ++ cur :: t.todo ∧
        Fine filt (fun r' => rank r' < bnd rank N t.stack) p ∧ StackOK d filt rank N a (canon a d p) t.stack cur ∧
        (∀ res, t.ctl = .storing res → ∃ f rest, t.stack = f :: rest ∧ f.store = true)

variable {d : Doc V E} {filt : Nat → List Nat} {rank : Nat → Nat} {N : Nat} {a : Nat → Nat → Res V E}
  {css : List (List (Prog V E))} {s : State V E}

theorem resid_of_isFinal {c : Ctl V E} (h : c.isFinal = true) : resid c = none := by
  cases c <;> first | rfl | cases h

section TInv
variable {cs : List (Prog V E)} {t : Thread V E}

/-- thread `t` is executing `p` in its innermost activity, on the way to the sequential answers of its calls `cs`;
    the clause of `TInv` for a thread inside a call, without the control point -/
def Running (d : Doc V E) (filt : Nat → List Nat) (rank : Nat → Nat) (N : Nat) (a : Nat → Nat → Res V E)
    (cs : List (Prog V E)) (t : Thread V E) (p : Prog V E) : Prop :=
  ∃ done cur, t.out = done.map (canon a d) ∧ cs = done ++ cur :: t.todo ∧
    Fine filt (fun r' => rank r' < bnd rank N t.stack) p ∧ StackOK d filt rank N a (canon a d p) t.stack cur

theorem TInv.running {p : Prog V E} (h : TInv d filt rank N a cs t) (hr : resid t.ctl = some p) :
    Running d filt rank N a cs t p := by
  obtain ⟨done, hout, hm⟩ := h
  simp only [hr] at hm
  obtain ⟨cur, hcs, hp, hst, _⟩ := hm
  exact ⟨done, cur, hout, hcs, hp, hst⟩

/-- at a control point whose residual program is `p` (a store only under a frame that stores) -/
theorem Running.tinv {p : Prog V E} (h : Running d filt rank N a cs t p) {c : Ctl V E} {ch : List Nat} (hr : resid c = some p)
    (hs : ∀ res, c = .storing res → ∃ f rest, t.stack = f :: rest ∧ f.store = true) :
    TInv d filt rank N a cs { t with ctl := c, chain := ch } := by
  obtain ⟨done, cur, hout, hcs, hp, hst⟩ := h
  refine ⟨done, hout, ?_⟩
  simp only [hr]
  exact ⟨cur, hcs, hp, hst, hs⟩

/-- the frame of `get::<T>(r)` is pushed and `q`, which evaluates to the answer, runs on top of it -/
theorem Running.push {T r : Nat} {k : Res V E → Prog V E} (h : Running d filt rank N a cs t (.get T r k)) {q : Prog V E}
    (hq : Fine filt (fun r' => rank r' < rank r) q) (hv : canon a d q = a T r) (b : Bool) :
    Running d filt rank N a cs { t with stack := ⟨T, r, b, k⟩ :: t.stack } q :=
  let ⟨done, cur, hout, hcs, hp, hst⟩ := h
  ⟨done, cur, hout, hcs, hq, hv, hp, hst⟩

theorem TInv.stack_nil (h : TInv d filt rank N a cs t) (hr : resid t.ctl = none) : t.stack = [] := by
  obtain ⟨_, _, hm⟩ := h
  simp only [hr] at hm
  exact hm.1

theorem TInv.storing {res : Res V E} (h : TInv d filt rank N a cs t) (hc : t.ctl = .storing res) : t.stack ≠ [] := by
  obtain ⟨_, _, hm⟩ := h
  simp only [hc, resid] at hm
  obtain ⟨_, _, _, _, h4⟩ := hm
  obtain ⟨f, rest, e, _⟩ := h4 res rfl
  simp [e]

/-- a thread inside a load is not finished -/
theorem TInv.isFinal_false (h : TInv d filt rank N a cs t) (hs : t.stack ≠ []) : t.ctl.isFinal = false :=
  Bool.eq_false_iff.mpr fun hf => hs (h.stack_nil (resid_of_isFinal hf))

end TInv

theorem stack_ranks :
    ∀ (stack : List (Frame V E)) (v : Res V E) (cur : Prog V E), StackOK d filt rank N a v stack cur →
      ∀ f ∈ stack, bnd rank N stack ≤ rank f.r := by
  intro stack
  induction stack with
  | nil => intro v cur _ f hf; simp at hf
  | cons g rest ih =>
    intro v cur h f hf
    simp only [StackOK] at h
    simp only [List.mem_cons] at hf
    rcases hf with rfl | hf
    · simp [bnd]
    · have h1 := ih _ cur h.2.2 f hf
      have h2 := h.2.1.get_inv.1
      simp only [bnd] at h1 h2 ⊢
      omega

/-- a nested load goes to a reference of smaller rank than every load the thread is in the middle of -/
theorem rank_lt_of_mem
    {stack : List (Frame V E)} {v : Res V E} {cur : Prog V E} {T r : Nat} {k : Res V E → Prog V E}
    (hp : Fine filt (fun r' => rank r' < bnd rank N stack) (.get T r k)) (hst : StackOK d filt rank N a v stack cur)
    {f : Frame V E} (hf : f ∈ stack) : rank r < rank f.r :=
  Nat.lt_of_lt_of_le hp.get_inv.1 (stack_ranks stack v cur hst f hf)

/-- the stack is never deeper than the ranks allow: `stack.length + bnd stack ≤ N` -/
theorem stack_depth :
    ∀ (stack : List (Frame V E)) (v : Res V E) (cur : Prog V E), StackOK d filt rank N a v stack cur →
      stack.length + bnd rank N stack ≤ N := by
  intro stack
  induction stack with
  | nil => intro v cur _; simp [bnd]
  | cons g rest ih =>
    intro v cur h
    simp only [StackOK] at h
    have h1 := ih _ cur h.2.2
    have h2 := h.2.1.get_inv.1
    simp only [bnd, List.length_cons] at h1 h2 ⊢
    omega

theorem dataS_spec (cfg : Cfg) {sh : Shared V E}
    (hi : SInv d filt a sh) (r : Nat) :
    (dataS d cfg sh r (filt r)).1 = d.decode r (filt r) ∧ SInv d filt a (dataS d cfg sh r (filt r)).2 := by
  unfold dataS
  split
  · cases hl : sh.stm.lookup r with
    | some v => exact ⟨hi.2 r v hl, hi⟩
    | none =>
      refine ⟨rfl, hi.1, ?_⟩
      intro r' x hx
      rcases lookup_cons_some hx with ⟨rfl, rfl⟩ | ⟨_, hx⟩
      · rfl
      · exact hi.2 r' x hx
  · exact ⟨rfl, hi⟩

/-- thread-local code up to the next synchronisation point: what comes out is still the same answer -/
theorem advP_spec (cfg : Cfg)
    (hd : ∀ r fs, d.decode r fs ≠ .oof) {P : Nat → Prop} {p : Prog V E} (hp : Fine filt P p) :
    ∀ sh, SInv d filt a sh →
      SInv d filt a (advP d cfg sh p).2 ∧
      match (advP d cfg sh p).1 with
      | .enter T r k => Fine filt P (.get T r k) ∧ canon a d (.get T r k) = canon a d p
      | .fin res => res = canon a d p ∧ res ≠ .oof := by
  induction hp with
  | ret x hx => intro sh hi; exact ⟨hi, rfl, hx⟩
  | get T r k hr hk _ => intro sh hi; exact ⟨hi, .get T r k hr hk, rfl⟩
  | data r fs k hf _ ih =>
    intro sh hi
    subst hf
    have h1 := dataS_spec (a := a) cfg hi r
    simp only [advP]
    rw [h1.1]
    exact ih _ (hd r (filt r)) _ h1.2

section Step

/-- the load of the top frame has produced `res`: back in the caller's continuation -/
theorem Running.pop (wf : WF d filt rank) {cs : List (Prog V E)} {t : Thread V E} {res : Res V E}
    {f : Frame V E} {rest : List (Frame V E)} (h : Running d filt rank N (ans d rank) cs t (.ret res)) (hstk : t.stack = f :: rest) :
    res = ans d rank f.T f.r ∧ Running d filt rank N (ans d rank) cs { t with stack := rest } (f.k res) := by
  obtain ⟨done, cur, hout, hcs, hp, hst⟩ := h
  rw [hstk] at hst
  obtain ⟨hv, hfine, hrest⟩ := hst
  have hv : res = ans d rank f.T f.r := hv
  have hne : ans d rank f.T f.r ≠ .oof := ans_ne_oof wf f.T f.r
  refine ⟨hv, done, cur, hout, hcs, hfine.get_inv.2 res (hv ▸ hne), ?_⟩
  rw [canon_get d _ f.T f.r f.k hne] at hrest
  exact hv ▸ hrest

variable (wf : WF d filt rank) (cfg : Cfg) {sh : Shared V E} (hi : SInv d filt (ans d rank) sh)
  {cs : List (Prog V E)} {t : Thread V E}
include wf hi

/-- running a program of the right shape on top of a good stack gives a good thread -/
theorem runTo_spec {p : Prog V E} (h : Running d filt rank N (ans d rank) cs t p) :
    TInv d filt rank N (ans d rank) cs (runTo d cfg sh t p).2 ∧ SInv d filt (ans d rank) (runTo d cfg sh t p).1 := by
  obtain ⟨done, cur, hout, hcs, hp, hst⟩ := h
  obtain ⟨h1, h3⟩ := advP_spec (a := ans d rank) cfg wf.dec hp sh hi
  refine ⟨?_, h1⟩
  unfold runTo
  simp only
  cases hadv : (advP d cfg sh p).1 with
  | enter T r k =>
    simp only [hadv] at h3
    have h' : Running d filt rank N (ans d rank) cs t (.get T r k) := ⟨done, cur, hout, hcs, h3.1, h3.2 ▸ hst⟩
    simp only [applyAdv]
    cases cfg.cb <;> exact h'.tinv rfl nofun
  | fin res =>
    simp only [hadv] at h3
    obtain ⟨hres, hno⟩ := h3
    have h' : Running d filt rank N (ans d rank) cs t (.ret res) := ⟨done, cur, hout, hcs, .ret res hno, hres ▸ hst⟩
    simp only [applyAdv, finish]
    split
    · next f rest hstk =>
      split
      · -- the compute closure that claimed the slot is over: before the store
        next hstore => exact h'.tinv rfl fun _ _ => ⟨f, rest, hstk, hstore⟩
      · exact (h'.pop wf hstk).2.tinv rfl nofun
    · next hstk =>
      rw [hstk] at hst
      have hst : canon (ans d rank) d p = canon (ans d rank) d cur := hst
      exact ⟨done ++ [cur], by simp [hout, hres, hst], hstk, by simp [hcs], nofun⟩

/-- the same for the start of a compute / reload run, which may stop inside `Log::load_object` first -/
theorem startLoad_spec (r : Nat) {p : Prog V E} (h : Running d filt rank N (ans d rank) cs t p) :
    TInv d filt rank N (ans d rank) cs (startLoad d cfg sh t r p).2 ∧ SInv d filt (ans d rank) (startLoad d cfg sh t r p).1 := by
  unfold startLoad
  split
  · exact ⟨h.tinv rfl nofun, hi⟩
  · exact runTo_spec wf cfg hi h

theorem afterLookup_spec {T r : Nat} {k : Res V E → Prog V E} (T' : Nat) {res : Res V E} (hres : res = ans d rank T' r)
    (h : Running d filt rank N (ans d rank) cs t (.get T r k)) :
    TInv d filt rank N (ans d rank) cs (afterLookup d cfg sh t T r k T' res).2 ∧
      SInv d filt (ans d rank) (afterLookup d cfg sh t T r k T' res).1 := by
  have fallback := startLoad_spec wf cfg hi r (h.push (wf.body T r) (ans_eq wf T r).symm false)
  unfold afterLookup
  split
  · next v =>
    split
    · next e =>
      subst e
      obtain ⟨done, cur, hout, hcs, hp, hst⟩ := h
      refine ⟨Running.tinv ⟨done, cur, hout, hcs, hp.get_inv.2 (.ok v) nofun, ?_⟩ rfl nofun, hi⟩
      rw [canon_get d _ T' r k (ans_ne_oof wf T' r), ← hres] at hst
      exact hst
    · exact fallback
  · exact fallback

omit hi in
/-- **Step lemma.** A transition of one thread (own guard stack) keeps the thread invariant and the
    invariant of the shared caches. -/
theorem stepT_inv (hD : N ≤ maxNestedGets) {cfg : Cfg} (hg : cfg.sharedGuard = false)
    {i : Nat} {sh sh' : Shared V E} {t t' : Thread V E} {cs : List (Prog V E)}
    (hcalls : ∀ p ∈ cs, Fine filt (fun r' => rank r' < N) p)
    (hc : ChainOK t) (ht : TInv d filt rank N (ans d rank) cs t) (hi : SInv d filt (ans d rank) sh)
    (hs : stepT d cfg i sh t = some (sh', t')) :
    TInv d filt rank N (ans d rank) cs t' ∧ SInv d filt (ans d rank) sh' := by
  suffices ∀ x, Step d cfg i sh t x → TInv d filt rank N (ans d rank) cs x.2 ∧ SInv d filt (ans d rank) x.1 from
    this _ (stepT_sound hs)
  obtain ⟨hch, _⟩ := hc
  have shared : ∀ {P : Prop}, cfg.sharedGuard = true → P := fun h => absurd (hg ▸ h) Bool.false_ne_true
  have running : ∀ {c : Ctl V E} {p : Prog V E}, t.ctl = c → resid c = some p → Running d filt rank N (ans d rank) cs t p :=
    fun hc hr => ht.running (hc ▸ hr)
  -- the slot of `r` gets an entry; a value has to be the answer
  have slot : ∀ (r : Nat) (x : Slot V E), (∀ T res, x = .computed T res → res = ans d rank T r) →
      SInv d filt (ans d rank) { sh with slots := (r, x) :: sh.slots } := by
    intro r x hx
    refine ⟨fun r' T' res hl => ?_, hi.2⟩
    rcases lookup_cons_some hl with ⟨rfl, e⟩ | ⟨_, hl⟩
    · exact hx T' res e.symm
    · exact hi.1 r' T' res hl
  intro x hx
  cases hx with
  | finished hc htd =>
    obtain ⟨done, hout, hm⟩ := ht
    simp only [hc, resid] at hm
    exact ⟨⟨done, hout, hm.1, hm.2.1, fun _ => htd⟩, hi⟩
  | call p ps hc htd =>
    obtain ⟨done, hout, hm⟩ := ht
    simp only [hc, resid] at hm
    have hcs : cs = done ++ p :: ps := htd ▸ hm.2.1
    exact runTo_spec wf cfg hi ⟨done, p, hout, hcs, by rw [hm.1]; exact hcalls p (by simp [hcs]), by rw [hm.1]; rfl⟩
  | refused T r k hc hgd =>
    -- the guard cannot fire: `r` on the guard would be a frame of rank above `rank r` itself, and the guard is as long
    -- as the stack, which `stack_depth` keeps below `N ≤ maxNestedGets` (the one use of `hD`)
    exfalso
    obtain ⟨_, cur, _, _, hp, hst⟩ := running hc rfl
    have := hgd _ rfl
    simp only [hg, Bool.false_eq_true, if_false] at this
    rcases this with hmem | hdeep
    · rw [hch, hc] at hmem
      obtain ⟨f, hf, rfl⟩ := List.mem_map.mp hmem
      exact Nat.lt_irrefl _ (rank_lt_of_mem hp hst hf)
    · have h1 := stack_depth t.stack _ cur hst
      have h2 := hp.get_inv.1
      rw [hch, hc] at hdeep
      simp only [ctlKeys, keys, List.nil_append, List.length_map] at hdeep
      omega
  | push T r k _ hc _ _ => exact ⟨(running hc rfl).tinv rfl nofun, hi⟩
  | wait T r k o hc _ => exact ⟨(running hc rfl).tinv rfl nofun, hi⟩
  | logged T r k hc => exact ⟨(running hc rfl).tinv rfl nofun, hi⟩
  | claim T r k hc _ =>
    exact startLoad_spec wf cfg (slot r (.inProcess i) nofun) r
      ((running hc rfl).push ((wf.body T r).orLog (wf.relog r)) (canon_compute wf T r) true)
  | uncached T r k hc _ =>
    exact startLoad_spec wf cfg hi r ((running hc rfl).push ((wf.body T r).orLog (wf.relog r)) (canon_compute wf T r) false)
  | hit T r k T' res hc hl =>
    exact afterLookup_spec wf cfg hi T' (hi.1 r T' res hl) (hc.elim (running · rfl) (running · rfl))
  | loaded r p hc => exact runTo_spec wf cfg hi (running hc rfl)
  | store res f rest hc hstk =>
    obtain ⟨hv, h⟩ := (running hc rfl).pop wf hstk
    exact ⟨h.tinv rfl nofun, slot f.r _ (by rintro _ _ ⟨⟩; exact hv)⟩
  | pop T r k res c _ hc hcs' => exact runTo_spec wf cfg hi (running hc rfl)
  | popFail T r k res _ _ hc hne => exact absurd (by rw [hch, hc]; rfl) (hne (keys t.stack))
  | pushShared _ _ _ h => exact shared h
  | poisoned _ _ _ h => exact shared h
  | popShared _ _ _ _ _ h => exact shared h
  | popSharedFail _ _ _ _ _ h => exact shared h

end Step

/-- every thread's guard is the list of its own unfinished loads -/
def AllChainOK (s : State V E) : Prop := ∀ (i : Nat) (t : Thread V E), s.threads[i]? = some t → ChainOK t

/-- nobody is where a failed pop assertion sends a thread -/
theorem AllChainOK.anyPanic {s : State V E} (h : AllChainOK s) : s.anyPanic = false := by
  simp only [State.anyPanic, List.any_eq_false]
  intro t ht
  obtain ⟨i, hi, rfl⟩ := List.getElem_of_mem ht
  have := (h i _ (List.getElem?_eq_getElem hi)).2
  generalize s.threads[i].ctl = c at this ⊢
  cases c <;> first | exact Bool.false_ne_true | cases this

theorem init_allChainOK (slots : List (Nat × Slot V E)) (stm : List (Nat × Res V E)) (css : List (List (Prog V E))) :
    AllChainOK (State.init slots stm css) := by
  intro i t ht
  simp only [State.init, List.getElem?_map, Option.map_eq_some_iff] at ht
  obtain ⟨cs, _, rfl⟩ := ht
  exact ⟨rfl, rfl⟩

theorem step_allChainOK {d : Doc V E} {cfg : Cfg} (hg : cfg.sharedGuard = false) {s s' : State V E} {i : Nat}
    (h : AllChainOK s) (hs : step d cfg s i = some s') : AllChainOK s' := by
  obtain ⟨t, sh', t', hti, hst, rfl⟩ := step_inv hs
  intro j u hu
  rcases set_get hu with ⟨rfl, rfl⟩ | ⟨_, hu⟩
  · exact stepT_chainOK hg (h j t hti) hst
  · exact h j u hu

theorem reachable_allChainOK {d : Doc V E} {cfg : Cfg} (hg : cfg.sharedGuard = false) {s0 s : State V E}
    (h0 : AllChainOK s0) (hr : Reachable d cfg s0 s) : AllChainOK s := by
  induction hr with
  | init => exact h0
  | step i _ hs ih => exact step_allChainOK hg ih hs

/-- the invariant behind `results_sequential` -/
def GInv (d : Doc V E) (filt : Nat → List Nat) (rank : Nat → Nat) (N : Nat) (css : List (List (Prog V E)))
    (s : State V E) : Prop :=
  SInv d filt (ans d rank) s.sh ∧ s.threads.length = css.length ∧
    ∀ (i : Nat) (t : Thread V E) (cs : List (Prog V E)), s.threads[i]? = some t → css[i]? = some cs →
      ChainOK t ∧ TInv d filt rank N (ans d rank) cs t

theorem GInv.thread
    (h : GInv d filt rank N css s) {i : Nat} {t : Thread V E} (ht : s.threads[i]? = some t) :
    ∃ cs, css[i]? = some cs ∧ ChainOK t ∧ TInv d filt rank N (ans d rank) cs t := by
  have hi : i < css.length := h.2.1 ▸ (List.getElem?_eq_some_iff.mp ht).1
  exact ⟨css[i], List.getElem?_eq_getElem hi, h.2.2 i t css[i] ht (List.getElem?_eq_getElem hi)⟩

theorem GInv.allChainOK
    (h : GInv d filt rank N css s) : AllChainOK s :=
  fun _ _ ht => let ⟨_, _, hc, _⟩ := h.thread ht; hc

theorem init_GInv
    (slots : List (Nat × Slot V E)) (stm : List (Nat × Res V E)) (css : List (List (Prog V E)))
    (hsh : SInv d filt (ans d rank) ⟨slots, stm, [], false⟩) : GInv d filt rank N css (State.init slots stm css) := by
  refine ⟨hsh, by simp [State.init], ?_⟩
  intro i t cs ht hcs
  simp only [State.init, List.getElem?_map, Option.map_eq_some_iff] at ht
  obtain ⟨cs', hcs', rfl⟩ := ht
  rw [hcs] at hcs'
  simp only [Option.some.injEq] at hcs'
  subst hcs'
  refine ⟨⟨rfl, rfl⟩, [], rfl, ?_⟩
  simp [Thread.init, resid, Ctl.isFinal]

theorem step_GInv (wf : WF d filt rank)
    (hD : N ≤ maxNestedGets) {cfg : Cfg} (hg : cfg.sharedGuard = false) {css : List (List (Prog V E))}
    (hcalls : ∀ cs ∈ css, ∀ p ∈ cs, Fine filt (fun r' => rank r' < N) p)
    {s s' : State V E} {i : Nat} (h : GInv d filt rank N css s) (hs : step d cfg s i = some s') :
    GInv d filt rank N css s' := by
  obtain ⟨hsh, hlen, hth⟩ := h
  obtain ⟨t, sh', t', hti, hst, rfl⟩ := step_inv hs
  have hi : i < css.length := hlen ▸ (List.getElem?_eq_some_iff.mp hti).1
  have hcsi : css[i]? = some css[i] := List.getElem?_eq_getElem hi
  have hold := hth i t css[i] hti hcsi
  have hnew := stepT_inv wf hD hg (hcalls css[i] (List.getElem_mem hi)) hold.1 hold.2 hsh hst
  refine ⟨hnew.2, by simp [hlen], ?_⟩
  intro j u cs hu hcs
  rcases set_get hu with ⟨rfl, rfl⟩ | ⟨_, hu⟩
  · cases hcsi.symm.trans hcs
    exact ⟨stepT_chainOK hg hold.1 hst, hnew.1⟩
  · exact hth j u cs hu hcs

theorem reachable_GInv (wf : WF d filt rank)
    (hD : N ≤ maxNestedGets) {cfg : Cfg} (hg : cfg.sharedGuard = false) {css : List (List (Prog V E))}
    (hcalls : ∀ cs ∈ css, ∀ p ∈ cs, Fine filt (fun r' => rank r' < N) p)
    {s0 s : State V E} (h0 : GInv d filt rank N css s0) (hr : Reachable d cfg s0 s) : GInv d filt rank N css s := by
  induction hr with
  | init => exact h0
  | step i _ hs ih => exact step_GInv wf hD hg hcalls ih hs

/-- the invariant in every state reachable from a fresh start, for calls that are admissible whatever the rank -/
theorem reachable_init_GInv (wf : WF d filt rank) (hN : ∀ r, rank r < N) (hD : N ≤ maxNestedGets) {cfg : Cfg}
    (hg : cfg.sharedGuard = false) {slots : List (Nat × Slot V E)} {stm : List (Nat × Res V E)}
    (hsh : SInv d filt (ans d rank) ⟨slots, stm, [], false⟩) (hcalls : ∀ cs ∈ css, ∀ p ∈ cs, Fine filt (fun _ => True) p)
    (hr : Reachable d cfg (State.init slots stm css) s) : GInv d filt rank N css s :=
  reachable_GInv wf hD hg (fun cs hc p hp => (hcalls cs hc p hp).mono fun r _ => hN r) (init_GInv slots stm css hsh) hr

end Conc
