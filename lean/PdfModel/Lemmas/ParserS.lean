import PdfModel.Spec.SyntaxS
import PdfModel.Lemmas.Indirect

/-! The parser reads every conformant spelling as the value it denotes and stops right after it: one induction
    (`parseCtx_reads`) for values that contain stream objects anywhere (`Spec/SyntaxS`; the result `Reads` as the value, in
    the context of an indirect object) and for stream-free values (`Spec/Syntax`; any context, the value itself). -/

namespace PdfLex
open PdfSyntax (Gap Bnd NatTok NameBody Spells SpellsElems SpellsEntries SpellsStream SpellsS SpellsElemsS SpellsEntriesS needsBnd
  Reads ReadsL ReadsE LengthOK
  WF WFL WFE vdepth vdepthL vdepthE need needL needE keysOf)

variable {R : Type}

/-- the values spelled by one token or one `n g R`: `SpellsS` is `Spells` and `Reads` is equality there -/
def isAtomP : Prim R → Bool
  | .arr _ => false
  | .dict _ => false
  | .stream _ _ => false
  | _ => true

theorem spellsS_atom (env : Env R) {v : Prim R} (hv : isAtomP v = true) (t : List UInt8) :
    SpellsS env v t ↔ Spells env.parseReal v t := by
  cases v with
  | arr _ | dict _ | stream _ _ => cases hv
  | _ => simp only [SpellsS]

theorem reads_atom (env : Env R) (buf : Buf) (id : Nat × Nat) (v : Prim R) (hv : isAtomP v = true) :
    Reads env buf id v v := by
  cases v <;> simp [Reads, isAtomP] at hv ⊢

theorem spellsS_ne_nil (env : Env R) (v : Prim R) (t : List UInt8) (h : SpellsS env v t) : t ≠ [] := by
  cases v with
  | arr xs => simp only [SpellsS] at h; obtain ⟨g, r, rfl, _⟩ := h; simp
  | dict kvs => simp only [SpellsS] at h; obtain ⟨g, r, rfl, _⟩ := h; simp
  | stream info inner => simp only [SpellsS] at h; obtain ⟨d, _, g1, e, g2, eol, g3, rfl, _⟩ := h; simp
  | _ => exact spells_ne_nil _ _ t ((spellsS_atom env rfl t).mp h)

theorem spellsElemsS_ne_nil (env : Env R) (xs : List (Prim R)) : ∀ r, SpellsElemsS env xs r → r ≠ [] := by
  induction xs with
  | nil => intro r h; simp only [SpellsElemsS] at h; subst h; simp
  | cons x xs ih =>
    intro r h
    simp only [SpellsElemsS] at h
    obtain ⟨tx, g, r', rfl, _, _, hr, _⟩ := h
    have := ih r' hr
    simp [this]

theorem spellsEntriesS_ne_nil (env : Env R) (kvs : List (List UInt8 × Prim R)) :
    ∀ r, SpellsEntriesS env kvs r → r ≠ [] := by
  cases kvs with
  | nil => intro r h; simp only [SpellsEntriesS] at h; subst h; simp
  | cons kv kvs =>
    obtain ⟨k, v⟩ := kv
    intro r h
    simp only [SpellsEntriesS] at h
    obtain ⟨kb, g1, tv, g2, r', rfl, _⟩ := h
    simp

/-- the first lexeme of a spelling (with streams) -/
theorem spellsS_first (env : Env R) (x : Prim R) (tx : List UInt8) (hx : SpellsS env x tx) {buf : Buf}
    (g more : List UInt8) (q : Nat) (hg : Gap g) (h : Suffix buf q (g ++ tx ++ more))
    (hb : needsBnd x = true → Bnd more) :
    ∃ k t, 0 < k ∧ next buf q = .ok (q + g.length, q + g.length + k) ∧
      slice buf (q + g.length) (q + g.length + k) = t ∧ LexFacts t ∧
      (isInteger t = true → (k = tx.length ∧ ∃ i, x = .int i) ∨ NotR buf (q + g.length + k)) := by
  cases x with
  | arr xs =>
    simp only [SpellsS] at hx
    obtain ⟨g0, r, rfl, _, _⟩ := hx
    obtain ⟨hn, hsl⟩ := next_delim g 91 (g0 ++ r ++ more) q hg (by simpa using h) (by decide) (by decide) (by decide) (by simp)
    exact ⟨1, [91], by decide, hn, hsl, ⟨by decide, by decide, by decide⟩, fun hi => absurd hi (by decide)⟩
  | dict kvs =>
    simp only [SpellsS] at hx
    obtain ⟨g0, r, rfl, _, _⟩ := hx
    obtain ⟨hn, hsl⟩ := next_double g 60 (g0 ++ r ++ more) q hg (by simpa using h) (Or.inl rfl)
    exact ⟨2, [60, 60], by decide, hn, hsl, ⟨by decide, by decide, by decide⟩, fun hi => absurd hi (by decide)⟩
  | stream info inner =>
    simp only [SpellsS] at hx
    obtain ⟨d, _, g1, e, g2, eol, g3, rfl, _⟩ := hx
    obtain ⟨hn, hsl⟩ := next_double g 60 (g1 ++ e ++ g2 ++ PdfSyntax.kwStream ++ eol ++ d ++ g3 ++ PdfSyntax.kwEndstream ++ more) q hg
      (by simpa using h) (Or.inl rfl)
    exact ⟨2, [60, 60], by decide, hn, hsl, ⟨by decide, by decide, by decide⟩, fun hi => absurd hi (by decide)⟩
  | _ => exact spells_first env.parseReal _ tx ((spellsS_atom env rfl tx).mp hx) g more q hg h hb

theorem ahead_elemsS (env : Env R) (xs : List (Prim R)) :
    ∀ (r : List UInt8), SpellsElemsS env xs r → ∀ {buf : Buf} (g rest : List UInt8) (q : Nat), Gap g →
      Suffix buf q (g ++ r ++ rest) → Ahead buf q := by
  induction xs with
  | nil =>
    intro r h buf g rest q hg hs
    simp only [SpellsElemsS] at h; subst h
    obtain ⟨hn, hsl⟩ := next_delim g 93 rest q hg (by simpa using hs) (by decide) (by decide) (by decide) (by simp)
    exact ahead_of_lexeme _ [93] hn hsl (by decide) (by decide) (fun hi => absurd hi (by decide))
  | cons x xs ih =>
    intro r h buf g rest q hg hs
    simp only [SpellsElemsS] at h
    obtain ⟨tx, g', r', rfl, hx, hg', hr, hbnd⟩ := h
    have hne : g' ++ r' ≠ [] := by simp [spellsElemsS_ne_nil env xs r' hr]
    have hs1 : Suffix buf q (g ++ tx ++ (g' ++ r' ++ rest)) := by simpa using hs
    obtain ⟨k, t, hk, hn, hsl, hf, hint⟩ := spellsS_first env x tx hx g (g' ++ r' ++ rest) q hg hs1
      (fun hb => by simpa using bnd_append (t := rest) (hbnd hb) hne)
    refine ahead_of_lexeme _ t hn hsl hf.neR hf.neStream ?_
    intro hi
    rcases hint hi with ⟨hk', _⟩ | hnr
    · subst hk'
      have hs2 : Suffix buf (q + g.length + tx.length) (g' ++ r' ++ rest) := by
        have := Suffix.drop (a := g ++ tx) (by simpa using hs1)
        simpa [Nat.add_assoc] using this
      exact (ih r' hr g' rest _ hg' hs2).notR
    · exact hnr

theorem ahead_entriesS (env : Env R) (kvs : List (List UInt8 × Prim R)) (r : List UInt8)
    (h : SpellsEntriesS env kvs r) {buf : Buf} (g rest : List UInt8) (q : Nat) (hg : Gap g)
    (hs : Suffix buf q (g ++ r ++ rest)) : Ahead buf q := by
  cases kvs with
  | nil =>
    simp only [SpellsEntriesS] at h; subst h
    obtain ⟨hn, hsl⟩ := next_double g 62 rest q hg (by simpa using hs) (Or.inr rfl)
    exact ahead_of_lexeme _ [62, 62] hn hsl (by decide) (by decide) (fun hi => absurd hi (by decide))
  | cons kv kvs =>
    obtain ⟨k, v⟩ := kv
    simp only [SpellsEntriesS] at h
    obtain ⟨kb, g1, tv, g2, r', rfl, hnb, hg1, hb1, hv, hg2, hr, _⟩ := h
    obtain ⟨_, hreg⟩ := nameBody_spec kb k hnb
    have hne : g1 ++ tv ≠ [] := by simp [spellsS_ne_nil env v tv hv]
    have hs1 : Suffix buf q (g ++ (47 :: kb) ++ (g1 ++ tv ++ g2 ++ r' ++ rest)) := by simpa using hs
    obtain ⟨hn, hsl⟩ := next_name g kb _ q hg hs1 hreg (by simpa using bnd_append (t := g2 ++ r' ++ rest) hb1 hne)
    refine ahead_of_lexeme _ (47 :: kb) hn hsl (by simp) (by simp [kwStream]) ?_
    intro hi; simp [isInteger, allDigits, isDigit] at hi

theorem readsE_keys (env : Env R) (buf : Buf) (id : Nat × Nat) (kvs : List (List UInt8 × Prim R)) :
    ∀ ps, ReadsE env buf id ps kvs → keysOf ps = keysOf kvs := by
  induction kvs with
  | nil => intro ps h; simp only [ReadsE] at h; subst h; rfl
  | cons kv kvs ih =>
    obtain ⟨k, v⟩ := kv
    intro ps h
    simp only [ReadsE] at h
    obtain ⟨p, ps', rfl, _, hr⟩ := h
    simp [keysOf] at ih ⊢
    exact ih ps' hr

/-- `/Length` survives the reading: it is an integer or a reference, which read as themselves -/
theorem lengthIs_of_reads (env : Env R) (buf : Buf) (id : Nat × Nat) (kvs : List (List UInt8 × Prim R)) (n : Nat) :
    ∀ ps, ReadsE env buf id ps kvs → LengthOK env kvs n → LengthIs env ps n := by
  have key : ∀ (kvs : List (List UInt8 × Prim R)) (ps : Dict R), ReadsE env buf id ps kvs → ∀ v, dictGet kvs kwLength = some v →
      ∃ p, dictGet ps kwLength = some p ∧ Reads env buf id p v := by
    intro kvs
    induction kvs with
    | nil => intro ps _ v hv; simp [dictGet] at hv
    | cons kv kvs ih =>
      obtain ⟨k, w⟩ := kv
      intro ps h v hv
      simp only [ReadsE] at h
      obtain ⟨p, ps', rfl, hp, hr⟩ := h
      simp only [dictGet] at hv ⊢
      by_cases hk : k = kwLength
      · simp only [hk, if_true] at hv ⊢
        cases hv
        exact ⟨p, rfl, hp⟩
      · simp only [hk, if_false] at hv ⊢
        exact ih ps' hr v hv
  intro ps hr hl
  rcases hl with hl | ⟨i, g, hl, hres⟩
  · obtain ⟨p, hp, hrd⟩ := key kvs ps hr _ hl
    simp only [Reads] at hrd; subst hrd
    exact Or.inl hp
  · obtain ⟨p, hp, hrd⟩ := key kvs ps hr _ hl
    simp only [Reads] at hrd; subst hrd
    exact Or.inr ⟨i, g, hp, hres⟩


/-! ### without streams `Reads` is equality -/

mutual
/-- no stream object anywhere in the value -/
def noStreams : Prim R → Bool
  | .stream _ _ => false
  | .arr xs => noStreamsL xs
  | .dict kvs => noStreamsE kvs
  | _ => true
def noStreamsL : List (Prim R) → Bool
  | [] => true
  | x :: xs => noStreams x && noStreamsL xs
def noStreamsE : List (List UInt8 × Prim R) → Bool
  | [] => true
  | (_, v) :: rest => noStreams v && noStreamsE rest
end

open PdfSyntax (ReadsL ReadsE) in
mutual
theorem reads_eq_of_noStreams (env : Env R) (buf : Buf) (id : Nat × Nat) :
    ∀ (v p : Prim R), Reads env buf id p v → noStreams v = true → p = v
  | .stream info inner, p => fun _ h => by simp [noStreams] at h
  | .arr xs, p => fun h hn => by
      simp only [Reads] at h; obtain ⟨ps, rfl, hl⟩ := h
      simp only [noStreams] at hn
      rw [readsL_eq_of_noStreams env buf id xs ps hl hn]
  | .dict kvs, p => fun h hn => by
      simp only [Reads] at h; obtain ⟨ps, rfl, hl⟩ := h
      simp only [noStreams] at hn
      rw [readsE_eq_of_noStreams env buf id kvs ps hl hn]
  | .null, p => fun h _ => h
  | .int i, p => fun h _ => h
  | .real r, p => fun h _ => h
  | .bool b, p => fun h _ => h
  | .str s, p => fun h _ => h
  | .ref a b, p => fun h _ => h
  | .name n, p => fun h _ => h
theorem readsL_eq_of_noStreams (env : Env R) (buf : Buf) (id : Nat × Nat) :
    ∀ (xs ps : List (Prim R)), ReadsL env buf id ps xs → noStreamsL xs = true → ps = xs
  | [], ps => fun h _ => by simpa [ReadsL] using h
  | x :: xs, ps => fun h hn => by
      simp only [ReadsL] at h; obtain ⟨p, ps', rfl, hp, hl⟩ := h
      simp only [noStreamsL, Bool.and_eq_true] at hn
      rw [reads_eq_of_noStreams env buf id x p hp hn.1, readsL_eq_of_noStreams env buf id xs ps' hl hn.2]
theorem readsE_eq_of_noStreams (env : Env R) (buf : Buf) (id : Nat × Nat) :
    ∀ (kvs ps : List (List UInt8 × Prim R)), ReadsE env buf id ps kvs → noStreamsE kvs = true → ps = kvs
  | [], ps => fun h _ => by simpa [ReadsE] using h
  | (k, v) :: rest, ps => fun h hn => by
      simp only [ReadsE] at h; obtain ⟨p, ps', rfl, hp, hl⟩ := h
      simp only [noStreamsE, Bool.and_eq_true] at hn
      rw [reads_eq_of_noStreams env buf id v p hp hn.1, readsE_eq_of_noStreams env buf id rest ps' hl hn.2]
end


/-! ### the main induction

One induction serves the values with streams (read in the context `some id` of an indirect object) and the stream-free
ones (any context): a stream is the only place where the context matters. -/

/-- behind the dictionary of a stream object: `stream`, the data, `endstream` -/
theorem parseCtx_streamTail (env : Env R) {buf : Buf} (hsz : buf.size ≤ 2147483647) (info : Dict R)
    (g g1 ents g2 eol data g3 rest : List UInt8) (pos f : Nat) (id : Nat × Nat) (depth flags : Nat) (hg : Gap g) (hg2 : Gap g2)
    (heol : eol = [10] ∨ eol = [13, 10]) (hg3 : Gap g3) (hlen : LengthIs env info data.length)
    (hs : Suffix buf pos (g ++ 60 :: 60 :: (g1 ++ ents ++ (g2 ++ kwStream ++ eol ++ data ++ g3 ++ kwEndstream ++ rest))))
    (hb : Bnd rest) (hfl : flags &&& Flags.dict ≠ 0) (hdep : depth ≠ 0)
    (hdict : parseDict env buf f (pos + g.length + 2) (some id) (depth - 1) [] =
      .ok (info, pos + g.length + 2 + g1.length + ents.length)) :
    ∃ dataPos, parseCtx env buf (f + 2) pos (some id) flags depth =
        .ok (streamAt env info id dataPos data.length,
          pos + g.length + (60 :: 60 :: g1 ++ ents ++ g2 ++ kwStream ++ eol ++ data ++ g3 ++ kwEndstream).length) ∧
      Suffix buf dataPos (data ++ (g3 ++ kwEndstream ++ rest)) := by
  have hs3 := hs.drop.tail.tail.drop₂
  have hbe : Bnd (eol ++ data ++ g3 ++ kwEndstream ++ rest) := by
    rcases heol with rfl | rfl <;> (simp only [List.cons_append, Bnd]; decide)
  obtain ⟨hn2, hsl2⟩ := next_regular g2 kwStream (eol ++ data ++ g3 ++ kwEndstream ++ rest) _ hg2 (by simpa using hs3)
    (by decide) kw_stream_regular hbe
  have hso := parseStreamObject_spec env hsz info g2 eol data g3 rest _ id hg2 heol hg3 hlen hs3 hb
  have hs4 : Suffix buf _ (data ++ (g3 ++ kwEndstream ++ rest)) := Suffix.drop (a := eol) (Suffix.drop₂ (by simpa using hs3))
  refine ⟨pos + g.length + 2 + g1.length + ents.length + g2.length + kwStream.length + eol.length, ?_, hs4⟩
  simp only [parseCtx, parseInner_dict env g _ pos f (some id) flags depth hfl hdep hg hs, hdict, Out.bind_ok,
    peek_ok hn2, hsl2, beq_self_eq_true, if_true, hso, streamAt]
  simp; omega

mutual

/-- `ctx` matters in one place only: `parse_stream_object` needs the number of the enclosing object and fails under `none`.
    So either the context is that of the object `id` the result is read against, or the value holds no stream and `ctx` (and
    `id`, which `Reads` mentions only at streams) is irrelevant: the two disjuncts are the two families of corollaries below. -/
theorem parseCtx_reads (env : Env R) (hd : env.decrypt = none) (v : Prim R) :
    ∀ (txt : List UInt8), SpellsS env v txt → WF v → ∀ {buf : Buf}, buf.size ≤ 2147483647 →
      ∀ (g rest : List UInt8) (pos fuel : Nat) (ctx : Option (Nat × Nat)) (id : Nat × Nat) (depth flags : Nat), Gap g →
      flags &&& flagOf v ≠ 0 →
      Suffix buf pos (g ++ txt ++ rest) → (needsBnd v = true → Bnd rest) → Ahead buf (pos + g.length + txt.length) →
      need v ≤ fuel → vdepth v ≤ depth → (ctx = some id ∨ noStreams v = true) →
      ∃ p, parseCtx env buf fuel pos ctx flags depth = .ok (p, pos + g.length + txt.length) ∧ Reads env buf id p v := by
  intro txt hsp hwf buf hsz g rest pos fuel ctx id depth flags hg hfl hs hb hah hfuel hdepth hctx
  simp only [flagOf] at hfl
  have hend : pos + g.length + txt.length ≤ buf.size := by
    have := hs.size_eq; simp at this; omega
  obtain ⟨f, rfl⟩ : ∃ f, fuel = f + 2 := ⟨fuel - 2, by have := two_le_need v; omega⟩
  have atom : ∀ {q}, parseCtx env buf (f + 2) pos ctx flags depth = .ok (v, q) → isAtomP v = true →
      ∃ p, parseCtx env buf (f + 2) pos ctx flags depth = .ok (p, q) ∧ Reads env buf id p v :=
    fun h hv => ⟨v, h, reads_atom env buf id v hv⟩
  cases v with
  | null =>
    simp only [SpellsS, Spells] at hsp; subst hsp
    refine atom ?_ rfl
    simp only [parseCtx, parseInner_null env g rest pos f ctx flags depth hfl hg hs (hb rfl)]
    rfl
  | bool b =>
    simp only [SpellsS, Spells] at hsp; subst hsp
    refine atom ?_ rfl
    simp only [parseCtx, parseInner_bool env b g rest pos f ctx flags depth hfl hg hs (hb rfl)]
    rfl
  | int i =>
    simp only [SpellsS, Spells] at hsp
    refine atom ?_ rfl
    simp only [parseCtx, parseInner_int env txt i g rest pos f ctx flags depth hfl hg hsp.1 hsp.2.1 hsp.2.2 hs (hb rfl)
      (intFollowOK_of_ahead hend hah)]
  | real r =>
    simp only [SpellsS, Spells] at hsp
    refine atom ?_ rfl
    simp only [parseCtx, parseInner_real env txt r g rest pos f ctx flags depth hfl hg hsp.1 hsp.2 hs (hb rfl)]
  | str s =>
    simp only [SpellsS, Spells] at hsp
    refine atom ?_ rfl
    rcases hsp with ⟨body, rfl, hl⟩ | ⟨body, rfl, hl⟩
    · simp only [parseCtx, parseInner_litStr env body s g rest pos f ctx flags depth hfl hg hl hsz hs,
        decryptStr_none env hd, Out.bind_ok]
    · simp only [parseCtx, parseInner_hexStr env body s g rest pos f ctx flags depth hfl hg hl hsz hs,
        decryptStr_none env hd, Out.bind_ok]
  | name s =>
    simp only [SpellsS, Spells] at hsp
    obtain ⟨body, rfl, hnb⟩ := hsp
    simp only [WF] at hwf
    refine atom ?_ rfl
    simp only [parseCtx, parseInner_name env body s g rest pos f ctx flags depth hfl hg hnb hwf hs (hb rfl)]
  | ref a b =>
    simp only [SpellsS, Spells] at hsp
    obtain ⟨ta, g1, tb, g2, rfl, ha, hbt, hg1, hg1ne, hg2, hg2ne, hid, hgen⟩ := hsp
    refine atom ?_ rfl
    simp only [parseCtx, parseInner_ref env ta g1 tb g2 a b g rest pos f ctx flags depth hfl hg ha hbt hg1 hg1ne hg2 hg2ne hid hgen
      hs (hb rfl)]
  | arr xs =>
    simp only [SpellsS] at hsp
    obtain ⟨g0, r, rfl, hg0, hr⟩ := hsp
    simp only [WF] at hwf
    simp only [need] at hfuel
    simp only [vdepth] at hdepth
    simp only [noStreams] at hctx
    have hs1 : Suffix buf pos (g ++ 91 :: (g0 ++ r ++ rest)) := by simpa using hs
    have hpos : pos + g.length + (91 :: g0 ++ r).length = pos + g.length + 1 + g0.length + r.length := by simp; omega
    rw [hpos] at hah ⊢
    obtain ⟨ps, harr, hrd⟩ := parseArray_reads env hd xs r hr hwf hsz g0 rest (pos + g.length + 1) f ctx id (depth - 1) [] hg0
      hs1.drop.tail hah (by omega) (by omega) hctx
    refine ⟨.arr ps, ?_, by simp only [Reads]; exact ⟨ps, rfl, hrd⟩⟩
    simp only [parseCtx, parseInner_arr env g _ pos f ctx flags depth hfl (by omega) hg hs1, harr, List.reverse_nil,
      List.nil_append]
  | dict kvs =>
    simp only [SpellsS] at hsp
    obtain ⟨g0, r, rfl, hg0, hr⟩ := hsp
    simp only [WF] at hwf
    simp only [need] at hfuel
    simp only [vdepth] at hdepth
    simp only [noStreams] at hctx
    have hs1 : Suffix buf pos (g ++ 60 :: 60 :: (g0 ++ r ++ rest)) := by simpa using hs
    have hpos : pos + g.length + (60 :: 60 :: g0 ++ r).length = pos + g.length + 2 + g0.length + r.length := by simp; omega
    rw [hpos] at hah hend ⊢
    obtain ⟨ps, hdict, hrd⟩ := parseDict_reads env hd kvs r hr hwf.1 hsz g0 rest (pos + g.length + 2) f ctx id (depth - 1) [] hg0
      hs1.drop.tail.tail (by simpa [keysOf] using hwf.2) (by simp [keysOf]) (by omega) (by omega) hctx
    obtain ⟨pk, hpk, hpks⟩ := dictFollowOK_of_ahead hend hah
    refine ⟨.dict ps, ?_, by simp only [Reads]; exact ⟨ps, rfl, hrd⟩⟩
    simp only [parseCtx, parseInner_dict env g _ pos f ctx flags depth hfl (by omega) hg hs1, hdict, Out.bind_ok, hpk,
      beq_eq_false_iff_ne.2 hpks, Bool.false_eq_true, if_false, List.nil_append]
  | stream info inner =>
    obtain rfl : ctx = some id := hctx.resolve_right (by simp [noStreams])
    simp only [SpellsS] at hsp
    obtain ⟨data, rfl, g1, ents, g2, eol, g3, rfl, hg1, hents, hg2, heol, hg3, hlen⟩ := hsp
    simp only [WF] at hwf
    simp only [need] at hfuel
    simp only [vdepth] at hdepth
    have hs1 : Suffix buf pos (g ++ 60 :: 60 :: (g1 ++ ents ++ (g2 ++ kwStream ++ eol ++ data ++ g3 ++ kwEndstream ++ rest))) := by
      simpa only [kwStream_eq, kwEndstream_eq,
        List.append_assoc, List.cons_append] using hs
    obtain ⟨info', hdict, hrd⟩ := parseDict_reads env hd info ents hents hwf.1 hsz g1 _ (pos + g.length + 2) f (some id) id
      (depth - 1) [] hg1 hs1.drop.tail.tail (by simpa [keysOf] using hwf.2) (by simp [keysOf]) (by omega) (by omega) (Or.inl rfl)
    obtain ⟨dataPos, hp, hdata⟩ := parseCtx_streamTail env hsz info' g g1 ents g2 eol data g3 rest pos f id depth flags hg hg2
      heol hg3 (lengthIs_of_reads env buf id info data.length info' hrd hlen) hs1 (hb rfl) hfl (by omega) hdict
    exact ⟨_, hp, by simp only [Reads]; exact ⟨data, rfl, info', dataPos, rfl, hrd, hdata.slice⟩⟩

theorem parseArray_reads (env : Env R) (hd : env.decrypt = none) (xs : List (Prim R)) :
    ∀ (r : List UInt8), SpellsElemsS env xs r → WFL xs → ∀ {buf : Buf}, buf.size ≤ 2147483647 →
      ∀ (g rest : List UInt8) (pos fuel : Nat) (ctx : Option (Nat × Nat)) (id : Nat × Nat) (depth : Nat) (acc : List (Prim R)), Gap g →
      Suffix buf pos (g ++ r ++ rest) → Ahead buf (pos + g.length + r.length) →
      needL xs ≤ fuel → vdepthL xs ≤ depth → (ctx = some id ∨ noStreamsL xs = true) →
      ∃ ps, parseArray env buf fuel pos ctx depth acc = .ok (.arr (acc.reverse ++ ps), pos + g.length + r.length) ∧
        ReadsL env buf id ps xs := by
  intro r hr hwf buf hsz g rest pos fuel ctx id depth acc hg hs hah hfuel hdepth hctx
  cases xs with
  | nil =>
    obtain ⟨f, rfl⟩ : ∃ f, fuel = f + 1 := ⟨fuel - 1, by simp [needL] at hfuel; omega⟩
    simp only [SpellsElemsS] at hr; subst hr
    obtain ⟨hn, hsl⟩ := next_delim g 93 rest pos hg (by simpa using hs) (by decide) (by decide) (by decide) (by simp)
    refine ⟨[], ?_, by simp [ReadsL]⟩
    simp only [parseArray, peek_ok hn, Out.bind_ok, hsl, beq_self_eq_true, if_true, hn]
    simp
  | cons x xs =>
    obtain ⟨f, rfl⟩ : ∃ f, fuel = f + 1 := ⟨fuel - 1, by simp [needL] at hfuel; omega⟩
    simp only [SpellsElemsS] at hr
    obtain ⟨tx, g', r', rfl, hx, hg', hr', hbnd⟩ := hr
    simp only [WFL] at hwf
    simp only [needL] at hfuel
    simp only [vdepthL] at hdepth
    simp only [noStreamsL, Bool.and_eq_true] at hctx
    have hne : g' ++ r' ≠ [] := by simp [spellsElemsS_ne_nil env xs r' hr']
    have hbnd' : needsBnd x = true → Bnd (g' ++ r' ++ rest) := fun hb => bnd_append (hbnd hb) hne
    have hs1 : Suffix buf pos (g ++ tx ++ (g' ++ r' ++ rest)) := by simpa using hs
    obtain ⟨k, t, hk, hn, hsl, hf, _⟩ := spellsS_first env x tx hx g (g' ++ r' ++ rest) pos hg hs1 hbnd'
    have hs2 : Suffix buf (pos + g.length + tx.length) (g' ++ r' ++ rest) := hs1.drop₂
    obtain ⟨p, hx', hpx⟩ := parseCtx_reads env hd x tx hx hwf.1 hsz g (g' ++ r' ++ rest) pos f ctx id depth Flags.any hg
      (any_allows x) hs1 hbnd' (ahead_elemsS env xs r' hr' g' rest _ hg' hs2) (by omega) (by omega) (hctx.imp_right And.left)
    have hpos : pos + g.length + (tx ++ g' ++ r').length = pos + g.length + tx.length + g'.length + r'.length := by
      simp; omega
    rw [hpos] at hah
    obtain ⟨ps, hxs, hps⟩ := parseArray_reads env hd xs r' hr' hwf.2 hsz g' rest (pos + g.length + tx.length) f ctx id depth
      (p :: acc) hg' hs2 hah (by omega) (by omega) (hctx.imp_right And.right)
    have hne93 : (t == [93]) = false := by simpa using hf.neClose
    refine ⟨p :: ps, ?_, by simp only [ReadsL]; exact ⟨p, ps, rfl, hpx, hps⟩⟩
    simp only [parseArray, peek_ok hn, Out.bind_ok, hsl, hne93, Bool.false_eq_true, if_false, hx', hxs, hpos]
    simp

theorem parseDict_reads (env : Env R) (hd : env.decrypt = none) (kvs : List (List UInt8 × Prim R)) :
    ∀ (r : List UInt8), SpellsEntriesS env kvs r → WFE kvs → ∀ {buf : Buf}, buf.size ≤ 2147483647 →
      ∀ (g rest : List UInt8) (pos fuel : Nat) (ctx : Option (Nat × Nat)) (id : Nat × Nat) (depth : Nat) (acc : Dict R), Gap g →
      Suffix buf pos (g ++ r ++ rest) →
      (keysOf kvs).Nodup → (∀ k ∈ keysOf kvs, k ∉ keysOf acc) →
      needE kvs ≤ fuel → vdepthE kvs ≤ depth → (ctx = some id ∨ noStreamsE kvs = true) →
      ∃ ps, parseDict env buf fuel pos ctx depth acc = .ok (acc ++ ps, pos + g.length + r.length) ∧
        ReadsE env buf id ps kvs := by
  intro r hr hwf buf hsz g rest pos fuel ctx id depth acc hg hs hnd hdisj hfuel hdepth hctx
  cases kvs with
  | nil =>
    obtain ⟨f, rfl⟩ : ∃ f, fuel = f + 1 := ⟨fuel - 1, by simp [needE] at hfuel; omega⟩
    simp only [SpellsEntriesS] at hr; subst hr
    obtain ⟨hn, hsl⟩ := next_double g 62 rest pos hg (by simpa using hs) (Or.inr rfl)
    have e1 : ((([62, 62] : List UInt8).head?) == some 47) = false := by decide
    refine ⟨[], ?_, by simp [ReadsE]⟩
    simp only [parseDict, hn, Out.bind_ok, hsl, e1, Bool.false_eq_true, if_false, beq_self_eq_true, if_true]
    simp
  | cons kv kvs =>
    obtain ⟨k, v⟩ := kv
    obtain ⟨f, rfl⟩ : ∃ f, fuel = f + 1 := ⟨fuel - 1, by simp [needE] at hfuel; omega⟩
    simp only [SpellsEntriesS] at hr
    obtain ⟨kb, g1, tv, g2, r', rfl, hnb, hg1, hb1, hv, hg2, hr', hbnd⟩ := hr
    simp only [WFE] at hwf
    simp only [needE] at hfuel
    simp only [vdepthE] at hdepth
    simp only [noStreamsE, Bool.and_eq_true] at hctx
    obtain ⟨hun, hreg⟩ := nameBody_spec kb k hnb
    have hne1 : g1 ++ tv ≠ [] := by simp [spellsS_ne_nil env v tv hv]
    have hne2 : g2 ++ r' ≠ [] := by simp [spellsEntriesS_ne_nil env kvs r' hr']
    have hs1 : Suffix buf pos (g ++ (47 :: kb) ++ (g1 ++ tv ++ (g2 ++ r' ++ rest))) := by simpa using hs
    obtain ⟨hn, hsl⟩ := next_name g kb _ pos hg hs1 hreg (bnd_append hb1 hne1)
    have hs2 : Suffix buf (pos + g.length + (47 :: kb).length) (g1 ++ tv ++ (g2 ++ r' ++ rest)) := hs1.drop₂
    have hs3 : Suffix buf (pos + g.length + (47 :: kb).length + g1.length + tv.length) (g2 ++ r' ++ rest) := hs2.drop₂
    obtain ⟨p, hv', hpv⟩ := parseCtx_reads env hd v tv hv hwf.2.1 hsz g1 (g2 ++ r' ++ rest) (pos + g.length + (47 :: kb).length) f ctx
      id depth Flags.any hg1 (any_allows v) hs2 (fun hb => bnd_append (hbnd hb) hne2)
      (ahead_entriesS env kvs r' hr' g2 rest _ hg2 hs3) (by omega) (by omega) (hctx.imp_right And.left)
    have hpos : pos + g.length + (47 :: kb ++ g1 ++ tv ++ g2 ++ r').length =
        pos + g.length + (47 :: kb).length + g1.length + tv.length + g2.length + r'.length := by
      simp; omega
    simp only [keysOf, List.map_cons, List.nodup_cons] at hnd
    have hk : k ∉ keysOf acc := hdisj k (List.mem_cons_self ..)
    obtain ⟨ps, hkvs, hps⟩ := parseDict_reads env hd kvs r' hr' hwf.2.2 hsz g2 rest
      (pos + g.length + (47 :: kb).length + g1.length + tv.length) f ctx id depth (acc ++ [(k, p)]) hg2 hs3 hnd.2
      (keysOf_snoc_disjoint (v := p) hdisj hnd.1) (by omega) (by omega) (hctx.imp_right And.right)
    have e1 : (((47 :: kb : List UInt8).head?) == some 47) = true := by simp
    have hdn : decodeName ((47 :: kb).drop 1) = .ok k := by simp [decodeName, hun, hwf.1]
    refine ⟨(k, p) :: ps, ?_, by simp only [ReadsE]; exact ⟨p, ps, rfl, hpv, hps⟩⟩
    simp only [parseDict, hn, Out.bind_ok, hsl, e1, if_true, hdn, hv', dictInsert_append acc k p hk, hkvs, hpos]
    simp

end

/-! ### values with streams, in the context of an indirect object -/

theorem parseArray_spellsS (env : Env R) (hd : env.decrypt = none) (xs : List (Prim R)) :
    ∀ (r : List UInt8), SpellsElemsS env xs r → WFL xs → ∀ {buf : Buf}, buf.size ≤ 2147483647 →
      ∀ (g rest : List UInt8) (pos fuel : Nat) (id : Nat × Nat) (depth : Nat) (acc : List (Prim R)), Gap g →
      Suffix buf pos (g ++ r ++ rest) → Ahead buf (pos + g.length + r.length) →
      needL xs ≤ fuel → vdepthL xs ≤ depth →
      ∃ ps, parseArray env buf fuel pos (some id) depth acc = .ok (.arr (acc.reverse ++ ps), pos + g.length + r.length) ∧
        ReadsL env buf id ps xs :=
  fun r hr hwf _ hsz g rest pos fuel id depth acc hg hs hah hfuel hdepth =>
    parseArray_reads env hd xs r hr hwf hsz g rest pos fuel (some id) id depth acc hg hs hah hfuel hdepth (Or.inl rfl)

theorem parseDict_spellsS (env : Env R) (hd : env.decrypt = none) (kvs : List (List UInt8 × Prim R)) :
    ∀ (r : List UInt8), SpellsEntriesS env kvs r → WFE kvs → ∀ {buf : Buf}, buf.size ≤ 2147483647 →
      ∀ (g rest : List UInt8) (pos fuel : Nat) (id : Nat × Nat) (depth : Nat) (acc : Dict R), Gap g →
      Suffix buf pos (g ++ r ++ rest) →
      (keysOf kvs).Nodup → (∀ k ∈ keysOf kvs, k ∉ keysOf acc) →
      needE kvs ≤ fuel → vdepthE kvs ≤ depth →
      ∃ ps, parseDict env buf fuel pos (some id) depth acc = .ok (acc ++ ps, pos + g.length + r.length) ∧
        ReadsE env buf id ps kvs :=
  fun r hr hwf _ hsz g rest pos fuel id depth acc hg hs hnd hdisj hfuel hdepth =>
    parseDict_reads env hd kvs r hr hwf hsz g rest pos fuel (some id) id depth acc hg hs hnd hdisj hfuel hdepth (Or.inl rfl)

/-- `n g obj <value with streams anywhere> endobj` -/
theorem parseIndirectObject_spellsS (env : Env R) (hd : env.decrypt = none) (v : Prim R) (txt : List UInt8)
    (hsp : SpellsS env v txt) (hwf : WF v) {buf : Buf} (hsz : buf.size ≤ 2147483647)
    (g0 a g1 b g2 g3 g4 rest : List UInt8) (id gen pos fuel : Nat) (hg0 : Gap g0)
    (ha : NatTok a id) (hb : NatTok b gen) (hg1 : Gap g1) (hg1ne : g1 ≠ []) (hg2 : Gap g2) (hg2ne : g2 ≠ [])
    (hid : id ≤ 18446744073709551615) (hgen : gen ≤ 18446744073709551615) (hg3 : Gap g3) (hg4 : Gap g4)
    (h : Suffix buf pos (g0 ++ a ++ g1 ++ b ++ g2 ++ kwObj ++ g3 ++ txt ++ g4 ++ kwEndobj ++ rest))
    (hb3 : Bnd (g3 ++ txt)) (hb4 : needsBnd v = true → g4 ≠ []) (hbnd : Bnd rest)
    (hfuel : need v ≤ fuel) (hdepth : vdepth v ≤ maxDepth) (flags : Nat) (hfl : flags &&& flagOf v ≠ 0) :
    ∃ p, parseIndirectObject env buf fuel pos flags =
        .ok (((id, gen), p), pos + (g0 ++ a ++ g1 ++ b ++ g2 ++ kwObj ++ g3 ++ txt ++ g4 ++ kwEndobj).length) ∧
      Reads env buf (id, gen) p v := by
  have hne : g3 ++ txt ≠ [] := by simp [spellsS_ne_nil env v txt hsp]
  obtain ⟨p1, hh, h2, hah, he⟩ := indirect_frame g0 a g1 b g2 g3 txt g4 rest id gen pos hg0 ha hb hg1 hg1ne hg2 hg2ne hid hgen
    hg4 h (by simpa using bnd_append (t := g4 ++ kwEndobj ++ rest) hb3 hne) hbnd
  obtain ⟨p, hv, hp⟩ := parseCtx_reads env hd v txt hsp hwf hsz g3 _ p1 fuel (some (id, gen)) (id, gen) maxDepth flags hg3 hfl h2
    (fun hbv => by simpa using gap_bnd hg4 (hb4 hbv) (kwEndobj ++ rest)) hah hfuel hdepth (Or.inl rfl)
  exact ⟨p, parseIndirectObject_of env hh hv he, hp⟩

/-! ### stream-free values, in any context: the value itself is read -/

mutual
theorem spellsS_of_spells (env : Env R) : ∀ (v : Prim R) (t : List UInt8), Spells env.parseReal v t →
    SpellsS env v t ∧ noStreams v = true
  | .stream _ _, t => fun h => by simp [Spells] at h
  | .arr xs, t => fun h => by
      simp only [Spells] at h; obtain ⟨g, r, e, hg, hr⟩ := h
      have := spellsElemsS_of_spells env xs r hr
      exact ⟨by simp only [SpellsS]; exact ⟨g, r, e, hg, this.1⟩, by simpa only [noStreams] using this.2⟩
  | .dict kvs, t => fun h => by
      simp only [Spells] at h; obtain ⟨g, r, e, hg, hr⟩ := h
      have := spellsEntriesS_of_spells env kvs r hr
      exact ⟨by simp only [SpellsS]; exact ⟨g, r, e, hg, this.1⟩, by simpa only [noStreams] using this.2⟩
  | .null, t => fun h => ⟨(spellsS_atom env rfl t).mpr h, rfl⟩
  | .int _, t => fun h => ⟨(spellsS_atom env rfl t).mpr h, rfl⟩
  | .real _, t => fun h => ⟨(spellsS_atom env rfl t).mpr h, rfl⟩
  | .bool _, t => fun h => ⟨(spellsS_atom env rfl t).mpr h, rfl⟩
  | .str _, t => fun h => ⟨(spellsS_atom env rfl t).mpr h, rfl⟩
  | .ref _ _, t => fun h => ⟨(spellsS_atom env rfl t).mpr h, rfl⟩
  | .name _, t => fun h => ⟨(spellsS_atom env rfl t).mpr h, rfl⟩
theorem spellsElemsS_of_spells (env : Env R) : ∀ (xs : List (Prim R)) (t : List UInt8), SpellsElems env.parseReal xs t →
    SpellsElemsS env xs t ∧ noStreamsL xs = true
  | [], t => fun h => by simpa [SpellsElems, SpellsElemsS, noStreamsL] using h
  | x :: xs, t => fun h => by
      simp only [SpellsElems] at h; obtain ⟨tx, g, r, e, hx, hg, hr, hb⟩ := h
      have h1 := spellsS_of_spells env x tx hx
      have h2 := spellsElemsS_of_spells env xs r hr
      exact ⟨by simp only [SpellsElemsS]; exact ⟨tx, g, r, e, h1.1, hg, h2.1, hb⟩, by simp [noStreamsL, h1.2, h2.2]⟩
theorem spellsEntriesS_of_spells (env : Env R) : ∀ (kvs : List (List UInt8 × Prim R)) (t : List UInt8),
    SpellsEntries env.parseReal kvs t → SpellsEntriesS env kvs t ∧ noStreamsE kvs = true
  | [], t => fun h => by simpa [SpellsEntries, SpellsEntriesS, noStreamsE] using h
  | (k, v) :: rest, t => fun h => by
      simp only [SpellsEntries] at h; obtain ⟨kb, g1, tv, g2, r, e, hk, hg1, hb1, hv, hg2, hr, hb⟩ := h
      have h1 := spellsS_of_spells env v tv hv
      have h2 := spellsEntriesS_of_spells env rest r hr
      exact ⟨by simp only [SpellsEntriesS]; exact ⟨kb, g1, tv, g2, r, e, hk, hg1, hb1, h1.1, hg2, h2.1, hb⟩,
        by simp [noStreamsE, h1.2, h2.2]⟩
end

theorem parseCtx_spells (env : Env R) (hd : env.decrypt = none) (v : Prim R) :
    ∀ (txt : List UInt8), Spells env.parseReal v txt → WF v → ∀ {buf : Buf}, buf.size ≤ 2147483647 →
      ∀ (g rest : List UInt8) (pos fuel : Nat) (ctx : Option (Nat × Nat)) (depth flags : Nat), Gap g →
      flags &&& flagOf v ≠ 0 →
      Suffix buf pos (g ++ txt ++ rest) → (needsBnd v = true → Bnd rest) → Ahead buf (pos + g.length + txt.length) →
      need v ≤ fuel → vdepth v ≤ depth →
      parseCtx env buf fuel pos ctx flags depth = .ok (v, pos + g.length + txt.length) := by
  intro txt hsp hwf buf hsz g rest pos fuel ctx depth flags hg hfl hs hb hah hfuel hdepth
  obtain ⟨hS, hn⟩ := spellsS_of_spells env v txt hsp
  obtain ⟨p, hp, hr⟩ := parseCtx_reads env hd v txt hS hwf hsz g rest pos fuel ctx (0, 0) depth flags hg hfl hs hb hah hfuel hdepth
    (Or.inr hn)
  rw [hp, reads_eq_of_noStreams env buf _ v p hr hn]

theorem parseArray_spells (env : Env R) (hd : env.decrypt = none) (xs : List (Prim R)) :
    ∀ (r : List UInt8), SpellsElems env.parseReal xs r → WFL xs → ∀ {buf : Buf}, buf.size ≤ 2147483647 →
      ∀ (g rest : List UInt8) (pos fuel : Nat) (ctx : Option (Nat × Nat)) (depth : Nat) (acc : List (Prim R)), Gap g →
      Suffix buf pos (g ++ r ++ rest) → Ahead buf (pos + g.length + r.length) →
      needL xs ≤ fuel → vdepthL xs ≤ depth →
      parseArray env buf fuel pos ctx depth acc = .ok (.arr (acc.reverse ++ xs), pos + g.length + r.length) := by
  intro r hr hwf buf hsz g rest pos fuel ctx depth acc hg hs hah hfuel hdepth
  obtain ⟨hS, hn⟩ := spellsElemsS_of_spells env xs r hr
  obtain ⟨ps, hp, hrd⟩ := parseArray_reads env hd xs r hS hwf hsz g rest pos fuel ctx (0, 0) depth acc hg hs hah hfuel hdepth
    (Or.inr hn)
  rw [hp, readsL_eq_of_noStreams env buf _ xs ps hrd hn]

theorem parseDict_spells (env : Env R) (hd : env.decrypt = none) (kvs : List (List UInt8 × Prim R)) :
    ∀ (r : List UInt8), SpellsEntries env.parseReal kvs r → WFE kvs → ∀ {buf : Buf}, buf.size ≤ 2147483647 →
      ∀ (g rest : List UInt8) (pos fuel : Nat) (ctx : Option (Nat × Nat)) (depth : Nat) (acc : Dict R), Gap g →
      Suffix buf pos (g ++ r ++ rest) →
      (keysOf kvs).Nodup → (∀ k ∈ keysOf kvs, k ∉ keysOf acc) →
      needE kvs ≤ fuel → vdepthE kvs ≤ depth →
      parseDict env buf fuel pos ctx depth acc = .ok (acc ++ kvs, pos + g.length + r.length) := by
  intro r hr hwf buf hsz g rest pos fuel ctx depth acc hg hs hnd hdisj hfuel hdepth
  obtain ⟨hS, hn⟩ := spellsEntriesS_of_spells env kvs r hr
  obtain ⟨ps, hp, hrd⟩ := parseDict_reads env hd kvs r hS hwf hsz g rest pos fuel ctx (0, 0) depth acc hg hs hnd hdisj hfuel
    hdepth (Or.inr hn)
  rw [hp, readsE_eq_of_noStreams env buf _ kvs ps hrd hn]

/-- `n g obj <value> endobj`: the value, and the cursor right after `endobj` (both settings of
    `allow_missing_endobj`) -/
theorem parseIndirectObject_spells (env : Env R) (hd : env.decrypt = none) (v : Prim R) (txt : List UInt8)
    (hsp : Spells env.parseReal v txt) (hwf : WF v) {buf : Buf} (hsz : buf.size ≤ 2147483647)
    (g0 a g1 b g2 g3 g4 rest : List UInt8) (id gen pos fuel : Nat) (hg0 : Gap g0)
    (ha : NatTok a id) (hb : NatTok b gen) (hg1 : Gap g1) (hg1ne : g1 ≠ []) (hg2 : Gap g2) (hg2ne : g2 ≠ [])
    (hid : id ≤ 18446744073709551615) (hgen : gen ≤ 18446744073709551615) (hg3 : Gap g3) (hg4 : Gap g4)
    (h : Suffix buf pos (g0 ++ a ++ g1 ++ b ++ g2 ++ kwObj ++ g3 ++ txt ++ g4 ++ kwEndobj ++ rest))
    (hb3 : Bnd (g3 ++ txt)) (hb4 : needsBnd v = true → g4 ≠ []) (hbnd : Bnd rest)
    (hfuel : need v ≤ fuel) (hdepth : vdepth v ≤ maxDepth) (flags : Nat) (hfl : flags &&& flagOf v ≠ 0) :
    parseIndirectObject env buf fuel pos flags =
      .ok (((id, gen), v), pos + (g0 ++ a ++ g1 ++ b ++ g2 ++ kwObj ++ g3 ++ txt ++ g4 ++ kwEndobj).length) := by
  obtain ⟨hS, hn⟩ := spellsS_of_spells env v txt hsp
  obtain ⟨p, hp, hr⟩ := parseIndirectObject_spellsS env hd v txt hS hwf hsz g0 a g1 b g2 g3 g4 rest id gen pos fuel hg0 ha hb hg1
    hg1ne hg2 hg2ne hid hgen hg3 hg4 h hb3 hb4 hbnd hfuel hdepth flags hfl
  rw [hp, reads_eq_of_noStreams env buf _ v p hr hn]

/-! ### stream objects with a stream-free dictionary -/

/-- a stream object (dictionary, `stream`, data, `endstream`) read in the context of an indirect object: the data
    stands at `dataPos`, followed by at least `endstream` -/
theorem parseCtx_stream (env : Env R) (hd : env.decrypt = none) (info : Dict R) (data txt : List UInt8)
    (hsp : SpellsStream env.parseReal info data txt) (hwf : WFE info) (hnd : (keysOf info).Nodup)
    (hlen : LengthIs env info data.length) {buf : Buf} (hsz : buf.size ≤ 2147483647)
    (g rest : List UInt8) (pos fuel : Nat) (id : Nat × Nat) (depth : Nat) (hg : Gap g)
    (h : Suffix buf pos (g ++ txt ++ rest)) (hb : Bnd rest) (hfuel : 2 + needE info ≤ fuel)
    (hdepth : 1 + vdepthE info ≤ depth) (flags : Nat) (hfl : flags &&& Flags.dict ≠ 0) :
    ∃ dataPos more, parseCtx env buf fuel pos (some id) flags depth =
        .ok (streamAt env info id dataPos data.length, pos + g.length + txt.length) ∧
      Suffix buf dataPos (data ++ more) ∧ more ≠ [] := by
  obtain ⟨g1, ents, g2, eol, g3, rfl, hg1, hents, hg2, heol, hg3⟩ := hsp
  obtain ⟨f, rfl⟩ : ∃ f, fuel = f + 2 := ⟨fuel - 2, by omega⟩
  have hs1 : Suffix buf pos (g ++ 60 :: 60 :: (g1 ++ ents ++ (g2 ++ kwStream ++ eol ++ data ++ g3 ++ kwEndstream ++ rest))) := by
    simpa only [kwStream_eq, kwEndstream_eq,
      List.append_assoc, List.cons_append] using h
  have hdict := parseDict_spells env hd info ents hents hwf hsz g1 _ (pos + g.length + 2) f (some id) (depth - 1) [] hg1
    hs1.drop.tail.tail hnd (by simp [keysOf]) (by omega) (by omega)
  obtain ⟨dataPos, hp, hdata⟩ := parseCtx_streamTail env hsz info g g1 ents g2 eol data g3 rest pos f id depth flags hg hg2 heol
    hg3 hlen hs1 hb hfl (by omega) hdict
  exact ⟨dataPos, _, hp, hdata, by simp [kwEndstream]⟩

/-- `n g obj <stream object> endobj`, with the place of the data -/
theorem parseIndirectObject_stream_at (env : Env R) (hd : env.decrypt = none) (info : Dict R) (data txt : List UInt8)
    (hsp : SpellsStream env.parseReal info data txt) (hwf : WFE info) (hnd : (keysOf info).Nodup)
    (hlen : LengthIs env info data.length) {buf : Buf} (hsz : buf.size ≤ 2147483647)
    (g0 a g1 b g2 g3 g4 rest : List UInt8) (id gen pos fuel : Nat) (hg0 : Gap g0)
    (ha : NatTok a id) (hb : NatTok b gen) (hg1 : Gap g1) (hg1ne : g1 ≠ []) (hg2 : Gap g2) (hg2ne : g2 ≠ [])
    (hid : id ≤ 18446744073709551615) (hgen : gen ≤ 18446744073709551615) (hg3 : Gap g3) (hg4 : Gap g4) (hg4ne : g4 ≠ [])
    (h : Suffix buf pos (g0 ++ a ++ g1 ++ b ++ g2 ++ kwObj ++ g3 ++ txt ++ g4 ++ kwEndobj ++ rest))
    (hbnd : Bnd rest) (hfuel : 2 + needE info ≤ fuel) (hdepth : 1 + vdepthE info ≤ maxDepth)
    (flags : Nat) (hfl : flags &&& Flags.dict ≠ 0) :
    ∃ dataPos more, parseIndirectObject env buf fuel pos flags =
        .ok (((id, gen), streamAt env info (id, gen) dataPos data.length),
          pos + (g0 ++ a ++ g1 ++ b ++ g2 ++ kwObj ++ g3 ++ txt ++ g4 ++ kwEndobj).length) ∧
      Suffix buf dataPos (data ++ more) ∧ more ≠ [] := by
  have hb3 : Bnd (g3 ++ txt ++ g4 ++ kwEndobj ++ rest) := by
    cases g3 with
    | nil => obtain ⟨_, _, _, _, _, rfl, _⟩ := hsp; exact (by decide : PdfSyntax.isReg 60 = false)
    | cons c g3' => simpa using gap_bnd hg3 (by simp) (txt ++ g4 ++ kwEndobj ++ rest)
  obtain ⟨p1, hh, h2, _, he⟩ := indirect_frame g0 a g1 b g2 g3 txt g4 rest id gen pos hg0 ha hb hg1 hg1ne hg2 hg2ne hid hgen
    hg4 h hb3 hbnd
  obtain ⟨dataPos, more, hv, hdata, hmore⟩ := parseCtx_stream env hd info data txt hsp hwf hnd hlen hsz g3
    (g4 ++ kwEndobj ++ rest) p1 fuel (id, gen) maxDepth hg3 h2 (by simpa using gap_bnd hg4 hg4ne (kwEndobj ++ rest)) hfuel hdepth
    flags hfl
  exact ⟨dataPos, more, parseIndirectObject_of env hh hv he, hdata, hmore⟩

/-- `n g obj <stream object> endobj` -/
theorem parseIndirectObject_stream (env : Env R) (hd : env.decrypt = none) (info : Dict R) (data txt : List UInt8)
    (hsp : SpellsStream env.parseReal info data txt) (hwf : WFE info) (hnd : (keysOf info).Nodup)
    (hlen : LengthIs env info data.length) {buf : Buf} (hsz : buf.size ≤ 2147483647)
    (g0 a g1 b g2 g3 g4 rest : List UInt8) (id gen pos fuel : Nat) (hg0 : Gap g0)
    (ha : NatTok a id) (hb : NatTok b gen) (hg1 : Gap g1) (hg1ne : g1 ≠ []) (hg2 : Gap g2) (hg2ne : g2 ≠ [])
    (hid : id ≤ 18446744073709551615) (hgen : gen ≤ 18446744073709551615) (hg3 : Gap g3) (hg4 : Gap g4) (hg4ne : g4 ≠ [])
    (h : Suffix buf pos (g0 ++ a ++ g1 ++ b ++ g2 ++ kwObj ++ g3 ++ txt ++ g4 ++ kwEndobj ++ rest))
    (hbnd : Bnd rest) (hfuel : 2 + needE info ≤ fuel) (hdepth : 1 + vdepthE info ≤ maxDepth)
    (flags : Nat) (hfl : flags &&& Flags.dict ≠ 0) :
    ∃ dataPos, parseIndirectObject env buf fuel pos flags =
        .ok (((id, gen), streamAt env info (id, gen) dataPos data.length),
          pos + (g0 ++ a ++ g1 ++ b ++ g2 ++ kwObj ++ g3 ++ txt ++ g4 ++ kwEndobj).length) ∧
      slice buf dataPos (dataPos + data.length) = data := by
  obtain ⟨dataPos, _, hp, hdata, _⟩ := parseIndirectObject_stream_at env hd info data txt hsp hwf hnd hlen hsz g0 a g1 b g2 g3 g4
    rest id gen pos fuel hg0 ha hb hg1 hg1ne hg2 hg2ne hid hgen hg3 hg4 hg4ne h hbnd hfuel hdepth flags hfl
  exact ⟨dataPos, hp, hdata.slice⟩

end PdfLex
