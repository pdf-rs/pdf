import PdfModel.Lemmas.StorageSave

/-! The shape of the revision `save` appends: `SaveShape` for the structural-validity theorems of C10, `RevisionFacts`
    for the reload theorems of C09. -/

namespace Storage
open Xref

variable {V : Type}

theorem save_ok_widths_c (P : Params V) (L : Layout) (d d' : Doc V) (i : SaveInfo) (h : Committed P L d d'.st i) :
    (i.aw, i.bw) = widths d'.st.refs := by
  obtain ⟨w, rows, _, _, hst, hi, _⟩ := h
  rw [hst, hi]; rfl

theorem save_ok_widths (P : Params V) (L : Layout) (d d' : Doc V) (i : SaveInfo) (h : save P L d = (d', .ok i)) :
    (i.aw, i.bw) = widths d'.st.refs :=
  save_ok_widths_c P L d d' i (committed_of_ok P L d d' i h)

structure SaveShape (P : Params V) (d d' : Doc V) (i : SaveInfo) : Prop where
  /-- `startxref` points at the new cross-reference section, which lists rows `0 .. rows.length` -/
  section_at : ∃ s, secAt d'.st.secs (d'.st.start + i.xpos) = some s ∧ s.subs = [⟨0, i.rows⟩] ∧ s.size = i.size ∧
      s.root = d.tr.root ∧ s.prev = d.tr.prev
  rows_len : i.rows.length = i.xid + 1 ∧ i.xid + 1 ≤ i.size
  table_len : d'.st.refs.length = i.xid + 1
  /-- every row is the entry of the table (an undefined number as a free entry) -/
  rows_of_table : ∀ (j : Nat) (e : XRef), d'.st.refs[j]? = some e → ∃ r, rowOf e = some r ∧ i.rows[j]? = some r
  /-- the row of every object written by this save points at the record of that object -/
  pending : ∀ (j : Nat) (v : V) (g : Nat), chLookup d'.st.changes j = some (v, g) →
      ∃ off, d'.st.start ≤ off ∧ i.rows[j]? = some (.raw (off - d'.st.start) g) ∧
        ∃ o, objAt d'.st.objs off = some o ∧ o.off = off ∧ o.id = j ∧ o.gen = g ∧ (j ≠ i.xid → o.val = v)
  /-- every object appended has a number below /Size -/
  ids_lt : ∃ ext, d'.st.objs = d.st.objs ++ ext ∧ ∀ o ∈ ext, o.id < i.size
  xid_fresh : d.st.refs.length ≤ i.xid

/-- what a reader finds in the revision: its section where `startxref` points, proper entries as rows, and behind
    the row of every pending number the record of that number (the cross-reference stream under its own) -/
structure RevisionFacts (P : Params V) (L : Layout) (d : Doc V) (st' : St V) (i : SaveInfo) : Prop where
  sx : st'.startxref = i.xpos
  sec : secAt st'.secs (st'.start + i.xpos) =
    some ⟨st'.start + i.xpos, [⟨0, i.rows⟩], i.size, d.tr.prev, d.tr.root, (prep d).infoRef⟩
  len : st'.len = st'.start + i.xpos + L.xrefLen i + L.tailLen i
  behind : d.st.len ≤ st'.start + i.xpos
  entries : ∀ r ∈ i.rows, isEntry r = true
  records : ∀ (j : Nat) (v : V) (g : Nat), chLookup st'.changes j = some (v, g) →
    ∃ off, st'.start ≤ off ∧ i.rows[j]? = some (.raw (off - st'.start) g) ∧
      objAt st'.objs off = some ⟨off, j, g, if j = i.xid then P.xrefRec d.tr (prep d).infoRef i else v, []⟩

theorem revision_facts (P : Params V) (L : Layout) (hL : L.Pos) (d0 d d' : Doc V) (chain0) (i : SaveInfo)
    (hb : BaseOK d0 chain0) (hi : Inv d0 d) (h : Committed P L d d'.st i) :
    SaveShape P d d' i ∧ RevisionFacts P L d d'.st i := by
  have pf := prep_facts d0 d chain0 hb hi
  have hlook := h.changes
  obtain ⟨w, rows, hw, hr, hst, hinfo, _⟩ := h
  obtain ⟨f1, f2, _, _⟩ := writeChanges_frame P L _ _ _ _ _ hw pf.inv.sorted
  obtain ⟨k1, _, k4, k5⟩ := writeChanges_ok P L _ hL.1 _ _ _ hw pf.inv.sorted pf.inv.objs_lt
  obtain ⟨⟨ext, e1, e2⟩, _⟩ := writeChanges_extends P L (prep d).st2.start (prep d).st2.changes
    ⟨(prep d).st2.refs, (prep d).st2.objs, (prep d).st2.len⟩
  rw [hw] at e1
  simp only at f1 f2 k1 k4 k5 e1 e2
  have hstart : (prep d).st2.start ≤ (prep d).st2.len := by
    rw [pf.start_same, pf.len_same, hi.start_eq]; exact Nat.le_trans hb.start_le hi.len_ge
  -- the table of the revision, named `R` from here on
  generalize hR : w.refs.set (prep d).xid (.raw (w.len - (prep d).st2.start) 0) = R at hr hst hinfo
  have hxlt : (prep d).xid < w.refs.length := by rw [f1, pf.len_eq]; omega
  have hRlen : R.length = (prep d).xid + 1 := by rw [← hR, List.length_set, f1, pf.len_eq]
  have hRx : R[(prep d).xid]? = some (.raw (w.len - (prep d).st2.start) 0) := by
    rw [← hR]; exact List.getElem?_set_self hxlt
  have hRne : ∀ j, j ≠ (prep d).xid → R[j]? = w.refs[j]? := fun j hne => by
    rw [← hR]; exact List.getElem?_set_ne (Ne.symm hne)
  rw [take_all _ _ (by omega)] at hr
  obtain ⟨r1, r2⟩ := rowsOf_spec _ _ hr
  have hents := rows_all_entries _ _ hr
  have hxid : i.xid = (prep d).xid := by rw [hinfo]; rfl
  have hxpos : i.xpos = w.len - (prep d).st2.start := by rw [hinfo]; rfl
  have hsize : i.size = (prep d).size := by rw [hinfo]; rfl
  have hrows : i.rows = rows := by rw [hinfo]; rfl
  have hpos : d'.st.start + i.xpos = w.len := by rw [hst, hxpos]; show (prep d).st2.start + _ = _; omega
  have hobjs : d'.st.objs = w.objs ++ [⟨w.len, (prep d).xid, 0, P.xrefRec d.tr (prep d).infoRef i, []⟩] := by
    rw [hst, hinfo]; rfl
  have hrec : ∀ (j : Nat) (v : V) (g : Nat), chLookup d'.st.changes j = some (v, g) →
      ∃ off, d'.st.start ≤ off ∧ i.rows[j]? = some (.raw (off - d'.st.start) g) ∧
        objAt d'.st.objs off = some ⟨off, j, g, if j = i.xid then P.xrefRec d.tr (prep d).infoRef i else v, []⟩ := by
    intro j v g hc
    have hs : d'.st.start = (prep d).st2.start := by rw [hst]; rfl
    rw [hlook, ← hxid] at hc
    rw [hs, hrows, hobjs]
    split at hc
    · rename_i heq
      cases hc
      obtain ⟨r, ra, rb⟩ := r2 _ _ hRx
      cases ra
      refine ⟨w.len, by omega, by rw [heq, hxid]; exact rb, ?_⟩
      rw [objAt_append_right _ _ _ fun o ho => Nat.ne_of_lt (k4 o ho), heq, hxid, if_pos rfl]
      exact objAt_singleton _
    · rename_i hne
      obtain ⟨_, _, off, a, b, c⟩ := k5 j v g hc
      obtain ⟨r, ra, rb⟩ := r2 j _ ((hRne j (hxid ▸ hne)).trans b)
      cases ra
      rw [if_neg hne]
      exact ⟨off, by omega, rb, objAt_append_left _ _ _ _ c⟩
  have hsec : secAt d'.st.secs (d'.st.start + i.xpos) =
      some ⟨d'.st.start + i.xpos, [⟨0, i.rows⟩], i.size, d.tr.prev, d.tr.root, (prep d).infoRef⟩ := by
    rw [hpos, hsize, hrows, hst]
    show secAt ((prep d).st2.secs ++ [_]) w.len = _
    rw [secAt_append_right _ _ _ fun s hs => Nat.ne_of_lt (Nat.lt_of_lt_of_le (pf.inv.secs_lt s hs) k1)]
    simp [secAt]
  refine ⟨
    { section_at := ⟨_, hsec, rfl, rfl, rfl, rfl⟩
      rows_len := by rw [hrows, r1, hRlen, hxid, hsize]; exact ⟨rfl, pf.size_ge⟩
      table_len := by rw [hst, hxid]; exact hRlen
      rows_of_table := fun j e he => by rw [hst] at he; rw [hrows]; exact r2 j e he
      pending := fun j v g hc => by
        obtain ⟨off, a, b, c⟩ := hrec j v g hc
        exact ⟨off, a, b, _, c, rfl, rfl, rfl, fun hne => if_neg hne⟩
      ids_lt := ?_
      xid_fresh := hxid ▸ pf.xid_ge },
    { sx := by rw [hst, hxpos]; rfl
      sec := hsec
      len := by rw [hpos, hst, hinfo]; rfl
      behind := by rw [hpos, ← pf.len_same]; exact k1
      entries := hrows ▸ hents
      records := hrec }⟩
  refine ⟨ext ++ [⟨w.len, (prep d).xid, 0, P.xrefRec d.tr (prep d).infoRef i, []⟩], by
    rw [hobjs, e1, pf.objs_eq, List.append_assoc], fun o ho => ?_⟩
  rw [hsize]
  have := pf.size_ge
  rcases List.mem_append.mp ho with ho | ho
  · have := (e2 o ho).2
    rw [pf.len_eq] at this; omega
  · cases List.mem_singleton.mp ho; exact this

theorem save_shape_c (P : Params V) (L : Layout) (hL : L.Pos) (d0 d d' : Doc V) (chain0) (i : SaveInfo)
    (hb : BaseOK d0 chain0) (hi : Inv d0 d) (h : Committed P L d d'.st i) : SaveShape P d d' i :=
  (revision_facts P L hL d0 d d' chain0 i hb hi h).1

theorem save_shape (P : Params V) (L : Layout) (hL : L.Pos) (d0 d d' : Doc V) (chain0) (i : SaveInfo)
    (hb : BaseOK d0 chain0) (hi : Inv d0 d) (h : save P L d = (d', .ok i)) : SaveShape P d d' i :=
  save_shape_c P L hL d0 d d' chain0 i hb hi (committed_of_ok P L d d' i h)

end Storage
