import PdfModel.Model.ContentBytes

/-! C08 byte level: the UTF-8 bytes of a Lean `String` (a list of Unicode scalar values encoded by
    `String.utf8EncodeChar`) pass the shared model's `utf8Valid` (`str::from_utf8`, Unicode table 3-7): names and
    keywords of `Model/Content` are values of the Rust type `Name`. -/

namespace ContentBytes
open PdfLex

/-- core's `UInt8.toNat_ofNat_of_lt'` with the bound as a numeral, so that `omega` can discharge it -/
theorem u8_ofNat_toNat (n : Nat) (h : n < 256) : (UInt8.ofNat n).toNat = n := UInt8.toNat_ofNat_of_lt' h

theorem isCont_iff (b : UInt8) : isCont b = true ↔ 128 ≤ b.toNat ∧ b.toNat ≤ 191 := by
  simp [isCont, UInt8.le_iff_toNat_le]

theorem u8_between_iff (lo hi b : UInt8) : (decide (lo ≤ b) && decide (b ≤ hi)) = true ↔ lo.toNat ≤ b.toNat ∧ b.toNat ≤ hi.toNat := by
  simp only [UInt8.le_iff_toNat_le, Bool.and_eq_true, decide_eq_true_eq]

theorem u8_not_ascii {b : UInt8} (h : 128 ≤ b.toNat) : ¬ b < 128 := by
  rw [UInt8.lt_iff_toNat_lt]; exact Nat.not_lt.2 h

theorem utf8Valid_two {b0 b1 : UInt8} (rest : List UInt8) (h0 : 194 ≤ b0.toNat ∧ b0.toNat ≤ 223)
    (h1 : 128 ≤ b1.toNat ∧ b1.toNat ≤ 191) : utf8Valid (b0 :: b1 :: rest) = utf8Valid rest := by
  conv => lhs; unfold utf8Valid
  rw [if_neg (u8_not_ascii (by omega)), if_pos ((u8_between_iff 194 223 b0).2 h0)]
  show (isCont b1 && utf8Valid rest) = _
  rw [(isCont_iff b1).2 h1, Bool.true_and]

/-- the second byte of a three- or four-byte sequence: a continuation byte, in the narrower range when the
    lead byte is `lo` or `hi` -/
theorem second_ok {b0 b1 : UInt8} (lo hi a b c d : UInt8) (h1 : 128 ≤ b1.toNat ∧ b1.toNat ≤ 191)
    (hlo : b0 = lo → a.toNat ≤ b1.toNat ∧ b1.toNat ≤ b.toNat) (hhi : b0 = hi → c.toNat ≤ b1.toNat ∧ b1.toNat ≤ d.toNat) :
    (if b0 == lo then decide (a ≤ b1) && decide (b1 ≤ b) else if b0 == hi then decide (c ≤ b1) && decide (b1 ≤ d)
      else isCont b1) = true := by
  by_cases e1 : b0 = lo
  · rw [if_pos (by simpa using e1)]; exact (u8_between_iff a b b1).2 (hlo e1)
  · rw [if_neg (by simpa using e1)]
    by_cases e2 : b0 = hi
    · rw [if_pos (by simpa using e2)]; exact (u8_between_iff c d b1).2 (hhi e2)
    · rw [if_neg (by simpa using e2)]; exact (isCont_iff b1).2 h1

theorem utf8Valid_three {b0 b1 b2 : UInt8} (rest : List UInt8) (h0 : 224 ≤ b0.toNat ∧ b0.toNat ≤ 239)
    (h1 : 128 ≤ b1.toNat ∧ b1.toNat ≤ 191) (h224 : b0 = 224 → 160 ≤ b1.toNat) (h237 : b0 = 237 → b1.toNat ≤ 159)
    (h2 : 128 ≤ b2.toNat ∧ b2.toNat ≤ 191) : utf8Valid (b0 :: b1 :: b2 :: rest) = utf8Valid rest := by
  conv => lhs; unfold utf8Valid
  have n2 : ¬ ((decide (194 ≤ b0) && decide (b0 ≤ 223)) = true) := by
    rw [u8_between_iff]; show ¬ (194 ≤ b0.toNat ∧ b0.toNat ≤ 223); omega
  rw [if_neg (u8_not_ascii (by omega)), if_neg n2, if_pos ((u8_between_iff 224 239 b0).2 h0)]
  show ((if b0 == 224 then _ else _) && isCont b2 && utf8Valid rest) = _
  rw [second_ok 224 237 160 191 128 159 h1 (fun e => ⟨h224 e, h1.2⟩) (fun e => ⟨h1.1, h237 e⟩),
    (isCont_iff b2).2 h2, Bool.true_and, Bool.true_and]

theorem utf8Valid_four {b0 b1 b2 b3 : UInt8} (rest : List UInt8) (h0 : 240 ≤ b0.toNat ∧ b0.toNat ≤ 244)
    (h1 : 128 ≤ b1.toNat ∧ b1.toNat ≤ 191) (h240 : b0 = 240 → 144 ≤ b1.toNat) (h244 : b0 = 244 → b1.toNat ≤ 143)
    (h2 : 128 ≤ b2.toNat ∧ b2.toNat ≤ 191) (h3 : 128 ≤ b3.toNat ∧ b3.toNat ≤ 191) :
    utf8Valid (b0 :: b1 :: b2 :: b3 :: rest) = utf8Valid rest := by
  conv => lhs; unfold utf8Valid
  have n2 : ¬ ((decide (194 ≤ b0) && decide (b0 ≤ 223)) = true) := by
    rw [u8_between_iff]; show ¬ (194 ≤ b0.toNat ∧ b0.toNat ≤ 223); omega
  have n3 : ¬ ((decide (224 ≤ b0) && decide (b0 ≤ 239)) = true) := by
    rw [u8_between_iff]; show ¬ (224 ≤ b0.toNat ∧ b0.toNat ≤ 239); omega
  rw [if_neg (u8_not_ascii (by omega)), if_neg n2, if_neg n3, if_pos ((u8_between_iff 240 244 b0).2 h0)]
  show ((if b0 == 240 then _ else _) && isCont b2 && isCont b3 && utf8Valid rest) = _
  rw [second_ok 240 244 144 191 128 143 h1 (fun e => ⟨h240 e, h1.2⟩) (fun e => ⟨h1.1, h244 e⟩),
    (isCont_iff b2).2 h2, (isCont_iff b3).2 h3, Bool.true_and, Bool.true_and, Bool.true_and]

theorem utf8Valid_ascii (b : UInt8) (rest : List UInt8) (h : b < 128) : utf8Valid (b :: rest) = utf8Valid rest := by
  conv => lhs; unfold utf8Valid
  exact if_pos h

theorem u8_ofNat_inj {n k : Nat} (hn : n < 256) (hk : k < 256) (e : UInt8.ofNat n = UInt8.ofNat k) : n = k := by
  have := congrArg UInt8.toNat e
  rwa [u8_ofNat_toNat n hn, u8_ofNat_toNat k hk] at this

/-- the bytes `String.utf8EncodeChar` writes for a scalar value are one well-formed sequence of Unicode
    table 3-7: the narrow second-byte ranges after `E0 ED F0 F4` are what "no overlong form, no surrogate,
    nothing above U+10FFFF" amounts to -/
theorem utf8Valid_char (c : Char) (rest : List UInt8) :
    utf8Valid (String.utf8EncodeChar c ++ rest) = utf8Valid rest := by
  have hv := c.valid
  simp only [Nat.isValidChar, UInt32.isValidChar] at hv
  unfold String.utf8EncodeChar
  simp only
  generalize hvn : c.val.toNat = v at *
  by_cases h1 : v ≤ 127
  · simp only [h1, if_true, List.cons_append, List.nil_append]
    refine utf8Valid_ascii _ rest ?_
    rw [UInt8.lt_iff_toNat_lt, u8_ofNat_toNat v (by omega)]
    exact Nat.lt_succ_of_le h1
  by_cases h2 : v ≤ 2047
  · simp only [h1, h2, if_true, if_false, List.cons_append, List.nil_append]
    refine utf8Valid_two rest ?_ ?_ <;> rw [u8_ofNat_toNat _ (by omega)] <;> omega
  by_cases h3 : v ≤ 65535
  · simp only [h1, h2, h3, if_true, if_false, List.cons_append, List.nil_append]
    refine utf8Valid_three rest ?_ ?_ (fun e => ?_) (fun e => ?_) ?_
    · rw [u8_ofNat_toNat _ (by omega)]; omega
    · rw [u8_ofNat_toNat _ (by omega)]; omega
    · have := u8_ofNat_inj (k := 224) (by omega) (by decide) e
      rw [u8_ofNat_toNat _ (by omega)]; omega
    · have := u8_ofNat_inj (k := 237) (by omega) (by decide) e
      rw [u8_ofNat_toNat _ (by omega)]; omega
    · rw [u8_ofNat_toNat _ (by omega)]; omega
  · simp only [h1, h2, h3, if_false, List.cons_append, List.nil_append]
    refine utf8Valid_four rest ?_ ?_ (fun e => ?_) (fun e => ?_) ?_ ?_
    · rw [u8_ofNat_toNat _ (by omega)]; omega
    · rw [u8_ofNat_toNat _ (by omega)]; omega
    · have := u8_ofNat_inj (k := 240) (by omega) (by decide) e
      rw [u8_ofNat_toNat _ (by omega)]; omega
    · have := u8_ofNat_inj (k := 244) (by omega) (by decide) e
      rw [u8_ofNat_toNat _ (by omega)]; omega
    · rw [u8_ofNat_toNat _ (by omega)]; omega
    · rw [u8_ofNat_toNat _ (by omega)]; omega

theorem utf8Valid_chars (m : List Char) : utf8Valid (m.flatMap String.utf8EncodeChar) = true := by
  induction m with
  | nil => rfl
  | cons c m ih => rw [List.flatMap_cons, utf8Valid_char, ih]

/-- the UTF-8 bytes of a Lean string pass the model's `str::from_utf8` check -/
theorem utf8Valid_strBytes (s : String) : utf8Valid (strBytes s) = true := by
  obtain ⟨m, hm⟩ := s.isValidUTF8
  unfold strBytes
  have : s.toUTF8 = m.utf8Encode := hm
  rw [this]
  simp only [List.utf8Encode]
  simpa using utf8Valid_chars m

end ContentBytes
