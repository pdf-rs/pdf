import PdfModel.Lemmas.Parser

/-! Indirect objects `n g obj … endobj` and stream objects. -/

namespace PdfLex
open PdfSyntax (Gap Bnd NatTok Spells SpellsEntries needsBnd WF WFE vdepth vdepthE need needE keysOf)

variable {R : Type}

theorem kw_obj_regular : ∀ b ∈ kwObj, isRegular b = true :=
  List.all_eq_true.mp (by decide +kernel)
theorem kw_endobj_regular : ∀ b ∈ kwEndobj, isRegular b = true :=
  List.all_eq_true.mp (by decide +kernel)
theorem kw_endstream_regular : ∀ b ∈ kwEndstream, isRegular b = true :=
  List.all_eq_true.mp (by decide +kernel)
theorem kw_stream_regular : ∀ b ∈ kwStream, isRegular b = true :=
  List.all_eq_true.mp (by decide +kernel)

theorem nextExpect_regular {buf : Buf} (g t rest : List UInt8) (pos : Nat) (hg : Gap g)
    (h : Suffix buf pos (g ++ t ++ rest)) (hne : t ≠ []) (ht : ∀ b ∈ t, isRegular b = true) (hb : Bnd rest) :
    nextExpect buf pos t = .ok (pos + g.length + t.length) := by
  obtain ⟨hn, hsl⟩ := next_regular g t rest pos hg h hne ht hb
  simp [nextExpect, hn, hsl]

/-- the header `n g obj` -/
theorem parseObjHeader_spec {buf : Buf} (g0 a g1 b g2 rest : List UInt8) (id gen pos : Nat) (hg0 : Gap g0)
    (ha : NatTok a id) (hb : NatTok b gen) (hg1 : Gap g1) (hg1ne : g1 ≠ []) (hg2 : Gap g2) (hg2ne : g2 ≠ [])
    (hid : id ≤ 18446744073709551615) (hgen : gen ≤ 18446744073709551615)
    (h : Suffix buf pos (g0 ++ a ++ g1 ++ b ++ g2 ++ kwObj ++ rest)) (hbnd : Bnd rest) :
    parseObjHeader buf pos = .ok ((id, gen), pos + (g0 ++ a ++ g1 ++ b ++ g2 ++ kwObj).length) := by
  obtain ⟨a1, a2, a3, a4⟩ := natTok_spec a id ha hid
  obtain ⟨b1, b2, b3, b4⟩ := natTok_spec b gen hb hgen
  have h1 : Suffix buf pos (g0 ++ a ++ (g1 ++ b ++ (g2 ++ kwObj ++ rest))) := by simpa using h
  obtain ⟨hn, hsl⟩ := next_regular g0 a _ pos hg0 h1 a3 a4 (by simpa using gap_bnd hg1 hg1ne _)
  obtain ⟨hn2, hsl2⟩ := next_regular g1 b _ _ hg1 h1.drop₂ b3 b4 (by simpa using gap_bnd hg2 hg2ne _)
  have h4 := nextExpect_regular g2 kwObj rest _ hg2 h1.drop₂.drop₂ (by decide) kw_obj_regular hbnd
  simp only [parseObjHeader, hn, Out.bind_ok, hsl, a2, hn2, hsl2, b2, h4]
  simp; omega

theorem ahead_endobj {buf : Buf} (g rest : List UInt8) (q : Nat) (hg : Gap g)
    (h : Suffix buf q (g ++ kwEndobj ++ rest)) (hb : Bnd rest) : Ahead buf q := by
  obtain ⟨hn, hsl⟩ := next_regular g kwEndobj rest q hg h (by decide) kw_endobj_regular hb
  exact ahead_of_lexeme _ kwEndobj hn hsl (by decide) (by decide) (fun hi => absurd hi (by decide))

/-- header, value and `endobj` make an indirect object (both settings of `allow_missing_endobj`) -/
theorem parseIndirectObject_of (env : Env R) {buf : Buf} {fuel pos flags p1 p2 p3 : Nat} {id : Nat × Nat} {v : Prim R}
    (hh : parseObjHeader buf pos = .ok (id, p1))
    (hv : parseCtx env buf fuel p1 (some id) flags maxDepth = .ok (v, p2))
    (he : nextExpect buf p2 kwEndobj = .ok p3) :
    parseIndirectObject env buf fuel pos flags = .ok ((id, v), p3) := by
  simp only [parseIndirectObject, hh, Out.bind_ok, hv, he]
  cases env.allowMissingEndobj <;> rfl

/-- the frame `n g obj … endobj` around the text `txt` of the object: the header is read, `txt` stands behind it,
    and behind `txt` comes `endobj`, which does not merge with it -/
theorem indirect_frame {buf : Buf} (g0 a g1 b g2 g3 txt g4 rest : List UInt8) (id gen pos : Nat) (hg0 : Gap g0)
    (ha : NatTok a id) (hb : NatTok b gen) (hg1 : Gap g1) (hg1ne : g1 ≠ []) (hg2 : Gap g2) (hg2ne : g2 ≠ [])
    (hid : id ≤ 18446744073709551615) (hgen : gen ≤ 18446744073709551615) (hg4 : Gap g4)
    (h : Suffix buf pos (g0 ++ a ++ g1 ++ b ++ g2 ++ kwObj ++ g3 ++ txt ++ g4 ++ kwEndobj ++ rest))
    (hb3 : Bnd (g3 ++ txt ++ g4 ++ kwEndobj ++ rest)) (hbnd : Bnd rest) :
    ∃ p1, parseObjHeader buf pos = .ok ((id, gen), p1) ∧ Suffix buf p1 (g3 ++ txt ++ (g4 ++ kwEndobj ++ rest)) ∧
      Ahead buf (p1 + g3.length + txt.length) ∧
      nextExpect buf (p1 + g3.length + txt.length) kwEndobj =
        .ok (pos + (g0 ++ a ++ g1 ++ b ++ g2 ++ kwObj ++ g3 ++ txt ++ g4 ++ kwEndobj).length) := by
  have h2 : Suffix buf (pos + (g0 ++ a ++ g1 ++ b ++ g2 ++ kwObj).length) (g3 ++ txt ++ (g4 ++ kwEndobj ++ rest)) :=
    Suffix.drop (by simpa using h)
  have h3 := h2.drop₂
  refine ⟨_, parseObjHeader_spec g0 a g1 b g2 _ id gen pos hg0 ha hb hg1 hg1ne hg2 hg2ne hid hgen (by simpa using h) hb3,
    h2, ahead_endobj g4 rest _ hg4 h3 hbnd, ?_⟩
  rw [nextExpect_regular g4 kwEndobj rest _ hg4 h3 (by decide) kw_endobj_regular hbnd]
  simp; omega

/-! ### streams -/

/-- `/Length` of the dictionary is the length of the data: directly, or through the resolver -/
def LengthIs (env : Env R) (info : Dict R) (n : Nat) : Prop :=
  dictGet info kwLength = some (.int (n : Int)) ∨
  ∃ i g, dictGet info kwLength = some (.ref i g) ∧ env.resolveLen i g = .ok n

theorem nextStream_spec {buf : Buf} (g eol rest : List UInt8) (pos : Nat) (hg : Gap g)
    (heol : eol = [10] ∨ eol = [13, 10]) (h : Suffix buf pos (g ++ kwStream ++ eol ++ rest)) :
    nextStream buf pos = .ok (pos + g.length + kwStream.length + eol.length) := by
  have hb : Bnd (eol ++ rest) := by rcases heol with rfl | rfl <;> (simp only [List.cons_append, Bnd]; decide)
  have h1 : Suffix buf pos (g ++ kwStream ++ (eol ++ rest)) := by simpa using h
  have hn : nextWord buf pos = .ok (pos + g.length, pos + g.length + kwStream.length) :=
    (next_regular g kwStream _ pos hg h1 (by decide) kw_stream_regular hb).1
  have h2 : Suffix buf (pos + g.length + 6) (eol ++ rest) := h1.drop₂
  have hle := h2.le
  have e1 : pos + g.length + kwStream.length - (pos + g.length + kwStream.length - (pos + g.length)) = pos + g.length := by
    omega
  simp only [nextStream, hn, Out.bind_ok, e1]
  rw [if_neg (by omega), if_neg (by omega)]
  rcases heol with rfl | rfl
  · simp [Suffix.get0 h2, show kwStream.length = 6 from rfl]
  · simp [Suffix.get0 h2, Suffix.get0 (Suffix.tail h2), show kwStream.length = 6 from rfl]

theorem readN_inside {buf : Buf} (pos n : Nat) (h : pos + n < buf.size) (hsz : buf.size ≤ 2147483647) :
    readN buf pos n = .ok ((pos, pos + n), pos + n) := by
  unfold readN
  have hm : min (pos + n) usizeMax = pos + n := by unfold usizeMax; omega
  have h1 : ¬ (pos + n ≥ buf.size) := by omega
  have h2 : pos < buf.size := by omega
  simp only [hm, h1, h2, if_false, if_true]
  rw [newSubstr_fwd (by omega) (by omega)]
  rfl

/-- the value the parser returns for a stream object whose data starts at `dataPos` -/
def streamAt (env : Env R) (info : Dict R) (id : Nat × Nat) (dataPos len : Nat) : Prim R :=
  .stream info (.inFile id.1 id.2 (env.fileOffset + dataPos) (env.fileOffset + dataPos + len))

/-- `parse_stream_object` on `g stream EOL data g endstream` -/
theorem parseStreamObject_spec (env : Env R) {buf : Buf} (hsz : buf.size ≤ 2147483647) (info : Dict R)
    (g2 eol data g3 rest : List UInt8) (pos : Nat) (id : Nat × Nat) (hg2 : Gap g2) (heol : eol = [10] ∨ eol = [13, 10])
    (hg3 : Gap g3) (hlen : LengthIs env info data.length)
    (h : Suffix buf pos (g2 ++ kwStream ++ eol ++ data ++ g3 ++ kwEndstream ++ rest)) (hb : Bnd rest) :
    parseStreamObject env buf pos info id =
      .ok (streamAt env info id (pos + g2.length + kwStream.length + eol.length) data.length,
          pos + (g2 ++ kwStream ++ eol ++ data ++ g3 ++ kwEndstream).length) := by
  unfold streamAt
  have h1 : Suffix buf pos (g2 ++ kwStream ++ (eol ++ (data ++ (g3 ++ kwEndstream ++ rest)))) := by simpa using h
  have hns := nextStream_spec g2 eol (data ++ g3 ++ kwEndstream ++ rest) pos hg2 heol (by simpa using h)
  have h3 : Suffix buf (pos + g2.length + kwStream.length + eol.length + data.length) (g3 ++ kwEndstream ++ rest) :=
    h1.drop₂.drop.drop
  have hsize := h3.size_eq
  simp only [List.length_append, show kwEndstream.length = 9 from rfl] at hsize
  have hrd := readN_inside (buf := buf) (pos + g2.length + kwStream.length + eol.length) data.length (by omega) hsz
  have hne := nextExpect_regular g3 kwEndstream rest _ hg3 h3 (by decide) kw_endstream_regular hb
  rcases hlen with hl | ⟨i, g, hl, hr⟩
  · have : (data.length : Int) ≥ 0 := by omega
    simp only [parseStreamObject, hns, Out.bind_ok, hl, this, if_true, Int.toNat_natCast, hrd, hne]
    simp; omega
  · simp only [parseStreamObject, hns, Out.bind_ok, hl, hr, hrd, hne]
    simp; omega

end PdfLex
