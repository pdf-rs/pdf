import PdfModel.Lemmas.DeriveRegistry

/-! The first law of C15 from the value side: `read (write x) = x` — for the containers and, through
    `struct_reads_back`, for every model of a registry at every nesting depth; for values that need not have come out of
    the reader. -/

namespace Derive

/-! ## the containers -/

theorem shape_reads_back (cfg : Cfg) (sem : Sem) (env : Env) (lok : Shape → Val → Prop) (law : sem.LawV env lok) :
    ∀ (s : Shape) (v : Val), ValOkV cfg sem env lok s v →
      ReadsBack (readShape cfg sem env s) (writeShape sem s) v := by
  intro s
  induction s with
  | leaf n | model n | param n => intro v hv; exact law _ v rfl hv
  | leafApp n a _ | modelApp n a _ => intro v hv; exact law _ v rfl hv
  | option a ih =>
    intro v hv p hw
    rcases writeShape_option_ok hw with ⟨rfl, rfl⟩ | ⟨w, rfl, hw⟩
    · rfl
    · have hv' : ValOkV cfg sem env lok a w ∧ ∀ p, writeShape sem a w = .ok p → p.isNull = false := hv
      rw [readShape_option_ok (ih w hv'.1 p hw), hv'.2 p hw]; rfl
  | vec a ih =>
    intro v hv p hw
    obtain ⟨vs, ps, rfl, hm, rfl⟩ := writeShape_vec_ok hw
    have hr := mapR_exact (fun v => writeShape sem a v) (fun x => readShape cfg sem env a x)
      (fun v => ValOkV cfg sem env lok a v) (fun x hx y hy => ih x hx y hy) vs hv ps hm
    simp [readShape, Prim.isRef, hr]
  | hashMap a ih =>
    intro v hv p hw
    rcases writeShape_hashMap_ok hw with ⟨rfl, rfl⟩ | ⟨kvs, d, _, rfl, hm, rfl⟩
    · rfl
    · have hr := mapKV_exact (fun v => writeShape sem a v) (fun x => readShape cfg sem env a x)
        (fun v => ValOkV cfg sem env lok a v) (fun x hx y hy => ih x hx y hy) kvs hv d hm
      simp [readShape, Prim.isRef, hr]
  | box a ih => intro v hv p hw; exact ih v hv p hw
  | maybeRef a ih =>
    intro v hv p hw
    rcases writeShape_maybeRef_ok hw with ⟨w, rfl, hw⟩ | ⟨w, rfl⟩
    · have hv' : ValOkV cfg sem env lok a w ∧ ∀ p, writeShape sem a w = .ok p → p.isRef = false := hv
      simp [readShape, hv'.2 p hw, ih w hv'.1 p hw]
    · have hv' : p.isRef = true ∧ getTyped env (fun q => readShape cfg sem env a q) p = .ok w := hv
      simp [readShape, hv'.1, hv'.2]
  | rcRef a _ =>
    intro v hv p hw
    obtain ⟨w, rfl⟩ := writeShape_rcRef_ok hw
    have hv' : p.isRef = true ∧ getTyped env (fun q => readShape cfg sem env a q) p = .ok w := hv
    simp [readShape, hv'.1, hv'.2]
  | ref a _ =>
    intro v hv p hw
    cases writeShape_ref_ok hw
    have hr : p.isRef = true := hv
    simp [readShape, hr]
  | lazy a _ => intro v hv p hw; cases writeShape_lazy_ok hw; rfl
  | pair a b iha ihb =>
    intro v hv p hw
    obtain ⟨x, y, px, py, rfl, hx, hy, rfl⟩ := writeShape_pair_ok hw
    have hv' : ValOkV cfg sem env lok a x ∧ ValOkV cfg sem env lok b y := hv
    simp [readShape, resolve1, resolveP, iha x hv'.1 px hx, ihb y hv'.2 py hy]

/-- an `indirect` field gives its value back exactly only if the value is written as a reference already (anything
    else is moved into a new object by the writer and comes back as `Indirect`) -/
def IndirectOkV (sem : Sem) (f : Field) (v : Val) : Prop :=
  f.indirect = false ∨ ∀ p, writeShape sem f.shape v = .ok p → p.isNull = false → p.isRef = true

/-- from the exact shape law to the exact field law -/
theorem fieldLawV_of_readsBack (cfg : Cfg) (sem : Sem) (env : Env) (f : Field) (v : Val)
    (hind : IndirectOkV sem f v)
    (h : ReadsBack (readShape cfg sem env f.shape) (writeShape sem f.shape) v) :
    FieldLawV cfg sem env f v := by
  intro e he
  simp only [emit] at he
  cases hw : writeShape sem f.shape v with
  | error err => simp [hw] at he
  | ok p =>
    simp only [hw] at he
    have hr := h p hw
    cases hp : p.isNull with
    | true =>
      simp [hp] at he; subst he
      have : p = .null := by cases p <;> simp [Prim.isNull] at hp; rfl
      subst this
      simpa using hr
    | false =>
      simp [hp] at he; subst he
      have hio : indirectOf f p = p := by
        rcases hind with hni | href
        · simp [indirectOf, hni]
        · simp [indirectOf, href p hw hp]
      simpa [hio] using hr

theorem fieldLaw_of_fieldLawV {cfg : Cfg} {sem : Sem} {env : Env} {f : Field} {v : Val}
    (h : FieldLawV cfg sem env f v) : FieldLaw cfg sem env f v :=
  fun e he => ⟨v, h e he, he⟩

/-! ## every model of a registry, at every nesting depth -/

/-- a value of a derived struct that is given back exactly: every keyed field is, and the catch-all already
    holds the type tag and the checked entries (a nested value; at the top level `struct_reads_back` says what the
    catch-all gains) -/
def structOkV (cfg : Cfg) (inner : Sem) (env : Env) (lok : Shape → Val → Prop) (S : Schema) (v : Val) : Prop :=
  ∃ vals other, v = .struct vals other ∧ (S.hasOther = true → otherUnrecognised S other) ∧
    otherAfter S other = other ∧
    FieldsOk (fun f w => IndirectOkV inner f w ∧ ValOkV cfg inner env lok f.shape w ∧ DefaultedNonNull inner f w)
      S.fields vals

/-- `modelOk` with the exact domains: a struct value lies in `structOkV`, a `PagesRc` / `PageRc` value holds exactly what
    its reference reads as -/
def modelOkV (cfg : Cfg) (schemas : List Schema) (inner : Sem) (env : Env) (lok : Shape → Val → Prop) :
    Shape → Val → Prop
  | .model m, v => ∃ S, findSchema m schemas = some S ∧
      ((S.kind = .struct ∧ S.derivesRead = true ∧ structOkV cfg inner env lok S v) ∨
       ((S.kind = .nameEnum ∨ S.kind = .intEnum) ∧ enumValid S v = true))
  | .modelApp _ _, _ => False
  | .leaf n, v =>
    if n = "PagesRc" then ∃ r w, v = .indirect r w ∧ readPagesRc cfg schemas inner env "Pages" r = .ok v
    else if n = "PageRc" then ∃ r w, v = .indirect r w ∧ readPagesRc cfg schemas inner env "Page" r = .ok v
    else if n = "PagesNode" then False
    else lok (.leaf n) v
  | s, v => lok s v

theorem structOkV_readsBack (cfg : Cfg) (inner : Sem) (env : Env) (lok : Shape → Val → Prop)
    (law : inner.LawV env lok) (S : Schema) (hk : S.kind = .struct) (hrd : S.derivesRead = true) (wf : S.WF)
    (v : Val) (hv : structOkV cfg inner env lok S v) :
    ReadsBack (readStruct cfg inner env S) (writeStruct inner S) v := by
  obtain ⟨vals, other, rfl, hoth, hafter, hok⟩ := hv
  intro p hw
  have := struct_reads_back cfg inner env S hk hrd wf vals other hoth
    (FieldsOk_mono (fun f w ⟨hio, hval, hnn⟩ =>
      ⟨fieldLawV_of_readsBack cfg inner env f w hio (shape_reads_back cfg inner env lok law f.shape w hval), hnn⟩)
      S.fields vals hok) p hw
  rw [this, hafter]

theorem structSem_lawV (cfg : Cfg) (schemas : List Schema) (inner : Sem) (env : Env) (lok : Shape → Val → Prop)
    (hwf : ∀ S ∈ schemas, S.WF) (law : inner.LawV env lok) :
    (structSem cfg schemas inner).LawV env (modelOkV cfg schemas inner env lok) := by
  intro s v hnc hok
  -- `PagesRc` / `PageRc`: the value holds what its reference reads as
  have rc : ∀ want, (∃ r w, v = .indirect r w ∧ readPagesRc cfg schemas inner env want r = .ok v) →
      ReadsBack (readPagesRc cfg schemas inner env want)
        (fun v => match v with | .indirect r _ => .ok r | _ => .error .other) v := by
    rintro want ⟨r, w, rfl, hr⟩ p hw
    cases hw; exact hr
  cases s with
  | model m =>
    obtain ⟨S, hfind, hcase⟩ := hok
    rcases hcase with ⟨hk, hrd, hv⟩ | ⟨hk, hv⟩
    · obtain ⟨er, ew⟩ := structSem_model_struct cfg schemas inner hfind hk env
      rw [er, ew]
      exact structOkV_readsBack cfg inner env lok law S hk hrd (hwf S (findSchema_mem hfind).1) v hv
    · obtain ⟨er, ew⟩ := structSem_model_enum cfg schemas inner hfind hk env
      rw [er, ew]
      exact fun p hw => (enum_write_read env S v p hw).1
  | modelApp m a => exact hok.elim
  | leaf n =>
    simp only [modelOkV] at hok
    by_cases h1 : n = "PagesRc"
    · rw [if_pos h1] at hok; subst h1; exact rc "Pages" hok
    by_cases h2 : n = "PageRc"
    · rw [if_neg h1, if_pos h2] at hok; subst h2; exact rc "Page" hok
    by_cases h3 : n = "PagesNode"
    · rw [if_neg h1, if_neg h2, if_pos h3] at hok; exact hok.elim
    rw [if_neg h1, if_neg h2, if_neg h3] at hok
    rw [structSem_rd_other cfg schemas inner h1 h2 h3, structSem_wr_other cfg schemas inner h1 h2 h3]
    exact law _ v rfl hok
  | leafApp n a => exact law _ v rfl hok
  | param n => exact law _ v rfl hok
  | _ => simp [Shape.isContainer] at hnc

/-- the values the `n`-level semantics gives back exactly -/
def okNV (cfg : Cfg) (schemas : List Schema) (env : Env) : Nat → Shape → Val → Prop
  | 0 => baseOk
  | n + 1 => modelOkV cfg schemas (semN cfg schemas n) env (okNV cfg schemas env n)

theorem semN_lawV (cfg : Cfg) (schemas : List Schema) (env : Env) (hwf : ∀ S ∈ schemas, S.WF) :
    ∀ n, (semN cfg schemas n).LawV env (okNV cfg schemas env n)
  | 0 => baseSem_lawV env
  | n + 1 => structSem_lawV cfg schemas (semN cfg schemas n) env (okNV cfg schemas env n) hwf (semN_lawV cfg schemas env hwf n)

end Derive
