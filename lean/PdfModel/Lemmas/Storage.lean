import PdfModel.Model.Storage
import PdfModel.Lemmas.Xref

/-! Helper lemmas for C09 / C10: the finite map `changes`, lookups in an append-only backend, the loop of
    `save` over the changes, `write_stream` rows, the `/Prev` walk, and the table a reload rebuilds. -/

namespace Storage
open Xref

variable {V : Type}

/-! ### `changes` -/

theorem chLookup_cons (i : Nat) (y : V × Nat) (rest : List (Nat × V × Nat)) (j : Nat) :
    chLookup ((i, y) :: rest) j = if i = j then some y else chLookup rest j := rfl

theorem chLookup_chInsert (l : List (Nat × V × Nat)) (id : Nat) (x : V × Nat) (j : Nat) :
    chLookup (chInsert l id x) j = if j = id then some x else chLookup l j := by
  induction l with
  | nil => simp only [chInsert, chLookup, eq_comm]
  | cons h t ih =>
    obtain ⟨i, y⟩ := h
    simp only [chInsert]
    split
    · simp only [chLookup_cons, eq_comm]
    · split
      · subst_vars
        by_cases h : j = i
        · simp only [chLookup_cons, h, if_true]
        · simp only [chLookup_cons, h, Ne.symm h, if_false]
      · rename_i hne
        rw [chLookup_cons, chLookup_cons, ih]
        by_cases h : i = j
        · rw [if_pos h, if_pos h, if_neg (h ▸ Ne.symm hne)]
        · rw [if_neg h, if_neg h]

def keys (l : List (Nat × V × Nat)) : List Nat := l.map (·.1)

theorem chLookup_none_iff (l : List (Nat × V × Nat)) (j : Nat) : chLookup l j = none ↔ j ∉ keys l := by
  induction l with
  | nil => simp [chLookup, keys]
  | cons h t ih =>
    obtain ⟨i, y⟩ := h
    rw [chLookup_cons, keys, List.map_cons, List.mem_cons, not_or]
    by_cases h : i = j
    · simp [h]
    · rw [if_neg h, ih]; exact ⟨fun h' => ⟨Ne.symm h, h'⟩, fun h' => h'.2⟩

theorem mem_keys_chInsert (l : List (Nat × V × Nat)) (id : Nat) (x : V × Nat) (j : Nat) :
    j ∈ keys (chInsert l id x) ↔ j = id ∨ j ∈ keys l := by
  have hk : ∀ l : List (Nat × V × Nat), j ∈ keys l ↔ chLookup l j ≠ none := fun l => by
    rw [Ne, chLookup_none_iff, Decidable.not_not]
  rw [hk, hk, chLookup_chInsert]
  by_cases h : j = id <;> simp [h]

/-- strictly increasing keys: what `chInsert` maintains (and more than `save` needs: distinct keys) -/
def Sorted : List (Nat × V × Nat) → Prop
  | [] => True
  | (i, _) :: rest => (∀ k ∈ keys rest, i < k) ∧ Sorted rest

theorem sorted_chInsert (l : List (Nat × V × Nat)) (id : Nat) (x : V × Nat) (h : Sorted l) :
    Sorted (chInsert l id x) := by
  induction l with
  | nil => simp [chInsert, Sorted, keys]
  | cons hd t ih =>
    obtain ⟨i, y⟩ := hd
    obtain ⟨h1, h2⟩ := h
    simp only [chInsert]
    split
    · refine ⟨fun k hk => ?_, h1, h2⟩
      rcases List.mem_cons.mp hk with rfl | hk
      · assumption
      · exact Nat.lt_trans ‹id < i› (h1 k hk)
    · split
      · exact ⟨h1, h2⟩
      · refine ⟨fun k hk => ?_, ih h2⟩
        rcases (mem_keys_chInsert ..).mp hk with rfl | hk
        · omega
        · exact h1 k hk

theorem chLookup_head_of_sorted (i : Nat) (y : V × Nat) (rest : List (Nat × V × Nat)) (h : Sorted ((i, y) :: rest)) :
    chLookup rest i = none :=
  (chLookup_none_iff rest i).mpr fun hk => Nat.lt_irrefl i (h.1 i hk)

/-! ### lookups in the backend -/

theorem objAt_append (a b : List (Obj V)) (off : Nat) : objAt (a ++ b) off = (objAt a off).or (objAt b off) :=
  List.find?_append

theorem objAt_eq_none (a : List (Obj V)) (off : Nat) (h : ∀ o ∈ a, o.off ≠ off) : objAt a off = none :=
  List.find?_eq_none.mpr fun o ho => by simpa using h o ho

theorem objAt_append_left (a b : List (Obj V)) (off : Nat) (o : Obj V) (h : objAt a off = some o) :
    objAt (a ++ b) off = some o := by
  rw [objAt_append, h]; rfl

theorem objAt_append_right (a b : List (Obj V)) (off : Nat) (h : ∀ o ∈ a, o.off ≠ off) :
    objAt (a ++ b) off = objAt b off := by
  rw [objAt_append, objAt_eq_none a off h]; rfl

theorem objAt_append_old (a b : List (Obj V)) (off : Nat) (h : ∀ o ∈ b, o.off ≠ off) :
    objAt (a ++ b) off = objAt a off := by
  rw [objAt_append, objAt_eq_none b off h, Option.or_none]

theorem objAt_singleton (o : Obj V) : objAt [o] o.off = some o := by
  simp [objAt]

theorem objAt_off (a : List (Obj V)) (off : Nat) (o : Obj V) (h : objAt a off = some o) : o.off = off ∧ o ∈ a :=
  ⟨by simpa using List.find?_some h, List.mem_of_find?_eq_some h⟩

theorem secAt_append_left (a b : List Sec) (off : Nat) (s : Sec) (h : secAt a off = some s) :
    secAt (a ++ b) off = some s := by
  rw [secAt, List.find?_append, ← secAt, h]; rfl

/-- a section appended behind sections that all start elsewhere is found at its offset -/
theorem secAt_append_right (a b : List Sec) (off : Nat) (h : ∀ s ∈ a, s.off ≠ off) :
    secAt (a ++ b) off = secAt b off := by
  have : secAt a off = none := List.find?_eq_none.mpr fun s hs => by simpa using h s hs
  rw [secAt, List.find?_append, ← secAt, this]; rfl

/-! ### the loop of `save` over the changes -/

/-- the records the loop appends lie behind what was there and carry numbers of the table -/
theorem writeChanges_extends (P : Params V) (L : Layout) (start : Nat) :
    ∀ (ch : List (Nat × V × Nat)) (w : Written V),
      (∃ e, (writeChanges P L start ch w).1.objs = w.objs ++ e ∧ ∀ o ∈ e, w.len ≤ o.off ∧ o.id < w.refs.length) ∧
      w.len ≤ (writeChanges P L start ch w).1.len := by
  -- nothing appended
  have stay : ∀ w : Written V, (∃ e, w.objs = w.objs ++ e ∧ ∀ o ∈ e, w.len ≤ o.off ∧ o.id < w.refs.length) ∧
      w.len ≤ w.len := fun w => ⟨⟨[], (List.append_nil _).symm, nofun⟩, Nat.le_refl _⟩
  intro ch
  induction ch with
  | nil => exact stay
  | cons hd rest ih =>
    obtain ⟨i, v, g⟩ := hd
    intro w
    simp only [writeChanges]
    split
    · split
      · obtain ⟨⟨e, a, b⟩, c⟩ := ih ⟨w.refs.set i (.raw (w.len - start) g), w.objs ++ [⟨w.len, i, g, v, []⟩], w.len + L.recLen i⟩
        simp only [List.length_set] at a b c
        refine ⟨⟨(⟨w.len, i, g, v, []⟩ : Obj V) :: e, by rw [a, List.append_assoc]; rfl, fun o ho => ?_⟩, by omega⟩
        rcases List.mem_cons.mp ho with rfl | ho
        · exact ⟨Nat.le_refl _, ‹i < _›⟩
        · exact ⟨by have := (b o ho).1; omega, (b o ho).2⟩
      · exact stay w
    · exact stay w

/-- every row of the table after the loop is the row before it, or the direct entry of a pending number -/
theorem writeChanges_rows (P : Params V) (L : Layout) (start : Nat) :
    ∀ (ch : List (Nat × V × Nat)) (w w' : Written V) (o : Out Unit),
      writeChanges P L start ch w = (w', o) → Sorted ch →
      w'.refs.length = w.refs.length ∧ o ≠ .oof ∧
      ∀ id, w'.refs[id]? = w.refs[id]? ∨
        ∃ v g pos, chLookup ch id = some (v, g) ∧ w'.refs[id]? = some (.raw pos g) := by
  intro ch
  induction ch with
  | nil =>
    intro w w' o h _
    cases h
    exact ⟨rfl, nofun, fun _ => Or.inl rfl⟩
  | cons hd rest ih =>
    obtain ⟨i, v0, g0⟩ := hd
    intro w w' o h hs
    have hnone : chLookup rest i = none := chLookup_head_of_sorted i (v0, g0) rest hs
    -- the row the loop body sets
    have hset : i < w.refs.length → ∀ id, (w.refs.set i (.raw (w.len - start) g0))[id]? = w.refs[id]? ∨
        ∃ v g pos, chLookup ((i, v0, g0) :: rest) id = some (v, g) ∧
          (w.refs.set i (.raw (w.len - start) g0))[id]? = some (.raw pos g) := by
      intro hlt id
      by_cases hid : i = id
      · subst hid
        exact Or.inr ⟨v0, g0, _, by rw [chLookup_cons, if_pos rfl], by rw [List.getElem?_set_self hlt]⟩
      · exact Or.inl (List.getElem?_set_ne hid)
    simp only [writeChanges] at h
    split at h
    · rename_i hlt
      split at h
      · obtain ⟨h1, h2, h3⟩ := ih _ _ _ h hs.2
        refine ⟨by rw [h1, List.length_set], h2, fun id => ?_⟩
        rcases h3 id with h3 | ⟨v, g, pos, hc, h3⟩
        · rw [h3]; exact hset hlt id
        · have hid : i ≠ id := fun hid => by rw [← hid, hnone] at hc; cases hc
          exact Or.inr ⟨v, g, pos, by rw [chLookup_cons, if_neg hid]; exact hc, h3⟩
      · cases h
        exact ⟨List.length_set, nofun, hset hlt⟩
    · cases h
      exact ⟨rfl, nofun, fun _ => Or.inl rfl⟩

/-- `writeChanges_rows` by cases on whether the number has a pending value -/
theorem writeChanges_frame (P : Params V) (L : Layout) (start : Nat)
    (ch : List (Nat × V × Nat)) (w w' : Written V) (o : Out Unit)
    (h : writeChanges P L start ch w = (w', o)) (hs : Sorted ch) :
      w'.refs.length = w.refs.length ∧
      (∀ id, chLookup ch id = none → w'.refs[id]? = w.refs[id]?) ∧
      (∀ id v g, chLookup ch id = some (v, g) →
          w'.refs[id]? = w.refs[id]? ∨ ∃ pos, w'.refs[id]? = some (.raw pos g)) ∧
      o ≠ .oof := by
  obtain ⟨h1, h2, h3⟩ := writeChanges_rows P L start ch w w' o h hs
  refine ⟨h1, fun id hc => ?_, fun id v g hc => ?_, h2⟩
  · rcases h3 id with h3 | ⟨_, _, _, hc', _⟩
    · exact h3
    · rw [hc] at hc'; cases hc'
  · rcases h3 id with h3 | ⟨_, _, pos, hc', h3⟩
    · exact Or.inl h3
    · rw [hc] at hc'; cases hc'; exact Or.inr ⟨pos, h3⟩

/-- a successful run of the loop: every change got a record at a fresh offset and its row points there -/
theorem writeChanges_ok (P : Params V) (L : Layout) (start : Nat) (hL : ∀ id, 0 < L.recLen id) :
    ∀ (ch : List (Nat × V × Nat)) (w w' : Written V),
      writeChanges P L start ch w = (w', .ok ()) → Sorted ch → (∀ x ∈ w.objs, x.off < w.len) →
      w.len ≤ w'.len ∧
      (∃ ext, w'.objs = w.objs ++ ext ∧ ∀ x ∈ ext, w.len ≤ x.off) ∧
      (∀ x ∈ w'.objs, x.off < w'.len) ∧
      (∀ id v g, chLookup ch id = some (v, g) → id < w.refs.length ∧ P.ok v = true ∧
        ∃ off, w.len ≤ off ∧ w'.refs[id]? = some (.raw (off - start) g) ∧
          objAt w'.objs off = some ⟨off, id, g, v, []⟩) := by
  intro ch w w' h hs hw
  obtain ⟨⟨ext, e1, e2⟩, e3⟩ := writeChanges_extends P L start ch w
  rw [h] at e1 e3
  refine ⟨e3, ⟨ext, e1, fun x hx => (e2 x hx).1⟩, ?_⟩
  clear e1 e2 e3 ext
  induction ch generalizing w with
  | nil => cases h; exact ⟨hw, fun id v g h => nomatch h⟩
  | cons hd rest ih =>
    obtain ⟨i, v0, g0⟩ := hd
    simp only [writeChanges] at h
    split at h
    · rename_i hlt
      split at h
      · rename_i hok
        have hw1 : ∀ x ∈ (w.objs ++ [(⟨w.len, i, g0, v0, []⟩ : Obj V)]), x.off < w.len + L.recLen i := by
          intro x hx
          rcases List.mem_append.mp hx with hx | hx
          · exact Nat.lt_of_lt_of_le (hw x hx) (Nat.le_add_right _ _)
          · cases List.mem_singleton.mp hx; exact Nat.lt_add_of_pos_right (hL i)
        obtain ⟨k4, k5⟩ := ih _ h hs.2 hw1
        refine ⟨k4, fun id v g hid => ?_⟩
        rw [chLookup_cons] at hid
        split at hid
        · rename_i heq
          subst heq
          injection hid with hid; injection hid with hv hg
          subst hv hg
          obtain ⟨_, f2, _, _⟩ := writeChanges_frame P L start _ _ _ _ h hs.2
          obtain ⟨⟨ext, e1, _⟩, _⟩ := writeChanges_extends P L start rest
            ⟨w.refs.set i (.raw (w.len - start) g0), w.objs ++ [⟨w.len, i, g0, v0, []⟩], w.len + L.recLen i⟩
          rw [h] at e1
          refine ⟨hlt, hok, w.len, Nat.le_refl _, ?_, ?_⟩
          · rw [f2 i (chLookup_head_of_sorted i (v0, g0) rest hs)]; exact List.getElem?_set_self hlt
          · rw [e1]
            exact objAt_append_left _ _ _ _ (by
              rw [objAt_append_right _ _ _ fun o ho => Nat.ne_of_lt (hw o ho)]; exact objAt_singleton _)
        · obtain ⟨a1, a2, off, a3, a4, a5⟩ := k5 id v g hid
          exact ⟨by simpa using a1, a2, off, by have := hL i; simp only at a3; omega, a4, a5⟩
      · cases h
    · cases h

/-- every pending value can be serialised -/
def allOk (P : Params V) (ch : List (Nat × V × Nat)) : Bool := ch.all (fun x => P.ok x.2.1)

theorem allOk_cons (P : Params V) (i : Nat) (v : V) (g : Nat) (rest : List (Nat × V × Nat)) :
    allOk P ((i, v, g) :: rest) = (P.ok v && allOk P rest) := rfl

/-- the loop fails exactly on an unserialisable change -/
theorem writeChanges_outcome (P : Params V) (L : Layout) (start : Nat) :
    ∀ (ch : List (Nat × V × Nat)) (w : Written V), (∀ id ∈ keys ch, id < w.refs.length) →
      (writeChanges P L start ch w).2 = if allOk P ch then Out.ok () else Out.err := by
  intro ch
  induction ch with
  | nil => intro w _; rfl
  | cons hd rest ih =>
    obtain ⟨i, v0, g0⟩ := hd
    intro w hk
    have hlt : i < w.refs.length := hk i List.mem_cons_self
    simp only [writeChanges, hlt, if_true]
    rw [allOk_cons]
    by_cases hok : P.ok v0 = true
    · rw [if_pos hok, hok, Bool.true_and]
      exact ih _ fun id hid => by rw [List.length_set]; exact hk id (List.mem_cons_of_mem _ hid)
    · rw [if_neg hok, Bool.eq_false_iff.mpr hok]; rfl

/-! ### `write_stream` rows -/

theorem rowOf_isEntry (e r : XRef) (h : rowOf e = some r) : isEntry r = true := by
  cases e <;> simp [rowOf] at h <;> subst h <;> rfl

theorem rowOf_some_of_ne (e : XRef) (h : e ≠ .promised) : ∃ r, rowOf e = some r := by
  cases e <;> first | exact ⟨_, rfl⟩ | exact absurd rfl h

/-- an entry a section reader can produce is written as it stands -/
theorem rowOf_entry (e : XRef) (h : isEntry e = true) : rowOf e = some e := by
  cases e <;> first | rfl | cases h

/-- a row is the entry itself, except that an undefined number is written as a free one -/
theorem rowOf_eq (e r : XRef) (h : rowOf e = some r) : r = e ∨ (e = .invalid ∧ r = .free 0 65535) := by
  cases e <;> cases h <;> first | exact Or.inl rfl | exact Or.inr ⟨rfl, rfl⟩

theorem rowsOf_spec : ∀ (t rows : List XRef), rowsOf t = some rows →
    rows.length = t.length ∧ ∀ (j : Nat) (e : XRef), t[j]? = some e → ∃ r, rowOf e = some r ∧ rows[j]? = some r := by
  intro t
  induction t with
  | nil => intro rows h; cases h; exact ⟨rfl, nofun⟩
  | cons e es ih =>
    intro rows h
    simp only [rowsOf] at h
    split at h
    · rename_i r rs hr hrs
      cases h
      obtain ⟨h1, h2⟩ := ih rs hrs
      refine ⟨congrArg (· + 1) h1, fun j e' hj => ?_⟩
      cases j with
      | zero => cases hj; exact ⟨r, hr, rfl⟩
      | succ j => exact h2 j e' hj
    · cases h

theorem rowsOf_isSome : ∀ (t : List XRef), (∀ e ∈ t, e ≠ .promised) → ∃ rows, rowsOf t = some rows := by
  intro t
  induction t with
  | nil => intro _; exact ⟨[], rfl⟩
  | cons e es ih =>
    intro h
    obtain ⟨r, hr⟩ := rowOf_some_of_ne e (h e (by simp))
    obtain ⟨rs, hrs⟩ := ih (fun x hx => h x (by simp [hx]))
    exact ⟨r :: rs, by simp [rowsOf, hr, hrs]⟩

theorem rowsOf_none_of_promised (t : List XRef) (h : .promised ∈ t) : rowsOf t = none := by
  cases hr : rowsOf t with
  | none => rfl
  | some rows =>
    obtain ⟨j, hj⟩ := List.getElem?_of_mem h
    obtain ⟨r, ra, _⟩ := (rowsOf_spec t rows hr).2 j _ hj
    cases ra

theorem rows_all_entries (t rows : List XRef) (h : rowsOf t = some rows) : ∀ r ∈ rows, isEntry r = true := by
  intro r hr
  obtain ⟨h1, h2⟩ := rowsOf_spec t rows h
  obtain ⟨j, hj⟩ := List.getElem?_of_mem hr
  have hjl : j < t.length := h1 ▸ (List.getElem?_eq_some_iff.mp hj).1
  obtain ⟨r', a, b⟩ := h2 j t[j] (List.getElem?_eq_getElem hjl)
  cases hj.symm.trans b
  exact rowOf_isEntry _ _ a

/-! ### the `/Prev` walk -/

/-- more fuel and more (appended) sections do not change a walk that succeeded -/
theorem prevChain_mono (secs ext : List Sec) (start : Nat) :
    ∀ (fuel fuel' : Nat) (p : Option Nat) (seen : List Nat) (r : List (List Sub)),
      prevChain secs start fuel p seen = .ok r → fuel ≤ fuel' →
      prevChain (secs ++ ext) start fuel' p seen = .ok r := by
  intro fuel
  induction fuel with
  | zero =>
    intro fuel' p seen r h _
    cases p with
    | none => cases fuel' <;> exact h
    | some p => cases h
  | succ f ih =>
    intro fuel' p seen r h hle
    cases p with
    | none => cases fuel' <;> exact h
    | some p =>
      obtain _ | f' := fuel'
      · omega
      simp only [prevChain] at h ⊢
      split at h
      · cases h
      rename_i hseen
      rw [if_neg hseen]
      cases hs : secAt secs (start + p) with
      | none => rw [hs] at h; cases h
      | some s =>
        rw [secAt_append_left _ _ _ _ hs]
        cases hr : prevChain secs start f s.prev (p :: seen) with
        | ok r' =>
          simp only [hs, hr] at h ⊢
          rw [ih f' s.prev (p :: seen) r' hr (by omega)]
          exact h
        | _ => simp only [hs, hr] at h; cases h

/-! ### the table a reload rebuilds -/

theorem mentions_append (a b : List (Nat × XRef)) (j : Nat) :
    mentions (a ++ b) j = mentions a j ++ mentions b j := by
  simp [mentions, List.filter_append]

theorem mentions_cons (p : Nat × XRef) (ps : List (Nat × XRef)) (j : Nat) :
    mentions (p :: ps) j = if p.1 = j then p.2 :: mentions ps j else mentions ps j := by
  simp only [mentions, List.filter_cons, beq_iff_eq]
  split <;> rfl

theorem mentions_pairsFrom (rows : List XRef) : ∀ (i j : Nat),
    mentions (pairsFrom i rows) j = if i ≤ j then (rows[j - i]?).toList else [] := by
  induction rows with
  | nil => intro i j; simp [pairsFrom, mentions]
  | cons r rs ih =>
    intro i j
    rw [pairsFrom, mentions_cons, ih]
    rcases Nat.lt_trichotomy i j with h | rfl | h
    · rw [if_neg (Nat.ne_of_lt h), if_pos (show i + 1 ≤ j from h), if_pos (Nat.le_of_lt h),
        show j - i = j - (i + 1) + 1 by omega]
      rfl
    · rw [if_pos rfl, if_neg (Nat.not_succ_le_self i), if_pos (Nat.le_refl i), Nat.sub_self]; rfl
    · rw [if_neg (by omega), if_neg (by omega), if_neg (by omega)]

theorem mem_mentions (ps : List (Nat × XRef)) (j : Nat) (m : XRef) (h : m ∈ mentions ps j) : (j, m) ∈ ps := by
  simp only [mentions, List.mem_map, List.mem_filter] at h
  obtain ⟨p, ⟨hp, hj⟩, rfl⟩ := h
  have : p.1 = j := by simpa using hj
  rw [← this]; exact hp

theorem mem_mentions_of_mem (ps : List (Nat × XRef)) (p : Nat × XRef) (h : p ∈ ps) : p.2 ∈ mentions ps p.1 := by
  simp only [mentions, List.mem_map, List.mem_filter]
  exact ⟨p, ⟨h, by simp⟩, rfl⟩

theorem newTable_noProm (size : Nat) : noProm (newTable size) := by
  intro e he; simp [newTable] at he; rcases he with ⟨_, rfl⟩ | rfl <;> simp

theorem newTable_get (size j : Nat) (h : j < size) : (newTable size)[j]? = some .invalid := by
  simp [newTable, List.getElem?_append_left, h]

/-- the newest mention of a number below `/Size` is its entry, if no older mention overrides it -/
theorem pureAdd_newest (size : Nat) (ps : List (Nat × XRef)) (j : Nat) (e : XRef) (older : List XRef)
    (hok : pairsOK ps) (hj : j < size) (hm : mentions ps j = e :: older) (hk : keeps e older) :
    (pureAdd (newTable size) ps)[j]? = some e := by
  rw [pureAdd_get, newTable_get size j hj, hm, Option.map_some, mergeList_invalid,
    mergeList_keep e (hok _ (mem_mentions ps j e (hm ▸ List.mem_cons_self))) older hk]

theorem mergeList_mem (d : XRef) (ms : List XRef) : mergeList d ms = d ∨ mergeList d ms ∈ ms := by
  induction ms generalizing d with
  | nil => exact Or.inl rfl
  | cons m ms ih =>
    rcases ih (mergeE d m) with h | h
    · rw [mergeList, List.foldl_cons, ← mergeList, h, mergeE]
      split
      · exact Or.inr List.mem_cons_self
      · exact Or.inl rfl
    · exact Or.inr (List.mem_cons_of_mem _ h)

/-- an entry of the merged table stood in the table before or is mentioned under its number -/
theorem pureAdd_mem (t : Table) (ps : List (Nat × XRef)) (j : Nat) (e : XRef) (h : (pureAdd t ps)[j]? = some e) :
    t[j]? = some e ∨ (j, e) ∈ ps := by
  rw [pureAdd_get] at h
  cases hd : t[j]? with
  | none => rw [hd] at h; cases h
  | some d =>
    rw [hd, Option.map_some, Option.some.injEq] at h
    subst h
    rcases mergeList_mem d (mentions ps j) with h | h
    · exact Or.inl (by rw [h])
    · exact Or.inr (mem_mentions ps j _ h)

/-- The table rebuilt from a newest section that lists rows `0 .. rows.length` (what `save` writes) and older
    sections `chain`: `size + 1` entries (`newTable` ends in a free row), and the rows win — `hdom`: every older mention
    is of a listed number and does not carry a larger generation; `hlen`: the rows lie below `/Size`. -/
theorem reload_table (size : Nat) (rows : List XRef) (chain : List (List Sub))
    (hrows : ∀ r ∈ rows, isEntry r = true) (hlen : rows.length ≤ size)
    (hent : pairsOK (allPairs chain))
    (hdom : ∀ p ∈ allPairs chain, ∃ r, rows[p.1]? = some r ∧ gen p.2 ≤ gen r) :
    ∃ t, mergeAll (newTable size) ([⟨0, rows⟩] :: chain) = .ok t ∧ t.length = size + 1 ∧
      ∀ (j : Nat) (r : XRef), rows[j]? = some r → t[j]? = some r := by
  have hall : allPairs ([⟨0, rows⟩] :: chain) = pairsFrom 0 rows ++ allPairs chain := by
    simp [allPairs, secPairs, subPairs]
  have hin : ∀ p ∈ pairsFrom 0 rows, p.2 ∈ rows := fun p hp => by
    have := mem_mentions_of_mem _ p hp
    rw [mentions_pairsFrom, if_pos (Nat.zero_le _), Option.mem_toList] at this
    exact List.mem_of_getElem? this
  have hok : pairsOK (allPairs ([⟨0, rows⟩] :: chain)) := by
    rw [hall]; intro p hp
    rcases List.mem_append.mp hp with h | h
    · exact hrows _ (hin p h)
    · exact hent p h
  refine ⟨_, mergeAll_eq _ _ (newTable_noProm size) hok, by rw [pureAdd_length, Xref.newTable_length], fun j r hj => ?_⟩
  refine pureAdd_newest size _ j r (mentions (allPairs chain) j) hok
    (Nat.lt_of_lt_of_le (List.getElem?_eq_some_iff.mp hj).1 hlen) ?_ (Or.inr fun m hm => ?_)
  · rw [hall, mentions_append, mentions_pairsFrom, if_pos (Nat.zero_le _), Nat.sub_zero, hj]; rfl
  · obtain ⟨r', hr', hg⟩ := hdom (j, m) (mem_mentions _ _ _ hm)
    cases hj.symm.trans hr'
    exact hg

/-! ### one step of a history: the document after it -/

theorem step_save_fst (P : Params V) (d : Doc V) (L : Layout) : (step P d (.save L)).1 = (save P L d).1 := by
  simp only [step]
  generalize save P L d = r
  obtain ⟨d', o⟩ := r
  cases o <;> rfl

theorem step_update_fst (P : Params V) (d : Doc V) (id : Nat) (v : V) :
    (step P d (.update id v)).1 = { d with st := (update d.st id v).1 } := by
  simp only [step]
  generalize update d.st id v = r
  obtain ⟨s, o⟩ := r
  cases o <;> rfl

end Storage
