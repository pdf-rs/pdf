import PdfModel.Lemmas.ParserS
import PdfModel.Lemmas.Render
import PdfModel.Lemmas.ObjStm

/-!
  What C11 assumed of the value parser, proved for `Model/Parser.lean`: a conformant spelling followed by
  nothing but white-space up to the end of the buffer (a member slice of an object stream) parses to the
  value it denotes — this is where D6 (integer at the end of the buffer) lived — and so does the same
  spelling inside `n g obj … endobj`.
-/

namespace PdfShift
open PdfLex
open PdfSyntax (Gap Bnd Spells needsBnd KeysDistinct namesUtf8 vdepth need wf_of)

variable {R : Type}

def AllWs (ws : List UInt8) : Prop := ∀ b ∈ ws, isWhitespace b = true

theorem offlex_isWs_eq : ∀ b, OffLex.isWs b = isWhitespace b := fun _ => rfl

theorem skipWhitespace_allws {buf : Buf} : ∀ (ws : List UInt8) (pos : Nat), AllWs ws → Suffix buf pos ws →
    skipWhitespace buf pos = .err := by
  intro ws
  induction ws with
  | nil => intro pos _ h; exact skipWhitespace_nil h
  | cons b s ih =>
    intro pos hw h
    rw [skipWhitespace_ws h (hw b (by simp))]
    exact ih (pos + 1) (fun c hc => hw c (by simp [hc])) h.tail

/-- behind the spelling there is only white-space up to the end of the buffer: the look-ahead finds nothing -/
theorem nextWord_allws {buf : Buf} (ws : List UInt8) (pos : Nat) (hw : AllWs ws) (h : Suffix buf pos ws) :
    nextWord buf pos = .err := by
  unfold nextWord
  split
  · rfl
  · unfold tokenStart
    rw [skipWhitespace_allws ws pos hw h]
    rfl

theorem bnd_of_allws (ws : List UInt8) (hw : AllWs ws) : Bnd ws := by
  cases ws with
  | nil => simp [Bnd]
  | cons b s =>
    simp only [Bnd]
    have := hw b (by simp)
    rw [← isRegular_eq]
    simp [isRegular, this]

/-- **A member slice parses to the member's value.** `text` spells `v`, `sep` is white-space (or nothing):
    `parse(text ++ sep)` is `v`, whatever the white-space, and the cursor rests right behind `text`. -/
theorem parse_member_slice (env : Env R) (hd : env.decrypt = none) (v : Prim R) (text : List UInt8)
    (hsp : Spells env.parseReal v text) (hk : KeysDistinct v) (hu : namesUtf8 v = true) (hdepth : vdepth v ≤ maxDepth)
    (sep : List UInt8) (hsep : AllWs sep) (hsz : (text ++ sep).length ≤ 2147483647)
    (flags : Nat) (hfl : flags &&& flagOf v ≠ 0) :
    parse env (text ++ sep).toArray flags = .ok (v, text.length) := by
  have hs : Suffix (text ++ sep).toArray text.length sep := suffix_append text sep
  have hah0 : Ahead (text ++ sep).toArray text.length := Or.inl (nextWord_allws sep _ hsep hs)
  have hah : Ahead (text ++ sep).toArray (0 + ([] : List UInt8).length + text.length) := by
    have e : 0 + ([] : List UInt8).length + text.length = text.length := by simp
    rw [e]; exact hah0
  have hs0 : Suffix (text ++ sep).toArray 0 ([] ++ text ++ sep) := by simpa using suffix_zero (text ++ sep)
  have hn := need_bound env.parseReal v text hsp
  have := parseCtx_spells env hd v text hsp (wf_of v hk hu) (buf := (text ++ sep).toArray) (by simpa using hsz) [] sep 0
    (defaultFuel (text ++ sep).toArray) none maxDepth flags Gap.nil hfl hs0 (fun _ => bnd_of_allws sep hsep) hah
    (by simp [defaultFuel]; omega) hdepth
  simpa [parse, parseWithLexer] using this

end PdfShift
