import PdfModel.Model.Xref

/-! Helper lemmas for C02: the `Out`-valued merge of the model equals a pure fold over
    (object number, entry) pairs, and the pure fold keeps the first mention of every number. -/

namespace Xref

/-- entries a section reader can produce -/
def isEntry : XRef → Bool
  | .free .. | .raw .. | .stream .. => true
  | _ => false

/-- generation number as the merge compares it: `XRef.genNr` without the panic, `0` for compressed entries
    (so a compressed older mention never exceeds the newest one in `keeps`) -/
def gen : XRef → Nat
  | .free _ g => g
  | .raw _ g => g
  | _ => 0

/-- pure mirror of `shouldUpdate` for proper entries and tables without `Promised` -/
def upd (dst inc : XRef) : Bool :=
  match dst with
  | .raw _ g | .free _ g => decide (gen inc > g)
  | .stream _ _ => false
  | .invalid => true
  | .promised => false

def mergeE (dst inc : XRef) : XRef := if upd dst inc then inc else dst

def noProm (t : Table) : Prop := ∀ e ∈ t, e ≠ .promised

theorem shouldUpdate_eq (dst inc : XRef) (hd : dst ≠ .promised) (hi : isEntry inc = true) :
    shouldUpdate dst inc = .ok (upd dst inc) := by
  have hg : inc.genNr = .ok (gen inc) := by cases inc <;> first | rfl | cases hi
  cases dst <;> first | rfl | exact absurd rfl hd | simp only [shouldUpdate, upd, hg]

def setAt (t : Table) (i : Nat) (f : XRef → XRef) : Table :=
  match t, i with
  | [], _ => []
  | x :: xs, 0 => f x :: xs
  | x :: xs, i+1 => x :: setAt xs i f

theorem setAt_get (t : Table) (i j : Nat) (f) :
    (setAt t i f)[j]? = if i = j then t[j]?.map f else t[j]? := by
  induction t generalizing i j with
  | nil => simp [setAt]
  | cons x xs ih => cases i <;> cases j <;> simp [setAt, ih]

theorem setAt_length (t : Table) (i : Nat) (f) : (setAt t i f).length = t.length := by
  induction t generalizing i with
  | nil => simp [setAt]
  | cons x xs ih => cases i <;> simp [setAt, ih]

theorem setAt_eq (t : Table) (i : Nat) (f : XRef → XRef) :
    setAt t i f = match t[i]? with
      | none => t
      | some d => t.set i (f d) := by
  induction t generalizing i with
  | nil => rfl
  | cons x xs ih =>
    cases i with
    | zero => rfl
    | succ i => simp only [setAt, ih, List.getElem?_cons_succ]; cases xs[i]? <;> rfl

theorem addEntry_eq (t : Table) (i : Nat) (inc : XRef) (ht : noProm t) (hi : isEntry inc = true) :
    addEntry t i inc = .ok (setAt t i (fun d => mergeE d inc)) := by
  rw [addEntry, setAt_eq]
  cases hg : t[i]? with
  | none => rfl
  | some dst =>
    simp only [shouldUpdate_eq dst inc (ht dst (List.mem_of_getElem? hg)) hi, mergeE]
    cases upd dst inc
    · obtain ⟨hlt, rfl⟩ := List.getElem?_eq_some_iff.1 hg
      simp
    · rfl

theorem setAt_noProm (t : Table) (i : Nat) (inc) (ht : noProm t) (hi : isEntry inc = true) :
    noProm (setAt t i (fun d => mergeE d inc)) := by
  intro e he
  rw [setAt_eq] at he
  cases hg : t[i]? with
  | none => rw [hg] at he; exact ht e he
  | some d =>
    rw [hg] at he
    rcases List.mem_or_eq_of_mem_set he with h | rfl
    · exact ht e h
    · unfold mergeE; split
      · intro h; rw [h] at hi; cases hi
      · exact ht d (List.mem_of_getElem? hg)

/-- (object number, entry) pairs of a run of entries starting at `i` -/
def pairsFrom (i : Nat) : List XRef → List (Nat × XRef)
  | [] => []
  | e :: es => (i, e) :: pairsFrom (i + 1) es

def subPairs (s : Sub) : List (Nat × XRef) := pairsFrom s.first s.entries
def secPairs (sec : List Sub) : List (Nat × XRef) := sec.flatMap subPairs
def allPairs (secs : List (List Sub)) : List (Nat × XRef) := secs.flatMap secPairs

def pureAdd (t : Table) (ps : List (Nat × XRef)) : Table :=
  ps.foldl (fun t p => setAt t p.1 (fun d => mergeE d p.2)) t

def pairsOK (ps : List (Nat × XRef)) : Prop := ∀ p ∈ ps, isEntry p.2 = true

theorem pureAdd_noProm (t : Table) (ps) (ht : noProm t) (hp : pairsOK ps) : noProm (pureAdd t ps) := by
  induction ps generalizing t with
  | nil => simpa [pureAdd]
  | cons p ps ih =>
    simp only [pureAdd, List.foldl_cons]
    exact ih _ (setAt_noProm t p.1 p.2 ht (hp p (by simp))) (fun q hq => hp q (by simp [hq]))

theorem pureAdd_length (t : Table) (ps) : (pureAdd t ps).length = t.length := by
  induction ps generalizing t with
  | nil => rfl
  | cons p ps ih => exact (ih _).trans (setAt_length t _ _)

theorem pureAdd_append (t : Table) (a b) : pureAdd t (a ++ b) = pureAdd (pureAdd t a) b := by
  simp [pureAdd, List.foldl_append]

/-! the three loops of the merge, one round each, in `bind` form -/

theorem addFrom_cons (t : Table) (i : Nat) (e : XRef) (es : List XRef) :
    addFrom t i (e :: es) = (addEntry t i e).bind fun t' => addFrom t' (i + 1) es := by
  rw [addFrom]; cases addEntry t i e <;> rfl

theorem addSubs_cons (t : Table) (s : Sub) (ss : List Sub) :
    addSubs t (s :: ss) = (addFrom t s.first s.entries).bind fun t' => addSubs t' ss := by
  rw [addSubs, addSub]; cases addFrom t s.first s.entries <;> rfl

theorem mergeAll_cons (t : Table) (sec : List Sub) (secs : List (List Sub)) :
    mergeAll t (sec :: secs) = (addSubs t sec).bind fun t' => mergeAll t' secs := by
  rw [mergeAll]; cases addSubs t sec <;> rfl

/-- a run cut in two: the second piece is merged into what the first leaves, from where the first ends -/
theorem addFrom_append (b : List XRef) : ∀ (a : List XRef) (t : Table) (i : Nat),
    addFrom t i (a ++ b) = (addFrom t i a).bind fun t' => addFrom t' (i + a.length) b
  | [], t, i => rfl
  | e :: es, t, i => by
    rw [List.cons_append, addFrom_cons, addFrom_cons]
    cases addEntry t i e with
    | ok t' => simpa [Nat.add_assoc, Nat.add_comm 1] using addFrom_append b es t' (i + 1)
    | err => rfl
    | panic => rfl
    | oof => rfl

theorem pairsOK_append {a b : List (Nat × XRef)} (h : pairsOK (a ++ b)) : pairsOK a ∧ pairsOK b :=
  ⟨fun q hq => h q (List.mem_append_left _ hq), fun q hq => h q (List.mem_append_right _ hq)⟩

theorem addFrom_eq (t : Table) (i : Nat) (es : List XRef) (ht : noProm t) (he : pairsOK (pairsFrom i es)) :
    addFrom t i es = .ok (pureAdd t (pairsFrom i es)) := by
  induction es generalizing t i with
  | nil => rfl
  | cons e es ih =>
    have h1 : isEntry e = true := he (i, e) (List.mem_cons_self ..)
    rw [addFrom_cons, addEntry_eq t i e ht h1, Out.bind_ok,
      ih _ _ (setAt_noProm t i e ht h1) (pairsOK_append (a := [(i, e)]) he).2]
    rfl

theorem addSubs_eq (t : Table) (sec : List Sub) (ht : noProm t) (he : pairsOK (secPairs sec)) :
    addSubs t sec = .ok (pureAdd t (secPairs sec)) := by
  induction sec generalizing t with
  | nil => rfl
  | cons s ss ih =>
    obtain ⟨hs, hss⟩ := pairsOK_append (a := subPairs s) (b := secPairs ss) he
    rw [addSubs_cons, addFrom_eq t s.first s.entries ht hs, Out.bind_ok]
    exact (ih _ (pureAdd_noProm t _ ht hs) hss).trans (congrArg Out.ok (pureAdd_append t _ _).symm)

theorem mergeAll_eq (t : Table) (secs : List (List Sub)) (ht : noProm t) (he : pairsOK (allPairs secs)) :
    mergeAll t secs = .ok (pureAdd t (allPairs secs)) := by
  induction secs generalizing t with
  | nil => rfl
  | cons s ss ih =>
    obtain ⟨hs, hss⟩ := pairsOK_append (a := secPairs s) (b := allPairs ss) he
    rw [mergeAll_cons, addSubs_eq t s ht hs, Out.bind_ok]
    exact (ih _ (pureAdd_noProm t _ ht hs) hss).trans (congrArg Out.ok (pureAdd_append t _ _).symm)

theorem mergeAll_newTable (size : Nat) (secs : List (List Sub)) (hp : pairsOK (allPairs secs)) :
    mergeAll (newTable size) secs = .ok (pureAdd (newTable size) (allPairs secs)) :=
  mergeAll_eq _ _ (fun e he => by
    simp only [newTable, List.mem_append, List.mem_replicate, List.mem_singleton] at he
    rcases he with ⟨_, rfl⟩ | rfl <;> nofun) hp

/-- mentions of object number `id` in processing order (newest first) -/
def mentions (ps : List (Nat × XRef)) (id : Nat) : List XRef :=
  (ps.filter (fun p => p.1 == id)).map (·.2)

def mergeList (d : XRef) (ms : List XRef) : XRef := ms.foldl mergeE d

theorem pureAdd_get (t : Table) (ps) (j : Nat) :
    (pureAdd t ps)[j]? = t[j]?.map (fun d => mergeList d (mentions ps j)) := by
  induction ps generalizing t with
  | nil => simp [pureAdd, mergeList, mentions]
  | cons p rest ih =>
    simp only [pureAdd, List.foldl_cons] at *
    rw [ih, setAt_get]
    by_cases h : p.1 = j
    · simp [h, mergeList, mentions]
      cases t[j]? <;> simp
    · have : (p.1 == j) = false := by simpa using h
      simp [h, mentions, this]

/-- once `e` is in place, later (older) mentions never replace it if `e` is compressed or no older
    mention carries a larger generation number -/
def keeps (e : XRef) (older : List XRef) : Prop :=
  (∃ s i, e = .stream s i) ∨ ∀ m ∈ older, gen m ≤ gen e

theorem mergeList_keep (e : XRef) (he : isEntry e = true) (ms : List XRef) (h : keeps e ms) :
    mergeList e ms = e := by
  induction ms with
  | nil => rfl
  | cons m rest ih =>
    have hm : (∃ s i, e = .stream s i) ∨ gen m ≤ gen e := h.imp_right fun h => h m (by simp)
    have hstep : mergeE e m = e := by
      cases e with
      | stream => rfl
      | promised => cases he
      | invalid => cases he
      | free n g => exact if_neg (by simpa [upd, gen] using hm)
      | raw p g => exact if_neg (by simpa [upd, gen] using hm)
    show mergeList (mergeE e m) rest = e
    rw [hstep]
    exact ih (h.imp_right fun h x hx => h x (List.mem_cons_of_mem _ hx))

theorem mergeList_invalid (e : XRef) (ms : List XRef) :
    mergeList .invalid (e :: ms) = mergeList e ms := by
  simp [mergeList, mergeE, upd]

theorem mentions_isEntry {ps : List (Nat × XRef)} (hp : pairsOK ps) {id : Nat} {e : XRef} (he : e ∈ mentions ps id) :
    isEntry e = true := by
  simp only [mentions, List.mem_map, List.mem_filter] at he
  obtain ⟨p, ⟨hp1, _⟩, rfl⟩ := he
  exact hp p hp1

/-- **newest wins, on the pure fold**: starting from an `Invalid` slot, the mentions of a number (newest first)
    leave the newest one in place when it `keeps` against the older ones -/
theorem mergeList_mentions {ps : List (Nat × XRef)} (hp : pairsOK ps) (id : Nat)
    (hk : match mentions ps id with
      | [] => True
      | e :: older => keeps e older) :
    mergeList .invalid (mentions ps id) = (mentions ps id).head?.getD .invalid := by
  cases hm : mentions ps id with
  | nil => rfl
  | cons e older =>
    rw [hm] at hk
    rw [mergeList_invalid, mergeList_keep e (mentions_isEntry hp (id := id) (by simp [hm])) older hk]
    rfl

/-! ### the merged table keeps its size -/

theorem addEntry_length {t t' : Table} {i : Nat} {e : XRef} (h : addEntry t i e = .ok t') : t'.length = t.length := by
  unfold addEntry at h
  split at h
  · cases h; rfl
  · split at h <;> cases h <;> simp

theorem length_of_bind {x : Out Table} {f : Table → Out Table} {t t' : Table}
    (hx : ∀ {t1}, x = .ok t1 → t1.length = t.length) (hf : ∀ {t1 t'}, f t1 = .ok t' → t'.length = t1.length)
    (h : x.bind f = .ok t') : t'.length = t.length := by
  obtain ⟨t1, h1, h2⟩ := Out.bind_eq_ok h
  rw [hf h2, hx h1]

theorem addFrom_length : ∀ (es : List XRef) {t t' : Table} {i : Nat}, addFrom t i es = .ok t' → t'.length = t.length
  | [], _, _, _, h => by cases h; rfl
  | e :: es, t, _, i, h => length_of_bind addEntry_length (addFrom_length es) (addFrom_cons t i e es ▸ h)

theorem addSubs_length : ∀ (ss : List Sub) {t t' : Table}, addSubs t ss = .ok t' → t'.length = t.length
  | [], _, _, h => by cases h; rfl
  | s :: ss, t, _, h => length_of_bind (addFrom_length _) (addSubs_length ss) (addSubs_cons t s ss ▸ h)

theorem mergeAll_length : ∀ (secs : List (List Sub)) {t t' : Table}, mergeAll t secs = .ok t' → t'.length = t.length
  | [], _, _, h => by cases h; rfl
  | s :: ss, t, _, h => length_of_bind (addSubs_length _) (mergeAll_length ss) (mergeAll_cons t s ss ▸ h)

theorem newTable_length (n : Nat) : (newTable n).length = n + 1 := by simp [newTable]

end Xref
