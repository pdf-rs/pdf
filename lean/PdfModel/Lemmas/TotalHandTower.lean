import PdfModel.Model.HandTower
import PdfModel.Lemmas.DeriveRegistryTotal
import PdfModel.Lemmas.TotalTyped
import PdfModel.Lemmas.TotalDate
import PdfModel.Lemmas.TotalColorSpace
import PdfModel.Lemmas.TotalFont

/-!
  The typed layer with the modelled hand-written readers plugged in is total (C01): `semM_clean`.
-/

namespace Derive

/-- `NumberTree<T>::from_primitive` with a reader of `T` that is clean on plain input -/
theorem readNumTree_clean_plain {env : Env} (he : EnvOk env) (rdT : Prim → R Val)
    (h : ∀ v, v.plain = true → Clean (rdT v)) (p : Prim) (hp : p.plain = true) : Clean (readNumTree rdT env p) := by
  refine readNumTree_clean_on he.clean rdT p fun d xs hd hn v hv => h v ?_
  have hdp : plainKV d = true := by simpa [Prim.plain] using ((resolve1_spec he p hp).2 _ hd).1
  exact plainList_mem (by simpa [Prim.plain] using dget_plain hdp _ _ hn) v hv

/-- `NameTree<T>::from_primitive` with a reader of `T` that is clean on plain input -/
theorem readNameTree_clean_plain {env : Env} (he : EnvOk env) (rdT : Prim → R Val)
    (h : ∀ v, v.plain = true → Clean (rdT v)) (p : Prim) (hp : p.plain = true) : Clean (readNameTree rdT env p) := by
  refine readNameTree_clean_on he.clean rdT p fun d names xs hd hn hr v hv => h v ?_
  have hdp : plainKV d = true := by simpa [Prim.plain] using ((resolve1_spec he p hp).2 _ hd).1
  exact plainList_mem (by simpa [Prim.plain] using ((resolve1_spec he names (dget_plain hdp _ _ hn)).2 _ hr).1) v hv

theorem readDateP_clean {env : Env} (he : EnvOk env) (p : Prim) : Clean (readDateP env p) := by
  unfold readDateP
  refine (resolve1_clean he.clean p).elim (fun q => ?_) clean_err
  cases q with
  | str bs =>
    simp only []
    rcases (DateRead.readDate_total bs).cases with h | ⟨d, h⟩ <;> rw [h]
    · exact clean_err _ rfl
    · exact clean_ok _
  | _ => exact clean_err _ rfl

theorem readDestP_clean {env : Env} (he : EnvOk env) (p : Prim) : Clean (readDestP env p) :=
  map_clean _ _ (readDest_clean he.clean p)

theorem readColorSpaceP_clean {env : Env} (he : EnvOk env) (p : Prim) (hp : p.plain = true) :
    Clean (readColorSpaceP env p) :=
  map_clean _ _ (CSLoad.csRead_clean (se := { env := env, streams := fun _ => none }) he 5 p hp)

theorem fontSchemas_mem {schemas : List Schema} {S : FontLoad.Schemas} (h : fontSchemas schemas = some S) :
    S.type0 ∈ schemas ∧ S.tfont ∈ schemas ∧ S.cid ∈ schemas := by
  unfold fontSchemas at h
  split at h
  · rename_i a b c d ha hb hc hd
    cases h
    exact ⟨(findSchema_mem hb).1, (findSchema_mem hc).1, (findSchema_mem hd).1⟩
  · cases h

/-- the modelled hand-written readers are clean on top of clean readers one level down -/
theorem handM_clean (cfg : Cfg) (schemas : List Schema) (hreg : RegistryOk schemas)
    (hfs : (fontSchemas schemas).isSome = true) (inner : Sem) (hdf : inner.dflt = dfltH schemas) {env : Env}
    (he : EnvOk env) (hall : ∀ s p, p.plain = true → Clean (inner.rd env s p)) (s : Shape) (p : Prim)
    (hp : p.plain = true) : Clean (handM cfg schemas inner env s p) := by
  have hshape : ∀ t q, q.plain = true → Clean (readShape cfg inner env t q) := fun t =>
    readShape_clean cfg inner he t (ShapeAll.of_forall (P := RdClean inner env) (fun s p hp => hall s p hp) t)
  cases s with
  | leaf n =>
    simp only [handM]
    refine clean_ite (fun _ => readDateP_clean he p) fun _ => clean_ite (fun _ => readDestP_clean he p) fun _ =>
      clean_ite (fun _ => readAction_clean he.clean _ (fun q => readDestP_clean he q) p) fun _ =>
      clean_ite (fun _ => readColorSpaceP_clean he p hp) fun _ => clean_ite (fun _ => ?_) fun _ => clean_err _ rfl
    cases hS : fontSchemas schemas with
    | none => simp [hS] at hfs
    | some S =>
      obtain ⟨m0, m1, m2⟩ := fontSchemas_mem hS
      have ok := fun T hT => schemaOk_of_inner schemas inner hdf env hall T (hreg.dflt T hT)
      exact map_clean _ _ (FontLoad.readFont_clean cfg inner S he ⟨ok _ m0, ok _ m1, ok _ m2, fun q hq => hall _ q hq⟩ p hp)
  | leafApp n t =>
    simp only [handM]
    exact clean_ite (fun _ => map_clean _ _ (readNumTree_clean_plain he _ (hshape t) p hp)) fun _ =>
      clean_ite (fun _ => map_clean _ _ (readNameTree_clean_plain he _ (hshape t) p hp)) fun _ => clean_err _ rfl
  | _ => exact clean_err _ rfl

theorem semM_dflt (cfg : Cfg) (schemas : List Schema) (other) (n : Nat) :
    (semM cfg schemas other n).dflt = dfltH schemas := by
  cases n <;> rfl

/-- above the bottom level `semM` hands a hand-written shape to `handM` (modelled) or to `other`, and any other shape
    to the derived readers one level down -/
theorem semM_rd_succ (cfg : Cfg) (schemas : List Schema) (other : Env → Shape → Prim → R Val) (n : Nat) (env : Env)
    (s : Shape) (p : Prim) :
    (semM cfg schemas other (n + 1)).rd env s p =
      if isHand schemas s then
        (if isModelledHand s then handM cfg schemas (semM cfg schemas other n) env s p else other env s p)
      else (structSem cfg schemas (semM cfg schemas other n)).rd env s p :=
  rfl

theorem semM_rd_hand (cfg : Cfg) (schemas : List Schema) (other : Env → Shape → Prim → R Val) (n : Nat) (env : Env)
    (s : Shape) (p : Prim) (h : isHand schemas s = true) :
    (semM cfg schemas other (n + 1)).rd env s p =
      if isModelledHand s then handM cfg schemas (semM cfg schemas other n) env s p else other env s p :=
  if_pos h

/-- **The typed layer is total: derived schema OR one of the modelled hand-written readers.** At every nesting budget,
    for every shape and every plain primitive, strict and tolerant: a value or an error of the implementation — given
    that the readers of the hand-written shapes that are *not* modelled on primitives (`other`: the readers of stream
    objects) are. -/
theorem semM_clean (cfg : Cfg) (schemas : List Schema) (hreg : RegistryOk schemas)
    (hfs : (fontSchemas schemas).isSome = true) (other : Env → Shape → Prim → R Val)
    (hother : ∀ env, EnvOk env → ∀ s p, p.plain = true → Clean (other env s p)) :
    ∀ (n : Nat) (env : Env), EnvOk env → ∀ s p, p.plain = true → Clean ((semM cfg schemas other n).rd env s p) := by
  intro n
  induction n with
  | zero =>
    intro env he s p hp
    -- by definition `semM … 0` is `semH … 0` whose hand-written reader refuses the modelled shapes
    exact semH_clean cfg schemas hreg _
      (fun env he s p hp => clean_ite (fun _ => clean_err _ rfl) fun _ => hother env he s p hp) 0 env he s p hp
  | succ n ih =>
    intro env he s p hp
    rw [semM_rd_succ]
    have hin := fun s p hp => ih env he s p hp
    exact clean_ite (fun _ => clean_ite
        (fun _ => handM_clean cfg schemas hreg hfs _ (semM_dflt cfg schemas other n) he hin s p hp)
        fun _ => hother env he s p hp)
      fun hnh => structSem_clean cfg schemas hreg _ (semM_dflt cfg schemas other n) he hin s hnh p hp

end Derive
