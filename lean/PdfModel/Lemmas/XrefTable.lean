import PdfModel.Lemmas.ParserS
import PdfModel.Model.XrefTable
import PdfModel.Spec.XrefTable

/-! The classic table reader (`Model/XrefTable`) reads back what the relation `TableText` of
    `Spec/XrefTable` permits a conforming writer to emit.  The induction runs over the relation; the
    reader's position is tracked by `At buf p s`: at `p` only a gap separates the reader from `s`. -/

namespace XrefTable
open PdfLex Xref XrefTableSpec
open PdfSyntax (Gap Bnd NatTok Digits digitsVal isDig)

/-- at position `p` of `buf` a gap (white-space, comments) and then `s` follow -/
def At (buf : Buf) (p : Nat) (s : List UInt8) : Prop := ∃ g, Gap g ∧ Suffix buf p (g ++ s)

theorem At.of_suffix {buf : Buf} {p : Nat} {g s : List UInt8} (hg : Gap g) (h : Suffix buf p (g ++ s)) :
    At buf p s := ⟨g, hg, h⟩

theorem kwSpec_eq : XrefTable.kwTrailer = XrefTableSpec.kwTrailer ∧ XrefTable.kwXref = XrefTableSpec.kwXref :=
  ⟨rfl, rfl⟩

theorem kw_trailer_regular : ∀ b ∈ XrefTable.kwTrailer, isRegular b = true :=
  List.all_eq_true.mp (by decide +kernel)
theorem kw_xref_regular : ∀ b ∈ XrefTable.kwXref, isRegular b = true :=
  List.all_eq_true.mp (by decide +kernel)

/-- one regular token followed by a separator: it is the next lexeme, and behind it only a gap separates the
    reader from what follows.  (Texts are taken right-nested, `t ++ (g ++ s)`, so that the steps chain.) -/
theorem next_tok {buf : Buf} (p : Nat) (t g1 s : List UInt8) (hat : At buf p (t ++ (g1 ++ s))) (hne : t ≠ [])
    (ht : ∀ b ∈ t, isRegular b = true) (hs : Sep g1) :
    ∃ w, next buf p = .ok w ∧ slice buf w.1 w.2 = t ∧ At buf w.2 s := by
  obtain ⟨g, hg, h⟩ := hat
  have h1 : Suffix buf p (g ++ t ++ (g1 ++ s)) := by simpa only [List.append_assoc] using h
  obtain ⟨hn, hsl⟩ := next_regular g t (g1 ++ s) p hg h1 hne ht (gap_bnd hs.1 hs.2 _)
  exact ⟨_, hn, hsl, g1, hs.1, by rw [Nat.add_assoc, ← List.length_append]; exact h1.drop⟩

theorem parseU32_digits (ds : List UInt8) (hne : ds ≠ []) (h : Digits ds) (hr : digitsVal ds ≤ 4294967295) :
    parseU32 ds = some (digitsVal ds) := by
  cases ds with
  | nil => exact absurd rfl hne
  | cons d ds' =>
    have hd := dig_ne_sign d (h d (by simp))
    unfold parseU32
    rw [stripPlus_digit d ds' hd.2.1]; simp only [allDigits_of _ h]
    simp [decVal_eq]; omega

theorem natTok_u32 (t : List UInt8) (n : Nat) (h : NatTok t n) (hr : n ≤ 4294967295) :
    parseU32 t = some n ∧ t ≠ [] ∧ (∀ b ∈ t, isRegular b = true) := by
  obtain ⟨hne, hd, rfl⟩ := h
  exact ⟨parseU32_digits _ hne hd hr, hne, digits_regular _ hd⟩

/-- a number is not a keyword: some byte of the keyword is not a digit -/
theorem natTok_ne_kw {t : List UInt8} {n : Nat} (h : NatTok t n) (kw : List UInt8) (c : UInt8) (hc : c ∈ kw)
    (hnd : isDig c = false) : (t == kw) = false := by
  cases hb : t == kw with
  | false => rfl
  | true =>
    obtain rfl : t = kw := by simpa using hb
    rw [h.2.1 c hc] at hnd; cases hnd

theorem natTok_ne_trailer (t : List UInt8) (n : Nat) (h : NatTok t n) : (t == XrefTable.kwTrailer) = false :=
  natTok_ne_kw h _ 116 (by decide) (by decide)

theorem natTok_ne_xref (t : List UInt8) (n : Nat) (h : NatTok t n) : (t == XrefTable.kwXref) = false :=
  natTok_ne_kw h _ 120 (by decide) (by decide)

/-- `next_as::<u32>` on a header number -/
theorem nextAsU32_tok {buf : Buf} (p : Nat) (t g1 s : List UInt8) (n : Nat) (hat : At buf p (t ++ (g1 ++ s)))
    (ht : NatTok t n) (hn : n ≤ 4294967295) (hs : Sep g1) :
    ∃ q, nextAsU32 buf p = .ok (n, q) ∧ At buf q s := by
  obtain ⟨h1, h2, h3⟩ := natTok_u32 t n ht hn
  obtain ⟨w, hw, hsl, hat'⟩ := next_tok p t g1 s hat h2 h3 hs
  exact ⟨w.2, by simp [nextAsU32, hw, hsl, h1], hat'⟩

theorem entryOfTokens_n (a b : List UInt8) (pos gen : Nat) (ha : parseU64 a = some pos) (hb : parseU64 b = some gen) :
    entryOfTokens a b [110] = .ok (.raw pos gen) := by
  have h1 : ([110] == kwF) = false := by decide
  have h2 : ([110] == kwN) = true := by decide
  simp [entryOfTokens, h1, h2, ha, hb]

theorem entryOfTokens_f (a b : List UInt8) (nxt gen : Nat) (ha : parseU64 a = some nxt) (hb : parseU64 b = some gen) :
    entryOfTokens a b [102] = .ok (.free nxt gen) := by
  have h1 : ([102] == kwF) = true := by decide
  simp [entryOfTokens, h1, ha, hb]

/-- three tokens of one entry -/
theorem readEntry_tokens {buf : Buf} (p : Nat) (a g1 b g2 g3 s : List UInt8) (kw : UInt8) (x y : Nat) (e : XRef)
    (hat : At buf p (a ++ (g1 ++ (b ++ (g2 ++ ([kw] ++ (g3 ++ s)))))))
    (ha : NatTok a x) (hb : NatTok b y) (hx : x ≤ u64Max) (hy : y ≤ u64Max)
    (h1 : Sep g1) (h2 : Sep g2) (h3 : Sep g3) (hkw : isRegular kw = true)
    (he : entryOfTokens a b [kw] = .ok e) :
    ∃ q, readEntry buf p = .ok (e, q) ∧ At buf q s := by
  obtain ⟨_, _, a3, a4⟩ := natTok_spec a x ha hx
  obtain ⟨_, _, b3, b4⟩ := natTok_spec b y hb hy
  obtain ⟨w1, hw1, hs1, hat1⟩ := next_tok p a g1 _ hat a3 a4 h1
  obtain ⟨w2, hw2, hs2, hat2⟩ := next_tok w1.2 b g2 _ hat1 b3 b4 h2
  obtain ⟨w3, hw3, hs3, hat3⟩ := next_tok w2.2 [kw] g3 s hat2 (by simp) (by simpa using hkw) h3
  exact ⟨w3.2, by simp [readEntry, hw1, hs1, natTok_ne_trailer a x ha, hw2, hs2, hw3, hs3, he], hat3⟩

theorem readEntry_spec {buf : Buf} (p : Nat) (e : XRef) (txt s : List UInt8) (het : EntryText e txt)
    (hat : At buf p (txt ++ s)) :
    ∃ q, readEntry buf p = .ok (e, q) ∧ At buf q s := by
  cases het with
  | inuse a g1 b g2 g3 pos gen ha hb h1 h2 h3 hx hy =>
    exact readEntry_tokens p a g1 b g2 g3 s 110 pos gen _ (by simpa only [List.append_assoc, List.cons_append, List.nil_append] using hat)
      ha hb hx hy h1 h2 h3 (by decide)
      (entryOfTokens_n a b pos gen (natTok_spec a pos ha hx).2.1 (natTok_spec b gen hb hy).2.1)
  | free a g1 b g2 g3 nxt gen ha hb h1 h2 h3 hx hy =>
    exact readEntry_tokens p a g1 b g2 g3 s 102 nxt gen _ (by simpa only [List.append_assoc, List.cons_append, List.nil_append] using hat)
      ha hb hx hy h1 h2 h3 (by decide)
      (entryOfTokens_f a b nxt gen (natTok_spec a nxt ha hx).2.1 (natTok_spec b gen hb hy).2.1)

/-- `for i in 0..num_ids` over the text of `num_ids` entries -/
theorem entryLoop_spec {buf : Buf} (es : List XRef) (body s : List UInt8) (het : EntriesText es body) :
    ∀ (p : Nat) (acc : List XRef), At buf p (body ++ s) →
      ∃ q, entryLoop buf es.length p acc = .ok (acc.reverse ++ es, q) ∧ At buf q s := by
  induction het with
  | nil => intro p acc hat; exact ⟨p, by simp [entryLoop], by simpa using hat⟩
  | cons e es t ts he _ ih =>
    intro p acc hat
    have hat1 : At buf p (t ++ (ts ++ s)) := by simpa using hat
    obtain ⟨q1, hq1, hat2⟩ := readEntry_spec p e t _ he hat1
    obtain ⟨q, hq, hat3⟩ := ih q1 (e :: acc) hat2
    exact ⟨q, by simp [entryLoop, hq1, hq], hat3⟩

/-- one subsection: header numbers, then the entries -/
theorem readSub_spec {buf : Buf} (sub : Sub) (txt s : List UInt8) (hst : SubText sub txt) (p : Nat)
    (hat : At buf p (txt ++ s)) :
    ∃ q, readSub buf p = .ok (sub, q) ∧ At buf q s := by
  obtain ⟨a, g1, b, g2, body, rfl, ha, hb, h1, h2, hf, hl, hes⟩ := hst
  have hat1 : At buf p (a ++ (g1 ++ (b ++ (g2 ++ (body ++ s))))) := by simpa only [List.append_assoc] using hat
  obtain ⟨q1, hq1, hat2⟩ := nextAsU32_tok p a g1 _ sub.first hat1 ha hf h1
  obtain ⟨q2, hq2, hat3⟩ := nextAsU32_tok q1 b g2 _ sub.entries.length hat2 hb hl h2
  obtain ⟨q, hq, hat4⟩ := entryLoop_spec sub.entries body s hes q2 [] hat3
  exact ⟨q, by simp [readSub, hq1, hq2, hq], hat4⟩

/-- the text of a subsection starts with a header number: `peek` does not see `trailer` -/
theorem peek_sub {buf : Buf} (sub : Sub) (txt s : List UInt8) (hst : SubText sub txt) (p : Nat)
    (hat : At buf p (txt ++ s)) :
    ∃ w, peek buf p = .ok w ∧ (slice buf w.1 w.2 == XrefTable.kwTrailer) = false := by
  obtain ⟨a, g1, b, g2, body, rfl, ha, hb, h1, h2, hf, hl, hes⟩ := hst
  have hat1 : At buf p (a ++ (g1 ++ (b ++ g2 ++ body ++ s))) := by simpa only [List.append_assoc] using hat
  obtain ⟨_, a2, a3⟩ := natTok_u32 a sub.first ha hf
  obtain ⟨w, hw, hsl, _⟩ := next_tok p a g1 _ hat1 a2 a3 h1
  exact ⟨w, peek_ok hw, by rw [hsl]; exact natTok_ne_trailer a _ ha⟩

/-- `peek` at the keyword -/
theorem peek_trailer {buf : Buf} (rest : List UInt8) (p : Nat) (hat : At buf p (XrefTable.kwTrailer ++ rest))
    (hb : Bnd rest) : ∃ w, peek buf p = .ok w ∧ slice buf w.1 w.2 = XrefTable.kwTrailer := by
  obtain ⟨g, hg, h⟩ := hat
  have h1 : Suffix buf p (g ++ XrefTable.kwTrailer ++ rest) := by simpa using h
  obtain ⟨hn, hsl⟩ := next_regular g XrefTable.kwTrailer rest p hg h1 (by decide) kw_trailer_regular hb
  exact ⟨_, peek_ok hn, hsl⟩

/-- `while lexer.peek()? != "trailer"`: all subsections are read, the loop stops in front of the keyword
    (at the position where the last entry ended: `peek` does not move the lexer) -/
theorem tableLoop_spec {buf : Buf} (subs : List Sub) (tbl rest : List UInt8) (htt : TableText subs tbl)
    (hb : Bnd rest) :
    ∀ (fuel p : Nat) (acc : List Sub), subs.length < fuel → At buf p (tbl ++ XrefTable.kwTrailer ++ rest) →
      ∃ q, tableLoop buf fuel p acc = .ok (acc.reverse ++ subs, q) ∧ At buf q (XrefTable.kwTrailer ++ rest) := by
  induction htt with
  | nil =>
    intro fuel p acc hf hat
    cases fuel with
    | zero => omega
    | succ fuel =>
      have hat' : At buf p (XrefTable.kwTrailer ++ rest) := by simpa using hat
      obtain ⟨w, hw, hsl⟩ := peek_trailer rest p hat' hb
      exact ⟨p, by simp [tableLoop, hw, hsl], hat'⟩
  | cons sub ss t ts hs _ ih =>
    intro fuel p acc hf hat
    cases fuel with
    | zero => omega
    | succ fuel =>
      have hat1 : At buf p (t ++ (ts ++ XrefTable.kwTrailer ++ rest)) := by simpa using hat
      obtain ⟨w, hw, hne⟩ := peek_sub sub t _ hs p hat1
      obtain ⟨q1, hq1, hat2⟩ := readSub_spec sub t _ hs p hat1
      obtain ⟨q, hq, hat3⟩ := ih fuel q1 (sub :: acc) (by simp at hf; omega) hat2
      exact ⟨q, by simp [tableLoop, hw, hne, hq1, hq], hat3⟩

theorem suffix_pos_eq {buf : Buf} {p q : Nat} {y x : List UInt8} (h1 : Suffix buf p (y ++ x)) (h2 : Suffix buf q x) :
    q = p + y.length := by
  have a := h1.size_eq
  have b := h2.size_eq
  simp at a; omega

/-- **the table part**: the subsections are read back and the reader rests right behind `trailer` -/
theorem parseTable_spec {buf : Buf} (subs : List Sub) (g tbl rest : List UInt8) (hg : Gap g)
    (htt : TableText subs tbl) (hb : Bnd rest) (fuel p : Nat) (hf : subs.length < fuel)
    (h : Suffix buf p (g ++ tbl ++ XrefTable.kwTrailer ++ rest)) :
    parseTable buf fuel p = .ok (subs, p + (g ++ tbl ++ XrefTable.kwTrailer).length) := by
  have hat : At buf p (tbl ++ XrefTable.kwTrailer ++ rest) := .of_suffix hg (by simpa using h)
  obtain ⟨q, hq, g', hg', hsuf⟩ := tableLoop_spec subs tbl rest htt hb fuel p [] hf hat
  have h1 : Suffix buf q (g' ++ XrefTable.kwTrailer ++ rest) := by simpa using hsuf
  have hne := nextExpect_regular g' XrefTable.kwTrailer rest q hg' h1 (by decide) kw_trailer_regular hb
  have hpos := suffix_pos_eq (y := g ++ tbl ++ XrefTable.kwTrailer) (by simpa using h) h1.drop₂
  simp only [parseTable, hq, List.reverse_nil, List.nil_append, hne]
  rw [hpos]


/-! ### the trailer dictionary and the whole section -/

open PdfSyntax (Spells WF vdepth need)

variable {R : Type}

theorem spells_dict_head (pr : List UInt8 → Option R) (d : Dict R) (txt : List UInt8) (h : Spells pr (.dict d) txt) :
    ∃ x, txt = 60 :: x := by
  simp only [Spells] at h
  obtain ⟨g, r, rfl, _⟩ := h
  exact ⟨_, rfl⟩

theorem gap_bnd_delim {g : List UInt8} (hg : Gap g) (x : List UInt8) : Bnd (g ++ 60 :: x) := by
  cases g with
  | nil => simp [Bnd]; decide
  | cons b r => exact gap_bnd hg (by simp) _

/-- `parse_with_lexer(DICT)` + `into_dictionary` on a conformant spelling of the trailer dictionary -/
theorem trailerDict_spec (env : Env R) (hd : env.decrypt = none) (d : Dict R) (txt : List UInt8)
    (hsp : Spells env.parseReal (.dict d) txt) (hwf : WF (Prim.dict d)) {buf : Buf} (hsz : buf.size ≤ 2147483647)
    (g rest : List UInt8) (pos pfuel : Nat) (hg : Gap g) (hs : Suffix buf pos (g ++ txt ++ rest))
    (hah : Ahead buf (pos + g.length + txt.length)) (hfuel : need (Prim.dict d) ≤ pfuel)
    (hdepth : vdepth (Prim.dict d) ≤ maxDepth) :
    trailerDict env buf pfuel pos = .ok (d, pos + g.length + txt.length) := by
  have := parseCtx_spells env hd (.dict d) txt hsp hwf hsz g rest pos pfuel none maxDepth Flags.dict hg
    (by simp only [flagOf]; decide) hs (by intro h; simp [PdfSyntax.needsBnd] at h) hah hfuel hdepth
  simp [trailerDict, parseWithLexer, this]

/-- **`parse_xref_table_and_trailer`** on the text behind the keyword `xref`: separator, table, `trailer`,
    optional gap, a conformant spelling of the trailer dictionary, anything that does not merge with it -/
theorem parseXrefTableAndTrailer_spec (env : Env R) (hd : env.decrypt = none) (subs : List Sub) (d : Dict R)
    (g1 tbl g2 dtxt rest : List UInt8) (hg1 : Gap g1) (htt : TableText subs tbl) (hg2 : Gap g2)
    (hsp : Spells env.parseReal (.dict d) dtxt) (hwf : WF (Prim.dict d)) (hdepth : vdepth (Prim.dict d) ≤ maxDepth)
    {buf : Buf} (hsz : buf.size ≤ 2147483647) (fuel pfuel p : Nat) (hf : subs.length < fuel)
    (hpf : need (Prim.dict d) ≤ pfuel)
    (h : Suffix buf p (g1 ++ tbl ++ XrefTable.kwTrailer ++ g2 ++ dtxt ++ rest))
    (hah : Ahead buf (p + (g1 ++ tbl ++ XrefTable.kwTrailer ++ g2 ++ dtxt).length)) :
    parseXrefTableAndTrailer env buf fuel pfuel p
      = .ok ((subs, d), p + (g1 ++ tbl ++ XrefTable.kwTrailer ++ g2 ++ dtxt).length) := by
  obtain ⟨x, hx⟩ := spells_dict_head env.parseReal d dtxt hsp
  have hb : Bnd (g2 ++ dtxt ++ rest) := by
    subst hx
    simpa using gap_bnd_delim hg2 (x ++ rest)
  have h1 : Suffix buf p (g1 ++ tbl ++ XrefTable.kwTrailer ++ (g2 ++ dtxt ++ rest)) := by simpa using h
  have ht := parseTable_spec subs g1 tbl _ hg1 htt hb fuel p hf h1
  have h2 := h1.drop
  have e : p + (g1 ++ tbl ++ XrefTable.kwTrailer).length + g2.length + dtxt.length
      = p + (g1 ++ tbl ++ XrefTable.kwTrailer ++ g2 ++ dtxt).length := by
    simp only [List.length_append]; omega
  have hd2 := trailerDict_spec env hd d dtxt hsp hwf hsz g2 rest _ pfuel hg2 h2 (e ▸ hah) hpf hdepth
  simp only [parseXrefTableAndTrailer, ht, hd2, e]

/-- **`read_xref_and_trailer_at`** on a whole classic section (`SectionText`): whatever the stream branch
    `stm` would do, the keyword `xref` selects the table reader, which returns the subsections and the trailer -/
theorem readXrefAndTrailerAt_table (env : Env R) (hd : env.decrypt = none)
    (stm : Buf → Nat → Out (List Sub × Dict R)) (subs : List Sub) (d : Dict R)
    (dtxt txt rest : List UInt8) (hst : SectionText subs dtxt txt)
    (hsp : Spells env.parseReal (.dict d) dtxt) (hwf : WF (Prim.dict d)) (hdepth : vdepth (Prim.dict d) ≤ maxDepth)
    {buf : Buf} (hsz : buf.size ≤ 2147483647) (fuel pfuel p : Nat) (hf : subs.length < fuel)
    (hpf : need (Prim.dict d) ≤ pfuel) (h : Suffix buf p (txt ++ rest)) (hah : Ahead buf (p + txt.length)) :
    readXrefAndTrailerAt env stm buf fuel pfuel p = .ok (subs, d) := by
  obtain ⟨g0, g1, tbl, g2, rfl, hg0, hg1, htt, hg2⟩ := hst
  rw [← kwSpec_eq.1, ← kwSpec_eq.2] at h hah
  have h1 : Suffix buf p (g0 ++ XrefTable.kwXref ++ (g1 ++ tbl ++ XrefTable.kwTrailer ++ g2 ++ dtxt ++ rest)) := by
    simpa using h
  obtain ⟨hn, hsl⟩ := next_regular g0 XrefTable.kwXref _ p hg0 h1 (by decide) kw_xref_regular
    (by simpa using gap_bnd hg1.1 hg1.2 (tbl ++ XrefTable.kwTrailer ++ g2 ++ dtxt ++ rest))
  have h2 := h1.drop₂
  have e : p + g0.length + XrefTable.kwXref.length + (g1 ++ tbl ++ XrefTable.kwTrailer ++ g2 ++ dtxt).length
      = p + (g0 ++ XrefTable.kwXref ++ g1 ++ tbl ++ XrefTable.kwTrailer ++ g2 ++ dtxt).length := by
    simp only [List.length_append]; omega
  have hp := parseXrefTableAndTrailer_spec env hd subs d g1 tbl g2 dtxt rest hg1.1 htt hg2 hsp hwf hdepth hsz
    fuel pfuel _ hf hpf h2 (e ▸ hah)
  simp [readXrefAndTrailerAt, hn, hsl, hp]

end XrefTable
