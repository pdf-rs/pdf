import PdfModel.Lemmas.Lexer
import PdfModel.Model.Serialize

/-! Number tokens: `IntTok` / `NatTok` / `RealTok` texts are classified and converted as they denote. -/

namespace PdfLex
open PdfSyntax (IntTok NatTok RealTok Digits digitsVal isDig)

theorem decVal_eq (ds : List UInt8) : decVal ds = digitsVal ds := rfl

theorem allDigits_of (ds : List UInt8) (h : Digits ds) : allDigits ds = true := by
  simp only [allDigits, List.all_eq_true]
  intro b hb; rw [isDigit_eq]; exact h b hb

theorem digits_regular (ds : List UInt8) (h : Digits ds) : ∀ b ∈ ds, isRegular b = true :=
  fun b hb => dig_regular b (h b hb)

theorem isInteger_digits (ds : List UInt8) (hne : ds ≠ []) (h : Digits ds) : isInteger ds = true := by
  cases ds with
  | nil => exact absurd rfl hne
  | cons d ds' =>
    have hd := dig_ne_sign d (h d (by simp))
    simp only [isInteger]
    have : (d == 45 || d == 43) = false := by simp [hd.1, hd.2.1]
    rw [this]; simp only [Bool.false_eq_true, if_false]
    exact allDigits_of _ h

theorem isInteger_signed (s : UInt8) (ds : List UInt8) (hs : s = 45 ∨ s = 43) (hne : ds ≠ []) (h : Digits ds) :
    isInteger (s :: ds) = true := by
  simp only [isInteger]
  have : (s == 45 || s == 43) = true := by rcases hs with rfl | rfl <;> simp
  rw [this]; simp only [if_true]
  have : ¬ (s :: ds).length < 2 := by
    cases ds with
    | nil => exact absurd rfl hne
    | cons => simp
  rw [if_neg this]
  exact allDigits_of _ h

theorem stripPlus_digit (d : UInt8) (ds : List UInt8) (hd : d ≠ 43) : stripPlus (d :: ds) = d :: ds := by
  unfold stripPlus
  split
  · rename_i heq; simp at heq; exact absurd heq.1 hd
  · rfl

theorem parseU64_digits (ds : List UInt8) (hne : ds ≠ []) (h : Digits ds) (hr : digitsVal ds ≤ 18446744073709551615) :
    parseU64 ds = some (digitsVal ds) := by
  cases ds with
  | nil => exact absurd rfl hne
  | cons d ds' =>
    have hd := dig_ne_sign d (h d (by simp))
    unfold parseU64
    rw [stripPlus_digit d ds' hd.2.1]; simp only [allDigits_of _ h]
    simp [decVal_eq]; omega

theorem parseI32_plain (ds : List UInt8) (hne : ds ≠ []) (h : Digits ds) (hr : digitsVal ds ≤ 2147483647) :
    parseI32 ds = some (digitsVal ds : Int) := by
  cases ds with
  | nil => exact absurd rfl hne
  | cons d ds' =>
    have hd := dig_ne_sign d (h d (by simp))
    unfold parseI32
    split
    · rename_i heq; simp at heq; exact absurd heq.1 hd.1
    · rw [stripPlus_digit d ds' hd.2.1]; simp only [allDigits_of _ h]
      simp [decVal_eq]; omega

theorem parseI32_plus (ds : List UInt8) (hne : ds ≠ []) (h : Digits ds) (hr : digitsVal ds ≤ 2147483647) :
    parseI32 (43 :: ds) = some (digitsVal ds : Int) := by
  unfold parseI32
  simp only [stripPlus]
  rw [allDigits_of _ h]
  cases ds with
  | nil => exact absurd rfl hne
  | cons d ds' => simp [decVal_eq]; omega

theorem parseI32_minus (ds : List UInt8) (hne : ds ≠ []) (h : Digits ds) (hr : digitsVal ds ≤ 2147483648) :
    parseI32 (45 :: ds) = some (-(digitsVal ds : Int)) := by
  unfold parseI32
  simp only []
  rw [allDigits_of _ h]
  cases ds with
  | nil => exact absurd rfl hne
  | cons d ds' => simp [decVal_eq]; omega

/-- an integer token: classified as integer, converted to the value it denotes, made of regular characters -/
theorem intTok_spec (t : List UInt8) (i : Int) (h : IntTok t i) (lo : -2147483648 ≤ i) (hi : i ≤ 2147483647) :
    isInteger t = true ∧ parseI32 t = some i ∧ t ≠ [] ∧ (∀ b ∈ t, isRegular b = true) := by
  obtain ⟨ds, hne, hd, h⟩ := h
  rcases h with ⟨rfl, rfl⟩ | ⟨rfl, rfl⟩ | ⟨rfl, rfl⟩
  · exact ⟨isInteger_digits _ hne hd, parseI32_plain _ hne hd (by omega), hne, digits_regular _ hd⟩
  · refine ⟨isInteger_signed _ _ (Or.inr rfl) hne hd, parseI32_plus _ hne hd (by omega), by simp, ?_⟩
    intro b hb; simp at hb; rcases hb with rfl | hb
    · decide
    · exact digits_regular _ hd b hb
  · refine ⟨isInteger_signed _ _ (Or.inl rfl) hne hd, parseI32_minus _ hne hd (by omega), by simp, ?_⟩
    intro b hb; simp at hb; rcases hb with rfl | hb
    · decide
    · exact digits_regular _ hd b hb

theorem natTok_spec (t : List UInt8) (n : Nat) (h : NatTok t n) (hr : n ≤ 18446744073709551615) :
    isInteger t = true ∧ parseU64 t = some n ∧ t ≠ [] ∧ (∀ b ∈ t, isRegular b = true) := by
  obtain ⟨hne, hd, rfl⟩ := h
  exact ⟨isInteger_digits _ hne hd, parseU64_digits _ hne hd hr, hne, digits_regular _ hd⟩


/-! ### reals -/

theorem allDigits_dot (ip fp : List UInt8) : allDigits (ip ++ 46 :: fp) = false := by
  simp [allDigits, isDigit]

theorem splitDot_digits (ip fp : List UInt8) (h : Digits ip) : splitDot (ip ++ 46 :: fp) = some (ip, fp) := by
  induction ip with
  | nil => simp [splitDot]
  | cons d ip ih =>
    have hd := dig_ne_sign d (h d (by simp))
    have := ih (fun b hb => h b (by simp [hb]))
    simp [splitDot, hd.2.2, this]

theorem nonDigitPos_digits (fp : List UInt8) (h : Digits fp) : nonDigitPos fp = none := by
  induction fp with
  | nil => rfl
  | cons d fp ih =>
    have hd : isDigit d = true := by rw [isDigit_eq]; exact h d (by simp)
    simp [nonDigitPos, hd, ih (fun b hb => h b (by simp [hb]))]

theorem realNumber_unsigned (ip fp : List UInt8) (hi : Digits ip) (hf : Digits fp) :
    realNumber (ip ++ 46 :: fp) = some (ip ++ 46 :: fp) := by
  have hne : ip ++ 46 :: fp ≠ [] := by simp
  have hhead : ∀ b r, ip ++ 46 :: fp = b :: r → (b == 45 || b == 43) = false := by
    intro b r hbr
    cases ip with
    | nil => simp at hbr; rw [← hbr.1]; decide
    | cons d ip' =>
      simp at hbr
      have hd := dig_ne_sign d (hi d (by simp))
      rw [← hbr.1]; simp [hd.1, hd.2.1]
  generalize hgen : ip ++ 46 :: fp = t at *
  cases t with
  | nil => exact absurd rfl hne
  | cons b r =>
    simp only [realNumber, hhead b r rfl, Bool.false_and, Bool.false_eq_true, if_false]
    rw [← hgen, splitDot_digits ip fp hi]
    simp only [allDigits_of ip hi, if_true, nonDigitPos_digits fp hf]

theorem realTok_spec (t : List UInt8) (h : RealTok t) :
    isInteger t = false ∧ realNumber t = some t ∧ t ≠ [] ∧ (∀ b ∈ t, isRegular b = true) := by
  obtain ⟨sign, ip, fp, rfl, hs, hi, hf, hne⟩ := h
  have hreg : ∀ b ∈ ip ++ 46 :: fp, isRegular b = true := by
    intro b hb
    simp at hb
    rcases hb with hb | rfl | hb
    · exact digits_regular _ hi b hb
    · decide
    · exact digits_regular _ hf b hb
  have signed : ∀ s : UInt8, (s == 45 || s == 43) = true → isRegular s = true →
      isInteger (s :: (ip ++ 46 :: fp)) = false ∧ realNumber (s :: (ip ++ 46 :: fp)) = some (s :: (ip ++ 46 :: fp)) ∧
        s :: (ip ++ 46 :: fp) ≠ [] ∧ ∀ b ∈ s :: (ip ++ 46 :: fp), isRegular b = true := by
    intro s hs hsr
    have hl : ¬ (s :: (ip ++ 46 :: fp)).length < 2 := by simp; omega
    refine ⟨by simp [isInteger, hs, allDigits_dot], ?_, by simp, ?_⟩
    · simp only [realNumber, hs, Bool.true_and, decide_eq_true_eq, hl, if_false, splitDot_digits ip fp hi,
        allDigits_of ip hi, if_true, nonDigitPos_digits fp hf]
    · intro b hb
      rcases List.mem_cons.1 hb with rfl | hb
      · exact hsr
      · exact hreg b hb
  rcases hs with rfl | rfl | rfl
  · refine ⟨?_, by simpa using realNumber_unsigned ip fp hi hf, by simp, by simpa using hreg⟩
    cases ip with
    | nil => simp [isInteger, allDigits, isDigit]
    | cons d ip' =>
      have hd := dig_ne_sign d (hi d (by simp))
      simpa [isInteger, hd.1, hd.2.1] using allDigits_dot (d :: ip') fp
  · simpa using signed 43 rfl rfl
  · simpa using signed 45 rfl rfl

/-! ### keywords -/

theorem kw_true_spec : isInteger kwTrue = false ∧ realNumber kwTrue = none ∧ (∀ b ∈ kwTrue, isRegular b = true) :=
  ⟨by decide +kernel, by decide +kernel, List.all_eq_true.mp (by decide +kernel)⟩
theorem kw_false_spec : isInteger kwFalse = false ∧ realNumber kwFalse = none ∧ (∀ b ∈ kwFalse, isRegular b = true) :=
  ⟨by decide +kernel, by decide +kernel, List.all_eq_true.mp (by decide +kernel)⟩
theorem kw_null_spec : isInteger kwNull = false ∧ realNumber kwNull = none ∧ (∀ b ∈ kwNull, isRegular b = true) :=
  ⟨by decide +kernel, by decide +kernel, List.all_eq_true.mp (by decide +kernel)⟩


/-! ### the writer's decimal numbers -/

theorem digitsVal_snoc (ds : List UInt8) (d : UInt8) : digitsVal (ds ++ [d]) = digitsVal ds * 10 + (d.toNat - 48) := by
  simp [digitsVal, List.foldl_append]

theorem ofNat_digit (n : Nat) (h : n < 10) : isDig (digitByte n) = true ∧ (digitByte n).toNat - 48 = n := by
  have e : (digitByte n).toNat = 48 + n := by simp [digitByte]; omega
  simp [isDig, UInt8.le_iff_toNat_le, e]; omega

theorem natDigitsAux_spec (fuel n : Nat) (acc : List UInt8) (h : n < fuel) :
    ∃ ds, natDigitsAux fuel n acc = ds ++ acc ∧ ds ≠ [] ∧ Digits ds ∧ digitsVal ds = n := by
  induction fuel generalizing n acc with
  | zero => omega
  | succ f ih =>
    simp only [natDigitsAux]
    split
    · rename_i hlt
      have := ofNat_digit n hlt
      refine ⟨[digitByte n], by simp, by simp, ?_, ?_⟩
      · intro b hb; simp at hb; rw [hb]; exact this.1
      · simp [digitsVal, this.2]
    · rename_i hge
      obtain ⟨ds, h1, h2, h3, h4⟩ := ih (n / 10) (digitByte (n % 10) :: acc) (by omega)
      have := ofNat_digit (n % 10) (by omega)
      refine ⟨ds ++ [digitByte (n % 10)], by simp [h1], by simp, ?_, ?_⟩
      · intro b hb; simp at hb; rcases hb with hb | hb
        · exact h3 b hb
        · rw [hb]; exact this.1
      · rw [digitsVal_snoc, h4, this.2]; omega

theorem fmtNat_spec (n : Nat) : NatTok (fmtNat n) n := by
  obtain ⟨ds, h1, h2, h3, h4⟩ := natDigitsAux_spec (n + 1) n [] (by omega)
  simp only [fmtNat, h1, List.append_nil]
  exact ⟨h2, h3, h4⟩

theorem fmtInt_spec (i : Int) : IntTok (fmtInt i) i := by
  obtain ⟨hne, hd, hv⟩ := fmtNat_spec i.natAbs
  refine ⟨fmtNat i.natAbs, hne, hd, ?_⟩
  unfold fmtInt
  by_cases h : i < 0
  · rw [if_pos h]; right; right; refine ⟨rfl, ?_⟩; rw [hv]; omega
  · rw [if_neg h]; left; refine ⟨rfl, ?_⟩; rw [hv]; omega

end PdfLex
