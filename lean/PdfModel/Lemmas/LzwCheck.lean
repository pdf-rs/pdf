import PdfModel.Lemmas.LzwDecode

/-! Soundness of the membership test `checkLzw`, and the greedy encoder as an instance of the relation. -/

namespace LzwSpec
open Lzw (bitsOfNat_eq_spec bitsOfBytes_eq_spec)

theorem bitsOfNat_length (w n : Nat) : (bitsOfNat w n).length = w := by
  rw [← bitsOfNat_eq_spec]; exact Lzw.bitsOfNat_length w n

theorem bitsOfNat_natOfBits (bs : List Bool) : bitsOfNat bs.length (natOfBits bs) = bs := by
  rw [← bitsOfNat_eq_spec]; exact Lzw.bitsOfNat_natOfBits bs

theorem natOfBits_lt (bs : List Bool) : natOfBits bs < 2 ^ bs.length := Lzw.natOfBits_lt bs

theorem bitsOfCodes_cons (w c : Nat) (cs : List (Nat × Nat)) :
    bitsOfCodes ((w, c) :: cs) = bitsOfNat w c ++ bitsOfCodes cs := by
  simp [bitsOfCodes]

theorem isCodeOf_of_entryOf {table : List Bytes} {c : Nat} {s : Bytes} (h : entryOf table c = some s) :
    IsCodeOf table s c := by
  revert h
  fun_cases entryOf table c
  · rename_i hc
    intro h; cases h
    exact .inl ⟨UInt8.ofNat c, rfl, by simp; omega⟩
  · nofun
  · exact fun h => .inr ⟨c - 258, h, by omega⟩

/-- a code of the current width at the head of the bit stream, split off -/
theorem split_code {w : Nat} {bits : List Bool} (h : ¬ (bits.take w).length < w) :
    bits = bitsOfNat w (natOfBits (bits.take w)) ++ bits.drop w := by
  have hl : (bits.take w).length = w := Nat.le_antisymm (List.length_take_le w bits) (Nat.not_lt.mp h)
  have := bitsOfNat_natOfBits (bits.take w)
  rw [hl] at this
  rw [this, List.take_append_drop]

theorem checkCodes_sound (early : Bool) (fuel : Nat) (st : EncSt) (bs : Bytes) (bits : List Bool) :
    checkCodes early fuel st bs bits = true → ∃ cs tail, Codes early st bs cs ∧ bits = bitsOfCodes cs ++ tail := by
  fun_induction checkCodes early fuel st bs bits with
  | case1 => nofun
  | case2 => nofun
  | case3 fuel st bs bits w head hlen c h257 =>
    intro h
    have hbs : bs = [] := by simpa using h
    subst hbs
    refine ⟨[(w, 257)], bits.drop w, .eod, ?_⟩
    rw [bitsOfCodes_cons, ← h257]
    simpa [bitsOfCodes] using split_code hlen
  | case4 fuel st bs bits w head hlen c _ h256 ih =>
    intro h
    obtain ⟨cs, tail, hc, ht⟩ := ih h
    refine ⟨(w, 256) :: cs, tail, .clear hc, ?_⟩
    rw [bitsOfCodes_cons, ← h256, List.append_assoc, ← ht]
    exact split_code hlen
  | case5 => nofun
  | case6 fuel st bs bits w head hlen c _ _ s hs ih =>
    intro h
    simp only [Bool.and_eq_true, Bool.not_eq_true', List.isEmpty_eq_false_iff] at h
    obtain ⟨⟨hne, hpre⟩, hrec⟩ := h
    obtain ⟨cs, tail, hc, ht⟩ := ih hrec
    have hsplit : s ++ bs.drop s.length = bs :=
      List.prefix_iff_eq_append.mp (List.isPrefixOf_iff_prefix.mp hpre)
    refine ⟨(w, c) :: cs, tail, ?_, ?_⟩
    · have := Codes.phrase (early := early) (st := st) (s := s) (rest := bs.drop s.length) hne (isCodeOf_of_entryOf hs) hc
      rwa [hsplit] at this
    · rw [bitsOfCodes_cons, List.append_assoc, ← ht]
      exact split_code hlen
theorem checkLzw_sound {early : Bool} {bs text : Bytes} (h : checkLzw early bs text = true) : EncodesToLzw early bs text := by
  obtain ⟨cs, tail, hc, hb⟩ := checkCodes_sound early _ _ _ _ h
  exact ⟨cs, tail, hc, hb⟩

/-! ### the greedy encoder is an instance -/

theorem longestMatch_spec (t : List Bytes) (i : Nat) (bs : Bytes) (j : Nat) (s : Bytes) :
    longestMatch t i bs = some (j, s) → ∃ k, j = i + k ∧ t[k]? = some s ∧ s.isPrefixOf bs = true ∧ 2 ≤ s.length := by
  fun_induction longestMatch t i bs with
  | case1 => nofun
  | case2 e t i bs rest _ j' s' hr _ ih | case5 e t i bs rest _ ih =>
    -- the match lies further down the table
    intro h
    obtain ⟨k, hk, h1, h2⟩ := ih (by first | exact hr.trans h | exact h)
    exact ⟨k + 1, by omega, h1, h2⟩
  | case3 e t i bs rest hcond | case4 e t i bs rest hcond =>
    intro h; cases h
    rw [Bool.and_eq_true, decide_eq_true_eq] at hcond
    exact ⟨0, rfl, rfl, hcond.2, hcond.1⟩

/-- fuel: every byte costs at most a phrase and one clear-table code (the clear code pending now is counted by the `if`),
    and the EOD code one more -/
theorem greedyCodes_codes (early : Bool) (fuel : Nat) (st : EncSt) (bs : Bytes) :
    2 * bs.length + (if 258 + st.table.length ≥ 4096 then 1 else 0) + 1 ≤ fuel →
    Codes early st bs (greedyCodes early fuel st bs) := by
  fun_induction greedyCodes early fuel st bs with
  | case1 => omega
  | case2 => exact fun _ => .eod
  | case3 fuel st b bs hfull ih =>
    intro hf
    rw [if_pos hfull] at hf
    exact .clear (ih (by rw [if_neg (by decide)]; omega))
  | case4 fuel st b bs hroom i s hm ih =>
    intro hf
    rw [if_neg hroom, List.length_cons] at hf
    obtain ⟨k, hk, hget, hpre, hlen⟩ := longestMatch_spec _ _ _ _ _ hm
    have hsplit : s ++ (b :: bs).drop s.length = b :: bs :=
      List.prefix_iff_eq_append.mp (List.isPrefixOf_iff_prefix.mp hpre)
    have hrest : s.length + ((b :: bs).drop s.length).length = bs.length + 1 := by
      rw [← List.length_append, hsplit, List.length_cons]
    have := Codes.phrase (early := early) (st := st) (c := 258 + i) (by intro h; subst h; simp at hlen)
      (.inr ⟨k, hget, by omega⟩) (ih (by split <;> omega))
    rwa [hsplit] at this
  | case5 fuel st b bs hroom hm ih =>
    intro hf
    rw [if_neg hroom, List.length_cons] at hf
    exact .phrase (s := [b]) (by simp) (.inl ⟨b, rfl, rfl⟩) (ih (by split <;> omega))

theorem bitsOfBytes_cons (b : UInt8) (t : Bytes) : bitsOfBytes (b :: t) = bitsOfNat 8 b.toNat ++ bitsOfBytes t := by
  simp [bitsOfBytes]

/-- eight bits are the bits of the byte they make up -/
theorem bitsOfNat_byte {l : List Bool} (h : l.length = 8) : bitsOfNat 8 (UInt8.ofNat (natOfBits l)).toNat = l := by
  have hlt : natOfBits l < 256 := by have := natOfBits_lt l; rwa [h] at this
  rw [UInt8.toNat_ofNat_of_lt' hlt]
  have := bitsOfNat_natOfBits l
  rwa [h] at this

/-- packing pads the last byte with zero bits and loses nothing -/
theorem bitsOfBytes_packBits (fuel : Nat) (bits : List Bool) : bits.length < fuel →
    ∃ k, bitsOfBytes (packBits fuel bits) = bits ++ List.replicate k false := by
  fun_induction packBits fuel bits with
  | case1 => exact fun h => absurd h (Nat.not_lt_zero _)
  | case2 => exact fun _ => ⟨0, rfl⟩
  | case3 fuel b bits byte ih =>
    intro hf
    have hbl : byte.length = min 8 (b :: bits).length := List.length_take
    rw [List.length_cons] at hf
    obtain ⟨k, hk⟩ := ih (by rw [List.length_drop, List.length_cons]; omega)
    rw [bitsOfBytes_cons, hk, bitsOfNat_byte (by rw [List.length_append, List.length_replicate]; omega)]
    by_cases hlong : 8 ≤ (b :: bits).length
    · exact ⟨k, by rw [hbl, Nat.min_eq_left hlong, Nat.sub_self, List.replicate_zero, List.append_nil, ← List.append_assoc,
        List.take_append_drop]⟩
    · exact ⟨8 - byte.length + k, by
        rw [List.drop_eq_nil_of_le (by omega), List.nil_append, List.append_assoc, List.replicate_append_replicate,
          show byte = b :: bits from List.take_of_length_le (by omega)]⟩

/-- **the greedy encoder conforms** -/
theorem encodeGreedy_conforms (early : Bool) (bs : Bytes) : EncodesToLzw early bs (encodeGreedy early bs) := by
  unfold encodeGreedy
  dsimp only
  obtain ⟨k, hk⟩ := bitsOfBytes_packBits
    ((bitsOfCodes ((codeWidth early encInit, 256) :: greedyCodes early (2 * bs.length + 2) encInit bs)).length + 1)
    (bitsOfCodes ((codeWidth early encInit, 256) :: greedyCodes early (2 * bs.length + 2) encInit bs)) (by omega)
  refine ⟨_, _, .clear (greedyCodes_codes early _ encInit bs (by simp [encInit])), hk⟩

end LzwSpec
