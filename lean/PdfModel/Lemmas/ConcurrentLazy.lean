import PdfModel.Model.ConcurrentLazy
import PdfModel.Lemmas.ConcurrentSeq

/-! Invariants of the once-cell layer `Model/ConcurrentLazy.lean` (the implementation under test:
`racy = false`, own guard stacks):

* a cell that thread `i` is initialising is `loading i` (`LInv.own`; hence no two threads claim one cell), so the
  store step of `get_or_try_init` always finds its own claim: no panic;
* whatever a cell holds, whatever a `load` hands out, is the value the initialiser produces for a lone
  caller on an uncached document (`LInv.cells`, `ThrOK.answers`; `ThrOK.run` remembers that a running initialiser is `init c`, which is
  what the store step needs, `ThrOK.sto`);
* the nested `get`s of the initialisers keep the invariants of `Model/Concurrent.lean` (`LInv.inner`),
  although the programs are handed to the inner threads one at a time (`launch`).
-/

namespace Conc
open Cache
variable {V E : Type}

theorem cellOf_cons (cells : List (Nat × Cell V)) (c c' : Nat) (x : Cell V) :
    cellOf ((c, x) :: cells) c' = if c' = c then x else cellOf cells c' := by
  unfold cellOf
  by_cases h : c' = c
  · subst h; simp
  · have : (c' == c) = false := by simpa using h
    simp [List.lookup_cons, this, h]

theorem launch_inv {d : Doc V E} {cfg : Cfg} {s s' : State V E} {i : Nat} {p : Prog V E} (h : launch d cfg s i p = some s') :
    ∃ t, s.threads[i]? = some t ∧ step d cfg { s with threads := s.threads.set i { t with todo := [p] } } i = some s' := by
  unfold launch at h
  split at h
  · next t ht => exact ⟨t, ht, h⟩
  · cases h

theorem launch_other {d : Doc V E} {cfg : Cfg} {s s' : State V E} {i : Nat} {p : Prog V E}
    (h : launch d cfg s i p = some s') (j : Nat) (hj : j ≠ i) : s'.threads[j]? = s.threads[j]? := by
  obtain ⟨t, _, h⟩ := launch_inv h
  rw [step_other h j hj]
  exact List.getElem?_set_ne (Ne.symm hj)

theorem innerIdle_iff {s : State V E} {i : Nat} :
    innerIdle s i = true ↔ ∃ t, s.threads[i]? = some t ∧ t.ctl = .start ∧ t.todo = [] := by
  unfold innerIdle
  cases h : s.threads[i]? with
  | none => simp
  | some t =>
    cases hc : t.ctl <;> simp [hc, List.isEmpty_iff]

/-- the cell a thread is initialising -/
def Claims : LCtl V E → Nat → Prop
  | .running (some c) _, c' => c' = c
  | .storing c _, c' => c' = c
  | _, _ => False

/-- the item a thread is in the middle of -/
def curItems : LCtl V E → List (Item V E)
  | .entering c => [.lazy c]
  | .running (some c) _ => [.lazy c]
  | .running none p => [.call p]
  | .storing c _ => [.lazy c]
  | _ => []

/-- what an item may answer: the value a lone caller gets on an uncached document; a read of a cell
    sees nothing or that value -/
def Expected (a : Nat → Nat → Res V E) (d : Doc V E) (init : Nat → Prog V E) : Item V E → LOut V E → Prop
  | .call p, o => o = .res (canon a d p)
  | .lazy c, o => o = .res (canon a d (init c))
  | .peek c, o => o = .unset ∨ o = .res (canon a d (init c))

def Answers (exp : Item V E → LOut V E → Prop) : List (Item V E) → List (LOut V E) → Prop
  | [], [] => True
  | i :: is, o :: os => exp i o ∧ Answers exp is os
  | _, _ => False

theorem Answers.snoc {exp : Item V E → LOut V E → Prop} : ∀ {its : List (Item V E)} {os : List (LOut V E)} {i : Item V E} {o : LOut V E},
    Answers exp its os → exp i o → Answers exp (its ++ [i]) (os ++ [o])
  | [], [], _, _, _, h => ⟨h, trivial⟩
  | [], _ :: _, _, _, h, _ => False.elim h
  | _ :: _, [], _, _, h, _ => False.elim h
  | _ :: _, _ :: _, _, _, h, h' => ⟨And.left h, Answers.snoc (And.right h) h'⟩

theorem Answers.length {exp : Item V E → LOut V E → Prop} : ∀ {its : List (Item V E)} {os : List (LOut V E)},
    Answers exp its os → its.length = os.length
  | [], [], _ => rfl
  | [], _ :: _, h => False.elim h
  | _ :: _, [], h => False.elim h
  | _ :: _, _ :: _, h => congrArg (· + 1) (Answers.length (And.right h))

theorem Answers.get {exp : Item V E → LOut V E → Prop} : ∀ {its : List (Item V E)} {os : List (LOut V E)} (_ : Answers exp its os)
    (k : Nat) (i : Item V E) (o : LOut V E), its[k]? = some i → os[k]? = some o → exp i o
  | [], _, _, _, _, _, h, _ => nomatch h
  | _ :: _, [], h, _, _, _, _, _ => False.elim h
  | _ :: _, _ :: _, h, 0, _, _, hi, ho => Option.some.inj hi ▸ Option.some.inj ho ▸ And.left h
  | _ :: _, _ :: _, h, k+1, i, o, hi, ho => Answers.get (And.right h) k i o hi ho

section Inv
variable (d : Doc V E) (filt : Nat → List Nat) (rank : Nat → Nat) (N : Nat) (init : Nat → Prog V E)

/-- per-thread part -/
structure ThrOK (its0 : List (Item V E)) (lt : LThread V E) : Prop where
  answers : Answers (Expected (Cache.ans d rank) d init) lt.past lt.out
  orig : lt.past ++ curItems lt.lctl ++ lt.items = its0
  fine : ∀ p, Item.call p ∈ lt.items → Fine filt (fun r' => rank r' < N) p
  sto : ∀ c res, lt.lctl = .storing c res → res = canon (Cache.ans d rank) d (init c)
  run : ∀ c p, lt.lctl = .running (some c) p → p = init c
  fin : lt.lctl = .finished → lt.items = []
  nopanic : lt.lctl ≠ .panicked

/-- inner thread `i` against the layer above: between two programs, or running the last program of the
    list of programs it has been handed so far -/
def Link (css : List (List (Prog V E))) (inner : State V E) (i : Nat) : LCtl V E → Prop
  | .running _ p => ∃ pre, css[i]? = some (pre ++ [p])
  | _ => innerIdle inner i = true

structure LInv (items0 : List (List (Item V E))) (s : LState V E) : Prop where
  inner : ∃ css, GInv d filt rank N css s.inner ∧ (∀ cs ∈ css, ∀ p ∈ cs, Fine filt (fun r' => rank r' < N) p) ∧
    ∀ (i : Nat) lt, s.lthreads[i]? = some lt → Link css s.inner i lt.lctl
  cells : ∀ c v, cellOf s.cells c = .full v → Res.ok v = canon (Cache.ans d rank) d (init c)
  own : ∀ (i : Nat) lt, s.lthreads[i]? = some lt → ∀ c, Claims lt.lctl c → cellOf s.cells c = .loading i
  thr : ∀ (i : Nat) lt, s.lthreads[i]? = some lt → ∃ its0, items0[i]? = some its0 ∧ ThrOK d filt rank N init its0 lt

end Inv

theorem settle_idle (s : LState V E) (i : Nat) (lt : LThread V E) (c : Option Nat) (p : Prog V E) (inner' : State V E)
    (h : innerIdle inner' i = true) :
    settle s i lt c p inner' =
      match c with
      | some c => ⟨inner', s.cells, s.lthreads.set i { lt with lctl := .storing c (lastOut inner' i) }⟩
      | none => ⟨inner', s.cells, s.lthreads.set i { lt with lctl := .idle, past := lt.past ++ [.call p], out := lt.out ++ [.res (lastOut inner' i)] }⟩ := by
  unfold settle
  simp only [h, if_true]
  cases c <;> rfl

theorem settle_busy (s : LState V E) (i : Nat) (lt : LThread V E) (c : Option Nat) (p : Prog V E) (inner' : State V E)
    (h : innerIdle inner' i = false) :
    settle s i lt c p inner' = ⟨inner', s.cells, s.lthreads.set i { lt with lctl := .running c p }⟩ := by
  unfold settle
  simp [h]

theorem settle_cells (s : LState V E) (i : Nat) (lt : LThread V E) (c : Option Nat) (p : Prog V E) (inner' : State V E) :
    (settle s i lt c p inner').cells = s.cells := by
  unfold settle
  split
  · cases c <;> rfl
  · rfl

/-- The transitions of `lstep` under `get_or_try_init` (`racy = false`), rule by rule, for a thread whose record is `lt`. -/
inductive LStep (d : Doc V E) (init : Nat → Prog V E) (cfg : Cfg) (s : LState V E) (i : Nat) (lt : LThread V E) : LState V E → Prop
  | finish : lt.lctl = .idle → lt.items = [] →
      LStep d init cfg s i lt { s with lthreads := s.lthreads.set i { lt with lctl := .finished } }
  | call (p : Prog V E) (rest : List (Item V E)) (inner' : State V E) : lt.lctl = .idle → lt.items = .call p :: rest →
      launch d cfg s.inner i p = some inner' → LStep d init cfg s i lt (settle s i { lt with items := rest } none p inner')
  | enter (c : Nat) (rest : List (Item V E)) : lt.lctl = .idle → lt.items = .lazy c :: rest →
      LStep d init cfg s i lt { s with lthreads := s.lthreads.set i { lt with lctl := .entering c, items := rest } }
  | peek (c : Nat) (rest : List (Item V E)) : lt.lctl = .idle → lt.items = .peek c :: rest →
      LStep d init cfg s i lt { s with lthreads := s.lthreads.set i { lt with lctl := .idle, items := rest, past := lt.past ++ [.peek c], out := lt.out ++ [(match cellOf s.cells c with | .full v => .res (.ok v) | _ => .unset)] } }
  | found (c : Nat) (v : V) : lt.lctl = .entering c → cellOf s.cells c = .full v →
      LStep d init cfg s i lt { s with lthreads := s.lthreads.set i { lt with lctl := .idle, past := lt.past ++ [.lazy c], out := lt.out ++ [.res (.ok v)] } }
  | claim (c : Nat) (inner' : State V E) : lt.lctl = .entering c → cellOf s.cells c = .empty →
      launch d cfg s.inner i (init c) = some inner' →
      LStep d init cfg s i lt (settle { s with cells := (c, .loading i) :: s.cells } i lt (some c) (init c) inner')
  | run (c : Option Nat) (p : Prog V E) (inner' : State V E) : lt.lctl = .running c p → step d cfg s.inner i = some inner' →
      LStep d init cfg s i lt (settle s i lt c p inner')
  | store (c : Nat) (res : Res V E) : lt.lctl = .storing c res → cellOf s.cells c = .loading i →
      LStep d init cfg s i lt
        { s with cells := (c, (match res with | .ok v => .full v | _ => .empty)) :: s.cells,
                 lthreads := s.lthreads.set i { lt with lctl := .idle, past := lt.past ++ [.lazy c], out := lt.out ++ [.res res] } }
  | panic (c : Nat) (res : Res V E) : lt.lctl = .storing c res → cellOf s.cells c ≠ .loading i →
      LStep d init cfg s i lt { s with lthreads := s.lthreads.set i { lt with lctl := .panicked } }

theorem lstep_sound {d : Doc V E} {init : Nat → Prog V E} {lc : LCfg} (hr : lc.racy = false) {s s' : LState V E} {i : Nat}
    (hs : lstep d init lc s i = some s') : ∃ lt, s.lthreads[i]? = some lt ∧ LStep d init lc.cfg s i lt s' := by
  unfold lstep at hs
  cases hlt : s.lthreads[i]? with
  | none => simp [hlt] at hs
  | some lt =>
  refine ⟨lt, rfl, ?_⟩
  simp only [hlt] at hs
  obtain ⟨ctl, items, past, out⟩ := lt
  cases ctl with
  | finished => cases hs
  | panicked => cases hs
  | idle =>
    simp only at hs
    cases items with
    | nil => cases hs; exact .finish rfl rfl
    | cons it rest =>
      cases it with
      | call p =>
        obtain ⟨inner', hl, rfl⟩ := Option.map_eq_some_iff.mp hs
        exact .call p rest inner' rfl rfl hl
      | lazy c => cases hs; exact .enter c rest rfl rfl
      | peek c => cases hs; exact .peek c rest rfl rfl
  | entering c =>
    simp only at hs
    cases hcell : cellOf s.cells c with
    | full v => simp only [hcell] at hs; cases hs; exact .found c v rfl hcell
    | loading j => simp [hcell, hr] at hs
    | empty =>
      simp only [hcell, hr] at hs
      obtain ⟨inner', hl, rfl⟩ := Option.map_eq_some_iff.mp hs
      exact .claim c inner' rfl hcell hl
  | running c p =>
    obtain ⟨inner', hst, rfl⟩ := Option.map_eq_some_iff.mp hs
    exact .run c p inner' rfl hst
  | storing c res =>
    simp only [hr, Bool.false_eq_true, reduceIte] at hs
    have panic : (∀ j, cellOf s.cells c = .loading j → j ≠ i) →
        LStep d init lc.cfg s i ⟨.storing c res, items, past, out⟩
          { s with lthreads := s.lthreads.set i ⟨.panicked, items, past, out⟩ } :=
      fun h => .panic c res rfl fun e => h i e rfl
    cases hcell : cellOf s.cells c with
    | full v => simp only [hcell] at hs; cases hs; exact panic (by simp [hcell])
    | empty => simp only [hcell] at hs; cases hs; exact panic (by simp [hcell])
    | loading j =>
      simp only [hcell] at hs
      split at hs
      · next e =>
        subst e
        cases res with
        | ok v => cases hs; exact .store c (.ok v) rfl hcell
        | err e => cases hs; exact .store c (.err e) rfl hcell
        | oof => cases hs; exact .store c .oof rfl hcell
      · next e => cases hs; exact panic (by simp [hcell, e])

section Inner
variable {d : Doc V E} {filt : Nat → List Nat} {rank : Nat → Nat} {N : Nat}

/-- handing a new program to an inner thread that is between two programs keeps the invariant of the inner
    system, for the list of programs extended by the new one -/
theorem launch_GInv (wf : WF d filt rank) (hD : N ≤ maxNestedGets) {cfg : Cfg} (hg : cfg.sharedGuard = false)
    {css : List (List (Prog V E))} (hF : ∀ cs ∈ css, ∀ p ∈ cs, Fine filt (fun r' => rank r' < N) p)
    {s s' : State V E} {i : Nat} {p : Prog V E} (h : GInv d filt rank N css s) (hidle : innerIdle s i = true)
    (hp : Fine filt (fun r' => rank r' < N) p) (hl : launch d cfg s i p = some s') :
    ∃ cs, css[i]? = some cs ∧ GInv d filt rank N (css.set i (cs ++ [p])) s' ∧
      (∀ cs' ∈ css.set i (cs ++ [p]), ∀ q ∈ cs', Fine filt (fun r' => rank r' < N) q) := by
  obtain ⟨t, ht, hctl, htodo⟩ := innerIdle_iff.mp hidle
  obtain ⟨t0, ht0, hl⟩ := launch_inv hl
  cases ht.symm.trans ht0
  obtain ⟨hsh, hlen, hth⟩ := h
  have hi : i < css.length := hlen ▸ (List.getElem?_eq_some_iff.mp ht).1
  have hcsi : css[i]? = some css[i] := List.getElem?_eq_getElem hi
  have hF' : ∀ cs' ∈ css.set i (css[i] ++ [p]), ∀ q ∈ cs', Fine filt (fun r' => rank r' < N) q := by
    intro cs' hcs' q hq
    rcases List.mem_or_eq_of_mem_set hcs' with hm | rfl
    · exact hF cs' hm q hq
    · rcases List.mem_append.mp hq with hq | hq
      · exact hF _ (List.getElem_mem hi) q hq
      · exact List.mem_singleton.mp hq ▸ hp
  refine ⟨css[i], hcsi, step_GInv wf hD hg hF' ?_ hl, hF'⟩
  refine ⟨hsh, by simp [hlen], fun j u cs' hu hcs' => ?_⟩
  rcases set_get hu with ⟨rfl, rfl⟩ | ⟨hj, hu⟩
  · cases (List.getElem?_set_self hi).symm.trans hcs'
    obtain ⟨hch, done, hout, hm⟩ := hth j t css[j] ht hcsi
    simp only [hctl, resid] at hm
    refine ⟨hch, done, hout, ?_⟩
    simp only [hctl, resid]
    exact ⟨hm.1, by rw [hm.2.1, htodo]; simp, nofun⟩
  · rw [List.getElem?_set_ne (Ne.symm hj)] at hcs'
    exact hth j u cs' hu hcs'

/-- an inner thread that is between two programs has just answered the last program it was handed: with the
    sequential answer -/
theorem idle_result {css : List (List (Prog V E))} {s : State V E} {i : Nat} {pre : List (Prog V E)} {p : Prog V E}
    (h : GInv d filt rank N css s) (hc : css[i]? = some (pre ++ [p])) (hidle : innerIdle s i = true) :
    lastOut s i = canon (ans d rank) d p := by
  obtain ⟨t, ht, hctl, htodo⟩ := innerIdle_iff.mp hidle
  obtain ⟨_, done, hout, hm⟩ := h.2.2 i t _ ht hc
  rw [hctl] at hm
  simp only [resid] at hm
  have : done = pre ++ [p] := by rw [hm.2.1, htodo]; simp
  subst this
  simp [lastOut, ht, hout]

end Inner
theorem Link.other {css css' : List (List (Prog V E))} {inner inner' : State V E} {j : Nat} {c : LCtl V E}
    (hcss : css'[j]? = css[j]?) (hth : inner'.threads[j]? = inner.threads[j]?) (h : Link css inner j c) :
    Link css' inner' j c := by
  cases c <;> simp only [Link, innerIdle, hth, hcss] at h ⊢ <;> exact h

section Step
variable {d : Doc V E} {filt : Nat → List Nat} {rank : Nat → Nat} {N : Nat} {init : Nat → Prog V E}

/-- thread `i` changed its own record, possibly the inner system and the cells -/
theorem LInv.update {items0 : List (List (Item V E))} {s : LState V E} (h : LInv d filt rank N init items0 s)
    {i : Nat} {lt lt' : LThread V E} (hlt : s.lthreads[i]? = some lt) {inner' : State V E} {cells' : List (Nat × Cell V)}
    (css' : List (List (Prog V E))) (hG : GInv d filt rank N css' inner')
    (hF : ∀ cs ∈ css', ∀ p ∈ cs, Fine filt (fun r' => rank r' < N) p)
    (hlo : ∀ (j : Nat) ltj, j ≠ i → s.lthreads[j]? = some ltj → Link css' inner' j ltj.lctl)
    (hlm : Link css' inner' i lt'.lctl)
    (hcells : ∀ c v, cellOf cells' c = .full v → Res.ok v = canon (Cache.ans d rank) d (init c))
    (hoo : ∀ (j : Nat) ltj, j ≠ i → s.lthreads[j]? = some ltj → ∀ c, Claims ltj.lctl c → cellOf cells' c = .loading j)
    (hom : ∀ c, Claims lt'.lctl c → cellOf cells' c = .loading i)
    (hthr : ∀ its0, items0[i]? = some its0 → ThrOK d filt rank N init its0 lt → ThrOK d filt rank N init its0 lt') :
    LInv d filt rank N init items0 ⟨inner', cells', s.lthreads.set i lt'⟩ := by
  refine ⟨⟨css', hG, hF, ?_⟩, hcells, ?_, ?_⟩
  · intro j u hu
    rcases set_get hu with ⟨rfl, rfl⟩ | ⟨hj, hu'⟩
    · exact hlm
    · exact hlo j u hj hu'
  · intro j u hu
    rcases set_get hu with ⟨rfl, rfl⟩ | ⟨hj, hu'⟩
    · exact hom
    · exact hoo j u hj hu'
  · intro j u hu
    rcases set_get hu with ⟨rfl, rfl⟩ | ⟨hj, hu'⟩
    · obtain ⟨its0, h0, ht⟩ := h.thr j lt hlt
      exact ⟨its0, h0, hthr its0 h0 ht⟩
    · exact h.thr j u hu'

/-- the thread has completed item `it` with answer `o` -/
theorem ThrOK.complete {its0 : List (Item V E)} {lt : LThread V E} (ht : ThrOK d filt rank N init its0 lt) {it : Item V E}
    {o : LOut V E} {items' : List (Item V E)} (horig : curItems lt.lctl ++ lt.items = it :: items')
    (hsub : ∀ q, Item.call q ∈ items' → Item.call q ∈ lt.items) (hexp : Expected (Cache.ans d rank) d init it o) :
    ThrOK d filt rank N init its0 ⟨.idle, items', lt.past ++ [it], lt.out ++ [o]⟩ :=
  ⟨ht.answers.snoc hexp, by have := ht.orig; rw [List.append_assoc, horig] at this; simp [← this, curItems],
    fun q hq => ht.fine q (hsub q hq), nofun, nofun, nofun, nofun⟩

/-- the thread has moved to `c` inside the same item, or on to the next one -/
theorem ThrOK.goto {its0 : List (Item V E)} {lt : LThread V E} (ht : ThrOK d filt rank N init its0 lt) {c : LCtl V E}
    {items' : List (Item V E)} (horig : curItems c ++ items' = curItems lt.lctl ++ lt.items)
    (hsub : ∀ q, Item.call q ∈ items' → Item.call q ∈ lt.items)
    (hsto : ∀ c' res, c = .storing c' res → res = canon (Cache.ans d rank) d (init c'))
    (hrun : ∀ c' p, c = .running (some c') p → p = init c') (hfin : c = .finished → items' = []) (hnp : c ≠ .panicked) :
    ThrOK d filt rank N init its0 ⟨c, items', lt.past, lt.out⟩ :=
  ⟨ht.answers, by have := ht.orig; rw [List.append_assoc, ← horig, ← List.append_assoc] at this; exact this, fun q hq => ht.fine q (hsub q hq),
    hsto, hrun, hfin, hnp⟩

/-- **Step lemma of the once-cell layer** (`get_or_try_init`, own guard stacks). -/
theorem lstep_LInv (wf : WF d filt rank) (hD : N ≤ maxNestedGets) {lc : LCfg}
    (hg : lc.cfg.sharedGuard = false) (hr : lc.racy = false)
    (hinit : ∀ c, Fine filt (fun r' => rank r' < N) (init c))
    {items0 : List (List (Item V E))} {s s' : LState V E} {i : Nat}
    (h : LInv d filt rank N init items0 s) (hs : lstep d init lc s i = some s') :
    LInv d filt rank N init items0 s' := by
  obtain ⟨lt, hlt, hstep⟩ := lstep_sound hr hs
  obtain ⟨css, hG, hF, hL⟩ := h.inner
  have hlink := hL i lt hlt
  have hown := h.own i lt hlt
  have hcells := h.cells
  obtain ⟨_, _, ht0⟩ := h.thr i lt hlt
  have hoo : ∀ (j : Nat) ltj, j ≠ i → s.lthreads[j]? = some ltj → ∀ c, Claims ltj.lctl c → cellOf s.cells c = .loading j :=
    fun j ltj _ hj => h.own j ltj hj
  have hlo : ∀ (j : Nat) ltj, j ≠ i → s.lthreads[j]? = some ltj → Link css s.inner j ltj.lctl :=
    fun j ltj _ hj => hL j ltj hj
  -- handing `p` to the inner thread, which is between two programs
  have launched : ∀ {p : Prog V E} {inner' : State V E}, innerIdle s.inner i = true → Fine filt (fun r' => rank r' < N) p →
      launch d lc.cfg s.inner i p = some inner' →
      ∃ css' cs, GInv d filt rank N css' inner' ∧ (∀ cs ∈ css', ∀ q ∈ cs, Fine filt (fun r' => rank r' < N) q) ∧
        (∀ (j : Nat) ltj, j ≠ i → s.lthreads[j]? = some ltj → Link css' inner' j ltj.lctl) ∧ css'[i]? = some (cs ++ [p]) := by
    intro p inner' hidle hp hl
    obtain ⟨cs, hcs, hG', hF'⟩ := launch_GInv wf hD hg hF hG hidle hp hl
    exact ⟨_, cs, hG', hF', fun j ltj hj hltj =>
      (hlo j ltj hj hltj).other (List.getElem?_set_ne (Ne.symm hj)) (launch_other hl j hj),
      List.getElem?_set_self (List.getElem?_eq_some_iff.mp hcs).1⟩
  -- a new entry for a cell nobody else claims
  have newCell : ∀ (c : Nat) (x : Cell V), (∀ j, j ≠ i → cellOf s.cells c ≠ .loading j) →
      (∀ v, x = .full v → Res.ok v = canon (Cache.ans d rank) d (init c)) →
      (∀ c' v, cellOf ((c, x) :: s.cells) c' = .full v → Res.ok v = canon (Cache.ans d rank) d (init c')) ∧
      (∀ (j : Nat) ltj, j ≠ i → s.lthreads[j]? = some ltj → ∀ c', Claims ltj.lctl c' →
        cellOf ((c, x) :: s.cells) c' = .loading j) := by
    intro c x hnot hx
    refine ⟨fun c' v hv => ?_, fun j ltj hj hltj c' hcl => ?_⟩
    · rw [cellOf_cons] at hv
      split at hv
      · next e => exact e ▸ hx v hv
      · exact hcells c' v hv
    · have := hoo j ltj hj hltj c' hcl
      rw [cellOf_cons]
      split
      · next e => exact absurd (e ▸ this) (hnot j hj)
      · exact this
  cases hstep with
  | panic c res hc hne => exact absurd (hown c (hc ▸ rfl)) hne
  | finish hc hit =>
    exact h.update hlt css hG hF hlo (by rw [hc] at hlink; exact hlink) hcells hoo nofun fun _ _ ht =>
      ht.goto (by rw [hc]; rfl) (fun _ => id) nofun nofun (fun _ => hit) nofun
  | enter c rest hc hit =>
    exact h.update hlt css hG hF hlo (by rw [hc] at hlink; exact hlink) hcells hoo nofun fun _ _ ht =>
      ht.goto (c := .entering c) (by rw [hc, hit]; rfl) (fun q hq => hit ▸ List.mem_cons_of_mem _ hq) nofun nofun nofun nofun
  | peek c rest hc hit =>
    refine h.update hlt css hG hF hlo (by rw [hc] at hlink; exact hlink) hcells hoo nofun fun _ _ ht =>
      ht.complete (it := .peek c) (by rw [hc, hit]; rfl) (fun q hq => hit ▸ List.mem_cons_of_mem _ hq) ?_
    cases hcell : cellOf s.cells c with
    | full v => exact .inr (congrArg LOut.res (hcells c v hcell))
    | empty => exact .inl rfl
    | loading j => exact .inl rfl
  | found c v hc hcell =>
    exact h.update hlt css hG hF hlo (by rw [hc] at hlink; exact hlink) hcells hoo nofun fun _ _ ht =>
      ht.complete (it := .lazy c) (by rw [hc]; rfl) (fun _ => id) (congrArg LOut.res (hcells c v hcell))
  | store c res hc hcell =>
    have hres : res = canon (Cache.ans d rank) d (init c) := ht0.sto c res hc
    obtain ⟨hcells', hoo'⟩ := newCell c (match (generalizing := false) res with | .ok v => .full v | _ => .empty)
      (fun j hj e => hj (Cell.loading.inj (hcell.symm.trans e)).symm) (by intro v e; cases res <;> cases e; exact hres)
    exact h.update hlt css hG hF hlo (by rw [hc] at hlink; exact hlink) hcells' hoo' nofun fun _ _ ht =>
      ht.complete (it := .lazy c) (by rw [hc]; rfl) (fun _ => id) (congrArg LOut.res hres)
  | call p rest inner' hc hit hl =>
    obtain ⟨css', cs, hG', hF', hlo', hcs'⟩ := launched (by rw [hc] at hlink; exact hlink)
      (ht0.fine p (hit ▸ List.mem_cons_self ..)) hl
    cases hid : innerIdle inner' i with
    | true =>
      rw [settle_idle _ _ _ _ _ _ hid]
      exact h.update hlt css' hG' hF' hlo' hid hcells hoo nofun fun _ _ ht =>
        ht.complete (it := .call p) (by rw [hc, hit]; rfl) (fun q hq => hit ▸ List.mem_cons_of_mem _ hq)
          (congrArg LOut.res (idle_result hG' hcs' hid))
    | false =>
      rw [settle_busy _ _ _ _ _ _ hid]
      exact h.update hlt css' hG' hF' hlo' ⟨cs, hcs'⟩ hcells hoo nofun fun _ _ ht =>
        ht.goto (c := .running none p) (by rw [hc, hit]; rfl) (fun q hq => hit ▸ List.mem_cons_of_mem _ hq) nofun nofun nofun nofun
  | claim c inner' hc hcell hl =>
    obtain ⟨css', cs, hG', hF', hlo', hcs'⟩ := launched (by rw [hc] at hlink; exact hlink) (hinit c) hl
    obtain ⟨hcells', hoo'⟩ := newCell c (.loading i) (fun j _ e => nomatch hcell.symm.trans e) nofun
    have hom : ∀ c', c' = c → cellOf ((c, Cell.loading i) :: s.cells) c' = .loading i :=
      fun c' e => by rw [e, cellOf_cons, if_pos rfl]
    cases hid : innerIdle inner' i with
    | true =>
      rw [settle_idle _ _ _ _ _ _ hid]
      exact h.update hlt css' hG' hF' hlo' hid hcells' hoo' hom fun _ _ ht =>
        ht.goto (c := .storing c _) (by rw [hc]; rfl) (fun _ => id)
          (fun c' res e => by cases e; exact idle_result hG' hcs' hid) nofun nofun nofun
    | false =>
      rw [settle_busy _ _ _ _ _ _ hid]
      exact h.update hlt css' hG' hF' hlo' ⟨cs, hcs'⟩ hcells' hoo' hom fun _ _ ht =>
        ht.goto (c := .running (some c) (init c)) (by rw [hc]; rfl) (fun _ => id) nofun (fun c' p e => by cases e; rfl) nofun nofun
  | run c p inner' hc hst =>
    have hG' := step_GInv wf hD hg hF hG hst
    obtain ⟨pre, hpre⟩ : Link css s.inner i (.running c p) := hc ▸ hlink
    have hlo' : ∀ (j : Nat) ltj, j ≠ i → s.lthreads[j]? = some ltj → Link css inner' j ltj.lctl :=
      fun j ltj hj hltj => (hlo j ltj hj hltj).other rfl (step_other hst j hj)
    have hown' : ∀ c', Claims (.running c p) c' → cellOf s.cells c' = .loading i := fun c' e => hown c' (hc ▸ e)
    cases hid : innerIdle inner' i with
    | true =>
      rw [settle_idle _ _ _ _ _ _ hid]
      have hres := idle_result hG' hpre hid
      cases c with
      | some c =>
        exact h.update hlt css hG' hF hlo' hid hcells hoo hown' fun _ _ ht =>
          ht.goto (c := .storing c _) (by rw [hc]; rfl) (fun _ => id)
            (fun c' res e => by cases e; rw [hres, ht.run c p hc]) nofun nofun nofun
      | none =>
        exact h.update hlt css hG' hF hlo' hid hcells hoo nofun fun _ _ ht =>
          ht.complete (it := .call p) (by rw [hc]; rfl) (fun _ => id) (congrArg LOut.res hres)
    | false =>
      rw [settle_busy _ _ _ _ _ _ hid]
      exact h.update hlt css hG' hF hlo' ⟨pre, hpre⟩ hcells hoo hown' fun _ _ ht =>
        ht.goto (c := .running c p) (by rw [hc]) (fun _ => id) nofun (fun c' p' e => by cases e; exact ht.run _ _ hc) nofun nofun

theorem init_LInv (slots : List (Nat × Slot V E)) (stm : List (Nat × Res V E)) (items : List (List (Item V E)))
    (hsh : SInv d filt (ans d rank) ⟨slots, stm, [], false⟩)
    (hfine : ∀ its ∈ items, ∀ p, Item.call p ∈ its → Fine filt (fun r' => rank r' < N) p) :
    LInv d filt rank N init items (LState.init slots stm items) := by
  have hth : ∀ (i : Nat) (lt : LThread V E), (LState.init slots stm items).lthreads[i]? = some lt →
      ∃ its, items[i]? = some its ∧ lt = ⟨.idle, its, [], []⟩ := by
    intro i lt hlt
    simp only [LState.init, List.getElem?_map, Option.map_eq_some_iff] at hlt
    obtain ⟨its, hits, rfl⟩ := hlt
    exact ⟨its, hits, rfl⟩
  refine ⟨⟨items.map fun _ => [], init_GInv slots stm _ hsh, ?_, ?_⟩, ?_, ?_, ?_⟩
  · intro cs hcs p hp
    simp only [List.mem_map] at hcs
    obtain ⟨_, _, rfl⟩ := hcs
    simp at hp
  · intro i lt hlt
    obtain ⟨its, hits, rfl⟩ := hth i lt hlt
    simp only [Link]
    rw [innerIdle_iff]
    refine ⟨Thread.init [], ?_, rfl, rfl⟩
    simp [LState.init, State.init, hits]
  · intro c v hv
    simp [LState.init, cellOf] at hv
  · intro i lt hlt c hc
    obtain ⟨its, hits, rfl⟩ := hth i lt hlt
    exact False.elim hc
  · intro i lt hlt
    obtain ⟨its, hits, rfl⟩ := hth i lt hlt
    refine ⟨its, hits, trivial, by simp [curItems], hfine its (List.mem_of_getElem? hits),
      (by intro c res e; cases e), (by intro c p e; cases e), (by intro e; cases e), (by intro e; cases e)⟩

theorem reachable_LInv (wf : WF d filt rank) (hD : N ≤ maxNestedGets) {lc : LCfg}
    (hg : lc.cfg.sharedGuard = false) (hr : lc.racy = false)
    (hinit : ∀ c, Fine filt (fun r' => rank r' < N) (init c))
    {items0 : List (List (Item V E))} {s0 s : LState V E}
    (h0 : LInv d filt rank N init items0 s0) (hreach : LReachable d init lc s0 s) :
    LInv d filt rank N init items0 s := by
  induction hreach with
  | init => exact h0
  | step i _ hs ih => exact lstep_LInv wf hD hg hr hinit ih hs

/-- a cell that holds a value keeps it (`get_or_try_init`; no invariant needed) -/
theorem lstep_full_stable {lc : LCfg} (hr : lc.racy = false) {s s' : LState V E} {i : Nat}
    (hs : lstep d init lc s i = some s') (c : Nat) (v : V) (hc : cellOf s.cells c = .full v) :
    cellOf s'.cells c = .full v := by
  obtain ⟨lt, _, h⟩ := lstep_sound hr hs
  -- a new entry for a cell that is not full is not an entry for `c`
  have other : ∀ {c' : Nat} (x : Cell V), (∀ v', cellOf s.cells c' ≠ .full v') → cellOf ((c', x) :: s.cells) c = .full v := by
    intro c' x hne
    rw [cellOf_cons, if_neg fun e : c = c' => hne v (e ▸ hc)]
    exact hc
  cases h with
  | finish => exact hc
  | enter => exact hc
  | peek => exact hc
  | found => exact hc
  | panic => exact hc
  | call => rw [settle_cells]; exact hc
  | run => rw [settle_cells]; exact hc
  | claim c' inner' _ hcell => rw [settle_cells]; exact other _ fun v' e => nomatch hcell.symm.trans e
  | store c' res _ hcell => exact other _ fun v' e => nomatch hcell.symm.trans e

end Step
end Conc
