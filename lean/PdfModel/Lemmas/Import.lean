import PdfModel.Spec.Import

/-! Invariants of the importer's state and the specification of `cloneRef` / `mapSt` they support. -/

namespace Import

@[simp] theorem lk_nil (a : Nat) : lk [] a = none := rfl
theorem lk_cons (k v : Nat) (m : List (Nat × Nat)) (a : Nat) :
    lk ((k, v) :: m) a = if a = k then some v else lk m a := rfl

theorem lk_none_not_mem : ∀ (m : List (Nat × Nat)) (a : Nat), lk m a = none → a ∉ m.map Prod.fst
  | [], _, _ => nofun
  | (k, v) :: m, a, h => by
    rw [lk_cons] at h
    split at h
    · cases h
    · exact List.not_mem_cons_of_ne_of_not_mem ‹_› (lk_none_not_mem m a h)

theorem lk_some_mem : ∀ (m : List (Nat × Nat)) (a n : Nat), lk m a = some n → (a, n) ∈ m := by
  intro m a n h
  induction m with
  | nil => cases h
  | cons p m ih =>
    rw [lk_cons] at h
    split at h
    · cases h; simp [*]
    · exact List.mem_cons_of_mem _ (ih h)

/-! ### sequencing

Every function of the importer has the shape "run a sub-computation; if it fails pass the failure on, with the
state it left; otherwise go on with its value", written out as a four-way `match`. `seq` is that shape, and each
function gets an equation that exhibits it (`mapSt_cons`, `cloneRef_succ`, `cloneOp_eq`, `clonePage_eq`, …). -/

/-- `e` makes the state of the whole out of the state a failing `r` left (`pop` after a walk, re-pairing with the
    resource table in `cloneOp`). -/
def seq {σ τ β γ : Type} (r : Out β × σ) (e : σ → τ) (k : β → Out γ × τ) : Out γ × τ :=
  match r.1 with
  | .ok b => k b
  | .err => (.err, e r.2)
  | .panic => (.panic, e r.2)
  | .oof => (.oof, e r.2)

/-- what a call started in state `s` guarantees of its outcome `x`, whatever it is: the invariant `I`, the relation
    `R` to the state it started in, and `Q` of the value if there is one -/
def Post {σ α : Type} (I : σ → Prop) (R : σ → σ → Prop) (s : σ) (Q : α → σ → Prop) (x : Out α × σ) : Prop :=
  I x.2 ∧ R s x.2 ∧ ∀ a, x.1 = .ok a → Q a x.2

section
variable {σ τ β γ : Type} {r : Out β × σ} {e : σ → τ} {k : β → Out γ × τ}

theorem seq_of_ok {b : β} (h : r.1 = .ok b) : seq r e k = k b := by simp only [seq, h]

theorem seq_ne_panic (hr : r.1 ≠ .panic) (hk : ∀ b, r.1 = .ok b → (k b).1 ≠ .panic) : (seq r e k).1 ≠ .panic := by
  unfold seq; cases h : r.1 <;> first | exact hk _ h | exact absurd h hr | nofun

theorem seq_ne_oof (hr : r.1 ≠ .oof) (hk : ∀ b, r.1 = .ok b → (k b).1 ≠ .oof) : (seq r e k).1 ≠ .oof := by
  unfold seq; cases h : r.1 <;> first | exact hk _ h | exact absurd h hr | nofun

theorem seq_ne_oof_left (h : (seq r e k).1 ≠ .oof) : r.1 ≠ .oof :=
  fun h0 => h (by simp only [seq, h0])

/-- two continuations that agree where the first does not run out of fuel -/
theorem seq_congr {k' : β → Out γ × τ} (hne : (seq r e k).1 ≠ .oof)
    (hk : ∀ b, r.1 = .ok b → (k b).1 ≠ .oof → k' b = k b) : seq r e k' = seq r e k := by
  cases h : r.1 with
  | ok b => rw [seq_of_ok h] at hne ⊢; rw [seq_of_ok h]; exact hk b h hne
  | _ => simp only [seq, h]

theorem Post.seq {I : τ → Prop} {R : τ → τ → Prop} {s : τ} {Q : γ → τ → Prop}
    (he : I (e r.2) ∧ R s (e r.2)) (hk : ∀ b, r.1 = .ok b → Post I R s Q (k b)) : Post I R s Q (seq r e k) := by
  unfold Import.seq; cases h : r.1 <;> first | exact hk _ h | exact ⟨he.1, he.2, nofun⟩

end

/-- if one more unit of fuel changes nothing once the fuel suffices, no larger amount does -/
theorem fuel_le {α σ : Type} (F : Nat → Out α × σ) (hF : ∀ f, (F f).1 ≠ .oof → F (f + 1) = F f) {f f' : Nat}
    (hle : f ≤ f') (h : (F f).1 ≠ .oof) : F f' = F f := by
  induction hle with
  | refl => rfl
  | step _ ih => rw [hF _ (ih ▸ h), ih]

/-! ### the generic traversal -/

theorem mapSt_nil {σ α β : Type} (g : α → σ → Out β × σ) (s : σ) : mapSt g [] s = (.ok [], s) := rfl

section
variable {σ α β : Type} (g : α → σ → Out β × σ)

theorem mapSt_cons (a : α) (as : List α) (s : σ) : mapSt g (a :: as) s =
    seq (g a s) id fun b => seq (mapSt g as (g a s).2) id fun bs => (.ok (b :: bs), (mapSt g as (g a s).2).2) := by
  rw [mapSt]; unfold seq
  cases (g a s).1 with
  | ok b => cases (mapSt g as (g a s).2).1 <;> rfl
  | _ => rfl

/-- Induction principle for `mapSt`: an invariant `I`, a pre-order `R` on states and a result property `Q`
    that is stable under `R` are carried through the traversal, whatever its outcome. -/
theorem mapSt_spec (I : σ → Prop) (R : σ → σ → Prop) (Q : α → β → σ → Prop) (QL : List α → List β → σ → Prop)
    (hrefl : ∀ s, R s s) (htrans : ∀ a b c, R a b → R b c → R a c) (hQLnil : ∀ s, QL [] [] s)
    (hQLcons : ∀ a b as bs s s', Q a b s → R s s' → QL as bs s' → QL (a :: as) (b :: bs) s')
    (l : List α) (hg : ∀ a ∈ l, ∀ s, I s → Post I R s (Q a) (g a s)) :
    ∀ s, I s → Post I R s (QL l) (mapSt g l s) := by
  induction l with
  | nil => exact fun s hs => ⟨hs, hrefl s, fun _ h => by cases h; exact hQLnil s⟩
  | cons a as ih =>
    intro s hs
    have ha := hg a (by simp) s hs
    have hr := ih (fun x hx => hg x (by simp [hx])) _ ha.1
    have hR := htrans _ _ _ ha.2.1 hr.2.1
    rw [mapSt_cons]
    refine .seq ⟨ha.1, ha.2.1⟩ fun b hb => .seq ⟨hr.1, hR⟩ fun bs hbs => ⟨hr.1, hR, fun _ h => ?_⟩
    cases h
    exact hQLcons a b as bs _ _ (ha.2.2 b hb) hr.2.1 (hr.2.2 bs hbs)

theorem mapSt_ne_panic (hg : ∀ a s, (g a s).1 ≠ .panic) : ∀ l s, (mapSt g l s).1 ≠ .panic
  | [], _ => nofun
  | a :: as, s => by
    rw [mapSt_cons]
    exact seq_ne_panic (hg a s) fun _ _ => seq_ne_panic (mapSt_ne_panic hg as _) fun _ _ => nofun

-- `C`: what is known of every state in which a call starts (here: the invariant, and what `pending` is)
variable (C : σ → Prop) (hC : ∀ a s, C s → C (g a s).2)
include hC

theorem mapSt_ne_oof : ∀ l, (∀ a ∈ l, ∀ s, C s → (g a s).1 ≠ .oof) → ∀ s, C s → (mapSt g l s).1 ≠ .oof
  | [], _, _, _ => nofun
  | a :: as, hg, s, hs => by
    rw [mapSt_cons]
    exact seq_ne_oof (hg a (by simp) s hs) fun _ _ =>
      seq_ne_oof (mapSt_ne_oof as (fun x hx => hg x (by simp [hx])) _ (hC a s hs)) fun _ _ => nofun

theorem mapSt_ok : ∀ l, (∀ a ∈ l, ∀ s, C s → ∃ b, (g a s).1 = .ok b) → ∀ s, C s → ∃ bs, (mapSt g l s).1 = .ok bs
  | [], _, _, _ => ⟨[], rfl⟩
  | a :: as, hg, s, hs => by
    obtain ⟨b, hb⟩ := hg a (by simp) s hs
    obtain ⟨bs, hbs⟩ := mapSt_ok as (fun x hx => hg x (by simp [hx])) _ (hC a s hs)
    exact ⟨b :: bs, by rw [mapSt_cons, seq_of_ok hb, seq_of_ok hbs]⟩

omit hC

theorem mapSt_congr_of_ne_oof (g' : α → σ → Out β × σ) (h : ∀ a s, (g a s).1 ≠ .oof → g' a s = g a s) :
    ∀ l s, (mapSt g l s).1 ≠ .oof → mapSt g' l s = mapSt g l s
  | [], _, _ => rfl
  | a :: as, s, hne => by
    rw [mapSt_cons] at hne
    rw [mapSt_cons, mapSt_cons, h a s (seq_ne_oof_left hne)]
    refine seq_congr hne fun b _ hb => ?_
    rw [mapSt_congr_of_ne_oof g' h as _ (seq_ne_oof_left hb)]

end

/-! ### the invariant -/

theorem mapped_mono {st st' : St} (h : MemoExt st st') :
    ∀ (es : List Edge) (ks : List Nat), Mapped st.map es ks → Mapped st'.map es ks
  | [], [], _ => trivial
  | _ :: es, _ :: ks, hk => ⟨h _ _ hk.1, mapped_mono h es ks hk.2⟩
  | [], _ :: _, hk => False.elim hk
  | _ :: _, [], hk => False.elim hk

theorem mapped_mem {m : List (Nat × Nat)} : ∀ (es : List Edge) (ks : List Nat), Mapped m es ks →
    ∀ k ∈ ks, ∃ e ∈ es, lk m e.tgt = some k
  | _ :: es, _ :: ks, hk, k, hkm => by
    rcases List.mem_cons.mp hkm with rfl | hkm
    · exact ⟨_, List.mem_cons_self, hk.1⟩
    · obtain ⟨e, he, hl⟩ := mapped_mem es ks hk.2 k hkm
      exact ⟨e, List.mem_cons_of_mem _ he, hl⟩
  | [], _ :: _, hk, _, _ => False.elim hk

theorem mapped_length (m : List (Nat × Nat)) : ∀ (es : List Edge) (ks : List Nat), Mapped m es ks →
    ks.length = es.length := by
  intro es
  induction es with
  | nil => intro ks hk; cases ks <;> simp_all [Mapped]
  | cons e es ih =>
    intro ks hk
    cases ks with
    | nil => exact False.elim hk
    | cons k ks => simp [ih ks hk.2]

/-- what holds of every state the importer can reach -/
structure Inv (src : Src) (st : St) : Prop where
  vals_lt : ∀ o n, lk st.map o = some n → n < st.next
  ids_lt : ∀ ob ∈ st.objs, ob.id < st.next
  inj : ∀ o o' n, lk st.map o = some n → lk st.map o' = some n → o = o'
  map_obj : ∀ o n, lk st.map o = some n → ∃ ob ∈ st.objs, ob.id = n
  obj_iso : ∀ ob ∈ st.objs, ∃ o node k, src o = some node ∧ lk st.map o = some ob.id ∧
      ob.payload = node.payload ∧ Mapped st.map (node.kids k) ob.kids
  keys_nodup : (st.map.map Prod.fst).Nodup
  ids_eq : st.objs.map (·.id) = st.map.map Prod.snd
  ids_nodup : (st.objs.map (·.id)).Nodup
  rc_sub : ∀ n ∈ st.rcrefs, ∃ o, lk st.map o = some n

/-- How a call changes the state: memo and created objects only grow, new objects get numbers from `next` on, and
    `pending` is left as found. `pend_keep` is what makes allocation sound: an object that is pending gets no memo
    entry from the calls made while it is (a request for it is refused), so after its references are walked it
    still has none. -/
structure Ext (st st' : St) : Prop where
  map_ext : MemoExt st st'
  pend_eq : st'.pending = st.pending
  pend_keep : ∀ o ∈ st.pending, lk st'.map o = lk st.map o
  next_le : st.next ≤ st'.next
  objs_ext : ∀ ob ∈ st.objs, ob ∈ st'.objs
  new_ids : ∀ ob ∈ st'.objs, ob ∈ st.objs ∨ st.next ≤ ob.id

theorem Ext.refl (st : St) : Ext st st :=
  ⟨fun _ _ h => h, rfl, fun _ _ => rfl, Nat.le_refl _, fun _ h => h, fun _ h => Or.inl h⟩

theorem Ext.trans {a b c : St} (h1 : Ext a b) (h2 : Ext b c) : Ext a c where
  map_ext := fun o n h => h2.map_ext o n (h1.map_ext o n h)
  pend_eq := h2.pend_eq.trans h1.pend_eq
  pend_keep := fun o ho => (h2.pend_keep o (h1.pend_eq ▸ ho)).trans (h1.pend_keep o ho)
  next_le := Nat.le_trans h1.next_le h2.next_le
  objs_ext := fun ob h => h2.objs_ext ob (h1.objs_ext ob h)
  new_ids := fun ob h => (h2.new_ids ob h).elim (h1.new_ids ob) fun hb => .inr (Nat.le_trans h1.next_le hb)

theorem Inv.init (src : Src) (n : Nat) : Inv src (St.init n) :=
  ⟨nofun, nofun, nofun, nofun, nofun, .nil, rfl, .nil, nofun⟩

/-- the invariant does not mention `pending` -/
theorem Inv.push {src : Src} {st : St} (h : Inv src st) (o : Nat) : Inv src (st.push o) := { h with }
theorem Inv.pop {src : Src} {st : St} (h : Inv src st) : Inv src st.pop := { h with }

/-- push … (calls that keep `pending`) … pop is an extension of the state before the push -/
theorem Ext.push_pop {st st1 : St} {o : Nat} (h : Ext (st.push o) st1) : Ext st st1.pop :=
  { h with
    pend_eq := congrArg List.tail h.pend_eq
    pend_keep := fun x hx => h.pend_keep x (List.mem_cons_of_mem o hx) }

/-- allocation of the copy of a source object that has no memo entry yet -/
theorem Inv.alloc {src : Src} {st : St} (h : Inv src st) (old : Nat) (node : Node) (k : Kind) (ks : List Nat)
    (rc : Bool) (hsrc : src old = some node) (hfresh : lk st.map old = none) (hpend : old ∉ st.pending)
    (hks : Mapped st.map (node.kids k) ks) :
    Inv src (st.alloc old node.payload ks rc) ∧ Ext st (st.alloc old node.payload ks rc) ∧
      lk (st.alloc old node.payload ks rc).map old = some st.next := by
  -- the new memo, seen from the old one: one entry more, for `old`
  have hself : lk ((old, st.next) :: st.map) old = some st.next := by rw [lk_cons, if_pos rfl]
  have hne : ∀ o, o ≠ old → lk ((old, st.next) :: st.map) o = lk st.map o := fun o ho => by rw [lk_cons, if_neg ho]
  have hmono : MemoExt st (st.alloc old node.payload ks rc) := fun o n hl =>
    (hne o fun ho => by rw [ho, hfresh] at hl; cases hl).trans hl
  have hnew : ∀ o n, lk ((old, st.next) :: st.map) o = some n → o = old ∧ n = st.next ∨ lk st.map o = some n :=
    fun o n hl => by
      by_cases ho : o = old
      · rw [ho, hself] at hl; exact .inl ⟨ho, (Option.some.inj hl).symm⟩
      · exact .inr (hne o ho ▸ hl)
  refine ⟨?_, ?_, hself⟩
  · exact {
      vals_lt := fun o n hl => by
        rcases hnew o n hl with ⟨_, rfl⟩ | hl
        · exact Nat.lt_succ_self _
        · exact Nat.lt_succ_of_lt (h.vals_lt o n hl)
      ids_lt := fun ob hob => by
        rcases List.mem_cons.mp hob with rfl | hob
        · exact Nat.lt_succ_self _
        · exact Nat.lt_succ_of_lt (h.ids_lt ob hob)
      inj := fun o o' n h1 h2 => by
        rcases hnew o n h1 with ⟨rfl, rfl⟩ | l1 <;> rcases hnew o' _ h2 with ⟨rfl, e2⟩ | l2
        · rfl
        · exact absurd (h.vals_lt _ _ l2) (Nat.lt_irrefl _)
        · exact absurd (e2 ▸ h.vals_lt _ _ l1) (Nat.lt_irrefl _)
        · exact h.inj o o' n l1 l2
      map_obj := fun o n hl => by
        rcases hnew o n hl with ⟨_, rfl⟩ | hl
        · exact ⟨_, List.mem_cons_self, rfl⟩
        · obtain ⟨ob, hob, hid⟩ := h.map_obj o n hl
          exact ⟨ob, List.mem_cons_of_mem _ hob, hid⟩
      obj_iso := fun ob hob => by
        rcases List.mem_cons.mp hob with rfl | hob
        · exact ⟨old, node, k, hsrc, hself, rfl, mapped_mono hmono _ _ hks⟩
        · obtain ⟨o, nd, k', h1, h2, h3, h4⟩ := h.obj_iso ob hob
          exact ⟨o, nd, k', h1, hmono _ _ h2, h3, mapped_mono hmono _ _ h4⟩
      keys_nodup := List.nodup_cons.mpr ⟨lk_none_not_mem _ _ hfresh, h.keys_nodup⟩
      ids_eq := congrArg (st.next :: ·) h.ids_eq
      ids_nodup := List.nodup_cons.mpr ⟨fun hm => by
        obtain ⟨ob, hob, hid⟩ := List.mem_map.mp hm
        exact Nat.lt_irrefl _ (hid ▸ h.ids_lt ob hob), h.ids_nodup⟩
      rc_sub := fun n hn => by
        have hn' : n = st.next ∨ n ∈ st.rcrefs := by
          cases rc
          · exact .inr hn
          · exact List.mem_cons.mp hn
        rcases hn' with rfl | hn
        · exact ⟨old, hself⟩
        · obtain ⟨o, ho⟩ := h.rc_sub n hn
          exact ⟨o, hmono _ _ ho⟩ }
  · exact {
      map_ext := hmono
      pend_eq := rfl
      pend_keep := fun o ho => hne o fun hoo => hpend (hoo ▸ ho)
      next_le := Nat.le_succ _
      objs_ext := fun ob hob => List.mem_cons_of_mem _ hob
      new_ids := fun ob hob => (List.mem_cons.mp hob).elim (fun e => .inr (e ▸ Nat.le_refl _)) .inl }

/-! ### the cloner: one `step` per unit of fuel -/

/-- the memo answers the request: the object has a copy and, for an `RcRef`, the typed copy is kept as well -/
def hit? (e : Edge) (st : St) : Option Nat :=
  (lk st.map e.tgt).filter fun n => e.kind ≠ .rc ∨ n ∈ st.rcrefs

/-- what `cloneRef` does once the references of the object have their copies `ks`: with a memo entry `n` (the typed
    copy is rebuilt) nothing is allocated and `n` joins `rcrefs`; without one the copy is allocated -/
def finish (e : Edge) (node : Node) (ks : List Nat) (st1 : St) : Option Nat → Out Nat × St
  | some n => (.ok n, { st1 with rcrefs := n :: st1.rcrefs })
  | none => (.ok st1.next, st1.alloc e.tgt node.payload ks (e.kind = .rc))

/-- the references of the object (those an edge of the kind of `e` visits) under `pending`, then `finish` -/
def walk (g : Edge → St → Out Nat × St) (e : Edge) (st : St) (node : Node) : Out Nat × St :=
  seq (mapSt g (node.kids e.kind) (st.push e.tgt)) St.pop fun ks =>
    finish e node ks (mapSt g (node.kids e.kind) (st.push e.tgt)).2.pop (lk st.map e.tgt)

/-- `cloneRef` with the recursive call `g`: memo, cycle guard, load, `walk` -/
def step (g : Edge → St → Out Nat × St) (src : Src) (e : Edge) (st : St) : Out Nat × St :=
  match hit? e st with
  | some n => (.ok n, st)
  | none =>
    if e.tgt ∈ st.pending then (.err, st) else
      match src e.tgt with
      | none => (.err, st)
      | some node => walk g e st node

section
variable (src : Src) (f : Nat)

theorem cloneRef_succ (e : Edge) (st : St) : cloneRef (f + 1) src e st = step (cloneRef f src) src e st := by
  rw [cloneRef.eq_2]
  unfold step hit? walk seq finish
  cases lk st.map e.tgt with
  | none =>
    dsimp only [Option.filter]
    split
    · rfl
    · cases src e.tgt with
      | none => rfl
      | some node => dsimp only; cases (mapSt (cloneRef f src) (node.kids e.kind) (st.push e.tgt)).1 <;> rfl
  | some n =>
    cases hk : e.kind with
    | prim => rfl
    | ref => rfl
    | rc =>
      by_cases hrc : n ∈ st.rcrefs
      · simp [Option.filter, hrc]
      · simp only [Option.filter, hrc, ne_eq, not_true, or_self, decide_false, if_false, Bool.false_eq_true]
        split
        · rfl
        · cases src e.tgt with
          | none => rfl
          | some node => dsimp only; cases (mapSt (cloneRef f src) (node.kids .rc) (st.push e.tgt)).1 <;> rfl

section
variable {g : Edge → St → Out Nat × St} {src : Src} {e : Edge} {st : St}

theorem step_cases {P : Out Nat × St → Prop} (hit : ∀ n, lk st.map e.tgt = some n → P (.ok n, st))
    (err : e.tgt ∈ st.pending ∨ src e.tgt = none → P (.err, st))
    (walk : ∀ node, e.tgt ∉ st.pending → src e.tgt = some node → P (walk g e st node)) : P (step g src e st) := by
  unfold step
  split
  · exact hit _ (Option.filter_eq_some_iff.mp ‹_›).1
  · split
    · exact err (.inl ‹_›)
    · split
      · exact err (.inr ‹_›)
      · exact walk _ ‹_› ‹_›

theorem step_congr {g' : Edge → St → Out Nat × St}
    (hg : ∀ l s, (mapSt g l s).1 ≠ .oof → mapSt g' l s = mapSt g l s) (hne : (step g src e st).1 ≠ .oof) :
    step g' src e st = step g src e st := by
  unfold step at hne ⊢
  cases hh : hit? e st with
  | some n => rfl
  | none =>
    by_cases hp : e.tgt ∈ st.pending
    · simp only [if_pos hp]
    · cases hs : src e.tgt with
      | none => rfl
      | some node =>
        simp only [hh, if_neg hp, hs, walk] at hne ⊢
        rw [hg _ _ (seq_ne_oof_left hne)]
end

theorem cloneRef_ne_panic : ∀ (f : Nat) (e : Edge) (st : St), (cloneRef f src e st).1 ≠ .panic
  | 0, _, _ => nofun
  | f + 1, e, st => by
    rw [cloneRef_succ]
    exact step_cases (P := (·.1 ≠ .panic)) (fun _ _ => nofun) (fun _ => nofun) fun node _ _ =>
      seq_ne_panic (mapSt_ne_panic _ (cloneRef_ne_panic f) _ _) fun _ _ => by cases lk st.map e.tgt <;> nofun

/-! ### specification of the cloner -/

/-- what one call guarantees, whatever its outcome -/
def RefSpec (src : Src) (g : Edge → St → Out Nat × St) : Prop :=
  ∀ (e : Edge) (st : St), Inv src st → Post (Inv src) Ext st (fun n t => lk t.map e.tgt = some n) (g e st)

/-- … and a traversal of a list of edges -/
theorem kids_spec (g : Edge → St → Out Nat × St) (hg : RefSpec src g) (es : List Edge) (st : St)
    (h : Inv src st) : Post (Inv src) Ext st (fun ks t => Mapped t.map es ks) (mapSt g es st) :=
  mapSt_spec g (Inv src) Ext (fun e k s => lk s.map e.tgt = some k) (fun es ks s => Mapped s.map es ks)
    Ext.refl (fun _ _ _ => Ext.trans) (fun _ => trivial)
    (fun _ _ _ _ _ _ hq hr hl => ⟨hr.map_ext _ _ hq, hl⟩) es (fun a _ s hs => hg a s hs) st h

/-- `finish` in a state `st1` that extends `st`, where `e.tgt` is not pending, has the memo entry it had in `st` (if any)
    and the references of the object have their copies -/
theorem finish_spec {src : Src} {e : Edge} {node : Node} {ks : List Nat} {st st1 : St} (hi : Inv src st1)
    (hx : Ext st st1) (hp : e.tgt ∉ st1.pending) (hl : lk st1.map e.tgt = lk st.map e.tgt)
    (hs : src e.tgt = some node) (hm : Mapped st1.map (node.kids e.kind) ks) :
    Post (Inv src) Ext st (fun n t => lk t.map e.tgt = some n) (finish e node ks st1 (lk st.map e.tgt)) := by
  cases hlk : lk st.map e.tgt with
  | some n =>
    -- the typed copy is rebuilt: nothing is allocated, `n` joins `rcrefs`
    rw [hlk] at hl
    exact ⟨{ hi with rc_sub := fun m hm => (List.mem_cons.mp hm).elim (fun e => ⟨_, e ▸ hl⟩) (hi.rc_sub m) },
      { hx with }, fun _ hn => by cases hn; exact hl⟩
  | none =>
    have ha := hi.alloc e.tgt node e.kind ks (e.kind = .rc) hs (hl.trans hlk) hp hm
    exact ⟨ha.1, hx.trans ha.2.1, fun _ hn => by cases hn; exact ha.2.2⟩

theorem cloneRef_spec : ∀ (f : Nat), RefSpec src (cloneRef f src)
  | 0, _, st, h => ⟨h, .refl st, nofun⟩
  | f + 1, e, st, h => by
    rw [cloneRef_succ]
    refine step_cases (fun n hlk => ⟨h, .refl st, fun _ hn => by cases hn; exact hlk⟩)
      (fun _ => ⟨h, .refl st, nofun⟩) fun node hp hs => ?_
    have hk := kids_spec src _ (cloneRef_spec f) (node.kids e.kind) (st.push e.tgt) (h.push _)
    have hx := hk.2.1.push_pop
    exact .seq ⟨hk.1.pop, hx⟩ fun ks hks => finish_spec hk.1.pop hx (hx.pend_eq ▸ hp)
      (hk.2.1.pend_keep e.tgt List.mem_cons_self) hs (hk.2.2 ks hks)

/-- a call leaves the invariant, and `pending` as it was: what the traversals below carry along -/
theorem cloneRef_keeps (p : List Nat) (e : Edge) (st : St) (h : Inv src st ∧ st.pending = p) :
    Inv src (cloneRef f src e st).2 ∧ (cloneRef f src e st).2.pending = p :=
  have hs := cloneRef_spec src f e st h.1
  ⟨hs.1, hs.2.1.pend_eq.trans h.2⟩

/-! ### consequences of the invariant -/

/-- copies of references are numbers of created objects -/
theorem Inv.mapped_obj {src : Src} {st : St} (h : Inv src st) {es : List Edge} {ks : List Nat} (hm : Mapped st.map es ks) :
    ∀ k ∈ ks, ∃ ob ∈ st.objs, ob.id = k := fun k hk =>
  let ⟨_, _, hl⟩ := mapped_mem es ks hm k hk
  h.map_obj _ _ hl

theorem Inv.closed {src : Src} {st : St} (h : Inv src st) : Closed st := by
  intro ob hob
  obtain ⟨o, node, kd, _, _, _, hm⟩ := h.obj_iso ob hob
  exact h.mapped_obj hm

theorem Inv.once {src : Src} {st : St} (h : Inv src st) : Once st :=
  ⟨h.keys_nodup, h.ids_eq, h.ids_nodup⟩

theorem Inv.iso {src : Src} {st : St} (h : Inv src st) : Iso src st := by
  intro o n hl
  obtain ⟨ob, hob, hid⟩ := h.map_obj o n hl
  obtain ⟨o', node, k, h1, h2, h3, h4⟩ := h.obj_iso ob hob
  obtain rfl : o' = o := h.inj o' o n (by rw [h2, hid]) hl
  exact ⟨node, ob, k, h1, hob, hid, h3, h4⟩

/-! ### a sequence of requests -/

theorem cloneRoots_spec : ∀ (es : List Edge) (st : St), Inv src st →
    Inv src (cloneRoots f src es st).2 ∧ Ext st (cloneRoots f src es st).2
  | [], st, h => ⟨h, .refl st⟩
  | e :: es, st, h =>
    have h1 := cloneRef_spec src f e st h
    have h2 := cloneRoots_spec es _ h1.1
    ⟨h2.1, h1.2.1.trans h2.2⟩

/-! ### outcomes: fuel, success on acyclic sources -/

/-- **fuel**: with more fuel than the source has objects no call runs out of it — on any source graph,
    cyclic or not. (`pending` is duplicate-free and drawn from the existing objects, and it grows by one at
    every level of the recursion.) -/
theorem cloneRef_ne_oof (support : List Nat) (hsup : ∀ o, src o ≠ none → o ∈ support) :
    ∀ (f : Nat) (e : Edge) (st : St), Inv src st → st.pending.Nodup → (∀ o ∈ st.pending, o ∈ support) →
      support.length < f + st.pending.length → (cloneRef f src e st).1 ≠ .oof
  | 0, _, st, _, hnd, hsub, hlen => by
    have := hnd.length_le_of_subset hsub
    omega
  | f + 1, e, st, hi, hnd, hsub, hlen => by
    rw [cloneRef_succ]
    refine step_cases (P := (·.1 ≠ .oof)) (fun _ _ => nofun) (fun _ => nofun) fun node hp hs =>
      seq_ne_oof ?_ fun _ _ => by cases lk st.map e.tgt <;> nofun
    -- the references of `e.tgt` are walked with `e.tgt` pushed
    exact mapSt_ne_oof (cloneRef f src) _ (cloneRef_keeps src f (e.tgt :: st.pending)) _ (fun a _ s hs' =>
      cloneRef_ne_oof support hsup f a s hs'.1 (hs'.2 ▸ List.nodup_cons.mpr ⟨hp, hnd⟩)
        (hs'.2 ▸ List.forall_mem_cons.mpr ⟨hsup _ (hs ▸ nofun), hsub⟩) (by rw [hs'.2, List.length_cons]; omega)) _
      ⟨hi.push _, rfl⟩

/-- **success**: where the source is acyclic and has no dangling references below `e.tgt`, the call
    succeeds (the cycle guard and the error paths never fire), given fuel above the rank. -/
theorem cloneRef_ok_of_acyclic (rank : Nat → Nat) (hac : Acyclic src rank) :
    ∀ (f : Nat) (e : Edge) (st : St), Inv src st → src e.tgt ≠ none → rank e.tgt < f →
      (∀ o ∈ st.pending, rank e.tgt < rank o) → ∃ n, (cloneRef f src e st).1 = .ok n
  | 0, _, _, _, _, hf, _ => by omega
  | f + 1, e, st, hi, hsrc, hf, hpend => by
    rw [cloneRef_succ]
    refine step_cases (P := fun x => ∃ n, x.1 = .ok n) (fun n _ => ⟨n, rfl⟩)
      (fun h => (h.elim (fun hm => Nat.lt_irrefl _ (hpend _ hm)) hsrc).elim) fun node _ hs => ?_
    -- every reference leads to an object of lower rank than `e.tgt`, hence than everything pending
    obtain ⟨ks, hks⟩ := mapSt_ok (cloneRef f src) _ (cloneRef_keeps src f (e.tgt :: st.pending)) (node.kids e.kind)
      (fun a ha s hs' => by
        have hdown := hac.down _ _ _ _ hs ha
        refine cloneRef_ok_of_acyclic rank hac f a s hs'.1 (hac.total _ _ _ _ hs ha) (by omega) ?_
        rw [hs'.2]
        exact List.forall_mem_cons.mpr ⟨hdown, fun o ho => Nat.lt_trans hdown (hpend o ho)⟩) _ ⟨hi.push _, rfl⟩
    rw [walk, seq_of_ok hks]
    cases lk st.map e.tgt <;> exact ⟨_, rfl⟩

theorem acyclic_of_check (nodes : List (Nat × Node)) (rank : Nat → Nat) (h : acyclicCheck nodes rank = true) :
    Acyclic (srcOf nodes) rank := by
  have key : ∀ o node k e, srcOf nodes o = some node → e ∈ node.kids k →
      rank e.tgt < rank o ∧ (nodes.lookup e.tgt).isSome = true := by
    intro o node k e hs he
    obtain ⟨l₁, l₂, rfl, _⟩ := List.lookup_eq_some_iff.mp hs
    simp only [acyclicCheck, List.all_eq_true, Bool.and_eq_true, decide_eq_true_eq] at h
    refine h (o, node) (by simp) e ?_
    cases k <;> simp only [Node.kids] at he <;> simp [he]
  exact ⟨fun o node k e hs he => (key o node k e hs he).1,
    fun o node k e hs he hn => by
      have := (key o node k e hs he).2
      rw [show nodes.lookup e.tgt = none from hn] at this
      cases this⟩

/-! ### the answer does not depend on the fuel -/

theorem cloneRef_fuel_succ : ∀ (f : Nat) (e : Edge) (st : St),
    (cloneRef f src e st).1 ≠ .oof → cloneRef (f + 1) src e st = cloneRef f src e st
  | 0, _, _, h => absurd rfl h
  | f + 1, e, st, hne => by
    rw [cloneRef_succ] at hne ⊢
    rw [cloneRef_succ]
    exact step_congr (mapSt_congr_of_ne_oof _ _ (cloneRef_fuel_succ f)) hne

theorem cloneRef_fuel_le (f f' : Nat) (hle : f ≤ f') (e : Edge) (st : St)
    (h : (cloneRef f src e st).1 ≠ .oof) : cloneRef f' src e st = cloneRef f src e st :=
  fuel_le (cloneRef · src e st) (fun f => cloneRef_fuel_succ src f e st) hle h

/-! ### pages -/

theorem resGet_cons {α : Type} (k' : RKind) (n' : Nat) (v : α) (t : ResTable α) (k : RKind) (n : Nat) :
    resGet (((k', n'), v) :: t) k n = if k' = k ∧ n' = n then some v else resGet t k n := rfl

theorem resGet_mem {α : Type} : ∀ (t : ResTable α) (k : RKind) (n : Nat) (v : α), resGet t k n = some v →
    ((k, n), v) ∈ t
  | ((k', n'), v') :: t, k, n, v, h => by
    rw [resGet_cons] at h
    split at h
    · obtain ⟨rfl, rfl⟩ := ‹k' = k ∧ n' = n›
      cases h; exact List.mem_cons_self
    · exact List.mem_cons_of_mem _ (resGet_mem t k n v h)

/-- state of `clone_page` while the operations are processed: new resource table + importer -/
abbrev PSt := ResTable (Nat × List Nat) × St

/-- every entry of the new table is the copy, under the memo of `st`, of the entry of the same category and name of
    the old table -/
def Copies (old : ResTable Entry) (st : St) (new : ResTable (Nat × List Nat)) : Prop :=
  ∀ k name p ks, resGet new k name = some (p, ks) →
    handled k = true ∧ ∃ ent, resGet old k name = some ent ∧ p = ent.payload ∧ Mapped st.map ent.kids ks

theorem Copies.mono {old : ResTable Entry} {st st' : St} {new : ResTable (Nat × List Nat)}
    (h : Copies old st new) (hm : MemoExt st st') : Copies old st' new :=
  fun k name p ks hg =>
    let ⟨hh, ent, h1, h2, h3⟩ := h k name p ks hg
    ⟨hh, ent, h1, h2, mapped_mono hm _ _ h3⟩

def ResInv (src : Src) (old : ResTable Entry) (s : PSt) : Prop := Inv src s.2 ∧ Copies old s.2 s.1

def ResExt (s s' : PSt) : Prop :=
  Ext s.2 s'.2 ∧ ∀ k name v, resGet s.1 k name = some v → resGet s'.1 k name = some v

/-- the resource an operation names is in the new table (if the old table has it and `deep_clone_op`
    looks at the category) -/
def Covered (old : ResTable Entry) (op : OpM) (s : PSt) : Prop :=
  ∀ k name, op = .use k name → handled k = true → ∀ ent, resGet old k name = some ent →
    ∃ v, resGet s.1 k name = some v

theorem ResExt.refl (s : PSt) : ResExt s s := ⟨Ext.refl _, fun _ _ _ h => h⟩
theorem ResExt.trans {a b c : PSt} (h1 : ResExt a b) (h2 : ResExt b c) : ResExt a c :=
  ⟨h1.1.trans h2.1, fun k n v h => h2.2 k n v (h1.2 k n v h)⟩

theorem cloneOp_inline (old : ResTable Entry) (kids : List Edge) (s : PSt) :
    cloneOp f src old (.inline kids) s =
      seq (cloneKids f src kids s.2) (Prod.mk s.1) fun _ => (.ok (), (s.1, (cloneKids f src kids s.2).2)) := by
  rw [cloneOp]; unfold seq
  cases (cloneKids f src kids s.2).1 <;> rfl

theorem cloneOp_use (old : ResTable Entry) (k : RKind) (name : Nat) (s : PSt) :
    cloneOp f src old (.use k name) s =
      if handled k = true ∧ resGet s.1 k name = none then
        match resGet old k name with
        | none => (.ok (), s)
        | some ent => seq (cloneKids f src ent.kids s.2) (Prod.mk s.1) fun ks =>
            (.ok (), (((k, name), (ent.payload, ks)) :: s.1, (cloneKids f src ent.kids s.2).2))
      else (.ok (), s) := by
  rw [cloneOp]; unfold seq
  cases handled k <;> cases resGet s.1 k name <;> try rfl
  cases resGet old k name with
  | none => rfl
  | some ent => dsimp only; cases (cloneKids f src ent.kids s.2).1 <;> rfl

/-- Every operation clones one list of references (none for most), drawn from the old table or the operation itself,
    and then at most adds an entry to the new table. -/
theorem cloneOp_eq (old : ResTable Entry) (op : OpM) (s : PSt) :
    ∃ (kids : List Edge) (add : List Nat → ResTable (Nat × List Nat)),
      (∀ e ∈ kids, (∃ r ∈ old, e ∈ r.2.kids) ∨ op = .inline kids) ∧
      ∀ f src, cloneOp f src old op s =
        seq (cloneKids f src kids s.2) (Prod.mk s.1) fun ks => (.ok (), (add ks, (cloneKids f src kids s.2).2)) := by
  cases op with
  | other t => exact ⟨[], fun _ => s.1, nofun, fun _ _ => rfl⟩
  | inline kids => exact ⟨kids, fun _ => s.1, fun _ _ => .inr rfl, fun f src => cloneOp_inline src f old kids s⟩
  | use k name =>
    by_cases hc : handled k = true ∧ resGet s.1 k name = none
    · cases hold : resGet old k name with
      | none => exact ⟨[], fun _ => s.1, nofun, fun _ _ => by rw [cloneOp_use, if_pos hc, hold]; rfl⟩
      | some ent =>
        exact ⟨ent.kids, fun ks => ((k, name), (ent.payload, ks)) :: s.1,
          fun e he => .inl ⟨_, resGet_mem _ _ _ _ hold, he⟩, fun _ _ => by rw [cloneOp_use, if_pos hc, hold]⟩
    · exact ⟨[], fun _ => s.1, nofun, fun _ _ => by rw [cloneOp_use, if_neg hc]; rfl⟩

theorem cloneOp_spec (old : ResTable Entry) (op : OpM) (s : PSt)
    (h : ResInv src old s) :
    Post (ResInv src old) ResExt s (fun _ => Covered old op) (cloneOp f src old op s) := by
  -- the references of an entry or of an inline value are cloned: the table so far stays a table of copies
  have hkids : ∀ kids, let r := cloneKids f src kids s.2
      ResInv src old (s.1, r.2) ∧ ResExt s (s.1, r.2) ∧ Post (Inv src) Ext s.2 (fun ks t => Mapped t.map kids ks) r :=
    fun kids =>
      have hk := kids_spec src (cloneRef f src) (cloneRef_spec src f) kids s.2 h.1
      ⟨⟨hk.1, h.2.mono hk.2.1.map_ext⟩, ⟨hk.2.1, fun _ _ _ hg => hg⟩, hk⟩
  cases op with
  | other t => exact ⟨h, .refl s, fun _ _ _ _ hop => nomatch hop⟩
  | inline kids =>
    have hk := hkids kids
    rw [cloneOp_inline]
    exact .seq ⟨hk.1, hk.2.1⟩ fun _ _ => ⟨hk.1, hk.2.1, fun _ _ _ _ hop => nomatch hop⟩
  | use k name =>
    rw [cloneOp_use]
    split
    · rename_i hc
      split
      · rename_i hold
        exact ⟨h, .refl s, fun _ _ _ _ hop _ ent hent => by cases hop; rw [hold] at hent; cases hent⟩
      · rename_i ent hold
        have hk := hkids ent.kids
        refine .seq ⟨hk.1, hk.2.1⟩ fun ks hks => ⟨⟨hk.1.1, ?_⟩, ⟨hk.2.1.1, ?_⟩, fun _ _ _ _ hop _ _ _ => ?_⟩
        · intro k' name' p ks' hg
          rw [resGet_cons] at hg
          split at hg
          · obtain ⟨rfl, rfl⟩ := ‹k = k' ∧ name = name'›
            cases hg
            exact ⟨hc.1, ent, hold, rfl, hk.2.2.2.2 ks hks⟩
          · exact hk.1.2 k' name' p ks' hg
        · intro k' name' v hg
          rw [resGet_cons, if_neg]
          · exact hg
          · rintro ⟨rfl, rfl⟩; rw [hc.2] at hg; cases hg
        · cases hop
          exact ⟨_, by rw [resGet_cons, if_pos ⟨rfl, rfl⟩]⟩
    · rename_i hc
      refine ⟨h, .refl s, fun _ _ _ _ hop hh _ _ => ?_⟩
      cases hop
      exact Option.ne_none_iff_exists'.mp fun hn => hc ⟨hh, hn⟩

theorem cloneOps_spec (old : ResTable Entry) (ops : List OpM) (st : St) (h : Inv src st) :
    Post (ResInv src old) ResExt ([], st) (fun _ s => ∀ op ∈ ops, Covered old op s) (cloneOps f src old ops st) :=
  mapSt_spec (cloneOp f src old) (ResInv src old) ResExt (fun op _ => Covered old op)
    (fun ops _ s => ∀ op ∈ ops, Covered old op s) ResExt.refl (fun _ _ _ => ResExt.trans) (fun _ _ => nofun)
    (fun a _ as _ s s' hq hr hl op hop => by
      rcases List.mem_cons.mp hop with rfl | hop
      · intro k name e1 e2 ent e3
        obtain ⟨v, hv⟩ := hq k name e1 e2 ent e3
        exact ⟨v, hr.2 _ _ _ hv⟩
      · exact hl op hop)
    ops (fun a _ s hs => cloneOp_spec src f old a s hs) ([], st) ⟨h, nofun⟩

/-- what a successfully cloned page looks like -/
structure PageOK (p : PageM) (out : PageOut) (st' : St) : Prop where
  /-- every resource of a handled category that an operation names and the old table has is in the new table,
      as a copy of the old entry -/
  cover : ∀ k name, OpM.use k name ∈ p.ops → handled k = true → ∀ ent, resGet p.res k name = some ent →
    ∃ ks, resGet out.res k name = some (ent.payload, ks) ∧ Mapped st'.map ent.kids ks
  /-- and nothing else is -/
  only : ∀ k name pl ks, resGet out.res k name = some (pl, ks) → handled k = true ∧
    ∃ ent, resGet p.res k name = some ent ∧ pl = ent.payload ∧ Mapped st'.map ent.kids ks
  rest : Mapped st'.map p.rest out.rest

/-- a page stays a copy when the memo grows -/
theorem PageOK.mono {p : PageM} {out : PageOut} {st st' : St} (h : PageOK p out st)
    (hm : MemoExt st st') : PageOK p out st' where
  cover := fun k name hop hh ent hent =>
    let ⟨ks, h1, h2⟩ := h.cover k name hop hh ent hent
    ⟨ks, h1, mapped_mono hm _ _ h2⟩
  only := Copies.mono h.only hm
  rest := mapped_mono hm _ _ h.rest

/-- the table the operations leave behind, with the copies of the page-level references made after them -/
theorem PageOK.of_ops {old : ResTable Entry} {ops : List OpM} {rest : List Edge} {s : PSt} {ks : List Nat} {st' : St}
    (hi : Copies old s.2 s.1) (hc : ∀ op ∈ ops, Covered old op s) (hm : MemoExt s.2 st')
    (hr : Mapped st'.map rest ks) :
    PageOK ⟨ops, old, rest⟩ ⟨s.1, ks⟩ st' where
  cover := fun k name hop hh ent hent => by
    obtain ⟨⟨pl, ks'⟩, hv⟩ := hc _ hop k name rfl hh ent hent
    obtain ⟨_, ent', h1, h2, h3⟩ := hi k name pl ks' hv
    cases hent.symm.trans h1
    exact ⟨ks', h2 ▸ hv, mapped_mono hm _ _ h3⟩
  only := hi.mono hm
  rest := hr

theorem clonePage_eq (p : PageM) (st : St) : clonePage f src p st =
    seq (cloneOps f src p.res p.ops st) Prod.snd fun _ =>
      seq (cloneKids f src p.rest (cloneOps f src p.res p.ops st).2.2) id fun ks =>
        (.ok ⟨(cloneOps f src p.res p.ops st).2.1, ks⟩, (cloneKids f src p.rest (cloneOps f src p.res p.ops st).2.2).2) := by
  rw [clonePage]; unfold seq
  cases (cloneOps f src p.res p.ops st).1 with
  | ok _ => cases (cloneKids f src p.rest (cloneOps f src p.res p.ops st).2.2).1 <;> rfl
  | _ => rfl

theorem clonePage_spec (p : PageM) (st : St) (h : Inv src st) :
    Post (Inv src) Ext st (PageOK p) (clonePage f src p st) := by
  have ho := cloneOps_spec src f p.res p.ops st h
  have hk := kids_spec src _ (cloneRef_spec src f) p.rest _ ho.1.1
  have hx := ho.2.1.1.trans hk.2.1
  rw [clonePage_eq]
  exact .seq ⟨ho.1.1, ho.2.1.1⟩ fun us hus => .seq ⟨hk.1, hx⟩ fun ks hks =>
    ⟨hk.1, hx, fun _ h => by cases h; exact .of_ops ho.1.2 (ho.2.2 us hus) hk.2.1.map_ext (hk.2.2 ks hks)⟩

theorem clonePages_spec : ∀ (ps : List PageM) (st : St), Inv src st →
    Inv src (clonePages f src ps st).2 ∧ Ext st (clonePages f src ps st).2
  | [], st, h => ⟨h, .refl st⟩
  | p :: ps, st, h =>
    have h1 := clonePage_spec src f p st h
    have h2 := clonePages_spec ps _ h1.1
    ⟨h2.1, h1.2.1.trans h2.2⟩

theorem clonePages_append : ∀ (ps qs : List PageM) (st : St),
    (clonePages f src (ps ++ qs) st).2 = (clonePages f src qs (clonePages f src ps st).2).2
  | [], _, _ => rfl
  | _ :: ps, qs, _ => clonePages_append ps qs _

/-! ### pages: outcomes -/

theorem cloneKids_ne_panic (l : List Edge) (st : St) : (cloneKids f src l st).1 ≠ .panic :=
  mapSt_ne_panic _ (cloneRef_ne_panic src f) l st

theorem cloneOp_ne_panic (old : ResTable Entry) (op : OpM) (s : PSt) :
    (cloneOp f src old op s).1 ≠ .panic := by
  obtain ⟨kids, add, _, h⟩ := cloneOp_eq old op s
  rw [h]
  exact seq_ne_panic (cloneKids_ne_panic _ _ _ _) fun _ _ => nofun

theorem clonePage_ne_panic (p : PageM) (st : St) : (clonePage f src p st).1 ≠ .panic := by
  rw [clonePage_eq]
  exact seq_ne_panic (mapSt_ne_panic _ (cloneOp_ne_panic src f p.res) _ _) fun _ _ =>
    seq_ne_panic (cloneKids_ne_panic _ _ _ _) fun _ _ => nofun

theorem cloneOp_keeps (old : ResTable Entry) (p : List Nat) (op : OpM) (s : PSt)
    (h : ResInv src old s ∧ s.2.pending = p) :
    ResInv src old (cloneOp f src old op s).2 ∧ (cloneOp f src old op s).2.2.pending = p :=
  have hs := cloneOp_spec src f old op s h.1
  ⟨hs.1, hs.2.1.1.pend_eq.trans h.2⟩

/-- fuel for a whole page: more than the number of objects of the source is enough -/
theorem clonePage_ne_oof (support : List Nat) (hsup : ∀ o, src o ≠ none → o ∈ support)
    (hf : support.length < f) (p : PageM) (st : St) (hi : Inv src st) (hp : st.pending = []) :
    (clonePage f src p st).1 ≠ .oof := by
  have hkids : ∀ l s, Inv src s ∧ s.pending = [] → (cloneKids f src l s).1 ≠ .oof := fun l =>
    mapSt_ne_oof (cloneRef f src) _ (cloneRef_keeps src f []) l fun a _ s hs =>
      cloneRef_ne_oof src support hsup f a s hs.1 (hs.2 ▸ .nil) (hs.2 ▸ nofun) (by omega)
  have ho := cloneOps_spec src f p.res p.ops st hi
  have hops : (cloneOps f src p.res p.ops st).1 ≠ .oof :=
    mapSt_ne_oof (cloneOp f src p.res) _ (cloneOp_keeps src f p.res []) p.ops (fun op _ s hs => by
      obtain ⟨kids, add, _, h⟩ := cloneOp_eq p.res op s
      rw [h]
      exact seq_ne_oof (hkids _ _ ⟨hs.1.1, hs.2⟩) fun _ _ => nofun) ([], st) ⟨⟨hi, nofun⟩, hp⟩
  rw [clonePage_eq]
  exact seq_ne_oof hops fun _ _ => seq_ne_oof (hkids _ _ ⟨ho.1.1, ho.2.1.1.pend_eq.trans hp⟩) fun _ _ => nofun

/-- every reference `clone_page` may follow for a page: those of all entries of its resource table, those of the
    inline values of its operations, and the page-level ones -/
def pageEdges (p : PageM) : List Edge :=
  (p.res.flatMap fun r => r.2.kids) ++ (p.ops.flatMap fun op => match op with | .inline ks => ks | _ => []) ++ p.rest

/-- **success** for a page over an acyclic source without dangling references -/
theorem clonePage_ok_of_acyclic (rank : Nat → Nat) (hac : Acyclic src rank) (p : PageM) (st : St)
    (hi : Inv src st) (hp : st.pending = []) (hedges : ∀ e ∈ pageEdges p, src e.tgt ≠ none ∧ rank e.tgt < f) :
    ∃ out, (clonePage f src p st).1 = .ok out := by
  have hkids : ∀ l, (∀ e ∈ l, e ∈ pageEdges p) → ∀ s, Inv src s ∧ s.pending = [] →
      ∃ ks, (cloneKids f src l s).1 = .ok ks := fun l hl =>
    mapSt_ok (cloneRef f src) _ (cloneRef_keeps src f []) l fun a ha s hs =>
      have := hedges a (hl a ha)
      cloneRef_ok_of_acyclic src rank hac f a s hs.1 this.1 this.2 (hs.2 ▸ nofun)
  have ho := cloneOps_spec src f p.res p.ops st hi
  obtain ⟨us, hus⟩ : ∃ us, (cloneOps f src p.res p.ops st).1 = .ok us :=
    mapSt_ok (cloneOp f src p.res) _ (cloneOp_keeps src f p.res []) p.ops (fun op hop s hs => by
      obtain ⟨kids, add, hsub, h⟩ := cloneOp_eq p.res op s
      obtain ⟨ks, hks⟩ := hkids kids (fun e he => by
        simp only [pageEdges, List.mem_append, List.mem_flatMap]
        exact .inl ((hsub e he).imp id fun hi => ⟨op, hop, by rw [hi]; exact he⟩)) s.2 ⟨hs.1.1, hs.2⟩
      rw [h, seq_of_ok hks]
      exact ⟨(), rfl⟩) ([], st) ⟨⟨hi, nofun⟩, hp⟩
  obtain ⟨ks, hks⟩ := hkids p.rest (fun e he => List.mem_append_right _ he) _ ⟨ho.1.1, ho.2.1.1.pend_eq.trans hp⟩
  rw [clonePage_eq, seq_of_ok hus, seq_of_ok hks]
  exact ⟨_, rfl⟩

/-! ### pages: the answer does not depend on the fuel -/

theorem cloneKids_fuel_succ (l : List Edge) (st : St)
    (h : (cloneKids f src l st).1 ≠ .oof) : cloneKids (f + 1) src l st = cloneKids f src l st :=
  mapSt_congr_of_ne_oof (cloneRef f src) (cloneRef (f + 1) src) (cloneRef_fuel_succ src f) l st h

theorem clonePage_fuel_succ (p : PageM) (st : St)
    (h : (clonePage f src p st).1 ≠ .oof) : clonePage (f + 1) src p st = clonePage f src p st := by
  rw [clonePage_eq] at h ⊢
  have e1 : cloneOps (f + 1) src p.res p.ops st = cloneOps f src p.res p.ops st :=
    mapSt_congr_of_ne_oof (cloneOp f src p.res) (cloneOp (f + 1) src p.res) (fun op s h => by
      obtain ⟨kids, add, _, he⟩ := cloneOp_eq p.res op s
      rw [he] at h ⊢
      rw [he, cloneKids_fuel_succ src f kids s.2 (seq_ne_oof_left h)]) p.ops ([], st) (seq_ne_oof_left h)
  rw [clonePage_eq, e1]
  exact seq_congr h fun _ _ hk => by rw [cloneKids_fuel_succ src f p.rest _ (seq_ne_oof_left hk)]

theorem clonePage_fuel_le (f f' : Nat) (hle : f ≤ f') (p : PageM) (st : St)
    (h : (clonePage f src p st).1 ≠ .oof) : clonePage f' src p st = clonePage f src p st :=
  fuel_le (clonePage · src p st) (fun f => clonePage_fuel_succ src f p st) hle h

/-! ### the code before the fixes -/

/-- D41: an object whose first reference leads back to itself is cloned again and again -/
theorem Old.selfloop_diverges (r : Nat) (node : Node) (hs : src r = some node)
    (hk : ∀ k, ∃ k' rest, node.kids k = ⟨k', r⟩ :: rest) :
    ∀ (f : Nat) (k : Kind) (st : St), lk st.map r = none → (Old.cloneRef f src ⟨k, r⟩ st).1 = .oof
  | 0, _, _, _ => rfl
  | f + 1, k, st, hl => by
    obtain ⟨k', rest, hkids⟩ := hk k
    simp only [Old.cloneRef, hl, hs, hkids, mapSt, Old.selfloop_diverges r node hs hk f k' st hl]

/-! ### pages in the page tree -/

/-- what a successfully cloned page of the tree looks like: the page of `PageOK` over the *effective* resource
    dictionary, with the effective boxes as its own -/
structure PageTOK (pt : PageT) (out : PageOutT) (st' : St) : Prop where
  res : ∃ r, nearest pt.resChain = some r ∧ PageOK ⟨pt.ops, r, pt.rest⟩ ⟨out.res, out.rest⟩ st'
  media : nearest pt.media = some out.media
  crop : out.crop = (nearest pt.crop).getD out.media
  trim : out.trim = pt.trim
  rotate : out.rotate = pt.ownRotate

theorem clonePageT_eq (pt : PageT) (st : St) : clonePageT f src pt st =
    match nearest pt.resChain with
    | none => (.err, st)
    | some res =>
      seq (cloneOps f src res pt.ops st) Prod.snd fun _ =>
        match nearest pt.media with
        | none => (.err, (cloneOps f src res pt.ops st).2.2)
        | some m =>
          seq (cloneKids f src pt.rest (cloneOps f src res pt.ops st).2.2) id fun ks =>
            (.ok ⟨(cloneOps f src res pt.ops st).2.1, ks, m, (nearest pt.crop).getD m, pt.trim, pt.ownRotate⟩,
              (cloneKids f src pt.rest (cloneOps f src res pt.ops st).2.2).2) := by
  rw [clonePageT]; unfold seq
  cases nearest pt.resChain with
  | none => rfl
  | some res =>
    dsimp only
    cases (cloneOps f src res pt.ops st).1 with
    | ok _ =>
      cases nearest pt.media with
      | none => rfl
      | some m => dsimp only; cases (cloneKids f src pt.rest (cloneOps f src res pt.ops st).2.2).1 <;> rfl
    | _ => rfl

theorem clonePageT_spec (pt : PageT) (st : St) (h : Inv src st) :
    Post (Inv src) Ext st (PageTOK pt) (clonePageT f src pt st) := by
  rw [clonePageT_eq]
  split
  · exact ⟨h, .refl st, nofun⟩
  · rename_i res hres
    have ho := cloneOps_spec src f res pt.ops st h
    have hk := kids_spec src _ (cloneRef_spec src f) pt.rest _ ho.1.1
    have hx := ho.2.1.1.trans hk.2.1
    refine .seq ⟨ho.1.1, ho.2.1.1⟩ fun us hus => ?_
    split
    · exact ⟨ho.1.1, ho.2.1.1, nofun⟩
    · rename_i m hm
      refine .seq ⟨hk.1, hx⟩ fun ks hks => ⟨hk.1, hx, fun _ h => ?_⟩
      cases h
      exact ⟨⟨res, hres, .of_ops ho.1.2 (ho.2.2 us hus) hk.2.1.map_ext (hk.2.2 ks hks)⟩, hm, rfl, rfl, rfl⟩

theorem clonePagesT_spec : ∀ (ps : List PageT) (st : St), Inv src st →
    Inv src (clonePagesT f src ps st).2 ∧ Ext st (clonePagesT f src ps st).2
  | [], st, h => ⟨h, .refl st⟩
  | p :: ps, st, h =>
    have h1 := clonePageT_spec src f p st h
    have h2 := clonePagesT_spec ps _ h1.1
    ⟨h2.1, h1.2.1.trans h2.2⟩

theorem clonePageT_ne_panic (pt : PageT) (st : St) : (clonePageT f src pt st).1 ≠ .panic := by
  rw [clonePageT_eq]
  split
  · nofun
  · refine seq_ne_panic (mapSt_ne_panic _ (cloneOp_ne_panic src f _) _ _) fun _ _ => ?_
    split
    · nofun
    · exact seq_ne_panic (cloneKids_ne_panic _ _ _ _) fun _ _ => nofun

theorem nearest_cons_some {α : Type} (v : α) (c : List (Option α)) : nearest (some v :: c) = some v := rfl
theorem nearest_cons_none {α : Type} (c : List (Option α)) : nearest (none :: c) = nearest c := rfl

/-- the value `nearest` returns is an entry of the chain, and every entry before it is absent -/
theorem nearest_spec {α : Type} : ∀ (c : List (Option α)) (v : α), nearest c = some v →
    ∃ i : Nat, c[i]? = some (some v) ∧ ∀ j : Nat, j < i → c[j]? = some none
  | some w :: c, v, h => ⟨0, by cases h; rfl, nofun⟩
  | none :: c, v, h =>
    let ⟨i, hi, hlt⟩ := nearest_spec c v h
    ⟨i + 1, hi, fun j hj => match j with
      | 0 => rfl
      | j + 1 => hlt j (Nat.lt_of_succ_lt_succ hj)⟩

/-- a box that defaults to `d` when no node on the way up has the entry -/
theorem nearest_getD_spec {c : List (Option Nat)} {x d : Nat} (h : x = (nearest c).getD d) :
    (∃ i : Nat, c[i]? = some (some x) ∧ ∀ j : Nat, j < i → c[j]? = some none) ∨ (nearest c = none ∧ x = d) := by
  cases hc : nearest c with
  | none => exact .inr ⟨rfl, by rw [h, hc]; rfl⟩
  | some v => exact .inl (nearest_spec c x (by rw [h, hc]; rfl))

end

end Import
