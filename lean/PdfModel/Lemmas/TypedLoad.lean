import PdfModel.Model.TypedLoad

/-! Lemmas for `Props/C14.lean` about the object-graph models of `Model/TypedLoad`: the pigeonhole bound, the guarded
    typed load and its field fold, the `/Prev` loop, reference chains, colour spaces, tree walks, page lookup, appearance
    dictionaries, and the instrumented load on the ladder graphs. -/

namespace TypedLoad

/-- pigeonhole: a duplicate-free list of numbers below `n` has at most `n` elements -/
theorem nodup_bounded_length : ∀ (n : Nat) (l : List Nat), l.Nodup → (∀ x ∈ l, x < n) → l.length ≤ n := by
  intro n
  induction n with
  | zero =>
    intro l _ hb
    cases l with
    | nil => simp
    | cons a t => exact absurd (hb a (by simp)) (by omega)
  | succ n ih =>
    intro l hn hb
    by_cases h : n ∈ l
    · have hn' : (l.erase n).Nodup := hn.erase n
      have hb' : ∀ x ∈ l.erase n, x < n := by
        intro x hx
        have hx' := (List.Nodup.mem_erase_iff hn).1 hx
        have := hb x hx'.2
        omega
      have := ih (l.erase n) hn' hb'
      rw [List.length_erase_of_mem h] at this
      omega
    · have hb' : ∀ x ∈ l, x < n := by
        intro x hx
        have := hb x hx
        have : x ≠ n := fun e => h (e ▸ hx)
        omega
      have := ih l hn hb'
      omega

theorem getElem?_some_lt {α : Type} (l : List α) (k : Nat) (a : α) (h : l[k]? = some a) : k < l.length := by
  have := List.getElem?_eq_some_iff.1 h
  exact this.1

/-! ### The field fold of `load` -/

theorem seqOut_oof (next : Unit → Out Unit) : seqOut .oof next = .oof := rfl
theorem seqOut_err (next : Unit → Out Unit) : seqOut .err next = .err := rfl
theorem seqOut_panic (next : Unit → Out Unit) : seqOut .panic next = .panic := rfl

/-- once the accumulator is not `ok`, the fold keeps it -/
theorem fold_fixed (g : Graph) (tol : Bool) (ld : Nat → Out Unit) (fs : List Field) (acc : Out Unit)
    (h : ∀ u, acc ≠ .ok u) :
    fs.foldl (fun acc f => seqOut acc (fun _ => fieldOutcome g tol f (ld f.target))) acc = acc := by
  induction fs generalizing acc with
  | nil => rfl
  | cons f fs ih =>
    simp only [List.foldl_cons]
    have : seqOut acc (fun _ => fieldOutcome g tol f (ld f.target)) = acc := by
      cases acc with
      | ok u => exact absurd rfl (h u)
      | err => rfl
      | panic => rfl
      | oof => rfl
    rw [this]
    exact ih acc h

/-- `fieldOutcome` passes `panic` and `oof` on and makes none -/
theorem fieldOutcome_ne (g : Graph) (tol : Bool) (f : Field) (r bad : Out Unit) (hb : bad ≠ .err) (hbo : bad ≠ .ok ())
    (h : r ≠ bad) : fieldOutcome g tol f r ≠ bad := by
  unfold fieldOutcome
  cases r with
  | ok u => cases f.want <;> simp only [] <;> (try split) <;> (try split) <;> first | exact hbo.symm | exact hb.symm
  | err => simp only []; split <;> first | exact hbo.symm | exact hb.symm
  | panic => exact h
  | oof => exact h

/-- if no field's load has the outcome `bad` (oof or panic), neither has the fold -/
theorem fold_ne (g : Graph) (tol : Bool) (ld : Nat → Out Unit) (bad : Out Unit) (hb : bad ≠ .err) (hbo : bad ≠ .ok ())
    (fs : List Field) (acc : Out Unit) (hacc : acc ≠ bad) (h : ∀ f ∈ fs, ld f.target ≠ bad) :
    fs.foldl (fun acc f => seqOut acc (fun _ => fieldOutcome g tol f (ld f.target))) acc ≠ bad := by
  induction fs generalizing acc with
  | nil => exact hacc
  | cons f fs ih =>
    refine ih _ ?_ fun f' hf' => h f' (by simp [hf'])
    cases acc with
    | ok u => exact fieldOutcome_ne g tol f _ bad hb hbo (h f (by simp))
    | _ => exact hacc

/-- two loaders that agree wherever the first does not run out of fuel give the same fold, provided the
    fold with the first does not run out of fuel -/
theorem fold_congr (g : Graph) (tol : Bool) (ld ld' : Nat → Out Unit)
    (hag : ∀ t, ld t ≠ .oof → ld' t = ld t)
    (fs : List Field) (acc : Out Unit)
    (h : fs.foldl (fun acc f => seqOut acc (fun _ => fieldOutcome g tol f (ld f.target))) acc ≠ .oof) :
    fs.foldl (fun acc f => seqOut acc (fun _ => fieldOutcome g tol f (ld' f.target))) acc =
    fs.foldl (fun acc f => seqOut acc (fun _ => fieldOutcome g tol f (ld f.target))) acc := by
  induction fs generalizing acc with
  | nil => rfl
  | cons f fs ih =>
    simp only [List.foldl_cons] at h ⊢
    cases acc with
    | ok u =>
      simp only [seqOut] at h ⊢
      by_cases hl : ld f.target = .oof
      · -- then the fold is stuck at oof: contradiction
        exfalso
        apply h
        have : fieldOutcome g tol f (ld f.target) = .oof := by rw [hl]; rfl
        rw [this]
        exact fold_fixed g tol ld fs .oof (by intro u; simp)
      · rw [hag _ hl]
        exact ih _ h
    | err => exact ih _ h
    | panic => exact ih _ h
    | oof => exact ih _ h

/-- one level of `load`: `panic` or `oof` can only come out of a nested load, and that one runs under the guard — a
    number not yet on the chain, a chain below the limit, an object of the table -/
theorem load_succ_ne (g : Graph) (tol : Bool) (fuel : Nat) (chain : List Nat) (k : Nat) (bad : Out Unit)
    (hb : bad ≠ .err) (hbo : bad ≠ .ok ())
    (ih : k ∉ chain → chain.length < maxNest → k < g.length → ∀ t, load g tol fuel (k :: chain) t ≠ bad) :
    load g tol (fuel + 1) chain k ≠ bad := by
  unfold load
  by_cases hk : k ∈ chain
  · rw [if_pos hk]; exact hb.symm
  by_cases hl : chain.length ≥ maxNest
  · rw [if_neg hk, if_pos hl]; exact hb.symm
  rw [if_neg hk, if_neg hl]
  cases hg : g[k]? with
  | none => exact hb.symm
  | some o =>
    cases o with
    | node tag fields =>
      exact fold_ne g tol _ bad hb hbo fields (.ok ()) hbo.symm fun f _ =>
        ih hk (by omega) (getElem?_some_lt g k _ hg) f.target
    | _ => exact hb.symm

/-- invariant of the guard along nested loads -/
theorem load_ne_oof_aux (g : Graph) (tol : Bool) :
    ∀ (fuel : Nat) (chain : List Nat) (k : Nat), chain.Nodup → (∀ c ∈ chain, c < g.length) →
      g.length + 1 ≤ fuel + chain.length → load g tol fuel chain k ≠ .oof := by
  intro fuel
  induction fuel with
  | zero =>
    intro chain k hn hb hl
    have := nodup_bounded_length g.length chain hn hb
    omega
  | succ fuel ih =>
    intro chain k hn hb hl
    refine load_succ_ne g tol fuel chain k .oof nofun nofun fun hk _ hlt t => ih _ t (List.nodup_cons.2 ⟨hk, hn⟩) ?_ ?_
    · intro c hc
      rcases List.mem_cons.1 hc with rfl | hc
      · exact hlt
      · exact hb c hc
    · simp only [List.length_cons]; omega


/-! ### /Prev loop -/

/-- one round of the `/Prev` loop: anything but an error comes from the next round, which runs with a number not seen
    before whose position `start + p` is inside the buffer (the number recorded is header-relative) -/
theorem prevLoop_succ_ne (secs : Sections) (start fuel p : Nat) (seen : List Nat) (n : Nat) (bad : Out Nat)
    (hb : bad ≠ .err)
    (ih : p ∉ seen → start + p < secs.length → ∀ prev, prevLoop secs start fuel prev (p :: seen) (n + 1) ≠ bad) :
    prevLoop secs start (fuel + 1) (some p) seen n ≠ bad := by
  unfold prevLoop
  by_cases hp : p ∈ seen
  · rw [if_pos hp]; exact hb.symm
  by_cases ho : start + p > usizeMax
  · rw [if_neg hp, if_pos ho]; exact hb.symm
  rw [if_neg hp, if_neg ho]
  cases hs : secs[start + p]? with
  | none => exact hb.symm
  | some o =>
    cases o with
    | none => exact hb.symm
    | some prev => exact ih hp (getElem?_some_lt _ _ _ hs) prev

theorem prevLoop_ne_oof_aux (secs : Sections) (start : Nat) :
    ∀ (fuel : Nat) (p : Option Nat) (seen : List Nat) (n : Nat), seen.Nodup → (∀ c ∈ seen, c < secs.length) →
      secs.length + 1 ≤ fuel + seen.length → prevLoop secs start fuel p seen n ≠ .oof := by
  intro fuel
  induction fuel with
  | zero =>
    intro p seen n hn hb hl
    have := nodup_bounded_length secs.length seen hn hb
    omega
  | succ fuel ih =>
    intro p seen n hn hb hl
    cases p with
    | none => simp [prevLoop]
    | some p =>
      refine prevLoop_succ_ne secs start fuel p seen n .oof nofun fun hp hlt prev =>
        ih prev _ _ (List.nodup_cons.2 ⟨hp, hn⟩) ?_ (by simp only [List.length_cons]; omega)
      intro c hc
      rcases List.mem_cons.1 hc with rfl | hc
      · omega
      · exact hb c hc

theorem prevLoop_ne_panic (secs : Sections) (start : Nat) :
    ∀ (fuel : Nat) (p : Option Nat) (seen : List Nat) (n : Nat), prevLoop secs start fuel p seen n ≠ .panic := by
  intro fuel
  induction fuel with
  | zero => intro p seen n; simp [prevLoop]
  | succ fuel ih =>
    intro p seen n
    cases p with
    | none => simp [prevLoop]
    | some p => exact prevLoop_succ_ne secs start fuel p seen n .panic nofun fun _ _ _ => ih _ _ _

/-! ### Objects whose value is a reference -/

theorem resolveFlags_returns (g : List Stored) : ∀ (d k : Nat), (resolveFlags g d k).Returns := by
  simp only [Out.Returns]
  intro d
  induction d with
  | zero =>
    intro k
    unfold resolveFlags
    split <;> simp
  | succ d ih =>
    intro k
    unfold resolveFlags
    split
    · simp
    · simp
    · exact ih _

/-! ### Colour spaces -/

theorem csLoad_returns (g : List CObj) : ∀ (d k : Nat), (csLoad g d k).Returns := by
  simp only [Out.Returns]
  intro d
  induction d with
  | zero =>
    intro k
    unfold csLoad
    split <;> simp
  | succ d ih =>
    intro k
    unfold csLoad
    split <;> (try simp) <;> (try exact ih _)


/-! ### Tree walks -/

/-- invariant of the walk state: nothing entered twice, only numbers below `B`, one `get` per entry -/
def WalkInv (B : Nat) (st : WalkSt) : Prop :=
  st.visited.Nodup ∧ (∀ x ∈ st.visited, x < B) ∧ st.gets = st.visited.length

theorem walkKid_inv (g : List TNode) (B : Nat) (descend : TNode → WalkSt → WalkRes) (dz : Bool)
    (hd : ∀ node ∈ g, ∀ st, WalkInv B st → WalkInv B (descend node st).st)
    (acc : WalkRes) (kid : Nat) (hk : kid < B) (ha : WalkInv B acc.st) :
    WalkInv B (walkKid g descend dz acc kid).st := by
  unfold walkKid
  split
  · split
    · exact ha
    · split
      · exact ha
      · rename_i hv
        have hst : WalkInv B { acc.st with visited := kid :: acc.st.visited, gets := acc.st.gets + 1 } := by
          refine ⟨List.nodup_cons.2 ⟨hv, ha.1⟩, ?_, ?_⟩
          · intro x hx
            rcases List.mem_cons.1 hx with rfl | hx
            · exact hk
            · exact ha.2.1 x hx
          · simp [ha.2.2]
        split
        · exact hst
        · exact hst
        · rename_i node _ hg
          exact hd node (List.mem_of_getElem? hg) _ hst
  · exact ha

theorem walkFold_inv (g : List TNode) (B : Nat) (descend : TNode → WalkSt → WalkRes) (dz : Bool)
    (hd : ∀ node ∈ g, ∀ st, WalkInv B st → WalkInv B (descend node st).st)
    (kids : List Nat) (hk : ∀ kid ∈ kids, kid < B) (acc : WalkRes) (ha : WalkInv B acc.st) :
    WalkInv B (kids.foldl (walkKid g descend dz) acc).st := by
  induction kids generalizing acc with
  | nil => exact ha
  | cons kid kids ih =>
    simp only [List.foldl_cons]
    apply ih
    · intro k hk'; exact hk k (by simp [hk'])
    · exact walkKid_inv g B descend dz hd acc kid (hk kid (by simp)) ha

theorem walk_inv (g : List TNode) (B : Nat) (hg : ∀ node ∈ g, ∀ kid ∈ kidsOf node, kid < B) :
    ∀ (d : Nat) (node : TNode), (∀ kid ∈ kidsOf node, kid < B) → ∀ st, WalkInv B st → WalkInv B (walk g d node st).st := by
  intro d
  induction d with
  | zero =>
    intro node hn st hs
    cases node with
    | leaf n => exact hs
    | bad => exact hs
    | inter kids =>
      simp only [walk]
      exact walkFold_inv g B _ true (fun _ _ st h => h) kids hn ⟨.ok (), st⟩ hs
  | succ d ih =>
    intro node hn st hs
    cases node with
    | leaf n => exact hs
    | bad => exact hs
    | inter kids =>
      simp only [walk]
      exact walkFold_inv g B _ false (fun node hm st h => ih node (hg node hm) st h) kids hn ⟨.ok (), st⟩ hs

theorem walkKid_out (g : List TNode) (descend : TNode → WalkSt → WalkRes) (dz : Bool) (bad : Out Unit)
    (hb1 : bad ≠ .err) (hd : ∀ node st, (descend node st).out ≠ bad) (acc : WalkRes) (kid : Nat) (ha : acc.out ≠ bad) :
    (walkKid g descend dz acc kid).out ≠ bad := by
  unfold walkKid
  split
  · split
    · exact fun h => hb1 h.symm
    · split
      · exact fun h => hb1 h.symm
      · split
        · exact fun h => hb1 h.symm
        · exact fun h => hb1 h.symm
        · exact hd _ _
  · exact ha

theorem walkFold_out (g : List TNode) (descend : TNode → WalkSt → WalkRes) (dz : Bool) (bad : Out Unit)
    (hb1 : bad ≠ .err) (hd : ∀ node st, (descend node st).out ≠ bad) (kids : List Nat) (acc : WalkRes) (ha : acc.out ≠ bad) :
    (kids.foldl (walkKid g descend dz) acc).out ≠ bad := by
  induction kids generalizing acc with
  | nil => exact ha
  | cons kid kids ih =>
    simp only [List.foldl_cons]
    exact ih _ (walkKid_out g descend dz bad hb1 hd acc kid ha)

theorem walk_out (g : List TNode) (bad : Out Unit) (hb1 : bad ≠ .err) (hb2 : bad ≠ .ok ()) :
    ∀ (d : Nat) (node : TNode) (st : WalkSt), (walk g d node st).out ≠ bad := by
  intro d
  induction d with
  | zero =>
    intro node st
    cases node with
    | leaf n => exact fun h => hb2 h.symm
    | bad => exact fun h => hb1 h.symm
    | inter kids =>
      simp only [walk]
      exact walkFold_out g _ true bad hb1 (fun _ _ h => hb1 h.symm) kids _ (fun h => hb2 h.symm)
  | succ d ih =>
    intro node st
    cases node with
    | leaf n => exact fun h => hb2 h.symm
    | bad => exact fun h => hb1 h.symm
    | inter kids =>
      simp only [walk]
      exact walkFold_out g _ false bad hb1 (fun node st => ih node st) kids _ (fun h => hb2 h.symm)

/-! ### Page lookup -/

theorem pageLoop_out (g : List PNode) (descend : List Nat → Nat → PageRes) (bad : Out Nat) (checked : Bool)
    (hb1 : bad ≠ .err) (hb2 : ∀ k, bad ≠ .ok k) (hb3 : checked = false → bad ≠ .panic)
    (hd : ∀ kids n, (descend kids n).out ≠ bad) :
    ∀ (rest : List Nat) (pos n gets : Nat), (pageLoop g checked descend rest pos n gets).out ≠ bad := by
  intro rest
  induction rest with
  | nil => intro pos n gets; simp only [pageLoop]; exact fun h => hb1 h.symm
  | cons kid rest ih =>
    intro pos n gets
    unfold pageLoop
    split
    · exact fun h => hb1 h.symm
    · exact fun h => hb1 h.symm
    · simp only
      split
      · cases checked with
        | true => exact fun h => hb1 h.symm
        | false => exact fun h => hb3 rfl h.symm
      · split
        · exact hd _ _
        · exact ih _ _ _
    · split
      · exact fun h => hb2 _ h.symm
      · split
        · cases checked with
          | true => exact fun h => hb1 h.symm
          | false => exact fun h => hb3 rfl h.symm
        · exact ih _ _ _

theorem pageLoop_gets (g : List PNode) (checked : Bool) (descend : List Nat → Nat → PageRes) (D : Nat)
    (hd : ∀ kids count, PNode.tree kids count ∈ g → ∀ n, (descend kids n).gets ≤ D) :
    ∀ (rest : List Nat) (pos n gets : Nat), (pageLoop g checked descend rest pos n gets).gets ≤ gets + rest.length + D := by
  intro rest
  induction rest with
  | nil => intro pos n gets; simp [pageLoop]
  | cons kid rest ih =>
    intro pos n gets
    unfold pageLoop
    split
    · simp only [List.length_cons]; omega
    · simp only [List.length_cons]; omega
    · rename_i kids count hg
      simp only
      split
      · simp only [List.length_cons]; omega
      · split
        · have := hd kids count (List.mem_of_getElem? hg) (n - pos)
          simp only [List.length_cons]; omega
        · have := ih (pos + count) n (gets + 1)
          simp only [List.length_cons]; omega
    · split
      · simp only [List.length_cons]; omega
      · split
        · simp only [List.length_cons]; omega
        · have := ih (pos + 1) n (gets + 1)
          simp only [List.length_cons]; omega


/-- with the depth limit the fuel needed is a constant of the code, not a function of the file -/
theorem load_ne_oof_depth (g : Graph) (tol : Bool) :
    ∀ (fuel : Nat) (chain : List Nat) (k : Nat), chain.length ≤ maxNest →
      maxNest + 1 ≤ fuel + chain.length → load g tol fuel chain k ≠ .oof := by
  intro fuel
  induction fuel with
  | zero => intro chain k h1 h2; omega
  | succ fuel ih =>
    intro chain k h1 h2
    exact load_succ_ne g tol fuel chain k .oof nofun nofun fun _ hl _ t =>
      ih _ t (by simp only [List.length_cons]; omega) (by simp only [List.length_cons]; omega)

theorem apFold_ne (ld : Nat → Out Unit) (bad : Out Unit) (vals : List Nat) (acc : Out Unit)
    (hacc : acc ≠ bad) (h : ∀ v, ld v ≠ bad) :
    vals.foldl (fun acc v => match acc with | .ok _ => ld v | o => o) acc ≠ bad := by
  induction vals generalizing acc with
  | nil => exact hacc
  | cons v vals ih =>
    simp only [List.foldl_cons]
    apply ih
    cases acc with
    | ok u => exact h v
    | err => exact hacc
    | panic => exact hacc
    | oof => exact hacc

theorem apLoad_returns (g : List AObj) : ∀ (d k : Nat), (apLoad g d k).Returns := by
  simp only [Out.Returns]
  intro d
  induction d with
  | zero =>
    intro k
    unfold apLoad
    split <;> simp
  | succ d ih =>
    intro k
    unfold apLoad
    split
    · simp
    · simp
    · simp
    · exact ⟨apFold_ne _ .panic _ _ (by simp) (fun v => (ih v).1), apFold_ne _ .oof _ _ (by simp) (fun v => (ih v).2)⟩

/-! ### The instrumented load: same answer; the ladder -/

theorem loadN_fold_fst (g : Graph) (tol : Bool) (fuel : Nat) (ch : List Nat)
    (ih : ∀ k, (loadN g tol fuel ch k).1 = load g tol fuel ch k) :
    ∀ (fs : List Field) (a : Out Unit) (c : Nat),
      (fs.foldl (fun (acc : Out Unit × Nat) f =>
        match acc.1 with
        | .ok _ =>
          let r := loadN g tol fuel ch f.target
          (fieldOutcome g tol f r.1, acc.2 + r.2)
        | _ => acc) (a, c)).1
      = fs.foldl (fun acc f => seqOut acc (fun _ => fieldOutcome g tol f (load g tol fuel ch f.target))) a := by
  intro fs
  induction fs with
  | nil => intro a c; rfl
  | cons f fs ihf =>
    intro a c
    simp only [List.foldl_cons]
    cases a with
    | ok u => dsimp only; rw [ihf, ih]; rfl
    | err => dsimp only; rw [ihf]; rfl
    | panic => dsimp only; rw [ihf]; rfl
    | oof => dsimp only; rw [ihf]; rfl

theorem loadN_fst (g : Graph) (tol : Bool) :
    ∀ fuel chain k, (loadN g tol fuel chain k).1 = load g tol fuel chain k := by
  intro fuel
  induction fuel with
  | zero => intro chain k; simp [loadN, load]
  | succ fuel ih =>
    intro chain k
    unfold loadN load
    by_cases h1 : k ∈ chain
    · simp [h1]
    · by_cases h2 : chain.length ≥ maxNest
      · simp [h1, h2]
      · simp only [h1, h2, if_false]
        cases hg : g[k]? with
        | none => rfl
        | some o =>
          cases o with
          | bad => rfl
          | missing => rfl
          | node tag fields => exact loadN_fold_fst g tol fuel (k :: chain) (fun k' => ih (k :: chain) k') fields (.ok ()) 1

/-- object `i < n` of the ladder has two required fields (no tag wanted, not optional), both pointing at `i + 1` -/
theorem ladder_inner (n i : Nat) (h : i < n) :
    (ladder n)[i]? = some (Obj.node 0 [⟨i + 1, false, none, false⟩, ⟨i + 1, false, none, false⟩]) := by
  simp [ladder, List.getElem?_append, h]

theorem ladder_leaf (n : Nat) : (ladder n)[n]? = some (Obj.node 0 []) := by
  simp [ladder]

/-- Loading object `k` with `d = n - k` rungs below it costs `2 ^ (d + 1) - 1` gets: one for `k` and twice the cost of
    `k + 1` (`c (d + 1) = 1 + 2 · c d`). The chain holds the objects above `k` only (`∀ x ∈ chain, x < k`), so the guard
    never fires on the way down. -/
theorem loadN_ladder_aux (n : Nat) (hn : n < maxNest) (tol : Bool) :
    ∀ (d k fuel : Nat) (chain : List Nat), k + d = n → chain.length = k → (∀ x ∈ chain, x < k) → d < fuel →
      loadN (ladder n) tol fuel chain k = (.ok (), 2 ^ (d + 1) - 1) := by
  intro d
  induction d with
  | zero =>
    intro k fuel chain hk hl hc hf
    obtain ⟨fuel, rfl⟩ : ∃ f, fuel = f + 1 := ⟨fuel - 1, by omega⟩
    have hk' : k = n := by omega
    subst hk'
    have h1 : k ∉ chain := fun hm => Nat.lt_irrefl _ (hc k hm)
    have h2 : ¬ chain.length ≥ maxNest := by omega
    unfold loadN
    simp only [h1, h2, if_false, ladder_leaf]
    rfl
  | succ d ih =>
    intro k fuel chain hk hl hc hf
    obtain ⟨fuel, rfl⟩ : ∃ f, fuel = f + 1 := ⟨fuel - 1, by omega⟩
    have h1 : k ∉ chain := fun hm => Nat.lt_irrefl _ (hc k hm)
    have h2 : ¬ chain.length ≥ maxNest := by omega
    have hr := ih (k + 1) fuel (k :: chain) (by omega) (by simp [hl])
      (by intro x hx; rcases List.mem_cons.mp hx with rfl | hx; omega; have := hc x hx; omega) (by omega)
    unfold loadN
    simp only [h1, h2, if_false, ladder_inner n k (by omega), List.foldl_cons, List.foldl_nil, hr, fieldOutcome]
    have hp : 2 ^ (d + 1 + 1) = 2 * 2 ^ (d + 1) := by rw [Nat.pow_succ]; omega
    have hpos : 0 < 2 ^ (d + 1) := Nat.pow_pos (by decide)
    simp only [Prod.mk.injEq, true_and]
    omega

end TypedLoad
