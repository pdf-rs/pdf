import PdfModel.Model.Crypt
import PdfModel.Spec.StdSecurity

/-!
  `Decoder::decrypt` on ARBITRARY ciphertext never panics (C01; the model is C06's `Model/Crypt.lean`).

  The data of an encrypted string or stream is attacker-controlled; so are the object number and generation. Given
  hash and block primitives that are functions with the digest lengths of MD5 / AES (`StdSec.PrimsAgree`, `WF`), a
  decoder whose method is one of the three ciphers (`Decoder::new` never builds one with `None`: the `unreachable!()`)
  and whose key is at least as long as `min(key_size, 16)` (what `from_password` hands over: `C14.key_schedule_total`,
  `object_key_total`), every outcome is a plaintext or `DecryptionFailure`.
  (`Lemmas/CryptTotal.lean` is about `from_password` for every key length, C14.)
-/

namespace Crypt
open StdSec

theorem rc4Encrypt_returns (key data : Bytes) (h : 0 < key.length ∧ key.length ≤ 256) : (rc4Encrypt key data).Returns := by
  unfold rc4Encrypt Rc4.new
  simp [h, Out.Returns]

theorem cbcDecryptBlocks_returns {P : Prims} {H : Hashes} (hp : PrimsAgree P H) (key : Bytes) :
    ∀ (n : Nat) (prev data : Bytes), ∃ r, cbcDecryptBlocks P key n prev data = .ok r := by
  intro n
  induction n with
  | zero => intro prev data; exact ⟨[], rfl⟩
  | succ n ih =>
    intro prev data
    obtain ⟨rest, hr⟩ := ih (data.take 16) (data.drop 16)
    exact ⟨xorBytes (H.aesD key (data.take 16)) prev ++ rest, by simp [cbcDecryptBlocks, hp.aesDec, hr]⟩

theorem pkcs7Unpad_returns (plain : Bytes) : (pkcs7Unpad plain).Returns := by
  unfold pkcs7Unpad
  split
  · exact .err
  · split
    · exact .err
    · simp only []
      split
      · exact .err
      · exact .ok _

theorem cbcDecryptPkcs7_returns {P : Prims} {H : Hashes} (hp : PrimsAgree P H) (klen : Nat) (key iv ct : Bytes) :
    (cbcDecryptPkcs7 P klen key iv ct).Returns := by
  unfold cbcDecryptPkcs7
  split
  · exact .err
  · split
    · exact .err
    · obtain ⟨r, hr⟩ := cbcDecryptBlocks_returns hp key (ct.length / 16) iv ct
      rw [hr]; exact pkcs7Unpad_returns r

/-- **`Decoder::decrypt` answers on every input.** -/
theorem decrypt_total {P : Prims} {H : Hashes} (hp : PrimsAgree P H) (hw : H.WF) (d : Decoder)
    (hm : d.method ≠ .none) (hk : min d.keySize 16 ≤ d.key.length) (id gen : Nat) (data : Bytes) :
    (decrypt P d id gen data).Returns := by
  unfold decrypt
  by_cases h1 : d.encryptRef = some (id, gen)
  · rw [if_pos h1]; exact .ok _
  by_cases h2 : (!d.encryptMetadata) = true ∧ d.metadataRef = some (id, gen)
  · rw [if_neg h1, if_pos h2]; exact .ok _
  by_cases h3 : data.isEmpty = true
  · rw [if_neg h1, if_neg h2, if_pos h3]; exact .ok _
  rw [if_neg h1, if_neg h2, if_neg h3]
  have hkey : d.keyOf = .ok (d.key.take (min d.keySize 16)) := by simp [Decoder.keyOf, hk]
  cases hmm : d.method with
  | none => exact absurd hmm hm
  | v2 =>
    simp only [hkey, Out.bind_ok, hp.md5]
    apply rc4Encrypt_returns
    have := hw.md5_len (List.take (min d.keySize 16) d.key ++ idBytes id ++ genBytes gen)
    simp only [List.length_take, this]
    omega
  | aesv2 =>
    simp only [hkey, Out.bind_ok, hp.md5]
    split
    · exact .err
    · exact cbcDecryptPkcs7_returns hp _ _ _ _
  | aesv3 =>
    simp only []
    split
    · exact .err
    · exact cbcDecryptPkcs7_returns hp _ _ _ _

/-- `parser::Context::decrypt` -/
theorem ctxDecrypt_total {P : Prims} {H : Hashes} (hp : PrimsAgree P H) (hw : H.WF) (dec : Option Decoder)
    (hd : ∀ d, dec = some d → d.method ≠ .none ∧ min d.keySize 16 ≤ d.key.length) (id gen : Nat) (data : Bytes) :
    (ctxDecrypt P dec id gen data).Returns := by
  unfold ctxDecrypt
  cases dec with
  | none => exact .ok _
  | some d => exact decrypt_total hp hw d (hd d rfl).1 (hd d rfl).2 id gen data

end Crypt
