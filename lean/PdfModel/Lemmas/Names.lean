import PdfModel.Lemmas.Lexer
import PdfModel.Model.Parser

/-! Names: the text of a name (`NameBody`) is made of regular characters and `#xx` decoding yields the
    bytes it denotes. -/

namespace PdfLex
open PdfSyntax (NameBody hexVal)

theorem decodeNibble_eq : ∀ c, decodeNibble c = hexVal c := by decide +kernel

theorem unescapeName_raw (b : UInt8) (t : List UInt8) (h : b ≠ 35) :
    unescapeName (b :: t) = (unescapeName t).bind fun r => .ok (b :: r) := by
  have hb : (b == 35) = false := by simp [h]
  cases t with
  | nil => simp [unescapeName, hb]
  | cons c t' =>
    cases t' with
    | nil => simp [unescapeName, hb]
    | cons d t'' => simp [unescapeName, hb]

theorem unescapeName_esc (hi lo : UInt8) (t : List UInt8) :
    unescapeName (35 :: hi :: lo :: t) =
      match decodeNibble lo, decodeNibble hi with
      | some l, some h => (unescapeName t).bind fun r => .ok ((l ||| (h <<< 4)) :: r)
      | _, _ => .err := by
  simp only [unescapeName, beq_self_eq_true, if_true]
  cases decodeNibble lo <;> cases decodeNibble hi <;> rfl

theorem nameBody_spec (t s : List UInt8) (h : NameBody t s) :
    unescapeName t = .ok s ∧ (∀ b ∈ t, isRegular b = true) := by
  induction h with
  | nil => simp [unescapeName]
  | raw b t s hreg h35 _ ih =>
    refine ⟨?_, ?_⟩
    · rw [unescapeName_raw b t h35]; simp [ih.1]
    · intro x hx; simp at hx; rcases hx with rfl | hx
      · rw [isRegular_eq]; exact hreg
      · exact ih.2 x hx
  | esc h1 h2 v1 v2 t s hv1 hv2 _ ih =>
    obtain ⟨l1, r1, _⟩ := hexVal_some hv1
    obtain ⟨l2, r2, _⟩ := hexVal_some hv2
    have n1 := (decodeNibble_eq h1).trans hv1
    have n2 := (decodeNibble_eq h2).trans hv2
    refine ⟨?_, ?_⟩
    · rw [unescapeName_esc]; simp [n1, n2, ih.1, UInt8.or_comm v2, nibble_or v1 v2 l1 l2]
    · intro x hx; simp at hx; rcases hx with rfl | rfl | rfl | hx
      · decide
      · exact r1
      · exact r2
      · exact ih.2 x hx

end PdfLex
