import PdfModel.Lemmas.ContentBytesWrite

/-! C08 byte level, composition: the whole output of `serialize_ops` is a spelling of the token sequence of the
    token-level serializer (by induction over the writer's loop), hence is read back by the byte-level loop as the
    token-level loop reads the tokens. -/

namespace ContentBytes
open Content ContentSyntax
open PdfSyntax (Gap Bnd Spells needsBnd)

variable {R : Type}

section
variable (ro : RealOps R) (fmt : R → List UInt8) (pr : List UInt8 → Option R)

/-- `more` spells `toks` after any gap (the gap is what the previous statement leaves behind) -/
def SpellsAfter (toks : List (Tok R)) (more : List UInt8) : Prop := ∀ g, Gap g → SpellsToks pr toks (g ++ more)

theorem primsOf_append (a b : List (Tok R)) : primsOf (a ++ b) = primsOf a ++ primsOf b := by
  induction a with
  | nil => rfl
  | cons t a ih => cases t <;> simp [primsOf, ih]

theorem primRT_of (q : Content.Prim R) (h1 : PrimV ro q) (h2 : PdfSyntax.vdepth (toLex q) ≤ PdfLex.maxDepth) : PrimRT q :=
  ⟨toLex_wf ro q h1, h2, ofLex_toLex ro q h1⟩

theorem gap_trail_sp {trail : List UInt8} (h : trail = [] ∨ trail = [10]) : Gap (trail ++ [32]) := by
  rcases h with rfl | rfl
  · exact Gap.ws 32 [] (by decide) Gap.nil
  · exact Gap.ws 10 _ (by decide) (Gap.ws 32 [] (by decide) Gap.nil)

/-- one statement: operands, keyword, line feed -/
theorem operands_spell (fl : FmtLaws ro fmt pr) : ∀ (its : List (Item R)), (∀ it ∈ its, ItemV ro it) →
    ∀ (kw : String) (toks : List (Tok R)) (more : List UInt8), kwOK (strBytes kw) = true → SpellsAfter pr toks more →
    ∃ ob, operandsB ro fmt its = .ok ob ∧
      SpellsAfter pr (its.map (itemTok ro ⟨true⟩) ++ .kw kw :: toks) (ob ++ strBytes kw ++ 10 :: more) ∧
      (∀ p ∈ primsOf (its.map (itemTok ro ⟨true⟩)), PrimRT p) := by
  intro its
  induction its with
  | nil =>
    intro _ kw toks more hk hm
    refine ⟨[], rfl, ?_, by simp [primsOf]⟩
    intro g hg
    have := SpellsToks.kw g kw (10 :: more) toks hg hk (by simp [Bnd]; decide) (by simpa using hm [10] (Gap.ws 10 [] (by decide) Gap.nil))
    simpa using this
  | cons it its ih =>
    intro hv kw toks more hk hm
    obtain ⟨q, txt, trail, h1, h2, h3, h4, h5, h6, h7⟩ := item_spells ro fmt pr fl it (hv it (by simp))
    obtain ⟨ob', h8, h9, h10⟩ := ih (fun x hx => hv x (by simp [hx])) kw toks more hk hm
    refine ⟨txt ++ trail ++ 32 :: ob', by simp [operandsB, h2, h8], ?_, ?_⟩
    · intro g hg
      have hrest := h9 (trail ++ [32]) (gap_trail_sp h4)
      have := SpellsToks.prim g q txt _ _ hg h3 (fun hb => by
        rw [h5 hb]; simp [Bnd]; decide) hrest
      simp only [List.map_cons, h1, List.cons_append]
      simpa [List.append_assoc] using this
    · intro p hp
      simp only [List.map_cons, h1, primsOf, List.mem_cons] at hp
      rcases hp with rfl | hp
      · exact primRT_of ro p h6 h7
      · exact h10 p hp


theorem opV_accepted {op : Op R} (h : OpV ro op) : acceptedOp ro ⟨true⟩ op = true := by
  apply accepted_of_finite ro op h.1
  cases op <;> first | rfl | exact absurd h.2 (by simp)

/-- **The writer emits a spelling of its tokens**: by induction over the loop of `serialize_ops`, in step with the
    token-level serializer (same look-ahead, same `advance`, same state). -/
theorem serBytes_spells (fl : FmtLaws ro fmt pr) : ∀ (fuel : Nat) (ops : List (Op R)) (s : SState R),
    ops.length ≤ fuel → (∀ o ∈ ops, OpV ro o) →
    ∃ toks bytes, serLoop ro ⟨true⟩ fuel s ops = .ok toks ∧ serBytesLoop ro fmt fuel s ops = .ok bytes ∧
      SpellsAfter pr toks bytes ∧ (∀ p ∈ primsOf toks, PrimRT p) := by
  intro fuel
  induction fuel with
  | zero =>
    intro ops s hl _
    have : ops = [] := List.eq_nil_of_length_eq_zero (Nat.le_zero.mp hl)
    subst this
    exact ⟨[], [], rfl, rfl, fun g hg => by simpa using SpellsToks.nil g hg, by simp [primsOf]⟩
  | succ fuel ih =>
    intro ops s hl hv
    cases ops with
    | nil => exact ⟨[], [], rfl, rfl, fun g hg => by simpa using SpellsToks.nil g hg, by simp [primsOf]⟩
    | cons op rest =>
      have hop := hv op (by simp)
      obtain ⟨r, hr, _⟩ := (serOne_spec ro ⟨true⟩ s op rest).2 (not_inlineImage_of_accepted ro (opV_accepted ro hop))
      have hitems := serOne_items ro ⟨true⟩ s op rest
      rw [hr] at hitems
      cases hx : serItems ro s op rest with
      | none => rw [hx] at hitems; simp at hitems
      | some x =>
        rw [hx] at hitems
        simp only [Option.map_some, Option.some.injEq] at hitems
        subst hitems
        have hdrop : ∀ o ∈ rest.drop x.extra, o ∈ op :: rest := fun o ho => List.mem_cons_of_mem _ (List.mem_of_mem_drop ho)
        have htake : ∀ o ∈ rest.take x.extra, o ∈ op :: rest := fun o ho => List.mem_cons_of_mem _ (List.mem_of_mem_take ho)
        have hlen : (rest.drop x.extra).length ≤ fuel := by
          simp only [List.length_drop, List.length_cons] at *
          omega
        obtain ⟨hiv, hkw⟩ := serItems_itemV ro s op rest x hop (fun o ho => (hv o (htake o ho)).1) hx
        obtain ⟨toks2, bytes2, hs2, hb2, hsp2, hrt2⟩ := ih (rest.drop x.extra) x.st hlen (fun o ho => hv o (hdrop o ho))
        obtain ⟨ob, hob, hsp, hrt⟩ := operands_spell ro fmt pr fl x.operands hiv x.kw toks2 bytes2 hkw hsp2
        refine ⟨(x.operands.map (itemTok ro ⟨true⟩) ++ [.kw x.kw]) ++ toks2, ob ++ strBytes x.kw ++ [10] ++ bytes2, ?_, ?_, ?_, ?_⟩
        · simp [serLoop, hr, hs2]
        · simp [serBytesLoop, hx, stmtB, hob, hb2]
        · intro g hg
          have := hsp g hg
          simpa [List.append_assoc] using this
        · intro p hp
          rw [primsOf_append, primsOf_append] at hp
          simp only [List.mem_append, primsOf] at hp
          rcases hp with (hp | hp) | hp
          · exact hrt p hp
          · simp at hp
          · exact hrt2 p hp

end

/-! A `/Contents` array.  `Content::operations` joins the data of the parts with a line feed
    after each; when every part was written by `serialize_ops`, the join is a spelling of the concatenated token
    sequences, and the token-level reader, which carries `last` / `subpath_start` across the junction, returns the
    concatenated operations (each part's writer starts with no current point, so it never relies on the previous
    part's). -/

section
variable (ro : RealOps R) (fmt : R → List UInt8) (pr : List UInt8 → Option R)

/-- a spelling followed by a line feed and another spelling is a spelling of both token sequences: the line feed
    that `Content::operations` inserts keeps the last token of a part and the first of the next apart -/
theorem spellsToks_join {toks1 toks2 : List (Tok R)} {t1 b2 : List UInt8} (h1 : SpellsToks pr toks1 t1)
    (h2 : SpellsAfter pr toks2 b2) : SpellsToks pr (toks1 ++ toks2) (t1 ++ 10 :: b2) := by
  induction h1 with
  | nil g hg =>
    have := h2 (g ++ [10]) (PdfLex.gap_append hg (Gap.ws 10 [] (by decide) Gap.nil))
    simpa using this
  | prim g p txt rest toks hg hsp hb ht ih =>
    have := SpellsToks.prim g p txt (rest ++ 10 :: b2) (toks ++ toks2) hg hsp (fun hn => by
      cases rest with
      | nil => simp [Bnd]; decide
      | cons b r => simpa [Bnd] using hb hn) ih
    simpa [List.append_assoc] using this
  | kw g s rest toks hg hk hb ht ih =>
    have := SpellsToks.kw g s (rest ++ 10 :: b2) (toks ++ toks2) hg hk (by
      cases rest with
      | nil => simp [Bnd]; decide
      | cons b r => simpa [Bnd] using hb) ih
    simpa [List.append_assoc] using this

/-- every part through `serialize_ops` -/
def serializeParts : List (List (Op R)) → Out (List (List UInt8))
  | [] => .ok []
  | p :: ps =>
    match serializeBytes ro fmt p, serializeParts ps with
    | .ok b, .ok bs => .ok (b :: bs)
    | .ok _, o => o
    | .err, _ => .err
    | .panic, _ => .panic
    | .oof, _ => .oof

/-- the parts of a `/Contents` array, each written by `serialize_ops`: the joined data spells the concatenated
    tokens, and the token-level reader returns the concatenated operations -/
theorem parts_spell (laws : RealLaws ro) (fl : FmtLaws ro fmt pr) (allow : Bool) :
    ∀ (parts : List (List (Op R))), (∀ p ∈ parts, ∀ op ∈ p, OpV ro op) → ∀ (st : PState R),
    ∃ toks bs st' new, serializeParts ro fmt parts = .ok bs ∧ SpellsAfter pr toks (joinParts bs) ∧
      (∀ p ∈ primsOf toks, PrimRT p) ∧
      parseLoop ro allow ⟨st, []⟩ toks = .ok ⟨st', []⟩ ∧ st'.ops = st.ops ++ new ∧
      opsEquiv ro new parts.flatten = true := by
  intro parts
  induction parts with
  | nil =>
    intro _ st
    exact ⟨[], [], st, [], rfl, fun g hg => by simpa [joinParts] using SpellsToks.nil g hg, by simp [primsOf], rfl,
      by simp, rfl⟩
  | cons p ps ih =>
    intro hv st
    have hp := hv p (by simp)
    obtain ⟨toks1, b1, h1, h2, h3, h4⟩ := serBytes_spells ro fmt pr fl p.length p ⟨none, none⟩ (Nat.le_refl _) hp
    have hinv : Inv ro ⟨none, none⟩ st := ⟨fun q hq => by simp at hq, fun q hq => by simp at hq⟩
    obtain ⟨toks1', st1, new1, h5, h6, h7, _, h9⟩ := serLoop_sim ro laws ⟨true⟩ allow p.length p ⟨none, none⟩ st
      (Nat.le_refl _) (fun o ho => (hp o ho).1) (fun o ho => opV_accepted ro (hp o ho)) hinv
    have : toks1' = toks1 := by rw [h1] at h5; cases h5; rfl
    subst this
    obtain ⟨toks2, bs, st2, new2, g1, g2, g3, g4, g5, g6⟩ := ih (fun q hq => hv q (by simp [hq])) st1
    refine ⟨toks1' ++ toks2, b1 :: bs, st2, new1 ++ new2, ?_, ?_, ?_, ?_, ?_, ?_⟩
    · simp [serializeParts, serializeBytes, h2, g1]
    · intro g hg
      have := spellsToks_join pr (h3 g hg) g2
      simpa [joinParts, List.append_assoc] using this
    · intro q hq
      rw [primsOf_append] at hq
      rcases List.mem_append.mp hq with hq | hq
      · exact h4 q hq
      · exact g3 q hq
    · rw [parseLoop_append, h6]; exact g4
    · rw [g5, h7, List.append_assoc]
    · simpa using opsEquiv_append ro h9 g6

end

/-! An instance of the byte-level hypotheses (`FmtLaws`) over the integer "reals" of `Lemmas/ContentInst.lean`:
    `Display` prints the integer, `from_str` reads `digits.` back.  Shows that the hypotheses of
    `parse_serialize_bytes` are satisfiable and serves its non-vacuity example. -/

open PdfSyntax (IntTok RealTok Digits digitsVal)

/-- `from_str` of the instance: `[-]digits.` ↦ the integer -/
def intPr (t : List UInt8) : Option Int :=
  if t.getLast? == some 46 then
    match t.dropLast with
    | 45 :: ds => some (-(digitsVal ds : Int))
    | ds => some (digitsVal ds : Int)
  else none

theorem intPr_fmtInt (n : Int) : intPr (PdfLex.fmtInt n ++ [46]) = some n := by
  have hspec := PdfLex.fmtNat_spec n.natAbs
  obtain ⟨hne, hd, hv⟩ := hspec
  unfold intPr
  simp only [List.getLast?_append, List.getLast?_singleton, Option.some_or, beq_self_eq_true, if_true,
    List.dropLast_concat]
  unfold PdfLex.fmtInt
  by_cases h : n < 0
  · rw [if_pos h]
    simp only
    rw [hv]; congr 1; omega
  · rw [if_neg h]
    cases hf : PdfLex.fmtNat n.natAbs with
    | nil => exact absurd hf hne
    | cons b ds =>
      have hb : b ≠ 45 := (PdfLex.dig_ne_sign b (hd b (by rw [hf]; simp))).1
      have : (match b :: ds with
        | 45 :: ds => some (-(digitsVal ds : Int))
        | ds => some (digitsVal ds : Int)) = some (digitsVal (b :: ds) : Int) := by
        split
        · rename_i heq; simp at heq; exact absurd heq.1 hb
        · rfl
      rw [this, ← hf, hv]; congr 1; omega

theorem intFmtLaws : FmtLaws intOps PdfLex.fmtInt intPr where
  frac := by intro r _ h; simp [intOps] at h
  integral := by
    intro r n _ h
    have : n = r := by simpa [intOps] using h.symm
    subst this
    refine ⟨PdfLex.fmtInt_spec n, ?_, intPr_fmtInt n⟩
    obtain ⟨hne, hd, hv⟩ := PdfLex.fmtNat_spec n.natAbs
    unfold PdfLex.fmtInt
    by_cases hneg : n < 0
    · rw [if_pos hneg]
      exact ⟨[45], PdfLex.fmtNat n.natAbs, [], by simp, Or.inr (Or.inr rfl), hd, by intro b hb; simp at hb, Or.inl hne⟩
    · rw [if_neg hneg]
      exact ⟨[], PdfLex.fmtNat n.natAbs, [], by simp, Or.inl rfl, hd, by intro b hb; simp at hb, Or.inl hne⟩
  big_integral := by intro r _; exact ⟨r, rfl⟩
  small_i32 := by
    intro r n _ h hb
    have : n = r := by simpa [intOps] using h.symm
    subst this
    simp only [intOps, decide_eq_false_iff_not] at hb
    omega

/-- the environment of the instance -/
def intEnv : PdfLex.Env Int :=
  { parseReal := intPr, resolveLen := fun _ _ => .err, allowMissingEndobj := false, decrypt := none, fileOffset := 0 }

end ContentBytes
