import PdfModel.Model.Handwritten2
import PdfModel.Lemmas.Derive
import PdfModel.Lemmas.FontEncoding

/-! Round-trip lemmas for the hand-written pairs of `Model/Handwritten2.lean` (C15). -/

namespace Derive

/-! ## destinations -/

/-- by evaluation, one view (and one pattern of absent `/XYZ` coordinates) at a time -/
theorem readDestArr_writeDest (tol : Bool) (d : DestV) :
    ∃ xs, writeDest d = .arr xs ∧ readDestArr tol xs = .ok d := by
  obtain ⟨page, view⟩ := d
  refine ⟨_, rfl, ?_⟩
  rcases page with _ | ⟨i, g⟩ <;> cases view with
    | xyz l t z => cases l <;> cases t <;> rfl
    | _ => rfl

theorem namedDest_read_write (env : Env) (d : NamedDest) : readNamedDestV env (writeNamedDestV d) = .ok d := by
  cases d with
  | named s => simp [writeNamedDestV, readNamedDestV, resolve1, resolveP]
  | direct d =>
    obtain ⟨xs, hw, hr⟩ := readDestArr_writeDest env.tolerant d
    simp [writeNamedDestV, hw, readNamedDestV, resolve1, resolveP, hr, Except.map]

/-! ## number trees -/

theorem readNums_writeNums (rdT : Prim → R Val) (wrT : Val → R Prim) :
    ∀ (items : List (Int × Val)) (ps : List Prim),
      (∀ kv ∈ items, ∀ q, wrT kv.2 = .ok q → ∃ v', rdT q = .ok v' ∧ wrT v' = .ok q) →
      writeNums wrT items = .ok ps →
      ∃ items', readNums rdT ps = .ok items' ∧ writeNums wrT items' = .ok ps := by
  intro items
  induction items with
  | nil => intro ps _ h; simp [writeNums] at h; subst h; exact ⟨[], by simp [readNums], by simp [writeNums]⟩
  | cons kv r ih =>
    obtain ⟨k, v⟩ := kv
    intro ps hl h
    simp only [writeNums] at h
    cases hv : wrT v with
    | error e => simp [hv] at h
    | ok p =>
      simp only [hv] at h
      cases hr : writeNums wrT r with
      | error e => simp [hr] at h
      | ok t =>
        simp [hr] at h; subst h
        obtain ⟨v', hrd, hwr⟩ := hl (k, v) (by simp) p hv
        obtain ⟨r', hr1, hr2⟩ := ih t (fun x hx => hl x (by simp [hx])) hr
        exact ⟨(k, v') :: r', by simp [readNums, hrd, hr1], by simp [writeNums, hwr, hr2]⟩

theorem asRefs_map (kids : List (Nat × Nat)) : asRefs (kids.map fun k => Prim.ref k.1 k.2) = .ok kids := by
  induction kids with
  | nil => rfl
  | cons k r ih => obtain ⟨a, b⟩ := k; simp [asRefs, ih]

theorem numTree_round_trips (rdT : Prim → R Val) (wrT : Val → R Prim) (env : Env) (t : NumTree)
    (hl : ∀ items, t.node = .leaf items → ∀ kv ∈ items, ∀ q, wrT kv.2 = .ok q → ∃ v', rdT q = .ok v' ∧ wrT v' = .ok q)
    (p : Prim) (hw : writeNumTree wrT t = .ok p) :
    ∃ t', readNumTree rdT env p = .ok t' ∧ writeNumTree wrT t' = .ok p := by
  obtain ⟨limits, node⟩ := t
  cases node with
  | inter kids =>
    cases hw
    refine ⟨⟨limits, .inter kids⟩, ?_, rfl⟩
    rcases limits with _ | ⟨a, b⟩ <;> simp [readNumTree, resolve1, resolveP, dinsert, dget, asRefs_map]
  | leaf items =>
    simp only [writeNumTree] at hw
    cases hn : writeNums wrT items with
    | error e => simp [hn] at hw
    | ok ps =>
      obtain ⟨items', h1, h2⟩ := readNums_writeNums rdT wrT items ps (hl items rfl) hn
      simp only [hn] at hw; cases hw
      refine ⟨⟨limits, .leaf items'⟩, ?_, by simp [writeNumTree, h2]⟩
      rcases limits with _ | ⟨a, b⟩ <;> simp [readNumTree, resolve1, resolveP, dinsert, dget, h1]

/-! ## CidToGidMap -/

theorem pairsBE_bytesBE : ∀ t : List Nat, (∀ v ∈ t, v < 65536) → pairsBE (bytesBE t) = t := by
  intro t
  induction t with
  | nil => intro _; rfl
  | cons v r ih =>
    intro h
    have hv := h v (by simp)
    have := ih (fun x hx => h x (by simp [hx]))
    simp only [bytesBE, List.flatMap_cons, List.cons_append, List.nil_append, pairsBE] at this ⊢
    rw [this]
    simp only [UInt8.toNat_ofNat']
    congr 1
    -- high byte times 256 plus low byte: `256 * (v / 256 % 256) + v % 256 = v` for `v < 65536`
    omega

theorem cidMap_read_write (m : CidMap) (hm : ∀ t, m = .table t → ∀ v ∈ t, v < 65536) :
    readCidMap (writeCidMap m) = .ok m := by
  cases m with
  | identity => simp [writeCidMap, readCidMap]
  | table t =>
    have hn : ¬ ((2 : Int) * (t.length : Int) < 0) := by omega
    simp only [writeCidMap, readCidMap, unitStreamData, dget]
    simp [hn, pairsBE_bytesBE t (hm t rfl)]

/-! ## appearance entries -/

/-- the state maps are read and written by the all-or-nothing map on association lists -/
theorem readStates_eq_mapKV (f : APrim → R ASE) : ∀ xs, readStates f xs = mapKV f xs
  | [] => rfl
  | (k, v) :: r => by
    simp only [readStates, mapKV, readStates_eq_mapKV f r]
    cases f v <;> simp only
    cases mapKV f r <;> rfl

theorem writeStates_eq_mapKV (f : ASE → R APrim) : ∀ xs, writeStates f xs = mapKV f xs
  | [] => rfl
  | (k, v) :: r => by
    simp only [writeStates, mapKV, writeStates_eq_mapKV f r]
    cases f v <;> simp only
    cases mapKV f r <;> rfl

theorem ase_round_trips (rdForm : Dict → List UInt8 → R Val) (wrForm : Val → R (Dict × List UInt8))
    (hform : ∀ v info data, wrForm v = .ok (info, data) → ∃ v', rdForm info data = .ok v' ∧ wrForm v' = .ok (info, data)) :
    ∀ (d n : Nat) (t : ASE) (a : APrim), ASE.depth d t = true → writeASE wrForm n t = .ok a →
      ∃ t', readASE rdForm d a = .ok t' ∧ writeASE wrForm n t' = .ok a := by
  -- a form stream, at any depth
  have single : ∀ d n v a, writeASE wrForm n (.single v) = .ok a →
      ∃ t', readASE rdForm d a = .ok t' ∧ writeASE wrForm n t' = .ok a := by
    intro d n v a hw
    simp only [writeASE] at hw
    cases hf : wrForm v with
    | error e => simp [hf] at hw
    | ok r =>
      obtain ⟨info, data⟩ := r
      simp [hf] at hw; subst hw
      obtain ⟨v', h1, h2⟩ := hform v info data hf
      exact ⟨.single v', by simp [readASE, h1], by simp [writeASE, h2]⟩
  intro d
  induction d with
  | zero =>
    intro n t a hd hw
    cases t with
    | single v => exact single 0 n v a hw
    | dict st => simp [ASE.depth] at hd
  | succ d ih =>
    intro n t a hd hw
    cases t with
    | single v => exact single _ n v a hw
    | dict st =>
      cases n with
      | zero => simp [writeASE] at hw
      | succ n =>
        simp only [writeASE, writeStates_eq_mapKV] at hw
        simp only [ASE.depth, List.all_eq_true] at hd
        cases hs : mapKV (fun v => writeASE wrForm n v) st with
        | error e => simp [hs] at hw
        | ok kvs =>
          simp [hs] at hw; subst hw
          obtain ⟨st', h1, h2, _⟩ := mapKV_law (fun v => writeASE wrForm n v) (fun v => readASE rdForm d v)
            (fun v => ASE.depth d v = true) (fun x hx y hy => ih n x y hx hy) st hd kvs hs
          exact ⟨.dict st', by simp [readASE, readStates_eq_mapKV, h1], by simp [writeASE, writeStates_eq_mapKV, h2]⟩

/-! ## Pattern -/

theorem pattern_round_trips (rdDict : Dict → R Val) (wrDict : Val → R Dict)
    (parseOps serOps : List UInt8 → R (List UInt8))
    (hd : ∀ v d, wrDict v = .ok d → ∃ v', rdDict d = .ok v' ∧ wrDict v' = .ok d)
    (hops : ∀ ops data, serOps ops = .ok data → ∃ ops', parseOps data = .ok ops' ∧ serOps ops' = .ok data)
    (hfree : ∀ v d, wrDict v = .ok d → dget "Length" d = none ∧ dget "Filter" d = none)
    (x : PatternV) (p : TPrim) (hw : writePattern wrDict serOps x = .ok p) :
    ∃ x', readPattern rdDict parseOps p = .ok x' ∧ writePattern wrDict serOps x' = .ok p := by
  cases x with
  | dict v =>
    simp only [writePattern] at hw
    cases hv : wrDict v with
    | error e => simp [hv] at hw
    | ok d =>
      simp [hv] at hw; subst hw
      obtain ⟨v', h1, h2⟩ := hd v d hv
      exact ⟨.dict v', by simp [readPattern, h1], by simp [writePattern, h2]⟩
  | stream v ops =>
    simp only [writePattern] at hw
    cases hs : serOps ops with
    | error e => simp [hs] at hw
    | ok data =>
      simp only [hs] at hw
      cases hv : wrDict v with
      | error e => simp [hv] at hw
      | ok d =>
        simp [hv] at hw; subst hw
        obtain ⟨v', h1, h2⟩ := hd v d hv
        obtain ⟨ops', h3, h4⟩ := hops ops data hs
        obtain ⟨hl, hf⟩ := hfree v d hv
        have e1 : derase "Length" (dinsert "Length" (.int data.length) d) = d := derase_dinsert_fresh _ hl
        have e2 : derase "Filter" d = d := derase_fresh hf
        have hfl : dget "Filter" (dinsert "Length" (.int (data.length : Int)) d) = none := by
          rw [dget_dinsert_ne (by decide)]; exact hf
        refine ⟨.stream v' ops', ?_, by simp [writePattern, h4, h2]⟩
        have hn : ¬ ((data.length : Int) < 0) := by omega
        simp [readPattern, unitStreamData, hfl, e1, e2, h1, h3, hn]

/-! ## XObject -/

theorem xobject_round_trips (variants : List Variant) (tagOf : String → Option String)
    (rdInner : String → Dict → List UInt8 → R Val) (wrInner : String → Val → R (Dict × List UInt8))
    (ident tag : String) (v : Variant) (htag : tagOf ident = some tag)
    (hfind : findName tag variants = some v) (hid : v.ident = ident)
    (hinner : ∀ x info data, wrInner ident x = .ok (info, data) →
      ∃ x', rdInner ident (dinsert "Type" (.name "XObject") (dinsert "Subtype" (.name tag) info)) data = .ok x' ∧
        wrInner ident x' = .ok (info, data))
    (x : Val) (p : TPrim) (hw : writeXObject tagOf wrInner (ident, x) = .ok p) :
    ∃ x', readXObject variants rdInner p = .ok (ident, x') ∧ writeXObject tagOf wrInner (ident, x') = .ok p := by
  simp only [writeXObject, htag] at hw
  cases hi : wrInner ident x with
  | error e => simp [hi] at hw
  | ok r =>
    obtain ⟨info, data⟩ := r
    simp [hi] at hw; subst hw
    obtain ⟨x', h1, h2⟩ := hinner x info data hi
    refine ⟨x', ?_, by simp [writeXObject, htag, h2]⟩
    have hs : dget "Subtype" (dinsert "Type" (.name "XObject") (dinsert "Subtype" (.name tag) info)) = some (.name tag) := by
      rw [dget_dinsert_ne (by decide)]; simp
    simp [readXObject, hs, hfind, hid, h1]

/-! ## Encoding -/

theorem map_dpOf_primOfDP : ∀ items : List (FontEncoding.DP String),
    (∀ i ∈ items, i ≠ .other) → (items.map primOfDP).map dpOf = items := by
  intro items
  induction items with
  | nil => intro _; rfl
  | cons i r ih =>
    intro h
    have hi := h i (by simp)
    cases i <;> simp_all [primOfDP, dpOf]

theorem writeDiffs_no_other : ∀ (l : List (Nat × String)) (last : Option Nat) (items : List (FontEncoding.DP String)),
    FontEncoding.writeDiffs last l = .ok items → ∀ i ∈ items, i ≠ .other := by
  intro l
  induction l with
  | nil => intro last items h; cases h; nofun
  | cons gn r ih =>
    obtain ⟨g, n⟩ := gn
    intro last items h
    simp only [FontEncoding.writeDiffs] at h
    split at h
    next rest hr =>
      -- one or two items in front of what the rest of the list gives
      have : items = .name n :: rest ∨ items = .int (FontEncoding.toI32 g) :: .name n :: rest := by
        split at h
        · split at h
          · cases h
          · split at h <;> cases h <;> simp
        · cases h; simp
      have hrest := ih (some g) rest hr
      rcases this with rfl | rfl <;> simpa using hrest
    all_goals cases h
/-- `Encoding`: what the writer emits for a base name and a differences map (entries sorted by code, codes below
    2^32 − 1) is read back as the same base and a map with the same binding for every code -/
theorem encoding_read_write (env : Env) (n : Nat) (e : EncodingV) (hs : FontEncoding.sortedFrom 0 e.diffs) :
    ∃ p, writeEncoding e = .ok p ∧ ∃ m, readEncoding env n p = .ok (e.base, m) ∧
      ∀ code, FontEncoding.DMap.get m code = (e.diffs.find? (·.1 == code)).map (·.2) := by
  obtain ⟨base, diffs⟩ := e
  cases diffs with
  | nil =>
    refine ⟨.name base, by simp [writeEncoding], [], ?_, by intro c; simp [FontEncoding.DMap.get]⟩
    cases n <;> simp [readEncoding]
  | cons d r =>
    obtain ⟨items, h1, h2⟩ := FontEncoding.write_read (d :: r) none 0 [] hs (fun p hp => by cases hp)
    have hno := writeDiffs_no_other (d :: r) none items h1
    refine ⟨.dict (dinsert "Differences" (.arr (items.map primOfDP)) (dinsert "BaseEncoding" (.name base) [])),
      by simp [writeEncoding, h1, ofOut], (d :: r).reverse, ?_, ?_⟩
    · have hmap := map_dpOf_primOfDP items hno
      cases n <;>
        simp [readEncoding, dinsert, dget, resolve1, resolveP, hmap, h2, ofOut]
    · intro code
      simp only [FontEncoding.DMap.get]
      rw [FontEncoding.find_reverse_sorted code (d :: r) 0 hs]

/-! ## name trees: the reader on the form a writer would have to produce (the library's writer is `todo!()`) -/

theorem readNames_specNames (rdT : Prim → R Val) (wrT : Val → R Prim) (env : Env) :
    ∀ (items : List (List UInt8 × Val)) (ps : List Prim),
      (∀ kv ∈ items, ∀ q, wrT kv.2 = .ok q → ∃ v', rdT q = .ok v' ∧ wrT v' = .ok q) →
      specNames wrT items = .ok ps →
      ∃ items', readNames rdT env ps = .ok items' ∧ specNames wrT items' = .ok ps := by
  intro items
  induction items with
  | nil => intro ps _ h; simp [specNames] at h; subst h; exact ⟨[], by simp [readNames], by simp [specNames]⟩
  | cons kv r ih =>
    obtain ⟨k, v⟩ := kv
    intro ps hl h
    simp only [specNames] at h
    cases hv : wrT v with
    | error e => simp [hv] at h
    | ok p =>
      simp only [hv] at h
      cases hr : specNames wrT r with
      | error e => simp [hr] at h
      | ok t =>
        simp [hr] at h; subst h
        obtain ⟨v', hrd, hwr⟩ := hl (k, v) (by simp) p hv
        obtain ⟨r', hr1, hr2⟩ := ih t (fun x hx => hl x (by simp [hx])) hr
        exact ⟨(k, v') :: r', by simp [readNames, resolve1, resolveP, hrd, hr1], by simp [specNames, hwr, hr2]⟩

theorem nameTree_reads_spec_form (rdT : Prim → R Val) (wrT : Val → R Prim) (env : Env) (t : NameTreeV)
    (hl : ∀ items, t.node = .leaf items → ∀ kv ∈ items, ∀ q, wrT kv.2 = .ok q → ∃ v', rdT q = .ok v' ∧ wrT v' = .ok q)
    (p : Prim) (hw : specNameTree wrT t = .ok p) :
    ∃ t', readNameTree rdT env p = .ok t' ∧ specNameTree wrT t' = .ok p := by
  obtain ⟨limits, node⟩ := t
  cases node with
  | inter kids =>
    cases hw
    refine ⟨⟨limits, .inter kids⟩, ?_, rfl⟩
    rcases limits with _ | ⟨a, b⟩ <;> simp [readNameTree, resolve1, resolveP, dinsert, dget, asRefs_map]
  | leaf items =>
    simp only [specNameTree] at hw
    cases hn : specNames wrT items with
    | error e => simp [hn] at hw
    | ok ps =>
      obtain ⟨items', h1, h2⟩ := readNames_specNames rdT wrT env items ps (hl items rfl) hn
      simp only [hn] at hw; cases hw
      refine ⟨⟨limits, .leaf items'⟩, ?_, by simp [specNameTree, h2]⟩
      rcases limits with _ | ⟨a, b⟩ <;> simp [readNameTree, resolve1, resolveP, dinsert, dget, h1]

end Derive
