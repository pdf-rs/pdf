import PdfModel.Model.Lexer
import PdfModel.Spec.Syntax
import PdfModel.Lemmas.ByteSweep
import PdfModel.Lemmas.TotalLexer

/-! Lemmas about `Model/Lexer` on a buffer whose bytes from the cursor on are known: byte classes, scans, gap skipping,
    lexemes. -/

namespace PdfLex

/-- the bytes of `buf` from `pos` on are `s` -/
def Suffix (buf : Buf) (pos : Nat) (s : List UInt8) : Prop :=
  buf.toList.drop pos = s ∧ pos ≤ buf.size

theorem Suffix.size_sub {buf : Buf} {pos : Nat} {s : List UInt8} (h : Suffix buf pos s) :
    buf.size - pos = s.length := by
  obtain ⟨h1, h2⟩ := h
  rw [← h1]; simp

theorem Suffix.le {buf : Buf} {pos : Nat} {s : List UInt8} (h : Suffix buf pos s) : pos ≤ buf.size := h.2

theorem Suffix.size_eq {buf : Buf} {pos : Nat} {s : List UInt8} (h : Suffix buf pos s) :
    buf.size = pos + s.length := by
  have := h.size_sub; have := h.le; omega

theorem Suffix.get {buf : Buf} {pos : Nat} {s : List UInt8} (h : Suffix buf pos s) (i : Nat) :
    buf[pos + i]? = s[i]? := by
  obtain ⟨h1, _⟩ := h
  rw [← h1]; simp

theorem Suffix.get0 {buf : Buf} {pos : Nat} {b : UInt8} {s : List UInt8} (h : Suffix buf pos (b :: s)) :
    buf[pos]? = some b := by
  have := h.get 0; simpa using this

theorem Suffix.get_nil {buf : Buf} {pos : Nat} (h : Suffix buf pos []) : buf[pos]? = none := by
  have := h.size_eq; simp at this
  simp [this]

theorem Suffix.pos_eq_size {buf : Buf} {pos : Nat} (h : Suffix buf pos []) : pos = buf.size := by
  have := h.size_eq; simp at this; omega

theorem Suffix.lt {buf : Buf} {pos : Nat} {b : UInt8} {s : List UInt8} (h : Suffix buf pos (b :: s)) :
    pos < buf.size := by
  have := h.size_eq; simp at this; omega

theorem Suffix.tail {buf : Buf} {pos : Nat} {b : UInt8} {s : List UInt8} (h : Suffix buf pos (b :: s)) :
    Suffix buf (pos + 1) s := by
  refine ⟨?_, h.lt⟩
  have h1 := h.1
  rw [← List.drop_drop, h1]; rfl

theorem Suffix.drop {buf : Buf} {pos : Nat} {a s : List UInt8} (h : Suffix buf pos (a ++ s)) :
    Suffix buf (pos + a.length) s := by
  induction a generalizing pos with
  | nil => simpa using h
  | cons b a ih =>
    have := ih (pos := pos + 1) (by simpa using h.tail)
    simpa [Nat.add_assoc, Nat.add_comm 1] using this

theorem Suffix.drop₂ {buf : Buf} {pos : Nat} {a b s : List UInt8} (h : Suffix buf pos (a ++ b ++ s)) :
    Suffix buf (pos + a.length + b.length) s := by
  rw [List.append_assoc] at h; exact h.drop.drop

theorem Suffix.slice {buf : Buf} {pos : Nat} {a s : List UInt8} (h : Suffix buf pos (a ++ s)) :
    slice buf pos (pos + a.length) = a := by
  unfold PdfLex.slice
  rw [Array.toList_extract]
  simp [List.extract, h.1]

theorem suffix_of_toList {buf : Buf} {pre s : List UInt8} (h : buf.toList = pre ++ s) : Suffix buf pre.length s := by
  refine ⟨by rw [h]; simp, ?_⟩
  rw [← Array.length_toList, h]; simp

theorem suffix_zero (l : List UInt8) : Suffix l.toArray 0 l := suffix_of_toList (pre := []) rfl

theorem suffix_append (pre l : List UInt8) : Suffix (pre ++ l).toArray pre.length l := suffix_of_toList rfl

/-- the specification spells the keywords as the model does -/
theorem kwStream_eq : PdfSyntax.kwStream = kwStream := rfl
theorem kwEndstream_eq : PdfSyntax.kwEndstream = kwEndstream := rfl


/-! ### byte classes

The model's classifiers are the specification's (`isWhitespace` lists the same six bytes in another order), so
facts are stated for the model's and carry over by rewriting. -/

theorem UInt8.forall_of_fin {P : UInt8 → Prop} (h : ∀ n : Fin 256, P (UInt8.ofFin n)) : ∀ b : UInt8, P b :=
  _root_.UInt8.forall_of_fin h

theorem isWhitespace_eq (b : UInt8) : isWhitespace b = PdfSyntax.isWs b := by
  unfold isWhitespace PdfSyntax.isWs; ac_rfl
theorem isDelimiter_eq (b : UInt8) : isDelimiter b = PdfSyntax.isDelim b := rfl
theorem isDigit_eq (b : UInt8) : isDigit b = PdfSyntax.isDig b := rfl
theorem isRegular_eq (b : UInt8) : isRegular b = PdfSyntax.isReg b := by
  rw [isRegular, isWhitespace_eq]; rfl

theorem isRegular_iff {b : UInt8} : isRegular b = true ↔ isWhitespace b = false ∧ isDelimiter b = false := by
  simp [isRegular]

theorem regular_not_ws {b : UInt8} (h : isRegular b = true) : isWhitespace b = false := (isRegular_iff.1 h).1
theorem regular_not_delim {b : UInt8} (h : isRegular b = true) : isDelimiter b = false := (isRegular_iff.1 h).2

theorem delim_not_regular {b : UInt8} (h : isDelimiter b = true) : isRegular b = false := by
  simp [isRegular, h]

/-- a regular byte is none of the delimiters: `regular_ne h (d := 37) rfl` -/
theorem regular_ne {b d : UInt8} (h : isRegular b = true) (hd : isDelimiter d = true) : b ≠ d :=
  fun e => by rw [e, delim_not_regular hd] at h; cases h

theorem whitespace_not_delim {b : UInt8} : isWhitespace b = true → isDelimiter b = false := by
  simp only [isWhitespace, Bool.or_eq_true, beq_iff_eq]
  rintro (((((rfl | rfl) | rfl) | rfl) | rfl) | rfl) <;> rfl

theorem delim_not_ws (d : UInt8) (h : isDelimiter d = true) : isWhitespace d = false :=
  Bool.eq_false_iff.2 fun hw => by rw [whitespace_not_delim hw] at h; cases h

theorem dig_regular : ∀ b : UInt8, PdfSyntax.isDig b = true → isRegular b = true := by decide +kernel
theorem dig_ne_sign : ∀ b : UInt8, PdfSyntax.isDig b = true → b ≠ 45 ∧ b ≠ 43 ∧ b ≠ 46 := by decide +kernel

/-- what the readers of names and hexadecimal strings need to know about a hexadecimal digit -/
theorem hexVal_some {c v : UInt8} (h : PdfSyntax.hexVal c = some v) :
    v < 16 ∧ isRegular c = true ∧ PdfSyntax.isWs c = false ∧ c ≠ 60 ∧ c ≠ 62 := by
  have sweep : ∀ c : UInt8, (PdfSyntax.hexVal c).all (· < 16) = true ∧ ((PdfSyntax.hexVal c).isSome →
      isRegular c = true ∧ PdfSyntax.isWs c = false ∧ c ≠ 60 ∧ c ≠ 62) := by decide +kernel
  obtain ⟨h1, h2⟩ := sweep c
  rw [h] at h1 h2
  exact ⟨by simpa using h1, h2 rfl⟩

/-- two hexadecimal digits make a byte -/
theorem nibble_or (a b : UInt8) (ha : a < 16) (hb : b < 16) : (a <<< 4) ||| b = a * 16 + b := by
  have sweep : ∀ a b : Fin 16, (UInt8.ofNat a.val <<< 4) ||| UInt8.ofNat b.val = UInt8.ofNat a.val * 16 + UInt8.ofNat b.val := by
    decide +kernel
  simpa using sweep ⟨a.toNat, UInt8.lt_iff_toNat_lt.mp ha⟩ ⟨b.toNat, UInt8.lt_iff_toNat_lt.mp hb⟩

/-! ### scans -/

theorem scanWhile_nil {buf : Buf} {pos : Nat} (cond : UInt8 → Bool) (h : Suffix buf pos []) :
    scanWhile buf cond (buf.size - pos) pos = buf.size := by
  have := h.size_sub; simp at this
  rw [this]; rfl

theorem scanWhile_stop {buf : Buf} {pos : Nat} {b : UInt8} {s : List UInt8} (cond : UInt8 → Bool)
    (h : Suffix buf pos (b :: s)) (hb : cond b = false) :
    scanWhile buf cond (buf.size - pos) pos = pos := by
  have h1 := h.size_sub; simp at h1
  rw [h1]; simp [scanWhile, h.get0, hb]

theorem scanWhile_step {buf : Buf} {pos : Nat} {b : UInt8} {s : List UInt8} (cond : UInt8 → Bool)
    (h : Suffix buf pos (b :: s)) (hb : cond b = true) :
    scanWhile buf cond (buf.size - pos) pos = scanWhile buf cond (buf.size - (pos + 1)) (pos + 1) := by
  have h1 := h.size_sub; simp at h1
  have h2 := h.tail.size_sub
  rw [h1, h2]; simp [scanWhile, h.get0, hb]

/-- a run of bytes satisfying `cond`, ended by the end of the buffer or a byte that does not -/
theorem scanWhile_segment {buf : Buf} (cond : UInt8 → Bool) (seg rest : List UInt8) (pos : Nat)
    (h : Suffix buf pos (seg ++ rest)) (hseg : ∀ b ∈ seg, cond b = true)
    (hrest : ∀ b r, rest = b :: r → cond b = false) :
    scanWhile buf cond (buf.size - pos) pos = pos + seg.length := by
  induction seg generalizing pos with
  | nil =>
    cases rest with
    | nil =>
      have h' : Suffix buf pos [] := by simpa using h
      rw [scanWhile_nil cond h']; simp [h'.pos_eq_size]
    | cons b r => simpa using scanWhile_stop cond (by simpa using h) (hrest b r rfl)
  | cons b seg ih =>
    have hb := hseg b (by simp)
    rw [scanWhile_step cond (by simpa using h) hb]
    rw [ih (pos + 1) (by simpa using h.tail) (fun x hx => hseg x (by simp [hx]))]
    simp; omega


/-! ### white-space, comments: a gap is skipped -/

open PdfSyntax (Gap Bnd)

/-- `s` starts with a byte that is neither white-space nor `%` (a lexeme starts here) -/
def StartsTok (s : List UInt8) : Prop :=
  ∃ b r, s = b :: r ∧ isWhitespace b = false ∧ b ≠ 37

theorem skipWhitespace_ws {buf : Buf} {pos : Nat} {b : UInt8} {s : List UInt8}
    (h : Suffix buf pos (b :: s)) (hb : isWhitespace b = true) :
    skipWhitespace buf pos = skipWhitespace buf (pos + 1) := by
  have h1 := h.lt
  unfold skipWhitespace boundary
  rw [if_neg (by omega), if_neg (by omega), scanWhile_step _ h hb]

theorem skipWhitespace_stop {buf : Buf} {pos : Nat} {b : UInt8} {s : List UInt8}
    (h : Suffix buf pos (b :: s)) (hb : isWhitespace b = false) :
    skipWhitespace buf pos = .ok pos := by
  have h1 := h.lt
  unfold skipWhitespace boundary
  rw [if_neg (by omega), scanWhile_stop _ h hb]
  simp [Out.bind]; omega

theorem skipWhitespace_nil {buf : Buf} {pos : Nat} (h : Suffix buf pos []) :
    skipWhitespace buf pos = .err := by
  have h1 := h.le
  unfold skipWhitespace boundary
  rw [if_neg (by omega), scanWhile_nil _ h]
  simp [Out.bind]

theorem findEol_body {buf : Buf} (body : List UInt8) (e : UInt8) (s : List UInt8) (pos : Nat)
    (h : Suffix buf pos (body ++ e :: s)) (hbody : ∀ b ∈ body, b ≠ 10 ∧ b ≠ 13) (he : e = 10 ∨ e = 13) :
    findEol buf (buf.size - pos) pos = some (pos + body.length) := by
  induction body generalizing pos with
  | nil =>
    have h' : Suffix buf pos (e :: s) := h
    rw [h'.size_sub]
    rcases he with rfl | rfl <;> simp [findEol, h'.get0]
  | cons b body ih =>
    have h' : Suffix buf pos (b :: (body ++ e :: s)) := h
    have hb := hbody b (by simp)
    rw [h'.size_sub, List.length_cons, findEol, h'.get0]
    simp only [beq_eq_false_iff_ne.2 hb.1, beq_eq_false_iff_ne.2 hb.2, Bool.or_self, Bool.false_eq_true, if_false]
    rw [← h'.tail.size_sub, ih (pos + 1) h'.tail (fun x hx => hbody x (by simp [hx]))]
    simp; omega

/-- white-space and comments before a lexeme are skipped (`fuel`: at least the length of the gap) -/
theorem skip_gap {buf : Buf} (g : List UInt8) (hg : Gap g) (s : List UInt8) (hs : StartsTok s) :
    ∀ (pos fuel : Nat), Suffix buf pos (g ++ s) → g.length ≤ fuel →
    (skipWhitespace buf pos).bind (fun p0 => skipComments buf fuel p0) = .ok (pos + g.length) := by
  induction hg with
  | nil =>
    intro pos fuel h _
    obtain ⟨b, r, rfl, hb, hb'⟩ := hs
    have h' : Suffix buf pos (b :: r) := by simpa using h
    rw [skipWhitespace_stop h' hb]
    simp only [Out.bind_ok]
    cases fuel <;> simp [skipComments, h'.get0, hb']
  | ws b g hb hg ih =>
    intro pos fuel h hf
    have h' : Suffix buf pos (b :: (g ++ s)) := by simpa using h
    rw [skipWhitespace_ws h' (by rw [isWhitespace_eq]; exact hb)]
    have := ih (pos + 1) fuel h'.tail (by simp at hf; omega)
    rw [this]; simp; omega
  | comment body e g hbody he hg ih =>
    intro pos fuel h hf
    have h' : Suffix buf pos (37 :: (body ++ e :: (g ++ s))) := by simpa using h
    rw [skipWhitespace_stop h' (by decide)]
    simp only [Out.bind_ok]
    cases fuel with
    | zero => simp at hf
    | succ fuel =>
      have hlt := h'.lt
      simp only [skipComments, h'.get0, beq_self_eq_true, if_true]
      rw [if_neg (by omega)]
      rw [findEol_body body e (g ++ s) (pos + 1) h'.tail hbody he]
      simp only []
      have := ih (pos + 1 + body.length + 1) fuel h'.tail.drop.tail (by simp at hf; omega)
      rw [this]; simp; omega

theorem tokenStart_gap {buf : Buf} (g s : List UInt8) (hg : Gap g) (hs : StartsTok s) (pos : Nat)
    (h : Suffix buf pos (g ++ s)) : tokenStart buf pos = .ok (pos + g.length) := by
  unfold tokenStart
  apply skip_gap g hg s hs pos buf.size h
  have := h.size_eq; simp at this; omega

theorem nextWord_gap {buf : Buf} (g s : List UInt8) (hg : Gap g) (hs : StartsTok s) (pos : Nat)
    (h : Suffix buf pos (g ++ s)) : nextWord buf pos = lexemeAt buf (pos + g.length) := by
  unfold nextWord
  have hne : pos ≠ buf.size := by
    obtain ⟨b, r, rfl, _⟩ := hs
    have := h.size_eq; simp at this; omega
  simp [hne, tokenStart_gap g s hg hs pos h]


/-! ### lexemes -/

theorem bnd_iff (rest : List UInt8) : Bnd rest ↔ ∀ b r, rest = b :: r → isRegular b = false := by
  cases rest with
  | nil => simp [Bnd]
  | cons b r => simp [Bnd, isRegular_eq]

theorem isDelimAt_cons {buf : Buf} {pos : Nat} {b : UInt8} {s : List UInt8} (h : Suffix buf pos (b :: s)) :
    isDelimAt buf pos = isDelimiter b := by simp [isDelimAt, h.get0]

theorem scanRegular_run {buf : Buf} (t rest : List UInt8) (pos : Nat) (h : Suffix buf pos (t ++ rest))
    (ht : ∀ b ∈ t, isRegular b = true) (hb : Bnd rest) : scanRegular buf pos = pos + t.length :=
  scanWhile_segment isRegular t rest pos h ht ((bnd_iff rest).1 hb)

/-- a token of regular characters (number, keyword) followed by a boundary -/
theorem lexemeAt_regular {buf : Buf} (t rest : List UInt8) (start : Nat) (h : Suffix buf start (t ++ rest))
    (hne : t ≠ []) (ht : ∀ b ∈ t, isRegular b = true) (hb : Bnd rest) :
    lexemeAt buf start = .ok (start, start + t.length) := by
  obtain ⟨b, t', rfl⟩ := List.exists_cons_of_ne_nil hne
  have hd := regular_not_delim (ht b (by simp))
  simp only [lexemeAt, isDelimAt_cons (s := t' ++ rest) h, hd, Bool.false_eq_true, if_false,
    scanRegular_run _ rest start h ht hb]
  exact newSubstr_fwd (by omega) (by rw [h.size_eq]; simp)

/-- a name token `/…` -/
theorem lexemeAt_name {buf : Buf} (t rest : List UInt8) (start : Nat) (h : Suffix buf start (47 :: t ++ rest))
    (ht : ∀ b ∈ t, isRegular b = true) (hb : Bnd rest) :
    lexemeAt buf start = .ok (start, start + 1 + t.length) := by
  have h' : Suffix buf start (47 :: (t ++ rest)) := h
  have hlt := h'.lt
  simp only [lexemeAt, isDelimAt_cons h', h'.get0, show isDelimiter 47 = true from rfl, if_true, beq_self_eq_true,
    advancePos, hlt, Out.bind_ok, scanRegular_run t rest (start + 1) h'.tail ht hb]
  exact newSubstr_fwd (by omega) (by rw [h'.size_eq]; simp; omega)

theorem isDouble_iff {buf : Buf} {pos : Nat} {d : UInt8} {s : List UInt8} (h : Suffix buf pos (d :: s)) :
    isDouble buf pos = true ↔ (d = 60 ∨ d = 62) ∧ s.head? = some d := by
  unfold isDouble
  rw [h.get0]
  cases s with
  | nil => simp [h.tail.get_nil]
  | cons c r =>
    rw [h.tail.get0]
    -- `simp` leaves `d = 60 ∧ c = 60 ∨ d = 62 ∧ c = 62 ↔ (d = 60 ∨ d = 62) ∧ c = d`: equalities of bytes only
    simp; grind

/-- one-character delimiter lexemes: `[ ] ( ) { }` always, `<` / `>` when not doubled -/
theorem lexemeAt_delim {buf : Buf} (d : UInt8) (rest : List UInt8) (start : Nat) (h : Suffix buf start (d :: rest))
    (hd : isDelimiter d = true) (h47 : d ≠ 47)
    (hdbl : ¬ ((d = 60 ∨ d = 62) ∧ rest.head? = some d)) :
    lexemeAt buf start = .ok (start, start + 1) := by
  have h47' : (d == 47) = false := by simp [h47]
  have hnd : isDouble buf start = false := Bool.eq_false_iff.2 fun e => hdbl ((isDouble_iff h).1 e)
  have hlt := h.lt
  simp only [lexemeAt, isDelimAt_cons h, hd, h.get0, if_true, h47', hnd, Bool.false_eq_true, if_false, Out.bind_ok,
    advancePos, hlt]
  exact newSubstr_fwd (by omega) (by omega)

/-- `<<` and `>>` -/
theorem lexemeAt_double {buf : Buf} (d : UInt8) (rest : List UInt8) (start : Nat) (h : Suffix buf start (d :: d :: rest))
    (hd : d = 60 ∨ d = 62) :
    lexemeAt buf start = .ok (start, start + 2) := by
  have hdel : isDelimiter d = true := by rcases hd with rfl | rfl <;> rfl
  have h47 : (d == 47) = false := by rcases hd with rfl | rfl <;> rfl
  have hdbl : isDouble buf start = true := (isDouble_iff h).2 ⟨hd, rfl⟩
  have hlt := h.lt
  have hlt2 := h.tail.lt
  simp only [lexemeAt, isDelimAt_cons h, hdel, h.get0, if_true, h47, hdbl, Bool.false_eq_true, if_false, Out.bind_ok,
    advancePos, hlt, hlt2]
  exact newSubstr_fwd (by omega) (by omega)

end PdfLex

namespace C03

theorem contains_filter_range {p : Nat → Bool} {k : Nat} {l : List Nat} (h : (List.range k).filter p = l) {n : Nat}
    (hn : n ∈ List.range k) : l.contains n = p n := by
  subst h
  cases hp : p n <;> simp [hn, hp]

end C03
