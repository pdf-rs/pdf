import PdfModel.Model.BuildBytes
import PdfModel.Lemmas.HistBytes
import PdfModel.Lemmas.Build

/-!
  The empty storage a builder starts from is a base document of the byte-level theorems (its bytes — the header
  line — represent it trivially), and the operations of `CatalogBuilder::build` write values within the limits of
  the round-trip theorems whenever the page payloads are.
-/

namespace BuildBytes
open Storage PdfLex Xref SaveBytes RepBytes
open PdfSyntax (WF WFE WFL keysOf vdepth vdepthE vdepthL)

variable {R : Type}

theorem baseOK_empty (info : Option (Prim R)) (n : Nat) : BaseOK (emptyB info n).doc [] :=
  baseOK_header false _ rfl

theorem locateStart_header (ext : List UInt8) : Offsets.locateStart (headerBytes ++ ext) = .ok 0 := by
  have hk : ∃ k, min Offsets.headerWindow (headerBytes ++ ext).length = k + 5 := by
    refine ⟨min Offsets.headerWindow (headerBytes ++ ext).length - 5, ?_⟩
    simp [Offsets.headerWindow, headerBytes]; omega
  obtain ⟨k, hk⟩ := hk
  unfold Offsets.locateStart
  rw [hk]
  simp [headerBytes, OffLex.findFirst, Offsets.headerMarker, List.isPrefixOf]

/-- the header line represents the empty storage -/
theorem rep_empty (P : Offsets.Parsers (Prim R) (Dict R)) (info : Option (Prim R)) (n : Nat) :
    Rep P (emptyB info n).bytes (emptyB info n).doc.st where
  len := rfl
  small := by simp [emptyB, headerBytes, fileMax]
  header := fun ext _ => locateStart_header ext
  xref := by intro h; exact absurd rfl h
  objs := by intro o ho; simp [emptyB] at ho
  secs := by intro s hs; simp [emptyB] at hs

theorem baseVals_empty (fmt : R → List UInt8) (pr : List UInt8 → Option R) (info : Option (Prim R)) (n : Nat)
    (hinfo : ∀ v, info = some v → OKVal fmt pr v) (hn : n ≤ 1000000) : BaseVals fmt pr (emptyB info n).doc where
  info := hinfo
  prev := by intro p hp; simp [emptyB] at hp
  root := by simp only [emptyB]; omega
  fields := by
    intro e he
    simp only [emptyB, List.mem_singleton] at he
    subst he
    intro t a b hf
    simp only [Storage.fieldsOf, Option.some.injEq, Prod.mk.injEq] at hf
    obtain ⟨_, rfl, rfl⟩ := hf
    simp [Storage.U64]

/-! ### the values the builder writes -/

/-- what the theorems ask of the payloads of a page (depth 18: the page dictionary around them adds one level, and the
    parser's `maxDepth` is 20) -/
structure PageOK (fmt : R → List UInt8) (pr : List UInt8 → Option R) (p : PageB R) : Prop where
  other_ser : SerialisableE fmt pr p.other
  other_wf : WFE p.other
  other_nd : (keysOf p.other).Nodup
  other_depth : vdepthE p.other ≤ 18
  boxes_ser : SerialisableE fmt pr p.boxes
  boxes_wf : WFE p.boxes
  boxes_depth : vdepthE p.boxes ≤ 18
  rest_ser : SerialisableE fmt pr p.rest
  rest_wf : WFE p.rest
  rest_depth : vdepthE p.rest ≤ 18
  res : OKVal fmt pr p.res
  content : p.content.length ≤ 2147483647

theorem okVal_tree (fmt : R → List UInt8) (pr : List UInt8 → Option R) (kids : List Nat)
    (hk : ∀ k ∈ kids, k ≤ 18446744073709551615) (hl : kids.length ≤ 2147483647) : OKVal fmt pr (treeVal kids) := by
  obtain ⟨a, b, c⟩ := flat_props fmt pr (kids.map fun k => (Prim.ref k 0 : Prim R)) fun x hx => by
    obtain ⟨k, hk', rfl⟩ := List.mem_map.mp hx
    exact ⟨⟨hk k hk', Nat.zero_le _⟩, trivial, rfl⟩
  refine .direct _ ?_ ?_ ?_
  · simp [treeVal, Serialisable, SerialisableE, a]; omega
  · simp only [treeVal, WF, WFE, keysOf, List.map_cons, List.map_nil, b, and_true, true_and]
    decide
  · simp [treeVal, vdepth, vdepthE, c, maxDepth]

theorem okVal_catalog (fmt : R → List UInt8) (pr : List UInt8 → Option R) (tree : Nat) (h : tree ≤ 18446744073709551615) :
    OKVal fmt pr (catalogVal tree : Prim R) := by
  refine .direct _ ?_ ?_ ?_
  · simp [catalogVal, Serialisable, SerialisableE, h]
  · simp only [catalogVal, WF, WFE, keysOf, List.map_cons, List.map_nil, and_true]
    decide
  · simp [catalogVal, vdepth, vdepthE, maxDepth]

theorem okVal_content (fmt : R → List UInt8) (pr : List UInt8 → Option R) (data : List UInt8) (h : data.length ≤ 2147483647) :
    OKVal fmt pr (contentVal data : Prim R) := by
  refine .stream _ _ ?_ ?_ ?_ ?_ ?_
  · simp [SerialisableE, Serialisable]; omega
  · simp only [WFE, WF, and_true]; decide
  · simp [keysOf]
  · simp [dictGet]
  · simp [vdepthE, vdepth, maxDepth]

theorem okVal_page (fmt : R → List UInt8) (pr : List UInt8 → Option R) (tree res c : Nat) (p : PageB R)
    (hp : PageOK fmt pr p) (h1 : tree ≤ 18446744073709551615) (h2 : res ≤ 18446744073709551615)
    (h3 : c ≤ 18446744073709551615) : OKVal fmt pr (pageVal tree res c p) := by
  have hhead : SerialisableE fmt pr ([(kType, .name kPage), (kParent, .ref tree 0), (kResources, .ref res 0)] : Dict R) ∧
      WFE ([(kType, .name kPage), (kParent, .ref tree 0), (kResources, .ref res 0)] : Dict R) ∧
      vdepthE ([(kType, .name kPage), (kParent, .ref tree 0), (kResources, .ref res 0)] : Dict R) ≤ 18 := by
    refine ⟨by simp [SerialisableE, Serialisable, h1, h2], ?_, by simp [vdepthE, vdepth]⟩
    simp only [WFE, WF, and_true]; decide
  have hc : SerialisableE fmt pr ([(kContents, .ref c 0)] : Dict R) ∧ WFE ([(kContents, .ref c 0)] : Dict R) ∧
      vdepthE ([(kContents, .ref c 0)] : Dict R) ≤ 18 := by
    refine ⟨by simp [SerialisableE, Serialisable, h3], ?_, by simp [vdepthE, vdepth]⟩
    simp only [WFE, WF, and_true]; decide
  have e1 := serialisableE_append fmt pr _ _ (serialisableE_append fmt pr _ _ (serialisableE_append fmt pr _ _ hhead.1 hp.boxes_ser) hc.1) hp.rest_ser
  have e2 := wfe_append _ _ (wfe_append _ _ (wfe_append _ _ hhead.2.1 hp.boxes_wf) hc.2.1) hp.rest_wf
  have e3 := vdepthE_append 18 _ _ (vdepthE_append 18 _ _ (vdepthE_append 18 _ _ hhead.2.2 hp.boxes_depth) hc.2.2) hp.rest_depth
  obtain ⟨m1, m2, m3, m4⟩ := mergeDict_props fmt pr 18 _ p.other hp.other_ser hp.other_wf hp.other_nd hp.other_depth e1 e2 e3
  exact .direct _ (by simp only [pageVal, Serialisable]; exact m1) (by simp only [pageVal, WF]; exact ⟨m2, m3⟩)
    (by simp only [pageVal, vdepth, maxDepth]; omega)

/-- a history is good when each of its operations is, in whatever state it is run -/
theorem goodHist_of_vals (fmt : R → List UInt8) (pr : List UInt8 → Option R) :
    ∀ (ops : List (OpB R)), (∀ op ∈ ops, ∀ b : BDoc R, GoodOp fmt pr b op) → ∀ b : BDoc R, GoodHist fmt pr b ops := by
  intro ops
  induction ops with
  | nil => intro _ _; trivial
  | cons op ops ih =>
    intro h b
    exact ⟨h op (by simp) b, ih (fun o ho => h o (by simp [ho])) _⟩

theorem goodOp_pageOps (fmt : R → List UInt8) (pr : List UInt8 → Option R) (n : Nat) (hn : n ≤ 1000000) :
    ∀ (ps : List (PageB R)) (k : Nat), k + ps.length ≤ n → (∀ p ∈ ps, PageOK fmt pr p) →
      ∀ op ∈ pageOps n k ps, ∀ b : BDoc R, GoodOp fmt pr b op := by
  intro ps
  induction ps with
  | nil => intro k _ _ op ho; simp [pageOps] at ho
  | cons p ps ih =>
    intro k hk hp op ho b
    have hpk := hp p (by simp)
    simp only [pageOps, List.mem_cons] at ho
    simp only [List.length_cons] at hk
    rcases ho with rfl | rfl | rfl | ho
    · exact hpk.res
    · exact okVal_content fmt pr _ hpk.content
    · exact okVal_page fmt pr _ _ _ p hpk (by omega) (by omega) (by omega)
    · exact ih (k + 1) (by omega) (fun q hq => hp q (by simp [hq])) op ho b

/-- **the builder's history is within the limits of the byte-level theorems** -/
theorem goodHist_buildOps (fmt : R → List UInt8) (pr : List UInt8 → Option R) (pages : List (PageB R))
    (hn : pages.length ≤ 1000000) (hp : ∀ p ∈ pages, PageOK fmt pr p) (b : BDoc R) :
    GoodHist fmt pr b (buildOps pages) := by
  apply goodHist_of_vals
  intro op ho b
  simp only [buildOps, List.mem_append, List.mem_replicate, List.mem_singleton] at ho
  rcases ho with ((⟨_, rfl⟩ | rfl) | ho) | rfl
  · trivial
  · refine okVal_tree fmt pr _ ?_ (by simp; omega)
    intro k hk
    simp only [List.mem_range'_1] at hk
    omega
  · exact goodOp_pageOps fmt pr pages.length hn pages 0 (by omega) hp op ho b
  · exact okVal_catalog fmt pr _ (by omega)

/-! ### nothing is written before the final `save` -/

theorem runB_nosave (fmt : R → List UInt8) : ∀ (ops : List (OpB R)) (b : BDoc R), (∀ op ∈ ops, ∀ t, op ≠ .save t) →
    SameBackend b.doc.st (runB fmt b ops).1.doc.st ∧ (runB fmt b ops).1.bytes = b.bytes := by
  intro ops
  induction ops with
  | nil => intro b _; exact ⟨SameBackend.rfl' _, rfl⟩
  | cons op ops ih =>
    intro b h
    obtain ⟨hbk, hbytes⟩ := stepB_nosave fmt b op (h op (by simp))
    obtain ⟨i1, i2⟩ := ih (stepB fmt b op).1 (fun o ho => h o (by simp [ho]))
    simp only [runB]
    exact ⟨hbk.trans' i1, by rw [i2, hbytes]⟩

theorem pageOps_nosave (n : Nat) : ∀ (ps : List (PageB R)) (k : Nat), ∀ op ∈ pageOps n k ps, ∀ t, op ≠ .save t := by
  intro ps
  induction ps with
  | nil => intro k op ho; simp [pageOps] at ho
  | cons p ps ih =>
    intro k op ho
    simp only [pageOps, List.mem_cons] at ho
    rcases ho with rfl | rfl | rfl | ho
    · simp
    · simp
    · simp
    · exact ih (k + 1) op ho

theorem buildOps_nosave (pages : List (PageB R)) : ∀ op ∈ buildOps pages, ∀ t, op ≠ .save t := by
  intro op ho
  simp only [buildOps, List.mem_append, List.mem_replicate, List.mem_singleton] at ho
  rcases ho with ((⟨_, rfl⟩ | rfl) | ho) | rfl
  · simp
  · simp
  · exact pageOps_nosave _ pages 0 op ho
  · simp

/-- when the builder calls `save`, the backend is still the header line -/
theorem prepared_backend (fmt : R → List UInt8) (pages : List (PageB R)) (info : Option (Prim R)) :
    (prepared fmt pages info).bytes = headerBytes ∧ (prepared fmt pages info).doc.st.secs = [] ∧
    (prepared fmt pages info).doc.st.objs = [] ∧ (prepared fmt pages info).doc.st.start = 0 ∧
    (prepared fmt pages info).doc.st.len = 9 := by
  obtain ⟨⟨h1, h2, h3, h4, _⟩, hb⟩ := runB_nosave fmt (buildOps pages) (emptyB info pages.length) (buildOps_nosave pages)
  exact ⟨hb, h2, h1, h4, h3⟩

/-! ### the object numbers the builder hands out, and what it leaves pending under them -/

theorem stepB_create (fmt : R → List UInt8) (b : BDoc R) (v : Prim R) :
    (stepB fmt b (.create v)).1.doc.st = (create b.doc.st v).1 := rfl

theorem stepB_promise (fmt : R → List UInt8) (b : BDoc R) : (stepB fmt b .promise).1.doc.st = (promise b.doc.st).1 := rfl

theorem stepB_fulfil (fmt : R → List UInt8) (b : BDoc R) (id : Nat) (v : Prim R) (h : b.doc.st.refs[id]? = some .promised) :
    (stepB fmt b (.fulfil id v)).1.doc.st = { b.doc.st with changes := chInsert b.doc.st.changes id (v, 0), cache := [] } := by
  simp [stepB, OpB.toOp, step, update, h]

/-- `n` promises: the table grows by `n` promised slots, nothing else changes -/
theorem runB_promises (fmt : R → List UInt8) : ∀ (n : Nat) (b : BDoc R),
    (runB fmt b (List.replicate n .promise)).1.doc.st.refs = b.doc.st.refs ++ List.replicate n .promised ∧
    (runB fmt b (List.replicate n .promise)).1.doc.st.changes = b.doc.st.changes := by
  intro n
  induction n with
  | zero => intro b; simp [runB]
  | succ n ih =>
    intro b
    simp only [List.replicate_succ, runB]
    obtain ⟨i1, i2⟩ := ih (stepB fmt b .promise).1
    rw [stepB_promise] at i1 i2
    simp only [promise, alloc] at i1 i2
    exact ⟨by rw [i1]; simp, i2⟩

/-- the state of the loop over the pages before page `k`: what is pending under which number. (`Build.Filled` is the same
    invariant for the builder over abstract values `Build.BV`, where the loop is `fillPages` and not a list of operations;
    the two models share the numbering, not a definition, so neither follows from the other.) -/
structure Mid (pages : List (PageB R)) (k : Nat) (st : St (Prim R)) : Prop where
  len : st.refs.length = pages.length + 2 + 2 * k
  prom : ∀ j, k < j → j ≤ pages.length → st.refs[j]? = some .promised
  tree : chLookup st.changes (pages.length + 1) = some (treeVal (List.range' 1 pages.length), 0)
  done : ∀ k' p, k' < k → pages[k']? = some p →
    chLookup st.changes (k' + 1) = some (pageVal (pages.length + 1) (pages.length + 2 + 2 * k') (pages.length + 3 + 2 * k') p, 0) ∧
    chLookup st.changes (pages.length + 2 + 2 * k') = some (p.res, 0) ∧
    chLookup st.changes (pages.length + 3 + 2 * k') = some (contentVal p.content, 0)
  fresh : ∀ j, pages.length + 2 ≤ j → j < st.refs.length → chLookup st.changes j ≠ none

/-- the three operations of one page (`create` resources, `create` content stream, `fulfil` the leaf) as one change of
    the state -/
theorem stepB_page (fmt : R → List UInt8) (b : BDoc R) (res cont page : Prim R) (k : Nat)
    (h : b.doc.st.refs[k]? = some .promised) :
    (stepB fmt (stepB fmt (stepB fmt b (.create res)).1 (.create cont)).1 (.fulfil k page)).1.doc.st =
      { b.doc.st with
          refs := b.doc.st.refs ++ [.promised, .promised]
          changes := chInsert (chInsert (chInsert b.doc.st.changes b.doc.st.refs.length (res, 0))
            (b.doc.st.refs.length + 1) (cont, 0)) k (page, 0)
          cache := [] } := by
  have hlt : k < b.doc.st.refs.length := (List.getElem?_eq_some_iff.mp h).1
  rw [stepB_fulfil _ _ _ _ (by
    rw [stepB_create, stepB_create, create_eq, create_eq]
    simp only [List.append_assoc]
    rw [List.getElem?_append_left hlt]; exact h)]
  rw [stepB_create, stepB_create, create_eq, create_eq]
  simp

theorem runB_pageOps (fmt : R → List UInt8) (pages : List (PageB R)) :
    ∀ (ps : List (PageB R)) (k : Nat) (b : BDoc R), pages.drop k = ps → Mid pages k b.doc.st →
      Mid pages (k + ps.length) (runB fmt b (pageOps pages.length k ps)).1.doc.st
  | [], _, _, _, h => h
  | p :: ps, k, b, hdrop, h => by
    have hk : k < pages.length := by
      have := congrArg List.length hdrop
      simp at this; omega
    have hpk : pages[k]? = some p := by
      have := congrArg (fun l => l[0]?) hdrop
      simpa using this
    have hdrop' : pages.drop (k + 1) = ps := by
      have := congrArg List.tail hdrop
      simpa [List.tail_drop] using this
    have hstep := stepB_page fmt b p.res (contentVal p.content)
      (pageVal (pages.length + 1) (pages.length + 2 + 2 * k) (pages.length + 3 + 2 * k) p) (k + 1) (h.prom (k + 1) (by omega) (by omega))
    simp only [pageOps, runB, List.length_cons]
    rw [show k + (ps.length + 1) = k + 1 + ps.length by omega]
    generalize (stepB fmt (stepB fmt (stepB fmt b (.create p.res)).1 (.create (contentVal p.content))).1
      (.fulfil (k + 1) (pageVal (pages.length + 1) (pages.length + 2 + 2 * k) (pages.length + 3 + 2 * k) p))).1 = b' at hstep ⊢
    have hlen := h.len
    have hch : ∀ j, chLookup b'.doc.st.changes j =
        if j = k + 1 then some (pageVal (pages.length + 1) (pages.length + 2 + 2 * k) (pages.length + 3 + 2 * k) p, 0)
        else if j = pages.length + 3 + 2 * k then some (contentVal p.content, 0)
        else if j = pages.length + 2 + 2 * k then some (p.res, 0)
        else chLookup b.doc.st.changes j := by
      intro j
      rw [hstep]; simp only [chLookup_chInsert, hlen]
      rw [show pages.length + 2 + 2 * k + 1 = pages.length + 3 + 2 * k by omega]
    have old : ∀ j, j ≠ k + 1 → j < pages.length + 2 + 2 * k → chLookup b'.doc.st.changes j = chLookup b.doc.st.changes j := by
      intro j h1 h2; rw [hch, if_neg h1, if_neg (Nat.ne_of_lt (by omega)), if_neg (Nat.ne_of_lt h2)]
    have new1 := (hch (k + 1)).trans (if_pos rfl)
    have new2 := (hch (pages.length + 3 + 2 * k)).trans ((if_neg (Nat.ne_of_gt (by omega))).trans (if_pos rfl))
    have new3 := (hch (pages.length + 2 + 2 * k)).trans
      ((if_neg (Nat.ne_of_gt (by omega))).trans ((if_neg (Nat.ne_of_lt (by omega))).trans (if_pos rfl)))
    have hlen' : b'.doc.st.refs.length = pages.length + 2 + 2 * (k + 1) := by rw [hstep]; simp [hlen]; omega
    refine runB_pageOps fmt pages ps (k + 1) b' hdrop' ⟨hlen', fun j h1 h2 => ?_, ?_, fun k' q hk' hq => ?_,
      fun j h1 h2 => ?_⟩
    · rw [hstep]; simp only
      rw [List.getElem?_append_left (by omega)]; exact h.prom j (by omega) h2
    · rw [old _ (Nat.ne_of_gt (by omega)) (by omega)]; exact h.tree
    · rcases Nat.lt_or_eq_of_le (Nat.le_of_lt_succ hk') with hlt | rfl
      · obtain ⟨d1, d2, d3⟩ := h.done k' q hlt hq
        -- the three numbers of an earlier page are none of the three of this round
        have : (k' + 1 < pages.length + 2 + 2 * k ∧ k + 1 < pages.length + 2 + 2 * k') ∧
            pages.length + 2 + 2 * k' < pages.length + 2 + 2 * k ∧
            k + 1 < pages.length + 3 + 2 * k' ∧ pages.length + 3 + 2 * k' < pages.length + 2 + 2 * k := by omega
        exact ⟨(old _ (Nat.ne_of_lt (Nat.succ_lt_succ hlt)) this.1.1).trans d1, (old _ (Nat.ne_of_gt this.1.2) this.2.1).trans d2,
          (old _ (Nat.ne_of_gt this.2.2.1) this.2.2.2).trans d3⟩
      · cases hpk.symm.trans hq
        exact ⟨new1, new3, new2⟩
    · by_cases hj : j < pages.length + 2 + 2 * k
      · rw [old j (Nat.ne_of_gt (by omega)) hj]; exact h.fresh j h1 (by omega)
      · rcases Nat.eq_or_lt_of_le (Nat.le_of_not_lt hj) with rfl | hgt
        · rw [new3]; simp
        · rw [show j = pages.length + 3 + 2 * k by omega, new2]; simp

/-- the state in which `save` is called: the loop over all pages has run, then the catalog was created -/
theorem prepared_mid (fmt : R → List UInt8) (pages : List (PageB R)) (info : Option (Prim R)) :
    ∃ b : BDoc R, Mid pages pages.length b.doc.st ∧
      (prepared fmt pages info).doc.st = (create b.doc.st (catalogVal (pages.length + 1))).1 := by
  obtain ⟨p1, p2⟩ := runB_promises fmt pages.length (emptyB info pages.length)
  have p1' : (runB fmt (emptyB info pages.length) (List.replicate pages.length .promise)).1.doc.st.refs
      = .free 0 65535 :: List.replicate pages.length .promised := by rw [p1]; rfl
  have p2' : (runB fmt (emptyB info pages.length) (List.replicate pages.length .promise)).1.doc.st.changes = [] := by
    rw [p2]; rfl
  generalize hB : (runB fmt (emptyB info pages.length) (List.replicate pages.length .promise)).1 = bP at p1' p2'
  have e1 := stepB_create fmt bP (treeVal (List.range' 1 pages.length))
  have hmid0 : Mid pages 0 (stepB fmt bP (.create (treeVal (List.range' 1 pages.length)))).1.doc.st := by
    refine ⟨?_, ?_, ?_, by intro k' p hk; omega, ?_⟩
    · rw [e1]; simp [create_eq, p1']
    · intro j h1 h2
      rw [e1]; simp only [create_eq, p1']
      rw [List.getElem?_append_left (by simp; omega)]
      obtain ⟨j', rfl⟩ : ∃ j', j = j' + 1 := ⟨j - 1, by omega⟩
      rw [List.getElem?_cons_succ]
      simp [List.getElem?_replicate]; omega
    · rw [e1]; simp only [create_eq, chLookup_chInsert, p1', p2']
      simp
    · intro j h1 h2
      rw [e1] at h2; simp [create_eq, p1'] at h2; omega
  have hm := runB_pageOps fmt pages pages 0 _ (by simp) hmid0
  simp only [Nat.zero_add] at hm
  refine ⟨_, hm, ?_⟩
  rw [← stepB_create fmt, ← hB]
  simp only [prepared, buildOps]
  rw [runB_append, runB_append, runB_append]
  simp [runB]

/-- **the numbering of `CatalogBuilder::build`**: when `save` is called, the page tree is pending under `n + 1`, the
    leaf of page `k` under `k + 1`, its resources and content stream under `n + 2 + 2k` and `n + 3 + 2k`, the catalog
    under `3n + 2` — the number the trailer names as `/Root` -/
theorem prepared_changes (fmt : R → List UInt8) (pages : List (PageB R)) (info : Option (Prim R)) :
    (prepared fmt pages info).doc.st.refs.length = 3 * pages.length + 3 ∧
    chLookup (prepared fmt pages info).doc.st.changes (3 * pages.length + 2) = some (catalogVal (pages.length + 1), 0) ∧
    chLookup (prepared fmt pages info).doc.st.changes (pages.length + 1) = some (treeVal (List.range' 1 pages.length), 0) ∧
    ∀ k p, pages[k]? = some p →
      chLookup (prepared fmt pages info).doc.st.changes (k + 1) =
        some (pageVal (pages.length + 1) (pages.length + 2 + 2 * k) (pages.length + 3 + 2 * k) p, 0) ∧
      chLookup (prepared fmt pages info).doc.st.changes (pages.length + 2 + 2 * k) = some (p.res, 0) ∧
      chLookup (prepared fmt pages info).doc.st.changes (pages.length + 3 + 2 * k) = some (contentVal p.content, 0) := by
  obtain ⟨b, hm, hprep⟩ := prepared_mid fmt pages info
  have hlen : b.doc.st.refs.length = 3 * pages.length + 2 := by rw [hm.len]; omega
  have old : ∀ j, j < 3 * pages.length + 2 → chLookup (prepared fmt pages info).doc.st.changes j = chLookup b.doc.st.changes j := by
    intro j hj; rw [hprep, create_eq]; simp only [chLookup_chInsert, hlen]; rw [if_neg (by omega)]
  refine ⟨by rw [hprep, create_eq]; simp [hlen], by rw [hprep, create_eq]; simp only [chLookup_chInsert, hlen, if_true],
    by rw [old _ (by omega)]; exact hm.tree, fun k p hp => ?_⟩
  have hk : k < pages.length := (List.getElem?_eq_some_iff.mp hp).1
  obtain ⟨d1, d2, d3⟩ := hm.done k p hk hp
  exact ⟨by rw [old _ (by omega)]; exact d1, by rw [old _ (by omega)]; exact d2, by rw [old _ (by omega)]; exact d3⟩

/-- no promise is open when `save` is called: every number from 1 on has its value pending -/
theorem prepared_pending (fmt : R → List UInt8) (pages : List (PageB R)) (info : Option (Prim R)) (j : Nat) (h1 : 1 ≤ j)
    (h2 : j < 3 * pages.length + 3) : chLookup (prepared fmt pages info).doc.st.changes j ≠ none := by
  obtain ⟨b, hm, hprep⟩ := prepared_mid fmt pages info
  have hlen : b.doc.st.refs.length = 3 * pages.length + 2 := by rw [hm.len]; omega
  rw [hprep, create_eq]; simp only [chLookup_chInsert, hlen]
  by_cases hj : j = 3 * pages.length + 2
  · rw [if_pos hj]; simp
  rw [if_neg hj]
  rcases Nat.lt_or_ge j (pages.length + 1) with hk | hk
  · obtain ⟨p, hp⟩ : ∃ p, pages[j - 1]? = some p := ⟨pages[j - 1]'(by omega), by simp⟩
    have := (hm.done (j - 1) p (by omega) hp).1
    rw [show j - 1 + 1 = j by omega] at this
    rw [this]; simp
  rcases Nat.eq_or_lt_of_le hk with rfl | hk1
  · rw [hm.tree]; simp
  · exact hm.fresh j hk1 (by rw [hlen]; exact Nat.lt_of_le_of_ne (Nat.le_of_lt_succ h2) hj)

end BuildBytes
