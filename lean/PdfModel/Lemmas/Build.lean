import PdfModel.Model.Build
import PdfModel.Lemmas.StorageRun

/-! Helper lemmas for C10: what `CatalogBuilder::build` leaves pending, and that it keeps the storage
    invariant (so that the C09 theorems apply to the `save` that follows). -/

theorem Storage.create_eq {V : Type} (st : Storage.St V) (v : V) : Storage.create st v =
    ({ st with refs := st.refs ++ [.promised], changes := Storage.chInsert st.changes st.refs.length (v, 0), cache := [] },
      st.refs.length) := rfl

namespace Build
open Storage Xref

variable {A R C I : Type}

/-! ### the empty storage is a base document -/

/-- `Storage::empty` (only the head of the free list in the table, the header line in the backend) under a trailer
    without `/Prev`, whatever the values are -/
theorem _root_.Storage.baseOK_header {V : Type} (cached : Bool) (tr : Trailer V) (h : tr.prev = none) :
    BaseOK (⟨⟨[.free 0 65535], [], [], cached, [], [], 9, 0, 0⟩, tr⟩ : Doc V) [] where
  start_le := by simp
  chain := by simp [h, prevChain]
  pairs_entry := by intro p hp; simp [allPairs] at hp
  pairs_dom := by intro p hp; simp [allPairs] at hp
  objs_lt := by intro o ho; simp at ho
  secs_lt := by intro s hs; simp at hs
  raw_lt := by
    intro j pos g hj
    rcases j with _ | j <;> simp at hj
  stream_lt := by
    intro j sid idx hj
    rcases j with _ | j <;> simp at hj
  no_prom := by intro e he; simp at he; subst he; simp
  changes_nil := rfl
  cache_nil := rfl

theorem emptyDoc_ok (cached : Bool) (tr : Trailer (BV A R C I)) (h : tr.prev = none) :
    BaseOK (⟨emptySt cached, tr⟩ : Doc (BV A R C I)) [] := baseOK_header cached tr h

/-! ### promises -/

theorem promiseN_spec (n : Nat) : ∀ (st : St (BV A R C I)),
    (promiseN st n).1.refs = st.refs ++ List.replicate n .promised ∧
    (promiseN st n).1.changes = st.changes ∧
    (promiseN st n).2 = (List.range n).map (st.refs.length + ·) ∧
    (promiseN st n).1.objs = st.objs ∧ (promiseN st n).1.secs = st.secs ∧ (promiseN st n).1.len = st.len ∧
    (promiseN st n).1.start = st.start := by
  induction n with
  | zero => intro st; simp [promiseN]
  | succ n ih =>
    intro st
    obtain ⟨h1, h2, h3, h4, h5, h6, h7⟩ := ih (promise st).1
    simp only [promiseN]
    refine ⟨?_, ?_, ?_, ?_, ?_, ?_, ?_⟩
    · rw [h1]; simp [promise, alloc, List.replicate_succ]
    · rw [h2]; rfl
    · rw [h3]
      simp only [promise, alloc, List.length_append, List.length_singleton, List.range_succ_eq_map, List.map_cons,
        List.map_map]
      congr 1
      apply List.map_congr_left
      intro a _; simp only [Function.comp]; omega
    · rw [h4]; rfl
    · rw [h5]; rfl
    · rw [h6]; rfl
    · rw [h7]; rfl

theorem inv_promiseN (d0 : Doc (BV A R C I)) (n : Nat) : ∀ (d : Doc (BV A R C I)), Inv d0 d →
    Inv d0 { d with st := (promiseN d.st n).1 } := by
  induction n with
  | zero => intro d hi; simpa [promiseN] using hi
  | succ n ih =>
    intro d hi
    have h1 := inv_promise d0 d hi
    have h2 := ih _ h1
    simpa [promiseN] using h2

/-! ### one page -/

/-- the state after one round of the loop over the pages: resources and content stream under two fresh numbers, the leaf
    under the number promised for it -/
def pageStep (tree : Nat) (st : St (BV A R C I)) (p : PageSpec A R C) (k : Nat) : St (BV A R C I) :=
  { st with
      refs := st.refs ++ [.promised, .promised]
      changes := chInsert (chInsert (chInsert st.changes st.refs.length (.resources p.res, 0))
        (st.refs.length + 1) (.content p.ops, 0)) k (.page tree st.refs.length (st.refs.length + 1) p.attrs, 0)
      cache := [] }

theorem fillPages_cons (tree : Nat) (st : St (BV A R C I)) (p : PageSpec A R C) (k : Nat) (rest : List (PageSpec A R C × Nat))
    (h : st.refs[k]? = some .promised) : fillPages tree st ((p, k) :: rest) = fillPages tree (pageStep tree st p k) rest := by
  have hk1 : (st.refs ++ [XRef.promised])[k]? = some .promised := by
    rw [List.getElem?_append_left (List.getElem?_eq_some_iff.mp h).1]; exact h
  simp [fillPages, fulfilPage, create_eq, hk1, pageStep]

theorem chLookup_pageStep (tree : Nat) (st : St (BV A R C I)) (p : PageSpec A R C) (k j : Nat) :
    chLookup (pageStep tree st p k).changes j =
      if j = k then some (.page tree st.refs.length (st.refs.length + 1) p.attrs, 0)
      else if j = st.refs.length + 1 then some (.content p.ops, 0)
      else if j = st.refs.length then some (.resources p.res, 0)
      else chLookup st.changes j := by
  simp only [pageStep, chLookup_chInsert]

theorem inv_pageStep (d0 d : Doc (BV A R C I)) (chain0) (hb : BaseOK d0 chain0) (hi : Inv d0 d) (tree : Nat)
    (p : PageSpec A R C) (k : Nat) (h : d.st.refs[k]? = some .promised) : Inv d0 { d with st := pageStep tree d.st p k } := by
  have hlt : k < d.st.refs.length := (List.getElem?_eq_some_iff.mp h).1
  have h2 := inv_create d0 _ chain0 hb (inv_create d0 d chain0 hb hi (.resources p.res)) (.content p.ops)
  have h3 := inv_put d0 _ chain0 hb h2 k (.page tree d.st.refs.length (d.st.refs.length + 1) p.attrs) .promised
    (by simp only [create_eq]; rw [List.getElem?_append_left (by simp; omega), List.getElem?_append_left hlt]; exact h)
    (Or.inl rfl)
  simpa [create_eq, pageStep] using h3

/-! ### the loop over the pages -/

/-- what the loop leaves pending: every page under its promised number, its resources and its content
    stream under fresh numbers; nothing else touched -/
structure Filled (tree : Nat) (st st' : St (BV A R C I)) (zs : List (PageSpec A R C × Nat)) : Prop where
  frame : ∀ j : Nat, j < st.refs.length → (∀ z ∈ zs, z.2 ≠ j) → chLookup st'.changes j = chLookup st.changes j
  pages : ∀ z ∈ zs, ∃ r c, chLookup st'.changes z.2 = some (.page tree r c z.1.attrs, 0) ∧
      chLookup st'.changes r = some (.resources z.1.res, 0) ∧ chLookup st'.changes c = some (.content z.1.ops, 0)
  fresh : ∀ j : Nat, st.refs.length ≤ j → j < st'.refs.length → chLookup st'.changes j ≠ none
  grow : st'.refs.length = st.refs.length + 2 * zs.length
  objs : st'.objs = st.objs
  secs : st'.secs = st.secs
  len : st'.len = st.len
  start : st'.start = st.start

theorem fillPages_spec (d0 : Doc (BV A R C I)) (chain0) (hb : BaseOK d0 chain0) (tr : Trailer (BV A R C I)) (tree : Nat) :
    ∀ (zs : List (PageSpec A R C × Nat)) (st : St (BV A R C I)), Inv d0 ⟨st, tr⟩ →
      (∀ z ∈ zs, st.refs[z.2]? = some .promised) → (zs.map (·.2)).Nodup →
      ∃ st', fillPages tree st zs = (st', .ok ()) ∧ Inv d0 ⟨st', tr⟩ ∧ Filled tree st st' zs := by
  intro zs
  induction zs with
  | nil =>
    intro st hi _ _
    exact ⟨st, rfl, hi, fun _ _ _ => rfl, (by intro z hz; cases hz), (by intro j h1 h2; omega), (by simp), rfl, rfl, rfl, rfl⟩
  | cons z rest ih =>
    obtain ⟨p, k⟩ := z
    intro st hi hprom hnd
    have hk : st.refs[k]? = some .promised := hprom (p, k) (List.mem_cons_self ..)
    have hlt : ∀ z ∈ (p, k) :: rest, z.2 < st.refs.length := fun z hz => (List.getElem?_eq_some_iff.mp (hprom z hz)).1
    have hklt := hlt _ (List.mem_cons_self ..)
    have hrest_lt : ∀ z ∈ rest, z.2 < st.refs.length := fun z hz => hlt z (List.mem_cons_of_mem _ hz)
    simp only [List.map_cons, List.nodup_cons] at hnd
    have hlen2 : (pageStep tree st p k).refs.length = st.refs.length + 2 := by simp [pageStep]
    obtain ⟨st', hrun, hi', hf⟩ := ih (pageStep tree st p k) (inv_pageStep d0 ⟨st, tr⟩ chain0 hb hi tree p k hk)
      (fun z hz => by
        have h0 := hprom z (List.mem_cons_of_mem _ hz)
        simp only [pageStep]
        rw [List.getElem?_append_left (hrest_lt z hz)]; exact h0) hnd.2
    -- a number below the old table that no later page is promised under keeps what this round left there
    have keep : ∀ j, j < st.refs.length + 2 → (∀ z ∈ rest, z.2 ≠ j) →
        chLookup st'.changes j = chLookup (pageStep tree st p k).changes j := fun j hj hne => hf.frame j (by omega) hne
    have fresh_ne : ∀ j, st.refs.length ≤ j → ∀ z ∈ rest, z.2 ≠ j := fun j hj z hz h => by have := hrest_lt z hz; omega
    refine ⟨st', by rw [fillPages_cons tree st p k rest hk]; exact hrun, hi', ?_, ?_, ?_,
      by rw [hf.grow, hlen2, List.length_cons]; omega, hf.objs, hf.secs, hf.len, hf.start⟩
    · intro j hj hne
      rw [keep j (by omega) (fun z hz => hne z (List.mem_cons_of_mem _ hz)), chLookup_pageStep,
        if_neg (fun h => hne (p, k) (List.mem_cons_self ..) h.symm), if_neg (by omega), if_neg (by omega)]
    · intro z hz
      rcases List.mem_cons.mp hz with rfl | hz
      · refine ⟨st.refs.length, st.refs.length + 1, ?_, ?_, ?_⟩
        · rw [keep k (by omega) (fun z hz h => hnd.1 (h ▸ List.mem_map_of_mem hz)), chLookup_pageStep, if_pos rfl]
        · rw [keep _ (by omega) (fresh_ne _ (Nat.le_refl _)), chLookup_pageStep, if_neg (by omega), if_neg (by omega), if_pos rfl]
        · rw [keep _ (by omega) (fresh_ne _ (by omega)), chLookup_pageStep, if_neg (by omega), if_pos rfl]
      · exact hf.pages z hz
    · intro j h1 h2
      by_cases hj : j < st.refs.length + 2
      · rw [keep j hj (fresh_ne j h1), chLookup_pageStep, if_neg (by omega)]
        by_cases hj2 : j = st.refs.length + 1
        · rw [if_pos hj2]; simp
        · rw [if_neg hj2, if_pos (by omega)]; simp
      · exact hf.fresh j (by omega) h2

/-! ### the whole preparation -/

/-- `rd` reads every pending value of `ch` -/
def Agrees (rd : Nat → Rd (BV A R C I)) (ch : List (Nat × BV A R C I × Nat)) : Prop :=
  ∀ j v g, chLookup ch j = some (v, g) → rd j = .val v

theorem allSome_map {α β : Type} (f : α → Option β) (g : α → β) :
    ∀ (l : List α), (∀ x ∈ l, f x = some (g x)) → allSome (l.map f) = some (l.map g) := by
  intro l
  induction l with
  | nil => intro _; rfl
  | cons x xs ih =>
    intro h
    simp only [List.map_cons, allSome, h x (by simp)]
    rw [ih (fun y hy => h y (by simp [hy]))]

structure Prepared (cached : Bool) (pages : List (PageSpec A R C)) (info : Option I) (d : Doc (BV A R C I)) : Prop where
  tr_prev : d.tr.prev = none
  tr_info : d.tr.info = info.map .info
  root_gen : d.tr.root.2 = 0
  inv : Inv ⟨emptySt cached, d.tr⟩ d
  pages_ok : ∀ rd, Agrees rd d.st.changes → pagesOf rd d.tr.root.1 = some pages
  all_pending : ∀ j : Nat, 1 ≤ j → j < d.st.refs.length → chLookup d.st.changes j ≠ none
  refs_len : d.st.refs.length = 3 * pages.length + 3
  backend : d.st.objs = [] ∧ d.st.secs = [] ∧ d.st.len = 9 ∧ d.st.start = 0
  root_pending : ∃ t, chLookup d.st.changes d.tr.root.1 = some (.catalog t, 0)

/-- the promises of the builder on the empty storage: the kids are the numbers `1 … n`, each of them promised -/
theorem promiseN_empty (cached : Bool) (n : Nat) :
    ∃ st1 kids, promiseN (emptySt cached : St (BV A R C I)) n = (st1, kids) ∧ st1.refs.length = n + 1 ∧ st1.changes = [] ∧
      (st1.objs = [] ∧ st1.secs = [] ∧ st1.len = 9 ∧ st1.start = 0) ∧ kids.length = n ∧ kids.Nodup ∧
      (∀ k ∈ kids, 1 ≤ k ∧ k ≤ n ∧ st1.refs[k]? = some .promised) ∧ ∀ j, 1 ≤ j → j ≤ n → j ∈ kids := by
  obtain ⟨p1, p2, p3, p4, p5, p6, p7⟩ := promiseN_spec (A := A) (R := R) (C := C) (I := I) n (emptySt cached)
  refine ⟨_, _, rfl, by rw [p1]; simp [emptySt], p2, ⟨p4, p5, p6, p7⟩, by rw [p3]; simp, ?_, ?_, ?_⟩
  · rw [p3, List.Nodup, List.pairwise_map]
    exact List.Pairwise.imp (fun h => by omega) List.nodup_range
  · intro k hk
    rw [p3] at hk
    obtain ⟨a, ha, rfl⟩ := List.mem_map.mp hk
    have ha' := List.mem_range.mp ha
    refine ⟨by simp [emptySt], by simp [emptySt]; omega, ?_⟩
    rw [p1]
    simp only [emptySt, List.length_singleton]
    rw [List.getElem?_append_right (by simp), List.getElem?_replicate]; simp; omega
  · intro j h1 h2
    rw [p3]
    exact List.mem_map.mpr ⟨j - 1, List.mem_range.mpr (by omega), by simp [emptySt]; omega⟩

/-- catalog → page tree root → leaves, read through `rd` -/
theorem pagesOf_of_reads (rd : Nat → Rd (BV A R C I)) (pages : List (PageSpec A R C)) (kids : List Nat) (root tree : Nat)
    (hroot : rd root = .val (.catalog tree)) (htree : rd tree = .val (.tree kids pages.length)) (hkl : kids.length = pages.length)
    (hp : ∀ z ∈ pages.zip kids, ∃ r c, rd z.2 = .val (.page tree r c z.1.attrs) ∧ rd r = .val (.resources z.1.res) ∧
      rd c = .val (.content z.1.ops)) : pagesOf rd root = some pages := by
  simp only [pagesOf, hroot, htree, hkl, if_true]
  have hmap : kids.map (pageAt rd tree) = (pages.zip kids).map (pageAt rd tree ∘ fun z => z.2) := by
    rw [← List.map_map, List.map_snd_zip (Nat.le_of_eq hkl)]
  rw [hmap, allSome_map _ (fun z => z.1), List.map_fst_zip (Nat.le_of_eq hkl.symm)]
  intro z hz
  obtain ⟨r, c, e1, e2, e3⟩ := hp z hz
  simp [Function.comp, pageAt, e1, e2, e3]

theorem prepare_spec (cached : Bool) (pages : List (PageSpec A R C)) (info : Option I) :
    ∃ d, prepare cached pages info = .ok d ∧ Prepared cached pages info d := by
  obtain ⟨st1, kids, hpn, hlen1, hch1, hbk1, hkl, hkids_nd, hkids, hkids_all⟩ :=
    promiseN_empty (A := A) (R := R) (C := C) (I := I) cached pages.length
  -- the trailer (the catalog will be object `3n + 2`)
  obtain ⟨tr, htr⟩ : ∃ tr : Trailer (BV A R C I), tr = ⟨(3 * pages.length + 2, 0), info.map .info, none⟩ := ⟨_, rfl⟩
  have hb := emptyDoc_ok (A := A) (R := R) (C := C) (I := I) cached tr (by rw [htr])
  have i1 : Inv ⟨emptySt cached, tr⟩ ⟨st1, tr⟩ := by
    simpa only [hpn] using inv_promiseN _ pages.length _ (inv_base _ [] hb)
  obtain ⟨st2, hst2⟩ : ∃ st2, st2 = (create st1 (.tree kids pages.length)).1 := ⟨_, rfl⟩
  have i2 : Inv ⟨emptySt cached, tr⟩ ⟨st2, tr⟩ := hst2 ▸ inv_create _ _ [] hb i1 (.tree kids pages.length)
  have hrefs2 : st2.refs = st1.refs ++ [.promised] := by rw [hst2]; rfl
  have hlen2 : st2.refs.length = pages.length + 2 := by rw [hrefs2, List.length_append, hlen1]; rfl
  have hch2 : ∀ j, chLookup st2.changes j = if j = pages.length + 1 then some (.tree kids pages.length, 0) else none := by
    intro j; rw [hst2, create_eq]; simp only [chLookup_chInsert, hlen1, hch1]; rfl
  have hbk2 : st2.objs = [] ∧ st2.secs = [] ∧ st2.len = 9 ∧ st2.start = 0 := by rw [hst2]; exact hbk1
  have hzl : (pages.zip kids).map (·.2) = kids := List.map_snd_zip (Nat.le_of_eq hkl)
  have hzk : ∀ z ∈ pages.zip kids, z.2 ∈ kids := fun z hz => hzl ▸ List.mem_map_of_mem hz
  obtain ⟨st3, hrun, i3, hf⟩ := fillPages_spec _ [] hb tr (pages.length + 1) (pages.zip kids) st2 i2
    (fun z hz => by
      obtain ⟨_, b, c⟩ := hkids z.2 (hzk z hz)
      rw [hrefs2, List.getElem?_append_left (by omega)]; exact c)
    (by rw [hzl]; exact hkids_nd)
  have hlen3 : st3.refs.length = 3 * pages.length + 2 := by
    rw [hf.grow, hlen2, List.length_zip, hkl, Nat.min_self]; omega
  have hchd : ∀ j, chLookup (create st3 (.catalog (pages.length + 1))).1.changes j =
      if j = 3 * pages.length + 2 then some (.catalog (pages.length + 1), 0) else chLookup st3.changes j := by
    intro j; simp only [create_eq, chLookup_chInsert, hlen3]
  have hold : ∀ j x, chLookup st3.changes j = some x →
      chLookup (create st3 (.catalog (pages.length + 1))).1.changes j = some x := by
    intro j x hx
    have := i3.ch_lt j x hx
    rw [hchd, if_neg (by simp only at this; omega)]; exact hx
  have htree3 : chLookup st3.changes (pages.length + 1) = some (.tree kids pages.length, 0) := by
    rw [hf.frame _ (by omega) (fun z hz h => by have := (hkids z.2 (hzk z hz)).2.1; omega), hch2, if_pos rfl]
  refine ⟨⟨(create st3 (.catalog (pages.length + 1))).1, tr⟩, ?_, ?_⟩
  · simp only [prepare, buildCatalog, hpn]
    rw [show create st1 (.tree kids pages.length) = (st2, pages.length + 1) from by rw [hst2, create_eq, hlen1]]
    simp only [hrun]
    rw [create_eq, hlen3, htr]
  refine
    { tr_prev := by rw [htr], tr_info := by rw [htr], root_gen := by rw [htr]
      inv := inv_create _ _ [] hb i3 (.catalog (pages.length + 1))
      pages_ok := fun rd hrd => ?_, all_pending := fun j h1 h2 => ?_
      refs_len := by rw [create_eq]; simp [hlen3]
      backend := by rw [create_eq]; simp only [hf.objs, hf.secs, hf.len, hf.start]; exact hbk2
      root_pending := ⟨pages.length + 1, by rw [htr, hchd, if_pos rfl]⟩ }
  · rw [htr]
    refine pagesOf_of_reads rd pages kids _ (pages.length + 1) (hrd _ _ 0 (by rw [hchd, if_pos rfl])) (hrd _ _ 0 (hold _ _ htree3))
      hkl (fun z hz => ?_)
    obtain ⟨r, c, a1, a2, a3⟩ := hf.pages z hz
    exact ⟨r, c, hrd _ _ 0 (hold _ _ a1), hrd _ _ 0 (hold _ _ a2), hrd _ _ 0 (hold _ _ a3)⟩
  · rw [hchd]
    have hjl : j < 3 * pages.length + 3 := by rw [create_eq] at h2; simpa [hlen3] using h2
    by_cases hj : j = 3 * pages.length + 2
    · rw [if_pos hj]; simp
    rw [if_neg hj]
    rcases Nat.lt_or_ge j (pages.length + 1) with hj2 | hj2
    · -- a kid: its page is pending
      obtain ⟨z, hz, rfl⟩ := List.mem_map.mp (hzl ▸ hkids_all j h1 (Nat.le_of_lt_succ hj2))
      obtain ⟨r, c, a1, _, _⟩ := hf.pages z hz
      rw [a1]; simp
    rcases Nat.eq_or_lt_of_le hj2 with rfl | hj3
    · rw [htree3]; simp
    · exact hf.fresh j (by rw [hlen2]; exact hj3) (by rw [hlen3]; exact Nat.lt_of_le_of_ne (Nat.le_of_lt_succ hjl) hj)

/-- what `build` returns, unfolded -/
theorem build_of_ok (L : Layout) (cached : Bool) (pages : List (PageSpec A R C)) (info : Option I)
    (d' : Doc (BV A R C I)) (i : SaveInfo) (h : build L cached pages info = .ok (d', i)) :
    ∃ d, prepare cached pages info = .ok d ∧ Prepared cached pages info d ∧ save params L d = (d', .ok i) := by
  obtain ⟨d, hp, hpr⟩ := prepare_spec cached pages info
  refine ⟨d, hp, hpr, ?_⟩
  unfold build at h
  rw [hp] at h
  simp only at h
  generalize hs : save params L d = res at h
  obtain ⟨d2, o⟩ := res
  cases o <;> simp at h
  obtain ⟨rfl, rfl⟩ := h
  rfl


end Build
