import PdfModel.Props.C05
import PdfModel.Lemmas.XrefStream
import PdfModel.Model.XrefStreamFilters

/-! Filtered cross-reference streams: the spec-side writer (rows → PNG prediction with the row width as row
    size → Flate → optionally an ASCII filter) as an instance of the encoder relations of C05, and the
    dictionary side (`/Filter`, `/DecodeParms` → the filter list the reader builds). -/

namespace XrefFiltered
open Enc Xref
open Codecs (EncodesToHex EncodesTo85)

/-- the rows of a section as a conforming writer lays them out: one per entry -/
def rowsOf (w0 w1 w2 : Nat) (subs : List Sub) : List Bytes :=
  subs.flatMap fun s => s.entries.map (encodeEntry w0 w1 w2)

/-- the unfiltered stream data (what `stream_sections_read_back` is about) -/
def rowData (w0 w1 w2 : Nat) (subs : List Sub) : Bytes :=
  subs.flatMap fun s => encodeRows w0 w1 w2 s.entries

/-- a PNG filter type for every row: the writer's free choice (`up` when the list is too short) -/
def tagRows : List PredictorType → List Bytes → Rows
  | _, [] => []
  | [], r :: rs => (.up, r) :: tagRows [] rs
  | t :: ts, r :: rs => (t, r) :: tagRows ts rs

theorem tagRows_snd : ∀ (ts : List PredictorType) (rows : List Bytes), (tagRows ts rows).map (·.2) = rows
  | [], [] | _ :: _, [] => rfl
  | [], r :: rs => congrArg (r :: ·) (tagRows_snd [] rs)
  | _ :: ts, r :: rs => congrArg (r :: ·) (tagRows_snd ts rs)

theorem flat_tagRows (ts : List PredictorType) (rows : List Bytes) : flat (tagRows ts rows) = rows.flatten := by
  rw [flat, tagRows_snd]

theorem tagRows_mem (ts : List PredictorType) (rows : List Bytes) (r : PredictorType × Bytes)
    (h : r ∈ tagRows ts rows) : r.2 ∈ rows :=
  tagRows_snd ts rows ▸ List.mem_map_of_mem h

theorem rowData_eq (w0 w1 w2 : Nat) (subs : List Sub) : rowData w0 w1 w2 subs = (rowsOf w0 w1 w2 subs).flatten := by
  induction subs with
  | nil => rfl
  | cons s ss ih =>
    simp only [rowData, rowsOf, List.flatMap_cons, List.flatten_append] at ih ⊢
    rw [ih]
    simp [encodeRows, List.flatMap_def]

theorem rowsOf_length (w0 w1 w2 : Nat) (subs : List Sub) (hf : ∀ s ∈ subs, ∀ e ∈ s.entries, Fits w0 w1 w2 e) :
    ∀ r ∈ rowsOf w0 w1 w2 subs, r.length = w0 + w1 + w2 := by
  intro r hr
  simp only [rowsOf, List.mem_flatMap, List.mem_map] at hr
  obtain ⟨s, hs, e, he, rfl⟩ := hr
  exact encodeEntry_length w0 w1 w2 e (hf s hs e he)

/-- what the writer hands to the compressor: every row preceded by its filter-type byte and filtered
    against the row above (ISO 32000-1 §7.4.4.4, PNG predictors) -/
def predicted (bpp : Nat) (types : List PredictorType) (w0 w1 w2 : Nat) (subs : List Sub) : Bytes :=
  encRows bpp (List.replicate (w0 + w1 + w2) 0) (tagRows types (rowsOf w0 w1 w2 subs))

/-- any parameters whose geometry gives the row width as row size, any filter type per row -/
theorem predicts_rows (p : Params) (bpp : Nat) (w0 w1 w2 : Nat) (subs : List Sub) (types : List PredictorType)
    (hp : p.predictor ≥ 10) (hg : predictorGeometry p = .ok (bpp, w0 + w1 + w2))
    (hf : ∀ s ∈ subs, ∀ e ∈ s.entries, Fits w0 w1 w2 e) :
    Predicts p (rowData w0 w1 w2 subs) (predicted bpp types w0 w1 w2 subs) := by
  have := Predicts.png (p := p) (rs := tagRows types (rowsOf w0 w1 w2 subs)) hp hg
    (fun r hr => rowsOf_length w0 w1 w2 subs hf r.2 (tagRows_mem _ _ r hr))
  rw [flat_tagRows, ← rowData_eq] at this
  exact this

/-- `/Predictor k /Columns S` (Colors 1, 8 bits): bytes per pixel 1, row size `S` -/
theorem columns_geometry (k : Int) (S : Nat) (hS : 1 ≤ S) (hb : S < 2305843009213693952) (early : Int) :
    predictorGeometry { predictor := k, colors := 1, bpc := 8, columns := (S : Int), earlyChange := early } = .ok (1, S) := by
  have hS' : ¬ ((S : Int) < 1) := by omega
  have e3 : (8 * S + 7) / 8 = S := by omega
  have e4 : S < 18446744073709551616 := by omega
  simp [predictorGeometry, hS', e3, e4]

/-- `y` is the data of a cross-reference stream as a conforming writer stores it under the filter list `fs` -/
def FilteredData (X : Ext) (fs : List Filter) (w0 w1 w2 : Nat) (subs : List Sub) (y : Bytes) : Prop :=
  EncodesChain X fs (rowData w0 w1 w2 subs) y

/-- the shapes real writers use: Flate over PNG-predicted rows (zlib framing; what the third-party inflate returns
    for the compressed bytes is the hypothesis), bare or inside ASCIIHex / ASCII85 -/
inductive PngFlate (X : Ext) (w0 w1 w2 : Nat) (subs : List Sub) : List Filter → Bytes → Prop where
  | bare (p : Params) (bpp : Nat) (types : List PredictorType) (z : Bytes) : p.predictor ≥ 10 →
      predictorGeometry p = .ok (bpp, w0 + w1 + w2) → X.inflateZlib z = some (predicted bpp types w0 w1 w2 subs) →
      PngFlate X w0 w1 w2 subs [.flate p] z
  | hex (p : Params) (z y : Bytes) : PngFlate X w0 w1 w2 subs [.flate p] z → EncodesToHex z y →
      PngFlate X w0 w1 w2 subs [.asciiHex, .flate p] y
  | a85 (p : Params) (z y : Bytes) : PngFlate X w0 w1 w2 subs [.flate p] z → EncodesTo85 z y →
      PngFlate X w0 w1 w2 subs [.ascii85, .flate p] y

theorem pngFlate_filtered (X : Ext) (w0 w1 w2 : Nat) (subs : List Sub)
    (hf : ∀ s ∈ subs, ∀ e ∈ s.entries, Fits w0 w1 w2 e) {fs : List Filter} {y : Bytes}
    (h : PngFlate X w0 w1 w2 subs fs y) : FilteredData X fs w0 w1 w2 subs y := by
  induction h with
  | bare p bpp types z hp hg hz =>
    exact EncodesChain.cons EncodesChain.nil (EncodesStep.flateZlib (predicts_rows p bpp w0 w1 w2 subs types hp hg hf) hz)
  | hex p z y _ hy ih => exact EncodesChain.cons ih (EncodesStep.hex hy)
  | a85 p z y _ hy ih => exact EncodesChain.cons ih (EncodesStep.a85 hy)

end XrefFiltered
