import PdfModel.Model.ColorSpaceWrite

/-! `ColorSpace`: what the writer produces is read back as the value (C15, value side), against `CSLoad.csRead`. -/

namespace CSLoad
open Derive

/-- **read ∘ write = id** for every colour space the writer implements, within the reader's nesting budget, in every
    environment that holds the stream objects the writer made -/
theorem csRead_csWrite : ∀ (cs : CS), cs.writable = true →
    ∀ (n : Nat) (p : Prim) (made : Made) (n' : Nat), csWrite n cs = .ok (p, made, n') →
      ∀ (se : SEnv), Holds se made → ∀ depth, cs.nesting ≤ depth → csRead se depth p = .ok cs := by
  intro cs
  induction cs with
  | deviceCMYK | deviceRGB =>
    intro _ n p made n' hw se _ depth _
    simp [csWrite] at hw
    obtain ⟨rfl, _, _⟩ := hw
    cases depth <;> simp [csRead, csHead, resolveO, ofName]
  | indexed base hival lookup ih =>
    intro hwr n p made n' hw se hh depth hd
    cases lookup with
    | deferred i d => simp [CS.writable] at hwr
    | bytes bs =>
      simp only [CS.writable, Bool.and_eq_true, decide_eq_true_eq] at hwr
      obtain ⟨hbw, hh256⟩ := hwr
      simp only [csWrite] at hw
      cases hb : csWrite n base with
      | error e => simp [hb] at hw
      | ok r =>
        rcases r with ⟨pb, mb, n1⟩
        simp only [hb] at hw
        cases depth with
        | zero => simp [CS.nesting] at hd
        | succ d =>
          have hdb : base.nesting ≤ d := by simp [CS.nesting] at hd; omega
          have hu8 : asU8 (.int (hival : Int)) = .ok hival := by
            simp [asU8]; omega
          by_cases hlen : bs.length < 100
          · simp only [hlen, if_true] at hw
            cases hw
            have hbase := ih hbw n pb made n' hb se hh d hdb
            simp [csRead, csHead, resolveO, csFamily, hbase, hu8, readLookup, lookupObj]
          · simp only [hlen, if_false] at hw
            cases hw
            have hhb : Holds se mb := fun e he => hh e (List.mem_append_left _ he)
            have hbase := ih hbw n pb mb n1 hb se hhb d hdb
            have hs : se.streams n1 = some ([("Length", .int bs.length)], bs) :=
              hh (n1, [("Length", .int bs.length)], bs) (by simp)
            have hn : ¬ ((bs.length : Int) < 0) := by omega
            simp [csRead, csHead, resolveO, csFamily, hbase, hu8, readLookup, lookupObj, hs, hasFileKeys,
              unitStreamData, dget, hn]
  | _ => intro hwr; simp [CS.writable] at hwr

/-- what the writer does not implement (`unimplemented!()`): every family but DeviceRGB, DeviceCMYK and Indexed -/
theorem csWrite_unimplemented (n : Nat) :
    csWrite n .deviceGray = .error .oof ∧ csWrite n .pattern = .error .oof ∧
    (∀ x, csWrite n (.named x) = .error .oof) ∧
    (∀ a b c, csWrite n (.separation a b c) = .error .oof) ∧
    (∀ a, csWrite n (.icc a) = .error .oof) ∧
    (∀ a b c d, csWrite n (.deviceN a b c d) = .error .oof) ∧
    (∀ d, csWrite n (.calGray d) = .error .oof) ∧ (∀ d, csWrite n (.calRGB d) = .error .oof) ∧
    (∀ d, csWrite n (.calCMYK d) = .error .oof) ∧ (∀ a, csWrite n (.other a) = .error .oof) := by
  refine ⟨rfl, rfl, fun _ => rfl, fun _ _ _ => rfl, fun _ => rfl, fun _ _ _ _ => rfl, fun _ => rfl, fun _ => rfl,
    fun _ => rfl, fun _ => rfl⟩

end CSLoad
