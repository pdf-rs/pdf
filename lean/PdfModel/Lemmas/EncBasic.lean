import PdfModel.Model.Enc
import PdfModel.Spec.Codecs
import PdfModel.Lemmas.ByteSweep

/-! Shared helpers for the C05/C16 proofs: white-space sprinkling, `takeWhile`/`dropWhile` up to a stop byte. -/

namespace Codecs

theorem Sprinkled.refl : ∀ t : Bytes, Sprinkled t t
  | [] => .nil
  | b :: t => .keep b (Sprinkled.refl t)

/-- removing the white-space from the sprinkled text gives the core back (if the core has none) -/
theorem Sprinkled.filter_eq {core text : Bytes} (h : Sprinkled core text)
    (hc : ∀ c ∈ core, isWs c = false) : text.filter (fun b => !isWs b) = core := by
  induction h with
  | nil => rfl
  | keep b _ ih =>
    have hb : isWs b = false := hc b (by simp)
    simp [List.filter, hb]
    exact ih (fun c hc' => hc c (by simp [hc']))
  | ws w hw _ ih =>
    simp [List.filter, hw]
    exact ih hc

/-- every character of the sprinkled text is a core character or white-space -/
theorem Sprinkled.mem {core text : Bytes} (h : Sprinkled core text) :
    ∀ c ∈ text, c ∈ core ∨ isWs c = true := by
  induction h with
  | nil => intro c hc; simp at hc
  | keep b _ ih =>
    intro c hc
    rcases List.mem_cons.mp hc with rfl | hc
    · exact .inl (List.mem_cons_self ..)
    · exact (ih c hc).imp (List.mem_cons_of_mem _) id
  | ws w hw _ ih =>
    intro c hc
    rcases List.mem_cons.mp hc with rfl | hc
    · exact .inr hw
    · exact ih c hc

/-- a sprinkled text splits at any core character -/
theorem Sprinkled.split {a b : Bytes} {x : UInt8} {text : Bytes} (h : Sprinkled (a ++ x :: b) text) :
    ∃ t1 t2, text = t1 ++ x :: t2 ∧ Sprinkled a t1 ∧ Sprinkled b t2 := by
  generalize hc : a ++ x :: b = core at h
  induction h generalizing a with
  | nil => simp at hc
  | keep y hs ih =>
    cases a with
    | nil =>
      simp at hc
      obtain ⟨rfl, rfl⟩ := hc
      exact ⟨[], _, rfl, .nil, hs⟩
    | cons a0 a' =>
      simp at hc
      obtain ⟨rfl, rfl⟩ := hc
      obtain ⟨t1, t2, rfl, h1, h2⟩ := ih rfl
      exact ⟨a0 :: t1, t2, rfl, .keep a0 h1, h2⟩
  | ws w hw _ ih =>
    obtain ⟨t1, t2, rfl, h1, h2⟩ := ih hc
    exact ⟨w :: t1, t2, rfl, .ws w hw h1, h2⟩

theorem takeWhile_append_stop {p : UInt8 → Bool} {pre : Bytes} {x : UInt8} {post : Bytes}
    (hpre : ∀ c ∈ pre, p c = true) (hx : p x = false) : (pre ++ x :: post).takeWhile p = pre := by
  rw [List.takeWhile_append_of_pos hpre, List.takeWhile_cons_of_neg (by simp [hx]), List.append_nil]

theorem dropWhile_append_stop {p : UInt8 → Bool} {pre : Bytes} {x : UInt8} {post : Bytes}
    (hpre : ∀ c ∈ pre, p c = true) (hx : p x = false) : (pre ++ x :: post).dropWhile p = x :: post := by
  rw [List.dropWhile_append_of_pos hpre, List.dropWhile_cons_of_neg (by simp [hx])]

end Codecs
