import PdfModel.Lemmas.TotalOpen
import PdfModel.Lemmas.XrefWalk

/-! Size bounds that make the fuel of the resolver a linear function of the file (C01, `read_core_linear`): the
    table `read_xref_table_and_trailer` hands on has at most `MAX_ID + 1` slots, whatever the sections say. -/

namespace Offsets
open OffLex Xref

variable {V T : Type}

theorem prevLoop_length (P : Parsers V T) (buf : Bytes) (start : Nat) :
    ∀ (fuel : Nat) (seen : List Nat) (pv : Option Nat) (t t' : Table),
      prevLoop P buf start fuel seen pv t = .ok t' → t'.length = t.length := by
  intro fuel
  induction fuel with
  | zero => intro seen pv t t' h; cases pv <;> simp [prevLoop] at h; subst h; rfl
  | succ fuel ih =>
    intro seen pv t t' h
    cases pv with
    | none => simp [prevLoop] at h; subst h; rfl
    | some v =>
      -- the only way to `ok` leads through every step's `ok`
      simp only [prevLoop] at h
      split at h
      · cases h
      split at h <;> try cases h
      split at h <;> try cases h
      split at h <;> try cases h
      rename_i ha
      have hl := addSubs_length _ ha
      split at h <;> try cases h
      · exact hl
      · rw [ih _ _ _ _ h, hl]

/-- the merged table has at most `MAX_ID + 1` slots (in the proof: it keeps the `/Size + 1` slots it starts with, and a
    `/Size` above `MAX_ID` is an error) -/
theorem loadTable_length (P : Parsers V T) (fuel : Nat) (buf : Bytes) (start : Nat) (t : Table) (tr : T)
    (h : loadTable P fuel buf start = .ok (t, tr)) : t.length ≤ maxId + 1 := by
  unfold loadTable at h
  split at h <;> try cases h
  split at h <;> try cases h
  split at h <;> try cases h
  split at h <;> try cases h
  split at h
  · cases h
  rename_i size _ hmax
  split at h <;> try cases h
  rename_i t1 ha
  have hl : t1.length = size + 1 := by rw [addSubs_length _ ha, newTable_length]
  split at h <;> try cases h
  · omega
  · split at h <;> cases h
    rw [prevLoop_length P buf start _ _ _ _ _ ‹_›]; omega

end Offsets
