import PdfModel.Lemmas.EncTiff
import PdfModel.Lemmas.LzwDecode

/-! Error clause: every decoder of the model returns a value or an error on every input. -/

namespace Enc
open Codecs

theorem hexPair_returns (h l : UInt8) : (hexPair h l).Returns := by
  unfold hexPair; split
  · exact .ok _
  · exact .err

theorem decodeHexDigits_returns (l : Bytes) : (decodeHexDigits l).Returns := by
  fun_induction decodeHexDigits l <;> grind [Out.Returns, hexPair_returns]

theorem tail85_returns (a b c d e : UInt8) (k : Nat) : (tail85 a b c d e k).Returns := by
  unfold tail85; split
  · exact .ok _
  · exact .err

theorem decode85Groups_returns (l : Bytes) : (decode85Groups l).Returns := by
  fun_induction decode85Groups l <;> grind [Out.Returns, tail85_returns]

theorem decode85_returns (d : Bytes) : (decode85 d).Returns := by
  unfold decode85
  dsimp only
  rcases (decode85Groups_returns ((d.filter fun b => !ws85 b).takeWhile (· != 126))).cases.symm with ⟨t, e⟩ | e <;> rw [e]
  · dsimp only; split
    · exact .ok _
    · exact .err
  · exact .err

/-- `unfilter` panics exactly when its three slices differ in length (the two `assert_eq!`s); otherwise it returns a row of
    that length — it never reports an error -/
theorem unfilter_spec (t : PredictorType) (bpp : Nat) (prev inp out : Bytes) :
    (inp.length = out.length ∧ inp.length = prev.length ∧ ∃ o, unfilter t bpp prev inp out = .ok o ∧ o.length = out.length) ∨
    (¬ (inp.length = out.length ∧ inp.length = prev.length) ∧ unfilter t bpp prev inp out = .panic) := by
  have hset : ∀ (f : Nat → Bytes → UInt8) (lo n : Nat) (o : Bytes),
      (forFrom (fun i o => o.set i (f i o)) lo n o).length = o.length :=
    fun f lo n o => forFrom_inv (fun _ o' => o'.length = o.length) _ n lo o rfl fun _ _ _ _ h => List.length_set.trans h
  fun_cases unfilter t bpp prev inp out
  · exact .inr ⟨fun h => absurd h.1 ‹_›, rfl⟩
  · exact .inr ⟨fun h => absurd h.2 ‹_›, rfl⟩
  all_goals refine .inl ⟨Decidable.not_not.mp ‹_›, Decidable.not_not.mp ‹_›, _, rfl, ?_⟩
  · rfl
  · exact Decidable.not_not.mp ‹_›
  · rw [hset, List.length_append, List.length_take, List.length_drop]; omega
  · exact hset ..
  · rw [hset, hset]
  · rw [hset, hset]

theorem unfilter_ok (t : PredictorType) (bpp : Nat) (prev inp out : Bytes)
    (h1 : inp.length = out.length) (h2 : inp.length = prev.length) :
    ∃ o, unfilter t bpp prev inp out = .ok o ∧ o.length = out.length :=
  (unfilter_spec t bpp prev inp out).elim (·.2.2) (fun h => absurd ⟨h1, h2⟩ h.1)

theorem unfilter_no_err (t : PredictorType) (bpp : Nat) (prev inp out : Bytes) :
    unfilter t bpp prev inp out ≠ .err ∧ unfilter t bpp prev inp out ≠ .oof := by
  rcases unfilter_spec t bpp prev inp out with ⟨_, _, o, h, _⟩ | ⟨_, h⟩ <;> rw [h] <;> exact ⟨nofun, nofun⟩

theorem length_take_drop {l : Bytes} {i n : Nat} (h : i + n ≤ l.length) : ((l.drop i).take n).length = n := by
  rw [List.length_take, List.length_drop]; omega

theorem length_splice {l row : Bytes} {i n : Nat} (h : i + n ≤ l.length) (hr : row.length = n) :
    (l.take i ++ row ++ l.drop (i + n)).length = l.length := by
  rw [List.length_append, List.length_append, List.length_take, List.length_drop]; omega

/-- the row loop never panics and never runs out of fuel, whatever bytes it is given: `m` rows of the output
    are still unwritten, and the input has no room for more than `m` further rows -/
theorem pngLoop_returns (bpp S : Nat) (inp nullVec : Bytes) (hnull : nullVec.length = S) :
    ∀ (fuel m inOff outOff lastOff : Nat) (out : Bytes),
      inp.length < inOff + (m + 1) * (S + 1) → out.length = outOff + m * S → inOff ≤ inp.length →
      inp.length < fuel + inOff → (outOff = 0 ∨ lastOff + S = outOff) →
      (pngLoop bpp S inp nullVec fuel inOff outOff lastOff out).Returns := by
  intro fuel
  induction fuel with
  | zero => intro m inOff outOff lastOff out _ _ hle hf; omega
  | succ f ih =>
    intro m inOff outOff lastOff out hin hout hle hf hlast
    by_cases hcond : inOff + S < inp.length
    · cases m with
      | zero => omega
      | succ m =>
        rw [Nat.succ_mul] at hin hout
        have hi : inOff + 1 + S ≤ inp.length := by omega
        have ho : outOff + S ≤ out.length := by omega
        have hlt : inOff < inp.length := Nat.lt_of_le_of_lt (Nat.le_add_right _ _) hcond
        cases ht : predictorOfU8 (inp[inOff]'hlt) with
        | none =>
          rw [pngLoop, if_neg (not_not_intro hcond), List.getElem?_eq_getElem hlt]
          dsimp only
          rw [ht]
          exact .err
        | some t =>
          have hl : outOff ≠ 0 → lastOff + S = outOff := hlast.resolve_left
          have hprev : (if outOff = 0 then nullVec else (out.take outOff).drop lastOff).length = S := by
            split
            · exact hnull
            · rw [List.length_drop, List.length_take, Nat.min_eq_left (by omega), ← hl ‹_›, Nat.add_sub_cancel_left]
          obtain ⟨row, hrow, hrl⟩ := unfilter_ok t bpp _ _ _
            ((length_take_drop hi).trans (length_take_drop ho).symm) ((length_take_drop hi).trans hprev.symm)
          rw [pngLoop_step f hi (List.getElem?_eq_getElem hlt) ht ho (fun h => by have := hl h; omega) rfl hrow]
          exact ih m _ _ _ _ (by omega) (by rw [length_splice ho (hrl.trans (length_take_drop ho))]; omega)
            (by omega) (by omega) (Or.inr rfl)
    · rw [pngLoop, if_pos hcond]
      exact .ok out

theorem predictorGeometry_returns (p : Params) : (predictorGeometry p).Returns := by
  unfold predictorGeometry
  split
  · exact .err
  · dsimp only; split
    · exact .ok _
    · exact .err

/-- `unpredict` returns a value or an error for every byte string and every parameter set -/
theorem unpredict_returns (decoded : Bytes) (p : Params) : (unpredict decoded p).Returns := by
  unfold unpredict
  rcases (predictorGeometry_returns p).cases.symm with ⟨⟨bpp, S⟩, hg⟩ | hg <;> rw [hg]
  · dsimp only
    split
    · split
      · exact .ok _
      · exact pngLoop_returns bpp S decoded _ List.length_replicate _ (decoded.length / (S + 1)) 0 0 0 _
          (by rw [Nat.zero_add]; exact (Nat.div_lt_iff_lt_mul (Nat.succ_pos S)).mp (Nat.lt_succ_self _)) (by rw [List.length_replicate, Nat.zero_add])
          (Nat.zero_le _) (Nat.lt_succ_self _) (.inl rfl)
    · split
      · unfold tiffUnpredict
        rw [if_neg (by have := (geometry_spec hg).2; omega)]
        exact chunksLoop_returns _ S (by have := (geometry_spec hg).2; omega) _ _ (Nat.lt_succ_self _)
      · exact .ok _
  · split
    · exact .err
    · split
      · exact .err
      · exact .ok _

theorem decodeHex_returns (d : Bytes) : (decodeHex d).Returns := decodeHexDigits_returns _

theorem runLengthDecode_returns (d : Bytes) : (runLengthDecode d).Returns :=
  runLengthLoop_returns _ d (Nat.lt_succ_self _)

/-- **error clause, one filter**: whatever the third-party decoders return -/
theorem decode_returns (X : Ext) (d : Bytes) (f : Filter) : (decode X d f).Returns := by
  cases f with
  | asciiHex => exact decodeHex_returns d
  | ascii85 => exact decode85_returns d
  | runLength => exact runLengthDecode_returns d
  | lzw p =>
    simp only [decode, lzwDecode]
    rcases (Lzw.decode_returns (decide (p.earlyChange ≠ 0)) d).cases.symm with ⟨t, e⟩ | e <;> rw [e]
    · exact unpredict_returns _ p
    · exact .err
  | flate p =>
    simp only [decode, flateDecode]
    split
    · exact unpredict_returns _ p
    · split
      · exact unpredict_returns _ p
      · exact .err
  | dct =>
    simp only [decode]; split
    · exact .ok _
    · exact .err
  | jpx | ccittFax | jbig2 | crypt => exact .err

/-- **error clause, chains** -/
theorem decodeChain_returns (X : Ext) : ∀ (fs : List Filter) (d : Bytes), (decodeChain X d fs).Returns := by
  intro fs
  induction fs with
  | nil => intro d; exact .ok _
  | cons f fs ih =>
    intro d
    rw [decodeChain]
    rcases (decode_returns X d f).cases.symm with ⟨t, e⟩ | e <;> rw [e]
    · exact ih t
    · exact .err

end Enc
