import PdfModel.Spec.Render
import PdfModel.Lemmas.Parser
import PdfModel.Lemmas.Serialize
import PdfModel.Lemmas.Sequence

/-! The randomized printer of `Spec/Render` only produces conformant spellings (`Spec/Syntax`), whatever the
    tape: so every rendering the harness generates lies in the domain of the C03 theorems. -/

namespace PdfSpec
open PdfLex
open PdfSyntax (Gap Bnd NatTok IntTok NameBody HexBody LitBody HexWs Spells SpellsElems SpellsEntries Digits digitsVal)

/-! ### gaps -/

theorem wsByte_ws (i : Nat) : PdfSyntax.isWs (wsByte i) = true := by
  unfold wsByte
  split <;> decide

theorem commentBody_spec (k : Nat) (t : Tape) : ∀ b ∈ (commentBody k t).1, b ≠ 10 ∧ b ≠ 13 := by
  induction k generalizing t with
  | zero => simp [commentBody]
  | succ k ih =>
    intro b hb
    simp only [commentBody] at hb
    simp at hb
    rcases hb with rfl | hb
    · split
      · decide
      · rename_i h
        simp at h
        have hlt : (draw 256 t).1 < 256 := by
          unfold draw; split <;> simp <;> omega
        have key : ∀ k : UInt8, UInt8.ofNat (draw 256 t).1 = k → (draw 256 t).1 = k.toNat := fun k e => by
          simpa [Nat.mod_eq_of_lt hlt] using congrArg UInt8.toNat e
        exact ⟨fun e => h.1 (key 10 e), fun e => h.2 (key 13 e)⟩
    · exact ih _ b hb

theorem gapPiece_spec (t : Tape) (g : List UInt8) (hg : Gap g) : Gap ((gapPiece t).1 ++ g) := by
  unfold gapPiece
  simp only []
  split
  · simpa using Gap.ws _ _ (wsByte_ws _) hg
  · simp only []
    split
    · have := Gap.comment _ 10 g (commentBody_spec (draw 4 (draw 8 t).2).1 (draw 4 (draw 8 t).2).2) (Or.inl rfl) hg
      simpa using this
    · split
      · have := Gap.comment _ 13 g (commentBody_spec (draw 4 (draw 8 t).2).1 (draw 4 (draw 8 t).2).2) (Or.inr rfl) hg
        simpa using this
      · have := Gap.comment _ 13 (10 :: g) (commentBody_spec (draw 4 (draw 8 t).2).1 (draw 4 (draw 8 t).2).2) (Or.inr rfl)
          (Gap.ws 10 g (by decide) hg)
        simpa using this

theorem gapPieces_spec (k : Nat) (t : Tape) : Gap (gapPieces k t).1 := by
  induction k generalizing t with
  | zero => exact Gap.nil
  | succ k ih =>
    simp only [gapPieces]
    exact gapPiece_spec t _ (ih _)

theorem gap_spec (must : Bool) (t : Tape) : Gap (gap must t).1 ∧ (must = true → (gap must t).1 ≠ []) := by
  unfold gap
  simp only []
  split
  · rename_i h
    exact ⟨Gap.ws 32 [] (by decide) Gap.nil, fun _ => by simp⟩
  · rename_i h
    refine ⟨gapPieces_spec _ _, fun hm => ?_⟩
    simp [hm] at h
    exact h


/-! ### numbers -/

theorem digitsVal_zeros (k : Nat) (ds : List UInt8) : digitsVal (zeros k ++ ds) = digitsVal ds := by
  induction k with
  | zero => rfl
  | succ k ih =>
    have : digitsVal (48 :: (zeros k ++ ds)) = digitsVal (zeros k ++ ds) := by simp [digitsVal]
    simpa [zeros, ih] using this

theorem zeros_digits (k : Nat) : Digits (zeros k) := by
  induction k with
  | zero => intro b hb; simp [zeros] at hb
  | succ k ih => intro b hb; simp [zeros] at hb; rcases hb with rfl | hb; decide; exact ih b hb

theorem natTok_conformant (n : Nat) (t : Tape) : NatTok (natTok n t).1 n := by
  obtain ⟨hne, hd, hv⟩ := fmtNat_spec n
  unfold natTok
  simp only []
  refine ⟨by simp [hne], ?_, ?_⟩
  · intro b hb; simp at hb; rcases hb with hb | hb
    · exact zeros_digits _ b hb
    · exact hd b hb
  · rw [digitsVal_zeros, hv]

theorem intTok_conformant (i : Int) (t : Tape) : IntTok (intTok i t).1 i := by
  unfold intTok
  simp only []
  obtain ⟨hne, hd, hv⟩ := natTok_conformant i.natAbs (draw 3 t).2
  refine ⟨_, hne, hd, ?_⟩
  by_cases h0 : i < 0
  · simp only [h0, if_true]; right; right; exact ⟨rfl, by rw [hv]; omega⟩
  · simp only [h0, if_false]
    by_cases h1 : ((draw 3 t).1 == 1) = true
    · simp only [h1, if_true]; right; left; exact ⟨rfl, by rw [hv]; omega⟩
    · simp only [h1]
      by_cases h2 : ((draw 3 t).1 == 2 && i == 0) = true
      · simp only [h2, if_true]; right; right
        simp at h2
        exact ⟨rfl, by rw [hv, h2.2]; simp⟩
      · simp only [h2]; left; exact ⟨by simp, by rw [hv]; omega⟩

/-! ### names -/

theorem hexDigitCase_val : ∀ n : UInt8, n < 16 →
    PdfSyntax.hexVal (hexDigitCase n true) = some n ∧ PdfSyntax.hexVal (hexDigitCase n false) = some n := by decide +kernel

theorem hexVal_hexDigitCase {n : UInt8} (hn : n < 16) (u : Bool) : PdfSyntax.hexVal (hexDigitCase n u) = some n := by
  cases u
  · exact (hexDigitCase_val n hn).2
  · exact (hexDigitCase_val n hn).1

theorem hex2Case_fst (b : UInt8) (t : Tape) : ∃ u1 u2, (hex2Case b t).1 = [hexDigitCase (b >>> 4) u1, hexDigitCase (b &&& 15) u2] :=
  ⟨_, _, rfl⟩

theorem nameBody_conformant (s : List UInt8) (t : Tape) : NameBody (nameBody s t).1 s := by
  induction s generalizing t with
  | nil => exact NameBody.nil
  | cons b s ih =>
    simp only [nameBody]
    split
    · rename_i h
      simp at h
      obtain ⟨h1, h2⟩ := nameVerbatim_spec b h.1
      exact NameBody.raw b _ _ h1 h2 (ih _)
    · obtain ⟨u1, u2, e⟩ := hex2Case_fst b (draw 4 (nameBody s t).2).2
      obtain ⟨l1, l2, h3⟩ := nibbles b
      have key := NameBody.esc _ _ _ _ _ _ (hexVal_hexDigitCase l1 u1) (hexVal_hexDigitCase l2 u2) (ih t)
      rw [h3] at key
      simp only []
      rw [e]
      simpa using key

/-! ### hexadecimal strings -/

theorem hexWs_spec (t : Tape) : HexWs (hexWs t).1 := by
  unfold hexWs
  simp only []
  split
  · intro b hb; simp at hb; subst hb; exact wsByte_ws _
  · split
    · intro b hb; simp at hb; rcases hb with rfl | rfl <;> exact wsByte_ws _
    · intro b hb; simp at hb

theorem hexBody_conformant (s : List UInt8) (t : Tape) : HexBody (hexBody s t).1 s := by
  induction s generalizing t with
  | nil => exact HexBody.close _ (hexWs_spec t)
  | cons b s ih =>
    simp only [hexBody]
    obtain ⟨u1, u2, e⟩ := hex2Case_fst b (hexBody s t).2
    obtain ⟨l1, l2, h3⟩ := nibbles b
    rw [e]
    simp only []
    split
    · rename_i h
      simp at h
      obtain ⟨⟨hs, hlow⟩, _⟩ := h
      subst hs
      have hr : (hexBody [] t).1 = (hexWs t).1 ++ [62] := rfl
      rw [hr]
      have key := HexBody.odd (hexWs (hex2Case b (hexBody [] t).2).2).1 (hexWs t).1 _ _ (hexWs_spec _) (hexWs_spec t)
        (hexVal_hexDigitCase l1 u1)
      have hv : (b >>> 4) * 16 = b := by
        have := h3; rw [hlow] at this; simpa using this
      rw [hv] at key
      simpa using key
    · have key := HexBody.byte (hexWs (hex2Case b (hexBody s t).2).2).1
        (hexWs (hexWs (hex2Case b (hexBody s t).2).2).2).1 _ _ _ _ _ _ (hexWs_spec _) (hexWs_spec _)
        (hexVal_hexDigitCase l1 u1) (hexVal_hexDigitCase l2 u2) (ih t)
      rw [h3] at key
      simpa using key


/-! ### literal strings -/

open PdfSyntax (NoLf NoOct namedEscape isOct)

/-- the digits `octalEsc` writes for the byte `b` (`octDigit n` = the octal digit of `n % 8`) are octal digits and denote `b`
    again: one digit when `b < 8`, two when `b < 64`, three always, and three with the ignored high-order bit set
    (`\4dd`…`\7dd`: first digit taken from `b + 256`) -/
theorem oct_forms : ∀ b : UInt8,
    (b.toNat < 8 → isOct (octDigit b.toNat) = true ∧ octDigit b.toNat - 48 = b) ∧
    (b.toNat < 64 → isOct (octDigit (b.toNat / 8)) = true ∧ isOct (octDigit b.toNat) = true ∧
      (octDigit (b.toNat / 8) - 48) * 8 + (octDigit b.toNat - 48) = b) ∧
    (isOct (octDigit (b.toNat / 64)) = true ∧ isOct (octDigit (b.toNat / 8)) = true ∧ isOct (octDigit b.toNat) = true ∧
      (octDigit (b.toNat / 64) - 48) * 64 + (octDigit (b.toNat / 8) - 48) * 8 + (octDigit b.toNat - 48) = b) ∧
    (isOct (octDigit ((b.toNat + 256) / 64)) = true ∧
      (octDigit ((b.toNat + 256) / 64) - 48) * 64 + (octDigit (b.toNat / 8) - 48) * 8 + (octDigit b.toNat - 48) = b) := by
  decide +kernel

theorem octalEsc_spec (b : UInt8) (k : Nat) (r s : List UInt8) (n : Nat) (hl : LitBody r n s) :
    LitBody (octalEsc b.toNat k r.head? ++ r) n (b :: s) := by
  obtain ⟨f1, f2, f3, _⟩ := oct_forms b
  cases r with
  | nil => exact absurd rfl (litBody_ne_nil hl)
  | cons c r' =>
    simp only [octalEsc, List.head?_cons]
    by_cases hf : isOctal c = true
    · simp only [hf, if_true]
      obtain ⟨o1, o2, o3, ov⟩ := f3
      have := LitBody.oct3 _ _ _ _ _ _ o1 o2 o3 hl
      rw [ov] at this
      simpa using this
    · have hno : NoOct (c :: r') := by simpa [NoOct, ← isOctal_eq] using hf
      simp only [hf, Bool.false_eq_true, if_false]
      generalize hm : max (if b.toNat ≥ 64 then 3 else if b.toNat ≥ 8 then 2 else 1) k = m
      by_cases h1 : m = 1
      · have hv : b.toNat < 8 := by
          subst h1
          by_cases h64 : b.toNat ≥ 64
          · simp [h64] at hm; omega
          · by_cases h8 : b.toNat ≥ 8
            · simp [h64, h8] at hm; omega
            · omega
        obtain ⟨o1, ov⟩ := f1 hv
        have := LitBody.oct1 _ _ _ _ o1 hno hl
        rw [ov] at this
        simpa [h1] using this
      · by_cases h2 : m = 2
        · have hv : b.toNat < 64 := by
            subst h2
            by_cases h64 : b.toNat ≥ 64
            · simp [h64] at hm; omega
            · omega
          obtain ⟨o1, o2, ov⟩ := f2 hv
          have := LitBody.oct2 _ _ _ _ _ o1 o2 hno hl
          rw [ov] at this
          simpa [h2] using this
        · obtain ⟨o1, o2, o3, ov⟩ := f3
          have := LitBody.oct3 _ _ _ _ _ _ o1 o2 o3 hl
          rw [ov] at this
          simpa [h1, h2] using this

theorem continuation_spec (x s : List UInt8) (n : Nat) (t : Tape) (hl : LitBody x n s) :
    LitBody ((continuation x.head? t).1 ++ x) n s := by
  unfold continuation
  simp only []
  split
  · exact LitBody.contLf _ _ _ hl
  · split
    · exact LitBody.contCrLf _ _ _ hl
    · split
      · rename_i h
        simp at h
        exact LitBody.contCr _ _ _ (by simpa [NoLf] using h.2) hl
      · simpa using hl


theorem plainAfterBackslash_spec (c : UInt8) (h : plainAfterBackslash c = true) :
    namedEscape c = none ∧ isOct c = false ∧ c ≠ 10 ∧ c ≠ 13 := by
  simp only [plainAfterBackslash, Bool.not_eq_true', Bool.or_eq_false_iff, beq_eq_false_iff_ne, isOctal_eq] at h
  obtain ⟨⟨⟨⟨⟨⟨⟨⟨⟨⟨n1, n2⟩, n3⟩, n4⟩, n5⟩, n6⟩, n7⟩, n8⟩, h10⟩, h13⟩, ho⟩ := h
  refine ⟨?_, ho, h10, h13⟩
  simp only [namedEscape, beq_iff_eq, n1, n2, n3, n4, n5, n6, n7, n8, if_false]

/-- `n'` is the parenthesis level after `b`, `n` the level before it; `h40 / h41 / hoth` say how the two are related in the three
    cases in which `litBody` calls this (raw `(`, raw `)`, anything else), in the form `rawOkFrom` delivers them.
    The proof follows the chain of `strPiece`: raw parenthesis; octal escape (`octalEsc_spec`); octal with overflow
    (`oct_forms`); then byte by byte LF, CR, backslash, parentheses, HT, BS, FF (named escapes, `either` where the raw byte is
    allowed too), an ignored backslash, the plain byte. -/
theorem strPiece_spec (b : UInt8) (raw : Bool) (r s : List UInt8) (n n' : Nat) (t : Tape) (hl : LitBody r n' s)
    (h40 : (raw && b == 40) = true → n' = n + 1) (h41 : (raw && b == 41) = true → n = n' + 1)
    (hoth : ((b == 40 || b == 41) && raw) = false → n' = n) :
    LitBody ((strPiece b raw r.head? t).1 ++ r) n (b :: s) := by
  unfold strPiece
  simp only []
  generalize (draw 12 t).fst = c
  generalize (draw 3 (draw 12 t).snd).snd = t'
  -- `split` on a chain this long is very slow: each condition is decided by hand
  by_cases hraw : ((b == 40 || b == 41) && raw) = true
  · rw [if_pos hraw]
    simp at hraw
    rcases hraw.1 with rfl | rfl
    · cases h40 (by simp [hraw.2]); exact LitBody.popen _ _ _ hl
    · cases h41 (by simp [hraw.2]); exact LitBody.pclose _ _ _ hl
  cases hoth (by simpa using hraw)
  rw [if_neg hraw]
  by_cases hc0 : (c == 0) = true
  · rw [if_pos hc0]; exact octalEsc_spec b _ r s _ hl
  rw [if_neg hc0]
  by_cases hc1 : (c == 1 && decide (b.toNat < 256)) = true
  · rw [if_pos hc1]
    obtain ⟨_, _, ⟨_, o2, o3, _⟩, o1, ov⟩ := oct_forms b
    have := LitBody.oct3 _ _ _ _ _ _ o1 o2 o3 hl
    rwa [ov] at this
  rw [if_neg hc1]
  have named : ∀ e, namedEscape e = some b → LitBody (92 :: e :: r) n (b :: s) :=
    fun e he => LitBody.named e b _ _ _ he hl
  have plain : b ≠ 40 → b ≠ 41 → b ≠ 92 → b ≠ 13 → LitBody (b :: r) n (b :: s) :=
    fun p1 p2 p3 p4 => LitBody.plain b _ _ _ p1 p2 p3 p4 hl
  have either : ∀ e, namedEscape e = some b → b ≠ 40 → b ≠ 41 → b ≠ 92 → b ≠ 13 →
      LitBody ((if c < 6 then [92, e] else [b]) ++ r) n (b :: s) := by
    intro e he p1 p2 p3 p4; split
    · exact named e he
    · exact plain p1 p2 p3 p4
  by_cases h10 : (b == 10) = true
  · rw [if_pos h10]; cases eq_of_beq h10
    have lf := plain (by decide) (by decide) (by decide) (by decide)
    by_cases h5 : c < 5
    · rw [if_pos h5]; exact named 110 rfl
    rw [if_neg h5]
    by_cases h8 : c < 8
    · rw [if_pos h8]; exact lf
    rw [if_neg h8]
    by_cases h9 : c < 10
    · rw [if_pos h9]; exact LitBody.crlf _ _ _ hl
    rw [if_neg h9]
    by_cases hnl : (r.head? == some 10) = true
    · rw [if_pos hnl]; exact lf
    · rw [if_neg hnl]; exact LitBody.cr _ _ _ (by simpa [NoLf] using hnl) hl
  rw [if_neg h10]
  by_cases h13 : (b == 13) = true
  · rw [if_pos h13]; cases eq_of_beq h13; exact named 114 rfl
  rw [if_neg h13]
  by_cases h92 : (b == 92) = true
  · rw [if_pos h92]; cases eq_of_beq h92; exact named 92 rfl
  rw [if_neg h92]
  by_cases hp : (b == 40 || b == 41) = true
  · rw [if_pos hp]
    rcases Bool.or_eq_true .. |>.mp hp with h | h <;> cases eq_of_beq h
    · exact named 40 rfl
    · exact named 41 rfl
  rw [if_neg hp]
  by_cases h9 : (b == 9) = true
  · rw [if_pos h9]; cases eq_of_beq h9
    exact either 116 rfl (by decide) (by decide) (by decide) (by decide)
  rw [if_neg h9]
  by_cases h8 : (b == 8) = true
  · rw [if_pos h8]; cases eq_of_beq h8
    exact either 98 rfl (by decide) (by decide) (by decide) (by decide)
  rw [if_neg h8]
  by_cases h12 : (b == 12) = true
  · rw [if_pos h12]; cases eq_of_beq h12
    exact either 102 rfl (by decide) (by decide) (by decide) (by decide)
  rw [if_neg h12]
  by_cases hpl : (c == 2 && plainAfterBackslash b) = true
  · rw [if_pos hpl]
    obtain ⟨p1, p2, p3, p4⟩ := plainAfterBackslash_spec b (Bool.and_eq_true .. |>.mp hpl).2
    exact LitBody.ignored b _ _ _ p1 p2 p3 p4 hl
  · rw [if_neg hpl]
    simp at hp h92 h13
    exact plain hp.1 hp.2 h92 h13

theorem litBody_spec (s : List UInt8) : ∀ (raws : List Bool) (n : Nat) (t : Tape), rawOkFrom n s raws = true →
    LitBody (litBody s raws t).1 n s := by
  induction s with
  | nil =>
    intro raws n t h
    simp [rawOkFrom] at h; subst h
    simp only [litBody]
    have := continuation_spec [41] [] 0 t LitBody.close
    simpa using this
  | cons b bs ih =>
    intro raws n t h
    simp only [litBody]
    simp only [rawOkFrom] at h
    generalize raws.head?.getD false = raw at h ⊢
    -- the level after `b`, and what `strPiece_spec` asks of it
    obtain ⟨n', hr, h40, h41, hoth⟩ : ∃ n', rawOkFrom n' bs (raws.drop 1) = true ∧ ((raw && b == 40) = true → n' = n + 1) ∧
        ((raw && b == 41) = true → n = n' + 1) ∧ (((b == 40 || b == 41) && raw) = false → n' = n) := by
      by_cases h40 : (raw && b == 40) = true
      · rw [if_pos h40] at h
        simp only [Bool.and_eq_true, beq_iff_eq] at h40
        exact ⟨n + 1, h, fun _ => rfl, fun h41 => by simp [h40.2] at h41, fun hf => by simp [h40.1, h40.2] at hf⟩
      rw [if_neg h40] at h
      by_cases h41 : (raw && b == 41) = true
      · rw [if_pos h41] at h
        simp only [Bool.and_eq_true, decide_eq_true_eq, beq_iff_eq] at h h41
        exact ⟨n - 1, h.2, fun h => absurd h h40, fun _ => by omega, fun hf => by simp [h41.1, h41.2] at hf⟩
      rw [if_neg h41] at h
      exact ⟨n, h, fun h => absurd h h40, fun h => absurd h h41, fun _ => rfl⟩
    have hp := strPiece_spec b raw _ bs n n' (litBody bs (raws.drop 1) t).2 (ih _ n' t hr) h40 h41 hoth
    simpa using continuation_spec _ (b :: bs) n (strPiece b raw (litBody bs (raws.drop 1) t).1.head? (litBody bs (raws.drop 1) t).2).2 hp

theorem rawOkFrom_nil (s : List UInt8) (n : Nat) : rawOkFrom n s [] = (n == 0) := by
  induction s generalizing n with
  | nil => rfl
  | cons b bs ih => simp [rawOkFrom, ih]

theorem raws_ok (s : List UInt8) (cand : List Bool) :
    rawOkFrom 0 s (if rawOkFrom 0 s cand = true then cand else []) = true := by
  by_cases h : rawOkFrom 0 s cand = true
  · simp [h]
  · simp [h, rawOkFrom_nil]

theorem strTok_spec {R : Type} (pr : List UInt8 → Option R) (s : List UInt8) (t : Tape) : Spells pr (.str s) (strTok s t).1 := by
  unfold strTok
  simp only [Spells]
  split
  · right; exact ⟨_, rfl, hexBody_conformant s _⟩
  · left
    exact ⟨_, rfl, litBody_spec s _ 0 _ (raws_ok s _)⟩


/-! ### values -/

variable {R : Type}

mutual
/-- what the printer can spell: 32-bit integers, object numbers within `u64`, reals for which every variant
    text derived from `f32::to_string` is a real token that `f32::from_str` maps back to the same real
    (hypothesis on third-party code, validated by the harness stream `c04.f32`), no stream below the top -/
def Renderable (fmt : R → List UInt8) (pr : List UInt8 → Option R) : Prim R → Prop
  | .int i => -2147483648 ≤ i ∧ i ≤ 2147483647
  | .real r => ∀ t, PdfSyntax.RealTok (realTok (fmt r) t).1 ∧ pr (realTok (fmt r) t).1 = some r
  | .ref id gen => id ≤ 18446744073709551615 ∧ gen ≤ 18446744073709551615
  | .arr xs => RenderableL fmt pr xs
  | .dict kvs => RenderableE fmt pr kvs
  | .stream _ _ => False
  | _ => True
def RenderableL (fmt : R → List UInt8) (pr : List UInt8 → Option R) : List (Prim R) → Prop
  | [] => True
  | x :: xs => Renderable fmt pr x ∧ RenderableL fmt pr xs
def RenderableE (fmt : R → List UInt8) (pr : List UInt8 → Option R) : List (List UInt8 × Prim R) → Prop
  | [] => True
  | (_, v) :: rest => Renderable fmt pr v ∧ RenderableE fmt pr rest
end

theorem bnd_of_gap {g r : List UInt8} (hg : Gap g) (h : g ≠ [] ∨ startsRegular r = false) : Bnd (g ++ r) := by
  by_cases hne : g = []
  · subst hne
    rcases h with h | h
    · exact absurd rfl h
    · cases r with
      | nil => simp [Bnd]
      | cons c r' => simpa [Bnd, startsRegular, isRegular_eq] using h
  · exact gap_bnd hg hne r

theorem gap_bnd_must (must : Bool) (t : Tape) (r : List UInt8) (h : must = false → startsRegular r = false) :
    Bnd ((gap must t).1 ++ r) := by
  obtain ⟨hg, hm⟩ := gap_spec must t
  apply bnd_of_gap hg
  cases must with
  | true => exact Or.inl (hm rfl)
  | false => exact Or.inr (h rfl)

theorem spellsEntries_cons (pr : List UInt8 → Option R) (k : List UInt8) (v : Prim R) (rest : List (List UInt8 × Prim R))
    (kb g1 tv g2 r : List UInt8) (h1 : NameBody kb k) (h2 : Gap g1) (h3 : Bnd (g1 ++ tv)) (h4 : Spells pr v tv) (h5 : Gap g2)
    (h6 : SpellsEntries pr rest r) (h7 : PdfSyntax.needsBnd v = true → Bnd (g2 ++ r)) :
    SpellsEntries pr ((k, v) :: rest) (47 :: kb ++ g1 ++ tv ++ g2 ++ r) := by
  simp only [SpellsEntries]
  exact ⟨kb, g1, tv, g2, r, rfl, h1, h2, h3, h4, h5, h6, h7⟩

mutual

theorem render_spells (fmt : R → List UInt8) (pr : List UInt8 → Option R) (v : Prim R) :
    Renderable fmt pr v → ∀ t, Spells pr v (render fmt v t).1 := by
  intro h t
  cases v with
  | null => simp [render, Spells, kwNull, PdfSyntax.kwNull]
  | bool b => cases b <;> simp [render, Spells, kwTrue, kwFalse, PdfSyntax.kwTrue, PdfSyntax.kwFalse]
  | int i =>
    simp only [Renderable] at h
    simp only [render, Spells]
    exact ⟨intTok_conformant i t, h.1, h.2⟩
  | real r =>
    simp only [Renderable] at h
    simp only [render, Spells]
    exact h t
  | str s => simp only [render]; exact strTok_spec pr s t
  | name s =>
    simp only [render, nameTok, Spells]
    exact ⟨_, rfl, nameBody_conformant s t⟩
  | ref id gen =>
    simp only [Renderable] at h
    simp only [render, Spells]
    refine ⟨(natTok id t).1, (gap true (natTok id t).2).1, (natTok gen (gap true (natTok id t).2).2).1,
      (gap true (natTok gen (gap true (natTok id t).2).2).2).1, rfl, natTok_conformant _ _, natTok_conformant _ _,
      (gap_spec true _).1, (gap_spec true _).2 rfl, (gap_spec true _).1, (gap_spec true _).2 rfl, h.1, h.2⟩
  | stream info inner => simp [Renderable] at h
  | arr xs =>
    simp only [Renderable] at h
    simp only [render, Spells]
    exact ⟨(gap false (renderElems fmt xs t).2).1, (renderElems fmt xs t).1, by simp, (gap_spec false _).1,
      renderElems_spells fmt pr xs h t⟩
  | dict kvs =>
    simp only [Renderable] at h
    simp only [render, Spells]
    exact ⟨(gap false (renderEntries fmt kvs t).2).1, (renderEntries fmt kvs t).1, by simp, (gap_spec false _).1,
      renderEntries_spells fmt pr kvs h t⟩

theorem renderElems_spells (fmt : R → List UInt8) (pr : List UInt8 → Option R) (xs : List (Prim R)) :
    RenderableL fmt pr xs → ∀ t, SpellsElems pr xs (renderElems fmt xs t).1 := by
  intro h t
  cases xs with
  | nil => simp [renderElems, SpellsElems]
  | cons x xs =>
    simp only [RenderableL] at h
    simp only [renderElems, SpellsElems]
    refine ⟨_, _, _, rfl, render_spells fmt pr x h.1 _, (gap_spec _ _).1, renderElems_spells fmt pr xs h.2 t, ?_⟩
    intro hb
    apply gap_bnd_must
    intro hm
    simpa [needsBnd, hb] using hm

theorem renderEntries_spells (fmt : R → List UInt8) (pr : List UInt8 → Option R) (kvs : List (List UInt8 × Prim R)) :
    RenderableE fmt pr kvs → ∀ t, SpellsEntries pr kvs (renderEntries fmt kvs t).1 := by
  intro h t
  cases kvs with
  | nil => simp [renderEntries, SpellsEntries]
  | cons kv kvs =>
    obtain ⟨k, v⟩ := kv
    simp only [RenderableE] at h
    simp only [renderEntries, nameTok]
    apply spellsEntries_cons pr k v kvs _ _ _ _ _ (nameBody_conformant k _) (gap_spec _ _).1 ?_ (render_spells fmt pr v h.1 _)
      (gap_spec _ _).1 (renderEntries_spells fmt pr kvs h.2 t) ?_
    · apply gap_bnd_must
      intro hm
      simpa using hm
    · intro hb
      apply gap_bnd_must
      intro hm
      simpa [needsBnd, hb] using hm

end


theorem spellsStream_mk (pr : List UInt8 → Option R) (info : Dict R) (data g1 ents g2 eol g3 : List UInt8)
    (h1 : Gap g1) (h2 : SpellsEntries pr info ents) (h3 : Gap g2) (h4 : eol = [10] ∨ eol = [13, 10]) (h5 : Gap g3) :
    PdfSyntax.SpellsStream pr info data ([60, 60] ++ g1 ++ ents ++ g2 ++ kwStream ++ eol ++ data ++ g3 ++ kwEndstream) :=
  ⟨g1, ents, g2, eol, g3, by simp [kwStream_eq, kwEndstream_eq], h1, h2, h3, h4, h5⟩

theorem render_stream_spells (fmt : R → List UInt8) (pr : List UInt8 → Option R) (info : Dict R) (data : List UInt8)
    (h : RenderableE fmt pr info) (t : Tape) :
    PdfSyntax.SpellsStream pr info data (render fmt (.stream info (.pending data)) t).1 := by
  simp only [render]
  apply spellsStream_mk pr info data _ _ _ _ _ (gap_spec _ _).1 (renderEntries_spells fmt pr info h _) (gap_spec _ _).1 ?_
    (gap_spec false t).1
  split
  · exact Or.inl rfl
  · exact Or.inr rfl

/-- value, a gap where one is needed, tail -/
theorem renderWithTail_spec (fmt : R → List UInt8) (pr : List UInt8 → Option R) (v : Prim R) (tail : List UInt8)
    (h : Renderable fmt pr v) (t : Tape) :
    ∃ txt g, (renderWithTail fmt v tail t).1 = txt ++ g ++ tail ∧ Spells pr v txt ∧ Gap g ∧
      (PdfSyntax.needsBnd v = true → Bnd (g ++ tail)) := by
  refine ⟨_, _, rfl, render_spells fmt pr v h _, (gap_spec _ _).1, ?_⟩
  intro hb
  apply gap_bnd_must
  intro hm
  simpa [needsBnd, hb] using hm


/-- side conditions of the indirect-object theorem, as a property of a text -/
def IndirectOK (pr : List UInt8 → Option R) (id gen : Nat) (v : Prim R) (tail txt : List UInt8) : Prop :=
  ∃ a g1 b g2 g3 tv g4 g5, txt = [] ++ a ++ g1 ++ b ++ g2 ++ kwObj ++ g3 ++ tv ++ g4 ++ kwEndobj ++ (g5 ++ tail) ∧
    NatTok a id ∧ NatTok b gen ∧ Gap g1 ∧ g1 ≠ [] ∧ Gap g2 ∧ g2 ≠ [] ∧ Gap g3 ∧ Spells pr v tv ∧ Gap g4 ∧ Gap g5 ∧
    Bnd (g3 ++ tv) ∧ (PdfSyntax.needsBnd v = true → g4 ≠ []) ∧ Bnd (g5 ++ tail)

theorem indirectOK_mk (pr : List UInt8 → Option R) (id gen : Nat) (v : Prim R) (tail a g1 b g2 g3 tv g4 g5 : List UInt8)
    (h1 : NatTok a id) (h2 : NatTok b gen) (h3 : Gap g1) (h4 : g1 ≠ []) (h5 : Gap g2) (h6 : g2 ≠ []) (h7 : Gap g3)
    (h8 : Spells pr v tv) (h9 : Gap g4) (h10 : Gap g5) (h11 : Bnd (g3 ++ tv)) (h12 : PdfSyntax.needsBnd v = true → g4 ≠ [])
    (h13 : Bnd (g5 ++ tail)) :
    IndirectOK pr id gen v tail (a ++ g1 ++ b ++ g2 ++ kwObj ++ g3 ++ tv ++ g4 ++ kwEndobj ++ g5 ++ tail) :=
  ⟨a, g1, b, g2, g3, tv, g4, g5, by simp, h1, h2, h3, h4, h5, h6, h7, h8, h9, h10, h11, h12, h13⟩

/-- `id gen obj value endobj tail` as the printer writes it: all the side conditions of the indirect-object
    theorem hold -/
theorem renderIndirect_spec (fmt : R → List UInt8) (pr : List UInt8 → Option R) (id gen : Nat) (v : Prim R)
    (tail : List UInt8) (h : Renderable fmt pr v) (t : Tape) :
    IndirectOK pr id gen v tail (renderIndirect fmt id gen v tail t).1 := by
  simp only [renderIndirect]
  apply indirectOK_mk pr id gen v tail _ _ _ _ _ _ _ _ (natTok_conformant _ _) (natTok_conformant _ _)
    (gap_spec true _).1 ((gap_spec true _).2 rfl) (gap_spec true _).1 ((gap_spec true _).2 rfl) (gap_spec _ _).1
    (render_spells fmt pr v h _) (gap_spec _ _).1 (gap_spec _ t).1 ?_ ?_ ?_
  · apply gap_bnd_must; intro hm; simpa using hm
  · intro hb; exact (gap_spec _ _).2 (by simpa [needsBnd] using hb)
  · apply gap_bnd_must; intro hm; simpa using hm


/-- a sequence of objects as the printer writes it is a conformant sequence (`SeqOK`) of exactly these values;
    the gap after the last object belongs to what follows (`rest` = that gap, then the tail) -/
theorem renderSeq_spec (fmt : R → List UInt8) (pr : List UInt8 → Option R) (xs : List (Prim R)) (tail : List UInt8) :
    RenderableL fmt pr xs → (∀ x ∈ xs, PdfSyntax.WF x ∧ PdfSyntax.vdepth x ≤ maxDepth) → ∀ (t : Tape),
    ∃ items rest, (renderSeq fmt xs tail t).1 = seqText items ++ rest ∧ SeqOK pr rest items ∧ items.map (·.1) = xs ∧
      ∃ g, Gap g ∧ rest = g ++ tail := by
  induction xs with
  | nil => intro _ _ t; exact ⟨[], tail, by simp [renderSeq, seqText], by simp [SeqOK], rfl, [], Gap.nil, rfl⟩
  | cons x xs ih =>
    intro h hwf t
    simp only [RenderableL] at h
    obtain ⟨items, rest, e, hok, hmap, g0, hg0, erest⟩ := ih h.2 (fun y hy => hwf y (by simp [hy])) t
    have hx := hwf x (by simp)
    simp only [renderSeq]
    have hgap := gap_spec (needsBnd x && startsRegular (renderSeq fmt xs tail t).1) (renderSeq fmt xs tail t).2
    have hbnd : PdfSyntax.needsBnd x = true →
        Bnd ((gap (needsBnd x && startsRegular (renderSeq fmt xs tail t).1) (renderSeq fmt xs tail t).2).1 ++
          (renderSeq fmt xs tail t).1) := by
      intro hb
      apply gap_bnd_must
      intro hm
      simpa [needsBnd, hb] using hm
    have key : ∀ (G T : List UInt8), Gap G → (PdfSyntax.needsBnd x = true → Bnd (G ++ (renderSeq fmt xs tail t).1)) →
        Spells pr x T → ∃ items rest, T ++ G ++ (renderSeq fmt xs tail t).1 = seqText items ++ rest ∧ SeqOK pr rest items ∧
          items.map (·.1) = x :: xs ∧ ∃ g, Gap g ∧ rest = g ++ tail := by
      intro G T hG hB hT
      cases items with
      | nil =>
        refine ⟨[(x, T, [])], G ++ rest, ?_, ?_, by simp at hmap; simp [hmap], G ++ g0, gap_append hG hg0, by simp [erest]⟩
        · simp [seqText] at e; simp [seqText, e]
        · simp only [SeqOK, seqText]
          refine ⟨hT, hx.1, hx.2, Gap.nil, by simp, ?_, trivial⟩
          intro hb
          have := hB hb
          simp [seqText] at e
          simpa [e] using this
      | cons it items' =>
        refine ⟨(x, T, G) :: it :: items', rest, ?_, ?_, by simp at hmap ⊢; exact hmap, g0, hg0, erest⟩
        · simp only [seqText] at e ⊢; rw [e]; simp
        · simp only [SeqOK]
          refine ⟨hT, hx.1, hx.2, hG, fun hc => by simp at hc, ?_, hok⟩
          intro hb
          have := hB hb
          rw [e] at this
          simpa using this
    exact key _ _ hgap.1 hbnd (render_spells fmt pr x h.1 _)


/-- side conditions of the indirect *stream* object theorem, as a property of a text -/
def IndirectStreamOK (pr : List UInt8 → Option R) (id gen : Nat) (info : Dict R) (data tail txt : List UInt8) : Prop :=
  ∃ a g1 b g2 g3 tv g4 g5, txt = [] ++ a ++ g1 ++ b ++ g2 ++ kwObj ++ g3 ++ tv ++ g4 ++ kwEndobj ++ (g5 ++ tail) ∧
    NatTok a id ∧ NatTok b gen ∧ Gap g1 ∧ g1 ≠ [] ∧ Gap g2 ∧ g2 ≠ [] ∧ Gap g3 ∧ PdfSyntax.SpellsStream pr info data tv ∧
    Gap g4 ∧ g4 ≠ [] ∧ Gap g5 ∧ Bnd (g5 ++ tail)

theorem indirectStreamOK_mk (pr : List UInt8 → Option R) (id gen : Nat) (info : Dict R) (data tail a g1 b g2 g3 tv g4 g5 : List UInt8)
    (h1 : NatTok a id) (h2 : NatTok b gen) (h3 : Gap g1) (h4 : g1 ≠ []) (h5 : Gap g2) (h6 : g2 ≠ []) (h7 : Gap g3)
    (h8 : PdfSyntax.SpellsStream pr info data tv) (h9 : Gap g4) (h10 : g4 ≠ []) (h11 : Gap g5) (h13 : Bnd (g5 ++ tail)) :
    IndirectStreamOK pr id gen info data tail (a ++ g1 ++ b ++ g2 ++ kwObj ++ g3 ++ tv ++ g4 ++ kwEndobj ++ g5 ++ tail) :=
  ⟨a, g1, b, g2, g3, tv, g4, g5, by simp, h1, h2, h3, h4, h5, h6, h7, h8, h9, h10, h11, h13⟩

theorem renderIndirect_stream_spec (fmt : R → List UInt8) (pr : List UInt8 → Option R) (id gen : Nat) (info : Dict R)
    (data tail : List UInt8) (h : RenderableE fmt pr info) (t : Tape) :
    IndirectStreamOK pr id gen info data tail (renderIndirect fmt id gen (.stream info (.pending data)) tail t).1 := by
  simp only [renderIndirect]
  apply indirectStreamOK_mk pr id gen info data tail _ _ _ _ _ _ _ _ (natTok_conformant _ _) (natTok_conformant _ _)
    (gap_spec true _).1 ((gap_spec true _).2 rfl) (gap_spec true _).1 ((gap_spec true _).2 rfl) (gap_spec _ _).1
    (render_stream_spells fmt pr info data h _) (gap_spec _ _).1 ((gap_spec _ _).2 (by simp [needsBnd, PdfSyntax.needsBnd]))
    (gap_spec _ t).1 ?_
  apply gap_bnd_must; intro hm; simpa using hm

end PdfSpec

namespace C03
open PdfLex
open PdfSyntax (Gap KeysDistinct namesUtf8 vdepth wf_of)

variable {R : Type}

/-- the rendering of a sequence read back, with the gap in front of the tail named: the two sequence headlines of C03 differ
    only in where `Ahead` for that gap comes from -/
theorem parse_render_sequence_gap (env : Env R) (hd : env.decrypt = none) (fmt : R → List UInt8) (xs : List (Prim R))
    (tail : List UInt8) (tape : List Nat) (hr : PdfSpec.RenderableL fmt env.parseReal xs)
    (hw : ∀ x ∈ xs, KeysDistinct x ∧ namesUtf8 x = true ∧ vdepth x ≤ maxDepth) :
    ∃ items g, (PdfSpec.renderSeq fmt xs tail tape).1 = seqText items ++ (g ++ tail) ∧ Gap g ∧ items.map (·.1) = xs ∧
      ∀ {buf : Buf}, buf.size ≤ 2147483647 → ∀ (pre : List UInt8) (fuel : Nat),
        buf.toList = pre ++ (PdfSpec.renderSeq fmt xs tail tape).1 → seqNeed items ≤ fuel →
        Ahead buf (pre.length + (seqText items).length) →
        parseSeq env buf fuel xs.length pre.length = .ok (seqExpected pre.length items) := by
  obtain ⟨items, rest, e, hok, hmap, g, hg, rfl⟩ := PdfSpec.renderSeq_spec fmt env.parseReal xs tail hr
    (fun x hx => ⟨wf_of x (hw x hx).1 (hw x hx).2.1, (hw x hx).2.2⟩) tape
  refine ⟨items, g, e, hg, hmap, ?_⟩
  intro buf hsz pre fuel hbuf hfuel hah
  have hs : Suffix buf pre.length ([] ++ seqText items ++ (g ++ tail)) := by
    rw [e] at hbuf
    simpa using suffix_of_toList hbuf
  have hl : xs.length = items.length := by rw [← hmap]; simp
  have := parseSeq_spells env hd items hsz [] (g ++ tail) pre.length fuel hok Gap.nil hs (by simpa using hah) hfuel
  rw [hl]; simpa using this

end C03
