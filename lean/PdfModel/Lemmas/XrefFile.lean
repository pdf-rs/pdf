import PdfModel.Lemmas.XrefTable
import PdfModel.Lemmas.XrefWalk
import PdfModel.Lemmas.Sequence
import PdfModel.Model.XrefFile

/-! The concrete section reader (`XrefTable.xrefAt`) satisfies the contract `Offsets.ReadsAt` of the
    `/Prev` walk on every classic section a conforming writer emits; hence `read_xref_table_and_trailer`
    on the bytes of a file returns the merge of its chain of sections (`file_walk_chain`). -/

namespace XrefTable
open PdfLex Xref XrefTableSpec
open PdfSyntax (Gap Bnd NatTok Spells WF vdepth need)

variable {R V : Type}

theorem subText_ne_nil (s : Sub) (t : List UInt8) (h : SubText s t) : 1 ≤ t.length := by
  obtain ⟨a, g1, b, g2, body, rfl, ha, _⟩ := h
  have := List.length_pos_iff.2 ha.1
  simp only [List.length_append]; omega

theorem tableText_length (subs : List Sub) (tbl : List UInt8) (h : TableText subs tbl) : subs.length ≤ tbl.length := by
  induction h with
  | nil => exact Nat.le_refl _
  | cons s ss t ts hs _ ih =>
    have := subText_ne_nil s t hs
    simp only [List.length_cons, List.length_append]; omega

/-- a section is longer than the number of its subsections plus the text of its trailer dictionary: the default
    fuels of the table loop and of the object parser suffice -/
theorem sectionText_length {subs : List Sub} {dtxt txt : List UInt8} (h : SectionText subs dtxt txt) :
    subs.length + dtxt.length ≤ txt.length := by
  obtain ⟨g0, g1, tbl, g2, rfl, _, _, htt, _⟩ := h
  have := tableText_length subs tbl htt
  simp only [List.length_append]; omega

/-- a classic section, written in any conforming layout, at the beginning of `txt ++ rest`:
    the section reader returns its subsections and its trailer dictionary -/
theorem xrefAt_table (env : Env R) (hd : env.decrypt = none) (stm : Buf → Nat → Out (List Sub × Dict R))
    (subs : List Sub) (d : Dict R) (dtxt txt rest : List UInt8) (hst : SectionText subs dtxt txt)
    (hsp : Spells env.parseReal (.dict d) dtxt) (hwf : WF (Prim.dict d)) (hdepth : vdepth (Prim.dict d) ≤ maxDepth)
    (hsz : (txt ++ rest).length ≤ 2147483647) (hah : Ahead (txt ++ rest).toArray txt.length) :
    xrefAt env stm (txt ++ rest) = .ok (subs, d) := by
  have hlen := sectionText_length hst
  have hneed := need_bound env.parseReal (.dict d) dtxt hsp
  have hsize : (txt ++ rest).toArray.size = txt.length + rest.length := by simp
  refine readXrefAndTrailerAt_table env hd stm subs d dtxt txt rest hst hsp hwf hdepth (by simpa using hsz) _ _ 0
    ?_ ?_ (suffix_zero (txt ++ rest)) (by simpa using hah)
  · rw [XrefTable.defaultFuel, hsize]; omega
  · rw [PdfLex.defaultFuel, hsize]; omega

/-- a classic section at offset `off` of a file (relative to the header at `start`) -/
def ClassicAt (env : Env R) (buf : List UInt8) (start : Nat) (r : Offsets.Rev (Dict R)) : Prop :=
  ∃ dtxt txt rest, buf.drop (start + r.off) = txt ++ rest ∧ start + r.off ≤ buf.length ∧
    SectionText r.subs dtxt txt ∧ Spells env.parseReal (.dict r.trailer) dtxt ∧ WF (Prim.dict r.trailer) ∧
    vdepth (Prim.dict r.trailer) ≤ maxDepth ∧ Ahead (txt ++ rest).toArray txt.length

theorem readsAt_classic (env : Env R) (hd : env.decrypt = none) (stm : Buf → Nat → Out (List Sub × Dict R))
    (base : Offsets.Parsers V (Dict R)) (buf : List UInt8) (start : Nat) (r : Offsets.Rev (Dict R))
    (hsz : buf.length ≤ 2147483647) (h : ClassicAt env buf start r) :
    Offsets.ReadsAt (fileParsers env stm base) buf start r := by
  obtain ⟨dtxt, txt, rest, hdrop, hle, hst, hsp, hwf, hdepth, hah⟩ := h
  refine ⟨by unfold OffLex.usizeMax; omega, hle, ?_⟩
  show xrefAt env stm (buf.drop (start + r.off)) = _
  rw [hdrop]
  apply xrefAt_table env hd stm r.subs r.trailer dtxt txt rest hst hsp hwf hdepth _ hah
  rw [← hdrop, List.length_drop]; omega

/-- where a piece of a file given as a concatenation begins: no byte of the file need be computed -/
theorem drop_of_append {buf pre s : List UInt8} {n : Nat} (hbuf : buf = pre ++ s) (hpre : pre.length = n) :
    buf.drop n = s ∧ n ≤ buf.length := by
  subst hbuf hpre
  exact ⟨List.drop_left, by simp⟩

/-- `Ahead` from one evaluation: the next lexeme is `w`, and it is none of `R`, `stream`, an integer -/
theorem ahead_of_word {buf : Buf} {q : Nat} (w : Nat × Nat)
    (h : nextWord buf q = .ok w ∧ slice buf w.1 w.2 ≠ [82] ∧ slice buf w.1 w.2 ≠ kwStream ∧
      isInteger (slice buf w.1 w.2) = false) : Ahead buf q :=
  Or.inr ⟨w, h.1, h.2.1, h.2.2.1, fun hi => absurd hi (by simp [h.2.2.2])⟩

/-- the `/Prev` links as they stand in the trailer dictionaries -/
def PrevLinked : List (Offsets.Rev (Dict R)) → Prop
  | [] => True
  | [r] => dictGet r.trailer keyPrev = none
  | r :: r' :: rest => dictGet r.trailer keyPrev = some (.int (r'.off : Int)) ∧ PrevLinked (r' :: rest)

theorem linked_of_prevLinked (env : Env R) (stm : Buf → Nat → Out (List Sub × Dict R))
    (base : Offsets.Parsers V (Dict R)) :
    ∀ chain : List (Offsets.Rev (Dict R)), PrevLinked chain → Offsets.Linked (fileParsers env stm base) chain := by
  intro chain
  induction chain with
  | nil => intro _; trivial
  | cons r rest ih =>
    intro h
    cases rest with
    | nil =>
      show trailerPrev r.trailer = none
      simp only [PrevLinked] at h
      simp [trailerPrev, h]
    | cons r' rest' =>
      obtain ⟨h1, h2⟩ := h
      refine ⟨?_, ih h2⟩
      show trailerPrev r.trailer = _
      simp [trailerPrev, h1, asUnsigned]

/-- **`read_xref_table_and_trailer` on the bytes of a file.** Every section of the chain is a classic section
    in a conforming layout or is returned by the stream reader; the trailer dictionaries link the chain through
    `/Prev`, the newest carries `/Size`: the result is the merge of the chain, newest first, into a fresh table,
    with the newest trailer. -/
theorem file_walk_chain (env : Env R) (hd : env.decrypt = none) (stm : Buf → Nat → Out (List Sub × Dict R))
    (base : Offsets.Parsers V (Dict R)) (buf : List UInt8) (start fuel : Nat) (hsz : buf.length ≤ 2147483647)
    (newest : Offsets.Rev (Dict R)) (older : List (Offsets.Rev (Dict R))) (size : Nat)
    (hx : Offsets.locateXref buf = .ok newest.off) (hin : start + newest.off < buf.length)
    (hsec : ∀ r ∈ newest :: older,
      ClassicAt env buf start r ∨ Offsets.ReadsAt (fileParsers env stm base) buf start r)
    (hsize : dictGet newest.trailer keySize = some (.int (size : Int))) (hmax : size ≤ Offsets.maxId)
    (hlink : PrevLinked (newest :: older)) (hnd : (older.map (·.off)).Nodup) (hfuel : older.length ≤ fuel) :
    readXrefTableAndTrailer env stm base fuel buf start
      = Offsets.withTrailer newest.trailer (mergeAll (newTable size) ((newest :: older).map (·.subs))) := by
  have hreads : ∀ r ∈ newest :: older, Offsets.ReadsAt (fileParsers env stm base) buf start r :=
    fun r hr => (hsec r hr).elim (readsAt_classic env hd stm base buf start r hsz) id
  have hn := hreads newest (by simp)
  exact Offsets.loadTable_chain (fileParsers env stm base) buf start fuel newest older size hx hin hn.1 hn.2.2
    (by simp [fileParsers, trailerSize, hsize, asUnsigned]) hmax (fun r hr => hreads r (by simp [hr]))
    (linked_of_prevLinked env stm base _ hlink) hnd hfuel

end XrefTable
