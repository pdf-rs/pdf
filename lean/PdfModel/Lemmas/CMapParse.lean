import PdfModel.Lemmas.CMapLex

/-! What the CMap reader stores for the destinations of an entry: one string, an array-form range, a string-form
    range (last byte incremented). -/

namespace CMap

theorem insertDecoded_strBytes (m : Map) (cid : Nat) (s : List Nat) (hs : s.all isScalar = true) :
    insertDecoded m cid (strBytes s) = (cid, s) :: m := by
  simp [insertDecoded, decodeStr_strBytes s hs, Map.insert]

theorem rangeArr_spec : ∀ (ss : List (List Nat)), (∀ s ∈ ss, s.all isScalar = true) →
    ∀ (n lo : Nat) (m : Map), ss.length ≤ n → rangeArr n lo (ss.map strBytes) m = (enumFrom lo ss).reverse ++ m
  | [], _, n, lo, m, _ => by cases n <;> simp [rangeArr, enumFrom]
  | s :: r, hs, n, lo, m, hn => by
    cases n with
    | zero => simp at hn
    | succ k =>
      have ih := rangeArr_spec r (fun x hx => hs x (List.mem_cons_of_mem _ hx)) k (lo + 1) ((lo, s) :: m)
        (by simp at hn; omega)
      simp [rangeArr, insertDecoded_strBytes m lo s (hs s (List.mem_cons_self ..)), ih, enumFrom]

theorem incLast_succUnits : ∀ (us us' : List Nat), (∀ u ∈ us, u < 65536) → succUnits us = some us' →
    incLast ((unitBytes us).map UInt8.ofNat) = some ((unitBytes us').map UInt8.ofNat)
  | [], _, _, h => by simp [succUnits] at h
  | [u], us', hu, h => by
    have hlt := hu u (List.mem_cons_self ..)
    simp only [succUnits] at h
    split at h
    · rename_i hlow
      cases h
      have hb : UInt8.ofNat (u % 256) < 255 := by
        rw [UInt8.lt_iff_toNat_lt, UInt8.toNat_ofNat_of_lt' (show u % 256 < 256 by omega)]
        exact hlow
      have e1 : (u + 1) / 256 = u / 256 := by omega
      have e2 : (u + 1) % 256 = u % 256 + 1 := by omega
      simp only [unitBytes, List.map_cons, List.map_nil, e1, e2, UInt8.ofNat_add]
      show (incLast [UInt8.ofNat (u % 256)]).map (UInt8.ofNat (u / 256) :: ·) = _
      rw [incLast, if_pos hb]
      rfl
    · cases h
  | u :: v :: r, us', hu, h => by
    simp only [succUnits] at h
    cases hr : succUnits (v :: r) with
    | none => rw [hr] at h; cases h
    | some w =>
      rw [hr] at h
      cases h
      have ih := incLast_succUnits (v :: r) w (fun x hx => hu x (List.mem_cons_of_mem _ hx)) hr
      have step : ∀ (a b : UInt8) (c : Bytes), incLast (a :: b :: c) = (incLast (b :: c)).map (a :: ·) := fun _ _ _ => rfl
      simp only [unitBytes, List.map_cons] at ih ⊢
      rw [step, step, ih]
      rfl

theorem rangeStr_spec : ∀ (s : List Nat) (r : List (List Nat)), (∀ x ∈ s :: r, x.all isScalar = true) →
    chainOk (s :: r) = true → ∀ (lo : Nat) (m : Map),
    rangeStr (r.length + 1) lo (strBytes s) m = (enumFrom lo (s :: r)).reverse ++ m
  | s, [], hs, _, lo, m => by
    have h1 := hs s (List.mem_cons_self ..)
    simp only [List.length_nil, rangeStr, insertDecoded_strBytes m lo s h1, enumFrom]
    cases incLast (strBytes s) <;> simp
  | s, t :: r, hs, hc, lo, m => by
    have h1 := hs s (List.mem_cons_self ..)
    simp only [chainOk, Bool.and_eq_true, beq_iff_eq] at hc
    have hinc : incLast (strBytes s) = some (strBytes t) :=
      incLast_succUnits _ _ (utf16Encode_lt s h1) hc.1
    have ih := rangeStr_spec t r (fun x hx => hs x (List.mem_cons_of_mem _ hx)) hc.2 (lo + 1) ((lo, s) :: m)
    simp only [List.length_cons] at ih ⊢
    rw [show rangeStr (r.length + 1 + 1) lo (strBytes s) m =
          (match incLast (strBytes s) with
           | some s' => rangeStr (r.length + 1) (lo + 1) s' (insertDecoded m lo (strBytes s))
           | none => insertDecoded m lo (strBytes s)) from rfl]
    simp only [insertDecoded_strBytes m lo s h1, hinc, ih]
    simp [enumFrom]

def wEndbfchar : Bytes := [101, 110, 100, 98, 102, 99, 104, 97, 114]

def wEndbfrange : Bytes := [101, 110, 100, 98, 102, 114, 97, 110, 103, 101]

theorem header_true : header true = kwBfchar ++ [10] := rfl

theorem header_false : header false = kwBfrange ++ [10] := rfl

theorem footer_true : footer true = wEndbfchar ++ [10] := rfl

theorem footer_false : footer false = wEndbfrange ++ [10] := rfl

end CMap
