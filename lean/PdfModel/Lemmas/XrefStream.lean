import PdfModel.Model.XrefStream

/-! Spec-side encoder of cross-reference stream rows (ISO 32000 7.5.8.2/7.5.8.3: fields are written
    big-endian, high-order byte first, in `/W` widths) and the round-trip lemmas for the reader model. -/

namespace Xref

/-- `w` bytes of `n`, high-order byte first -/
def toBE : Nat → Nat → List UInt8
  | 0, _ => []
  | w + 1, n => UInt8.ofNat (n / 256 ^ w % 256) :: toBE w n

theorem toBE_length (w n : Nat) : (toBE w n).length = w := by
  induction w with
  | zero => rfl
  | succ w ih => simp [toBE, ih]

theorem pow8 (i : Nat) : 2 ^ (8 * i) = 256 ^ i := by
  rw [Nat.pow_mul]

theorem readLoop_toBE (w n acc : Nat) (rest : List UInt8) (h : acc + n % 256 ^ w < U64) :
    readLoop w (toBE w n ++ rest) acc = .ok (acc + n % 256 ^ w, rest) := by
  induction w generalizing acc with
  | zero => simp [readLoop, toBE, Nat.mod_one]
  | succ w ih =>
    have hd : n / 256 ^ w % 256 < 256 := Nat.mod_lt _ (by decide)
    rw [Nat.mod_pow_succ] at h ⊢
    simp only [toBE, List.cons_append, readLoop, UInt8.toNat_ofNat', Nat.mod_eq_of_lt hd, pow8]
    generalize n / 256 ^ w % 256 = d at *
    rw [Nat.mul_comm d, if_neg (by omega), ih _ (by omega), Nat.add_assoc, Nat.add_comm (256 ^ w * d)]

theorem pow_le_U64 (w : Nat) (hw : w ≤ 8) : 256 ^ w ≤ U64 := by
  have : 256 ^ w ≤ 256 ^ 8 := Nat.pow_le_pow_right (by decide) hw
  have e : (256 : Nat) ^ 8 = U64 := by decide
  omega

/-- a field that fits its width is read back exactly, the cursor moves past it -/
theorem readU64_toBE (w n : Nat) (rest : List UInt8) (hw : w ≤ 8) (hn : n < 256 ^ w) :
    readU64 w (toBE w n ++ rest) = .ok (n, rest) := by
  unfold readU64
  have h1 : ¬ w > 8 := by omega
  have h2 : ¬ w > (toBE w n ++ rest).length := by simp [toBE_length]
  simp only [h1, h2, if_false]
  have := readLoop_toBE w n 0 rest (by
    have := pow_le_U64 w hw
    have := Nat.mod_lt n (Nat.pos_of_ne_zero (by intro h; simp [h] at hn) : 0 < 256 ^ w)
    omega)
  rw [this, Nat.mod_eq_of_lt hn]; simp

/-- type / field 1 / field 2 of an entry as written in a stream row -/
def fieldsOf : XRef → Option (Nat × Nat × Nat)
  | .free n g => some (0, n, g)
  | .raw p g => some (1, p, g)
  | .stream s i => some (2, s, i)
  | _ => none

/-- the entry can be written with widths `w0 w1 w2`: fields fit, and an omitted type field (`w0 = 0`)
    means type 1 -/
def Fits (w0 w1 w2 : Nat) (e : XRef) : Prop :=
  match fieldsOf e with
  | some (ty, f1, f2) => f1 < 256 ^ w1 ∧ f2 < 256 ^ w2 ∧ (w0 = 0 → ty = 1)
  | none => False

instance (w0 w1 w2 : Nat) (e : XRef) : Decidable (Fits w0 w1 w2 e) := by
  unfold Fits; split <;> infer_instance

def encodeEntry (w0 w1 w2 : Nat) (e : XRef) : List UInt8 :=
  match fieldsOf e with
  | some (ty, f1, f2) => toBE w0 ty ++ toBE w1 f1 ++ toBE w2 f2
  | none => []

def encodeRows (w0 w1 w2 : Nat) (es : List XRef) : List UInt8 := es.flatMap (encodeEntry w0 w1 w2)

theorem encodeEntry_length (w0 w1 w2 : Nat) (e : XRef) (h : Fits w0 w1 w2 e) :
    (encodeEntry w0 w1 w2 e).length = w0 + w1 + w2 := by
  unfold Fits at h; unfold encodeEntry
  cases hf : fieldsOf e with
  | none => simp [hf] at h
  | some t => obtain ⟨ty, f1, f2⟩ := t; simp [toBE_length]; omega

theorem encodeRows_length (w0 w1 w2 : Nat) (es : List XRef) (h : ∀ e ∈ es, Fits w0 w1 w2 e) :
    (encodeRows w0 w1 w2 es).length = es.length * (w0 + w1 + w2) := by
  induction es with
  | nil => simp [encodeRows]
  | cons e es ih =>
    simp only [encodeRows, List.flatMap_cons, List.length_append, List.length_cons] at *
    rw [encodeEntry_length _ _ _ _ (h e (by simp)), ih (fun x hx => h x (by simp [hx]))]
    rw [Nat.add_mul]; omega

theorem entryOfFields_fieldsOf {e : XRef} {ty f1 f2 : Nat} (h : fieldsOf e = some (ty, f1, f2)) :
    entryOfFields ty f1 f2 = .ok e ∧ ty ≤ 2 := by
  cases e <;> cases h <;> exact ⟨rfl, by decide⟩

theorem readEntry_encode (w0 w1 w2 : Nat) (e : XRef) (rest : List UInt8)
    (h0 : w0 ≤ 8) (h1 : w1 ≤ 8) (h2 : w2 ≤ 8) (hf : Fits w0 w1 w2 e) :
    readEntry w0 w1 w2 (encodeEntry w0 w1 w2 e ++ rest) = .ok (e, rest) := by
  unfold Fits at hf; unfold encodeEntry readEntry
  cases hfe : fieldsOf e with
  | none => simp [hfe] at hf
  | some t =>
    obtain ⟨ty, f1, f2⟩ := t
    simp only [hfe] at hf ⊢
    obtain ⟨hf1, hf2, hty⟩ := hf
    obtain ⟨hent, hty2⟩ := entryOfFields_fieldsOf hfe
    -- the type field: omitted (then the type is 1) or read like the others
    have htyR : ∀ d, (if w0 = 0 then Out.ok (1, toBE w0 ty ++ d) else readU64 w0 (toBE w0 ty ++ d)) = .ok (ty, d) := by
      intro d
      split
      · next h => subst h; rw [hty rfl]; rfl
      · next h =>
        have : 256 ^ 1 ≤ 256 ^ w0 := Nat.pow_le_pow_right (by decide) (by omega)
        exact readU64_toBE w0 ty d h0 (by omega)
    simp only [List.append_assoc, htyR, readU64_toBE w1 f1 _ h1 hf1, readU64_toBE w2 f2 _ h2 hf2, hent]

theorem readEntries_encode (w0 w1 w2 : Nat) (es : List XRef) (rest : List UInt8) (acc : List XRef)
    (h0 : w0 ≤ 8) (h1 : w1 ≤ 8) (h2 : w2 ≤ 8) (hf : ∀ e ∈ es, Fits w0 w1 w2 e) :
    readEntries w0 w1 w2 es.length (encodeRows w0 w1 w2 es ++ rest) acc = .ok (acc.reverse ++ es, rest) := by
  induction es generalizing acc with
  | nil => simp [readEntries, encodeRows]
  | cons e es ih =>
    simp only [List.length_cons, readEntries, encodeRows, List.flatMap_cons, List.append_assoc]
    rw [readEntry_encode w0 w1 w2 e _ h0 h1 h2 (hf e (by simp))]
    simp only
    have := ih (e :: acc) (fun x hx => hf x (by simp [hx]))
    simp only [encodeRows] at this
    rw [this]; simp

end Xref
