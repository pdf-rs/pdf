import PdfModel.Model.Offsets
import PdfModel.Lemmas.Xref

/-! The `/Prev` walk of `Backend::read_xref_table_and_trailer` (`Offsets.loadTable` / `prevLoop`, over an
    abstract "section at offset" function `P.xrefAt`) visits exactly the chain of sections of a
    well-formed file, newest first, and hands back the trailer of the newest section. -/

namespace Offsets
open Xref OffLex

variable {V T : Type}

/-- one section of a file as the walk sees it: its offset (relative to the header), its subsections and
    its trailer -/
structure Rev (T : Type) where
  off : Nat
  subs : List Sub
  trailer : T

/-- the section reader, handed the file from `start + off` on, returns this section -/
def ReadsAt (P : Parsers V T) (buf : Bytes) (start : Nat) (r : Rev T) : Prop :=
  start + r.off ≤ usizeMax ∧ start + r.off ≤ buf.length ∧
    P.xrefAt (buf.drop (start + r.off)) = .ok (r.subs, r.trailer)

/-- a chain, newest section first: every trailer's `/Prev` is the offset of the next older section, the
    oldest trailer has no `/Prev` -/
def Linked (P : Parsers V T) : List (Rev T) → Prop
  | [] => True
  | [r] => P.prevOf r.trailer = none
  | r :: r' :: rest => P.prevOf r.trailer = some (.ok r'.off) ∧ Linked P (r' :: rest)

theorem Linked.tail {P : Parsers V T} {r : Rev T} {rest : List (Rev T)} (h : Linked P (r :: rest)) :
    Linked P rest := by
  cases rest with
  | nil => trivial
  | cons r' rest' => exact h.2

/-- what the code does with the trailer of `r` when `rest` are the older sections -/
theorem Linked.prevOf {P : Parsers V T} {r : Rev T} {rest : List (Rev T)} (h : Linked P (r :: rest)) :
    P.prevOf r.trailer = (rest.head?.map fun r' => Out.ok r'.off) := by
  cases rest with
  | nil => exact h
  | cons r' rest' => exact h.1

theorem suffixAt_of_readsAt {P : Parsers V T} {buf : Bytes} {start : Nat} {r : Rev T} (h : ReadsAt P buf start r) :
    suffixAt buf start r.off = .ok (start + r.off, buf.drop (start + r.off)) := by
  obtain ⟨h1, h2, _⟩ := h
  unfold suffixAt checkedAdd readFrom
  have : ¬ start + r.off > usizeMax := by omega
  simp [this, h2]

/-- lifting of a table-valued outcome to the pair the walk returns -/
def withTrailer (tr : T) : Out Table → Out (Table × T)
  | .ok t => .ok (t, tr)
  | .err => .err | .panic => .panic | .oof => .oof

/-- the `while let Some(prev_xref_offset) = prev_trailer` loop merges exactly the older sections, in chain
    order, provided their offsets are distinct (the `seen` check) and the fuel covers their number -/
theorem prevLoop_chain (P : Parsers V T) (buf : Bytes) (start : Nat) :
    ∀ (older : List (Rev T)) (fuel : Nat) (seen : List Nat) (t : Table),
      (∀ r ∈ older, ReadsAt P buf start r) → Linked P older → (older.map (·.off)).Nodup →
      (∀ r ∈ older, r.off ∉ seen) → older.length ≤ fuel →
      prevLoop P buf start fuel seen (older.head?.map (·.off)) t = mergeAll t (older.map (·.subs))
  | [], fuel, _, _, _, _, _, _, _ => by cases fuel <;> rfl
  | _ :: _, 0, _, _, _, _, _, _, hfuel => by simp at hfuel
  | r :: rest, fuel + 1, seen, t, hread, hlink, hnd, hseen, hfuel => by
    have hr := hread r (by simp)
    have hns : seen.contains r.off = false := by simpa using hseen r (by simp)
    rw [List.map_cons, mergeAll_cons]
    simp only [List.head?_cons, Option.map_some, prevLoop, hns, Bool.false_eq_true, if_false,
      suffixAt_of_readsAt hr, hr.2.2]
    cases addSubs t r.subs with
    | ok t' =>
      have hnd' := List.nodup_cons.1 hnd
      have ih := prevLoop_chain P buf start rest fuel (r.off :: seen) t' (fun x hx => hread x (by simp [hx])) hlink.tail
        hnd'.2 (fun r' hr' hmem => (List.mem_cons.1 hmem).elim
          (fun heq => hnd'.1 (List.mem_map.2 ⟨r', hr', heq⟩)) (hseen r' (by simp [hr']))) (by simpa using hfuel)
      simp only [hlink.prevOf, Out.bind_ok, ← ih]
      cases rest with
      | nil => cases fuel <;> rfl
      | cons => rfl
    | _ => rfl

/-- **`read_xref_table_and_trailer` on a well-formed chain.** `startxref` names the newest section, which
    lies inside the file; its trailer has a `/Size` within `MAX_ID`; the chain is linked by `/Prev`; the
    older offsets are pairwise distinct (the newest offset is not among the conditions: the code starts its `seen`
    list empty, so a `/Prev` that points back at the newest section is read once more, not refused).  Then the walk builds the table of `/Size + 1` slots, merges the
    newest section and then every older one in chain order (nothing else, nothing twice), and returns
    the *newest* trailer. -/
theorem loadTable_chain (P : Parsers V T) (buf : Bytes) (start fuel : Nat) (newest : Rev T) (older : List (Rev T))
    (size : Nat) (hx : locateXref buf = .ok newest.off) (hin : start + newest.off < buf.length)
    (hfit : start + newest.off ≤ usizeMax)
    (hnew : P.xrefAt (buf.drop (start + newest.off)) = .ok (newest.subs, newest.trailer))
    (hsize : P.sizeOf newest.trailer = .ok size) (hmax : size ≤ maxId)
    (hread : ∀ r ∈ older, ReadsAt P buf start r) (hlink : Linked P (newest :: older))
    (hnd : (older.map (·.off)).Nodup) (hfuel : older.length ≤ fuel) :
    loadTable P fuel buf start
      = withTrailer newest.trailer (mergeAll (newTable size) ((newest :: older).map (·.subs))) := by
  have hstrict : suffixAtStrict buf start newest.off = .ok (start + newest.off, buf.drop (start + newest.off)) := by
    unfold suffixAtStrict checkedAdd
    have h1 : ¬ start + newest.off > usizeMax := by omega
    have h2 : ¬ start + newest.off ≥ buf.length := by omega
    simp [h1, h2]
  have hm : ¬ size > maxId := by omega
  simp only [loadTable, hx, hstrict, hnew, hsize, hm, if_false, List.map_cons, mergeAll]
  cases addSubs (newTable size) newest.subs with
  | ok t =>
    have := prevLoop_chain P buf start older fuel [] t hread hlink.tail hnd (by simp) hfuel
    simp only [hlink.prevOf, ← this]
    cases older with
    | nil => cases fuel <;> rfl
    | cons r rest => simp only [List.head?_cons, Option.map_some]; cases prevLoop P buf start fuel [] (some r.off) t <;> rfl
  | _ => rfl

end Offsets
