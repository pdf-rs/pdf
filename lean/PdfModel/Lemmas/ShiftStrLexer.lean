import PdfModel.Lemmas.ShiftLexer

/-! Shift lemmas for the string lexers (`Model/StrLexer.lean`), see `Lemmas/ShiftLexer.lean`. -/

namespace PdfShift
open PdfLex

/-- the bytes of a string and the cursor behind it, the cursor moved by `k` (`shV` at `List UInt8`) -/
def shL (k : Nat) (r : List UInt8 × Nat) : List UInt8 × Nat := (r.1, k + r.2)

theorem nextByte_shift (p b : Buf) (pos : Nat) :
    nextByte (p ++ b) (p.size + pos) = omap (shV p.size) (nextByte b pos) := by
  unfold nextByte
  rw [get_shift]
  cases b[pos]? <;> simp [shV, Nat.add_assoc]

theorem peekByte_shift (p b : Buf) (pos : Nat) : peekByte (p ++ b) (p.size + pos) = peekByte b pos := by
  unfold peekByte
  rw [get_shift]

theorem octalMore_shift (p b : Buf) : ∀ (n code pos : Nat),
    octalMore (p ++ b) n code (p.size + pos) = omap (shV p.size) (octalMore b n code pos) := by
  intro n
  induction n with
  | zero => intro code pos; rfl
  | succ n ih =>
    intro code pos
    simp only [octalMore, peekByte_shift]
    apply bind_same; intro c
    refine ite_omap ?_ rfl
    rw [Nat.add_assoc]; exact ih _ _

theorem skipIf_shift (p b : Buf) (pos : Nat) (c : UInt8) :
    skipIf (p ++ b) (p.size + pos) c = p.size + skipIf b pos c := by
  unfold skipIf
  rw [get_shift]
  split <;> simp [Nat.add_assoc]

/-- what `next_lexeme` returns — byte, cursor, nesting depth — with the cursor moved by `k` -/
def sh3 (k : Nat) (r : Option UInt8 × Nat × Int) : Option UInt8 × Nat × Int := (r.1, k + r.2.1, r.2.2)

theorem nextLexeme_shift (p b : Buf) : ∀ (fuel pos : Nat) (nested : Int),
    nextLexeme (p ++ b) fuel (p.size + pos) nested = omap (sh3 p.size) (nextLexeme b fuel pos nested) := by
  intro fuel
  induction fuel with
  | zero => intro pos nested; rfl
  | succ fuel ih =>
    intro pos nested
    simp only [nextLexeme]
    apply bind_shift _ _ (shV p.size) (sh3 p.size) _ _ (nextByte_shift p b pos)
    rintro ⟨c, q⟩
    refine ite_omap ?_ (ite_omap (ite_omap rfl rfl) (ite_omap (ite_omap rfl rfl) (ite_omap ?_ rfl)))
    · apply bind_shift _ _ (shV p.size) (sh3 p.size) _ _ (nextByte_shift p b q)
      rintro ⟨c2, q2⟩
      simp only [shV]
      cases namedEsc c2 with
      | some v => rfl
      | none =>
        refine ite_omap (ih _ _) (ite_omap ?_ (ite_omap ?_ rfl))
        · rw [skipIf_shift]; exact ih _ _
        · exact bind_shift _ _ (shV p.size) (sh3 p.size) _ _ (octalMore_shift p b 2 _ q2) fun _ => rfl
    · simp only [shV, skipIf_shift]; rfl

theorem collectString_shift (p b : Buf) : ∀ (fuel pos : Nat) (nested : Int) (acc : List UInt8),
    collectString (p ++ b) fuel (p.size + pos) nested acc
      = omap (shL p.size) (collectString b fuel pos nested acc) := by
  intro fuel
  induction fuel with
  | zero => intro pos nested acc; rfl
  | succ fuel ih =>
    intro pos nested acc
    simp only [collectString]
    apply bind_shift _ _ (sh3 p.size) (shL p.size) _ _ (nextLexeme_shift p b (fuel + 1) pos nested)
    rintro ⟨r, q, n⟩
    simp only [sh3]
    cases r with
    | none => rfl
    | some c => simp only; exact ih _ _ _

theorem hexBack_shift (k base pos : Nat) : hexBack (k + base) (k + pos) = omap (k + ·) (hexBack base pos) := by
  unfold hexBack
  by_cases h : pos > base
  · rw [if_pos h, if_pos (by omega), show k + pos - 1 = k + (pos - 1) by omega]; rfl
  · rw [if_neg h, if_neg (by omega)]; rfl

theorem nextNonWs_shift (p b : Buf) : ∀ (fuel pos : Nat),
    nextNonWs (p ++ b) fuel (p.size + pos) = omap (shV p.size) (nextNonWs b fuel pos) := by
  intro fuel
  induction fuel with
  | zero => intro pos; rfl
  | succ fuel ih =>
    intro pos
    simp only [nextNonWs, get_shift]
    cases b[pos]? with
    | none => rfl
    | some c =>
      simp only
      split
      · rw [Nat.add_assoc]; exact ih _
      · simp [shV, Nat.add_assoc]

theorem nextHexByte_shift (p b : Buf) (base pos : Nat) :
    nextHexByte (p ++ b) (p.size + base) (p.size + pos)
      = omap (shV p.size) (nextHexByte b base pos) := by
  unfold nextHexByte
  have e : ∀ q, (p ++ b).size - (p.size + q) + 1 = b.size - q + 1 := by intro q; rw [size_shift]; omega
  rw [e]
  apply bind_shift _ _ (shV p.size) (shV p.size) _ _ (nextNonWs_shift p b _ pos)
  rintro ⟨c1, q⟩
  refine ite_omap rfl ?_
  cases hexDigitVal c1 with
  | none => rfl
  | some hi =>
    simp only []
    rw [e]
    apply bind_shift _ _ (shV p.size) (shV p.size) _ _ (nextNonWs_shift p b _ q)
    rintro ⟨c2, q2⟩
    simp only [shV]
    refine ite_omap ?_ (by cases hexDigitVal c2 <;> rfl)
    exact bind_shift _ _ (p.size + ·) (shV p.size) _ _ (hexBack_shift p.size base q2) fun _ => rfl

theorem collectHex_shift (p b : Buf) (base : Nat) : ∀ (fuel pos : Nat) (acc : List UInt8),
    collectHex (p ++ b) (p.size + base) fuel (p.size + pos) acc
      = omap (shL p.size) (collectHex b base fuel pos acc) := by
  intro fuel
  induction fuel with
  | zero => intro pos acc; rfl
  | succ fuel ih =>
    intro pos acc
    simp only [collectHex]
    apply bind_shift _ _ (shV p.size) (shL p.size) _ _ (nextHexByte_shift p b base pos)
    rintro ⟨r, q⟩
    simp only [shV]
    cases r with
    | none => rfl
    | some c => simp only; exact ih _ _

end PdfShift
