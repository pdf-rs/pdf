import PdfModel.Model.Concurrent
import PdfModel.Lemmas.Cache

/-! The transitions of `Model/Concurrent.lean` as rules (`Step`, an over-approximation of `stepT`: `stepT_sound`), by
cases on which the step lemmas of `Lemmas/Concurrent*` and `stepT_poisoned` go, and the first invariant: a thread's guard
is the list of its own unfinished loads. -/

namespace Conc
open Cache
variable {V E : Type}

variable {d : Doc V E} {cfg : Cfg} {i : Nat} {sh : Shared V E} {t : Thread V E} {x : Shared V E × Thread V E}
  {s s' : State V E}

theorem set_get {α : Type} {l : List α} {i j : Nat} {a b : α} (h : (l.set i a)[j]? = some b) :
    (j = i ∧ b = a) ∨ (j ≠ i ∧ l[j]? = some b) := by
  rw [List.getElem?_set] at h
  split at h
  · next e =>
    subst e
    split at h
    · exact .inl ⟨rfl, (Option.some.inj h).symm⟩
    · cases h
  · next e => exact .inr ⟨fun e' => e e'.symm, h⟩

theorem dataS_frame (d : Doc V E) (cfg : Cfg) (sh : Shared V E) (r : Nat) (fs : List Nat) :
    (dataS d cfg sh r fs).2 = { sh with stm := (dataS d cfg sh r fs).2.stm } := by
  unfold dataS
  split
  · split <;> rfl
  · rfl

theorem advP_frame (d : Doc V E) (cfg : Cfg) : ∀ (p : Prog V E) (sh : Shared V E),
    (advP d cfg sh p).2 = { sh with stm := (advP d cfg sh p).2.stm } := by
  intro p
  induction p with
  | ret x => intro sh; rfl
  | get T r k _ => intro sh; rfl
  | data r fs k ih =>
    intro sh
    exact (ih _ _).trans (congrArg (fun x : Shared V E => { x with stm := (advP d cfg sh (.data r fs k)).2.stm })
      (dataS_frame d cfg sh r fs))

/-- `Step d cfg i sh t x`: `x` is what `stepT` may make of thread `i` in state `t` under the shared state `sh`; one rule
    per outcome of a synchronisation point. Only soundness is proved (`stepT_sound`), and the relation is larger than
    `stepT`: a rule keeps the premises some step lemma uses and drops the others (`pushShared` the guard tests, `claim` /
    `wait` / `hit` that the object cache is on, `popSharedFail` the mismatch). In `refused` the guard is quantified
    (`∀ guard, guard = … → …`) so that `cases` never has to substitute the conditional; users instantiate it with `rfl`. -/
inductive Step (d : Doc V E) (cfg : Cfg) (i : Nat) (sh : Shared V E) (t : Thread V E) : Shared V E × Thread V E → Prop
  | finished : t.ctl = .start → t.todo = [] → Step d cfg i sh t (sh, { t with ctl := .done })
  | call (p : Prog V E) (ps : List (Prog V E)) : t.ctl = .start → t.todo = p :: ps →
      Step d cfg i sh t (runTo d cfg sh { t with todo := ps } p)
  | refused (T r : Nat) (k : Res V E → Prog V E) : t.ctl = .enter T r k →
      (∀ guard, guard = (if cfg.sharedGuard then sh.chain else t.chain) → r ∈ guard ∨ maxNestedGets ≤ guard.length) →
      Step d cfg i sh t (runTo d cfg sh t (k (.err d.recErr)))
  | push (T r : Nat) (k : Res V E → Prog V E) : cfg.sharedGuard = false → t.ctl = .enter T r k → r ∉ t.chain →
      ¬ maxNestedGets ≤ t.chain.length → Step d cfg i sh t (sh, { t with ctl := .pushed T r k, chain := r :: t.chain })
  | pushShared (T r : Nat) (k : Res V E → Prog V E) : cfg.sharedGuard = true → t.ctl = .enter T r k →
      Step d cfg i sh t ({ sh with chain := r :: sh.chain }, { t with ctl := .pushed T r k })
  | poisoned (T r : Nat) (k : Res V E → Prog V E) : cfg.sharedGuard = true → sh.poisoned = true →
      (t.ctl = .enter T r k ∨ ∃ res, t.ctl = .popping T r k res) → Step d cfg i sh t (sh, { t with ctl := .panicked })
  | claim (T r : Nat) (k : Res V E → Prog V E) : t.ctl = .pushed T r k → sh.slots.lookup r = none →
      Step d cfg i sh t (startLoad d cfg { sh with slots := (r, .inProcess i) :: sh.slots }
        { t with stack := ⟨T, r, true, k⟩ :: t.stack } r (d.compute T r))
  | wait (T r : Nat) (k : Res V E → Prog V E) (o : Nat) : t.ctl = .pushed T r k → sh.slots.lookup r = some (.inProcess o) →
      Step d cfg i sh t (sh, { t with ctl := .waiting T r k })
  | hit (T r : Nat) (k : Res V E → Prog V E) (T' : Nat) (res : Res V E) : t.ctl = .pushed T r k ∨ t.ctl = .waiting T r k →
      sh.slots.lookup r = some (.computed T' res) → Step d cfg i sh t (afterLookup d cfg sh t T r k T' res)
  | uncached (T r : Nat) (k : Res V E → Prog V E) : t.ctl = .pushed T r k → cfg.objCache = false →
      Step d cfg i sh t (startLoad d cfg sh { t with stack := ⟨T, r, false, k⟩ :: t.stack } r (d.compute T r))
  | logged (T r : Nat) (k : Res V E → Prog V E) : t.ctl = .logging T r k → Step d cfg i sh t (sh, { t with ctl := .enter T r k })
  | loaded (r : Nat) (p : Prog V E) : t.ctl = .loading r p → Step d cfg i sh t (runTo d cfg sh t p)
  | store (res : Res V E) (f : Frame V E) (rest : List (Frame V E)) : t.ctl = .storing res → t.stack = f :: rest →
      Step d cfg i sh t ({ sh with slots := (f.r, .computed f.T res) :: sh.slots },
        { t with ctl := .popping f.T f.r f.k res, stack := rest })
  | pop (T r : Nat) (k : Res V E → Prog V E) (res : Res V E) (cs : List Nat) : cfg.sharedGuard = false →
      t.ctl = .popping T r k res → t.chain = r :: cs → Step d cfg i sh t (runTo d cfg sh { t with chain := cs } (k res))
  | popFail (T r : Nat) (k : Res V E → Prog V E) (res : Res V E) (cs : List Nat) : cfg.sharedGuard = false →
      t.ctl = .popping T r k res → (∀ cs, t.chain ≠ r :: cs) → cs = t.chain.tail →
      Step d cfg i sh t (sh, { t with ctl := .panicked, chain := cs })
  | popShared (T r : Nat) (k : Res V E → Prog V E) (res : Res V E) (cs : List Nat) : cfg.sharedGuard = true →
      t.ctl = .popping T r k res → sh.chain = r :: cs → Step d cfg i sh t (runTo d cfg { sh with chain := cs } t (k res))
  | popSharedFail (T r : Nat) (k : Res V E → Prog V E) (res : Res V E) (cs : List Nat) : cfg.sharedGuard = true →
      t.ctl = .popping T r k res → cs = sh.chain.tail →
      Step d cfg i sh t ({ sh with chain := cs, poisoned := true }, { t with ctl := .panicked })

theorem stepT_sound
    (hs : stepT d cfg i sh t = some x) : Step d cfg i sh t x := by
  unfold stepT at hs
  split at hs
  · cases hs
  · cases hs
  · next hc =>
    split at hs
    · next htd => cases hs; exact .finished hc htd
    · next p ps htd => cases hs; exact .call p ps hc htd
  · next T r k hc =>
    -- `rw [if_pos _]` on the one conditional, where `split` would simplify the whole nest
    by_cases hg : cfg.sharedGuard = true
    · rw [if_pos hg] at hs
      by_cases hp : sh.poisoned = true
      · rw [if_pos hp] at hs; cases hs; exact .poisoned T r k hg hp (.inl hc)
      · rw [if_neg hp] at hs
        by_cases h : r ∈ sh.chain
        · rw [if_pos h] at hs; cases hs; exact .refused T r k hc fun g e => by rw [e, if_pos hg]; exact .inl h
        · rw [if_neg h] at hs
          by_cases h' : maxNestedGets ≤ sh.chain.length
          · rw [if_pos h'] at hs; cases hs; exact .refused T r k hc fun g e => by rw [e, if_pos hg]; exact .inr h'
          · rw [if_neg h'] at hs; cases hs; exact .pushShared T r k hg hc
    · rw [if_neg hg] at hs
      by_cases h : r ∈ t.chain
      · rw [if_pos h] at hs; cases hs; exact .refused T r k hc fun g e => by rw [e, if_neg hg]; exact .inl h
      · rw [if_neg h] at hs
        by_cases h' : maxNestedGets ≤ t.chain.length
        · rw [if_pos h'] at hs; cases hs; exact .refused T r k hc fun g e => by rw [e, if_neg hg]; exact .inr h'
        · rw [if_neg h'] at hs; cases hs; exact .push T r k (by simpa using hg) hc h h'
  · next T r k hc =>
    split at hs
    · split at hs
      · next hl => cases hs; exact .claim T r k hc hl
      · next o hl => cases hs; exact .wait T r k o hc hl
      · next T' res hl => cases hs; exact .hit T r k T' res (.inl hc) hl
    · next h => cases hs; exact .uncached T r k hc (by simpa using h)
  · next T r k hc =>
    split at hs
    · next T' res hl => cases hs; exact .hit T r k T' res (.inr hc) hl
    · cases hs
  · next T r k hc => cases hs; exact .logged T r k hc
  · next r p hc => cases hs; exact .loaded r p hc
  · next res hc =>
    split at hs
    · next f rest hst => cases hs; exact .store res f rest hc hst
    · cases hs
  · next T r k res hc =>
    by_cases hg : cfg.sharedGuard = true
    · rw [if_pos hg] at hs
      by_cases hp : sh.poisoned = true
      · rw [if_pos hp] at hs; cases hs; exact .poisoned T r k hg hp (.inr ⟨res, hc⟩)
      · rw [if_neg hp] at hs
        split at hs
        · next c cs hch =>
          by_cases e : c = r
          · rw [if_pos e] at hs; cases hs; exact .popShared T r k res cs hg hc (by rw [hch, e])
          · rw [if_neg e] at hs; cases hs; exact .popSharedFail T r k res cs hg hc (by rw [hch]; rfl)
        · next hch => cases hs; exact .popSharedFail T r k res _ hg hc (by rw [hch]; rfl)
    · rw [if_neg hg] at hs
      have hg : cfg.sharedGuard = false := by simpa using hg
      split at hs
      · next c cs hch =>
        by_cases e : c = r
        · rw [if_pos e] at hs; cases hs; exact .pop T r k res cs hg hc (by rw [hch, e])
        · rw [if_neg e] at hs; cases hs
          exact .popFail T r k res cs hg hc (fun cs' h => e (List.cons.inj (hch.symm.trans h)).1) (by rw [hch]; rfl)
      · next hch => cases hs; exact .popFail T r k res _ hg hc (fun cs' h => nomatch hch.symm.trans h) (by rw [hch]; rfl)

theorem step_of (ht : s.threads[i]? = some t) :
    step d cfg s i = (stepT d cfg i s.sh t).map fun x => ⟨x.1, s.threads.set i x.2⟩ := by
  simp only [step, ht]
  cases stepT d cfg i s.sh t <;> rfl

theorem step_inv (h : step d cfg s i = some s') :
    ∃ t sh' t', s.threads[i]? = some t ∧ stepT d cfg i s.sh t = some (sh', t') ∧ s' = ⟨sh', s.threads.set i t'⟩ := by
  cases ht : s.threads[i]? with
  | none => simp [step, ht] at h
  | some t =>
    rw [step_of ht, Option.map_eq_some_iff] at h
    obtain ⟨⟨sh', t'⟩, hst, rfl⟩ := h
    exact ⟨t, sh', t', rfl, hst, rfl⟩

theorem step_other (h : step d cfg s i = some s')
    (j : Nat) (hj : j ≠ i) : s'.threads[j]? = s.threads[j]? := by
  obtain ⟨_, _, _, _, _, rfl⟩ := step_inv h
  exact List.getElem?_set_ne (Ne.symm hj)

theorem step_length (hs : step d cfg s i = some s') :
    s'.threads.length = s.threads.length := by
  obtain ⟨_, _, _, _, _, rfl⟩ := step_inv hs
  exact List.length_set

/-- the load the thread is in the middle of (guard pushed, frame not yet / no longer on the stack) -/
def ctlKeys : Ctl V E → List Nat
  | .pushed _ r _ => [r]
  | .waiting _ r _ => [r]
  | .popping _ r _ _ => [r]
  | _ => []

def keys (st : List (Frame V E)) : List Nat := st.map (·.r)

def Ctl.isPanicked : Ctl V E → Bool
  | .panicked => true
  | _ => false

/-- the guard of a thread is the list of the references of that thread's own unfinished loads,
    innermost first, and the thread has not panicked -/
def ChainOK (t : Thread V E) : Prop :=
  t.chain = ctlKeys t.ctl ++ keys t.stack ∧ t.ctl.isPanicked = false

theorem finish_chainOK (t : Thread V E) (res : Res V E) (h : t.chain = keys t.stack) : ChainOK (finish t res) := by
  unfold finish
  split
  · next f rest hst =>
    split
    · exact ⟨h, rfl⟩
    · exact ⟨h.trans (congrArg keys hst), rfl⟩
  · exact ⟨h, rfl⟩

theorem runTo_chainOK (d : Doc V E) (cfg : Cfg) (sh : Shared V E) (t : Thread V E) (p : Prog V E)
    (h : t.chain = keys t.stack) : ChainOK (runTo d cfg sh t p).2 := by
  unfold runTo
  cases (advP d cfg sh p).1 with
  | enter T r k => cases hcb : cfg.cb <;> simp only [applyAdv, hcb] <;> exact ⟨h, rfl⟩
  | fin res => exact finish_chainOK t res h

theorem startLoad_chainOK (d : Doc V E) (cfg : Cfg) (sh : Shared V E) (t : Thread V E) (r : Nat) (p : Prog V E)
    (h : t.chain = keys t.stack) : ChainOK (startLoad d cfg sh t r p).2 := by
  unfold startLoad
  split
  · exact ⟨h, rfl⟩
  · exact runTo_chainOK d cfg sh t p h

theorem afterLookup_chainOK (d : Doc V E) (cfg : Cfg) (sh : Shared V E) (t : Thread V E) (T r : Nat)
    (k : Res V E → Prog V E) (T' : Nat) (res : Res V E) (h : t.chain = r :: keys t.stack) :
    ChainOK (afterLookup d cfg sh t T r k T' res).2 := by
  unfold afterLookup
  split
  · split
    · exact ⟨h, rfl⟩
    · exact startLoad_chainOK d cfg sh _ _ _ h
  · exact startLoad_chainOK d cfg sh _ _ _ h

/-- Every transition of a thread with its own guard stack keeps `ChainOK`: in particular the pop
    assertion holds whenever it is evaluated. -/
theorem stepT_chainOK {d : Doc V E} {cfg : Cfg} (hg : cfg.sharedGuard = false) {i : Nat} {sh sh' : Shared V E}
    {t t' : Thread V E} (h : ChainOK t) (hs : stepT d cfg i sh t = some (sh', t')) : ChainOK t' := by
  suffices ∀ x, Step d cfg i sh t x → ChainOK x.2 from this _ (stepT_sound hs)
  obtain ⟨hch, _⟩ := h
  have shared : ∀ {P : Prop}, cfg.sharedGuard = true → P := fun h => absurd (hg ▸ h) Bool.false_ne_true
  intro x hx
  cases hx with
  | finished hc _ => exact ⟨by rw [hch, hc]; rfl, rfl⟩
  | call p ps hc _ => exact runTo_chainOK d cfg sh _ p (by rw [hch, hc]; rfl)
  | refused T r k hc _ => exact runTo_chainOK d cfg sh _ _ (by rw [hch, hc]; rfl)
  | push T r k _ hc _ _ => exact ⟨by rw [hch, hc]; rfl, rfl⟩
  | claim T r k hc _ => exact startLoad_chainOK d cfg _ _ _ _ (by rw [hch, hc]; rfl)
  | wait T r k o hc _ => exact ⟨by rw [hch, hc]; rfl, rfl⟩
  | hit T r k T' res hc _ =>
    exact afterLookup_chainOK d cfg sh _ T r k _ _ (by rcases hc with hc | hc <;> rw [hch, hc] <;> rfl)
  | uncached T r k hc _ => exact startLoad_chainOK d cfg _ _ _ _ (by rw [hch, hc]; rfl)
  | logged T r k hc => exact ⟨by rw [hch, hc]; rfl, rfl⟩
  | loaded r p hc => exact runTo_chainOK d cfg sh _ p (by rw [hch, hc]; rfl)
  | store res f rest hc hst => exact ⟨by rw [hch, hc, hst]; rfl, rfl⟩
  | pop T r k res cs _ hc hcs =>
    rw [hch, hc] at hcs
    exact runTo_chainOK d cfg sh _ _ (List.cons.inj hcs).2.symm
  | popFail T r k res _ _ hc hne => exact absurd (by rw [hch, hc]; rfl) (hne (keys t.stack))
  | pushShared _ _ _ h => exact shared h
  | poisoned _ _ _ h => exact shared h
  | popShared _ _ _ _ _ h => exact shared h
  | popSharedFail _ _ _ _ _ h => exact shared h

end Conc
