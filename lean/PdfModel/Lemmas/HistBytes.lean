import PdfModel.Lemmas.RepBytes

/-!
  Histories at byte level (`SaveBytes.runB`): they are histories of the abstract model with every `save` run
  under the layout its values give it (`liftOps`), the bytes grow only in a save that wrote its revision (whether or not it
  then succeeds), and the bytes keep representing the abstract state (`RepBytes.Rep`) all along.
-/

namespace Storage
open Xref

variable {V : Type}

/-- the backend part of a state -/
def SameBackend (s s' : St V) : Prop :=
  s'.objs = s.objs ∧ s'.secs = s.secs ∧ s'.len = s.len ∧ s'.start = s.start ∧ s'.startxref = s.startxref

theorem SameBackend.rfl' (s : St V) : SameBackend s s := ⟨rfl, rfl, rfl, rfl, rfl⟩

theorem SameBackend.trans' {a b c : St V} (h1 : SameBackend a b) (h2 : SameBackend b c) : SameBackend a c := by
  obtain ⟨a1, a2, a3, a4, a5⟩ := h1
  obtain ⟨b1, b2, b3, b4, b5⟩ := h2
  exact ⟨b1.trans a1, b2.trans a2, b3.trans a3, b4.trans a4, b5.trans a5⟩

/-- a save that did not get as far as appending its revision has not touched the backend at all -/
theorem save_uncommitted_backend (P : Params V) (L : Layout) (d0 d : Doc V) (chain0) (hb : BaseOK d0 chain0)
    (hi : Inv d0 d) (h : commitInfo P L d = none) : SameBackend d.st (save P L d).1.st := by
  rcases commitInfo_none P L d0 d chain0 hb hi h with ⟨h1, h2, h3, h4, h5, _⟩ | h
  · exact ⟨h1, h2, h3, h4, h5⟩
  · rw [h]; exact SameBackend.rfl' _

/-- `update` leaves the state alone, or puts the value under the number and drops the cache -/
theorem update_fst (st : St V) (id : Nat) (v : V) : (update st id v).1 = st ∨
    ∃ g, (update st id v).1 = { st with changes := chInsert st.changes id (v, g), cache := [] } := by
  unfold update
  cases h : st.refs[id]? with
  | none => exact .inl rfl
  | some e => cases e <;> first | exact .inl rfl | exact .inr ⟨_, rfl⟩

theorem update_backend (st : St V) (id : Nat) (v : V) : SameBackend st (update st id v).1 := by
  rcases update_fst st id v with h | ⟨g, h⟩ <;> rw [h] <;> exact SameBackend.rfl' _

/-- an operation other than `save` leaves the backend alone -/
theorem step_backend (P : Params V) (d : Doc V) (op : Op V) (h : ∀ L, op ≠ .save L) :
    SameBackend d.st (step P d op).1.st := by
  cases op with
  | save L => exact absurd rfl (h L)
  | update id v | fulfil id v =>
    exact (step_update_fst P d id v ▸ update_backend d.st id v : SameBackend d.st (step P d (.update id v)).1.st)
  | get id =>
    simp only [step, get]
    split <;> (try split) <;> exact SameBackend.rfl' _
  | _ => exact SameBackend.rfl' _

end Storage

namespace SaveBytes
open Storage PdfLex Xref

variable {R : Type}

theorem toOp_layout (op : OpB R) (h : ∀ t, op ≠ .save t) (L L' : Layout) : op.toOp L = op.toOp L' := by
  cases op <;> first | rfl | exact absurd rfl (h _)

theorem stepB_save_fst (fmt : R → List UInt8) (b : BDoc R) (t : Bool) : (stepB fmt b (.save t)).1 = (saveB fmt t b).1 := by
  simp only [stepB]; split <;> simp only [*]

/-- one step at byte level is the step of the abstract model with the layout the values give a `save` -/
theorem stepB_step (fmt : R → List UInt8) (b : BDoc R) (op : OpB R) :
    (stepB fmt b op).1.doc = (step (params fmt b.ids) b.doc (op.toOp (layoutOf fmt op.typed b))).1 ∧
    (stepB fmt b op).2 = (step (params fmt b.ids) b.doc (op.toOp (layoutOf fmt op.typed b))).2 ∧
    (stepB fmt b op).1.ids = b.ids := by
  cases op with
  | save t =>
    simp only [stepB, OpB.toOp, step, OpB.typed]
    generalize hs : saveB fmt t b = res
    obtain ⟨b', o⟩ := res
    obtain ⟨h1, h2, _⟩ := saveB_cases fmt t b b' o hs
    rw [h1]
    cases o <;> exact ⟨rfl, rfl, h2⟩
  | _ => exact ⟨rfl, rfl, rfl⟩

/-- an operation other than `save` leaves backend and bytes alone -/
theorem stepB_nosave (fmt : R → List UInt8) (b : BDoc R) (op : OpB R) (h : ∀ t, op ≠ .save t) :
    SameBackend b.doc.st (stepB fmt b op).1.doc.st ∧ (stepB fmt b op).1.bytes = b.bytes := by
  cases op <;> first
    | exact absurd rfl (h _)
    | exact ⟨step_backend (params fmt b.ids) b.doc _ (fun L => by simp [OpB.toOp]), rfl⟩

theorem runB_append (fmt : R → List UInt8) : ∀ (a c : List (OpB R)) (b : BDoc R),
    (runB fmt b (a ++ c)).1 = (runB fmt (runB fmt b a).1 c).1
  | [], _, _ => rfl
  | _ :: a, c, _ => runB_append fmt a c _

theorem runB_run (fmt : R → List UInt8) : ∀ (ops : List (OpB R)) (b : BDoc R),
    (runB fmt b ops).1.doc = (run (params fmt b.ids) b.doc (liftOps fmt b ops)).1 ∧
    (runB fmt b ops).2 = (run (params fmt b.ids) b.doc (liftOps fmt b ops)).2 ∧
    (runB fmt b ops).1.ids = b.ids := by
  intro ops
  induction ops with
  | nil => intro b; exact ⟨rfl, rfl, rfl⟩
  | cons op ops ih =>
    intro b
    obtain ⟨s1, s2, s3⟩ := stepB_step fmt b op
    obtain ⟨i1, i2, i3⟩ := ih (stepB fmt b op).1
    simp only [runB, liftOps, run]
    rw [s3] at i1 i2 i3
    rw [s1] at i1 i2
    exact ⟨i1, by rw [i2, s2], i3⟩

end SaveBytes

/-! ### the limits of `SaveBytes.Bounds` follow from the base file and the size of the output -/

namespace Storage
open Xref

variable {V : Type}

def U64 : Nat := 18446744073709551616

/-- every field of the entry is below 2⁶⁴ (`Promised` is never written) -/
def FieldsOK (e : XRef) : Prop := ∀ t a b, fieldsOf e = some (t, a, b) → a < U64 ∧ b < U64

theorem byteLen_le_8 (n : Nat) (h : n < U64) : byteLen n ≤ 8 := by
  by_cases h256 : n < 256
  · rw [byteLen]; simp [h256]
  · have h1 := pow_byteLen_le n (by omega)
    apply Decidable.byContradiction
    intro hgt
    have h2 : 256 ^ 8 ≤ 256 ^ (byteLen n - 1) := Nat.pow_le_pow_right (by decide) (by omega)
    have h3 : (256 : Nat) ^ 8 = U64 := by decide
    omega

theorem maxFields_lt : ∀ (t : List XRef), (∀ e ∈ t, e = .promised ∨ FieldsOK e) →
    (maxFields t).1 < U64 ∧ (maxFields t).2 < U64
  | [], _ => by simp [maxFields, U64]
  | e :: es, h => by
    have hes := maxFields_lt es (fun x hx => h x (List.mem_cons_of_mem _ hx))
    have he : ∀ t a b, fieldsOf e = some (t, a, b) → a < U64 ∧ b < U64 := by
      rcases h e (List.mem_cons_self ..) with rfl | he
      · intro t a b hf; cases hf
      · exact he
    simp only [maxFields]
    cases e with
    | promised => exact hes
    | free n g => have := he 0 n g rfl; exact ⟨Nat.max_lt.mpr ⟨hes.1, this.1⟩, Nat.max_lt.mpr ⟨hes.2, this.2⟩⟩
    | raw p g => have := he 1 p g rfl; exact ⟨Nat.max_lt.mpr ⟨hes.1, this.1⟩, Nat.max_lt.mpr ⟨hes.2, this.2⟩⟩
    | stream a b => have := he 2 a b rfl; exact ⟨Nat.max_lt.mpr ⟨hes.1, this.1⟩, Nat.max_lt.mpr ⟨hes.2, this.2⟩⟩
    | invalid => exact ⟨Nat.max_lt.mpr ⟨hes.1, by decide⟩, Nat.max_lt.mpr ⟨hes.2, by decide⟩⟩

theorem rowOf_raw (e : XRef) (p g : Nat) (h : rowOf e = some (.raw p g)) : e = .raw p g := by
  cases e <;> simp [rowOf] at h <;> first | (obtain ⟨rfl, rfl⟩ := h; rfl) | skip

theorem gen_lt_of_fields (e : XRef) (h : FieldsOK e) : gen e < U64 := by
  cases e with
  | free n g => exact (h 0 n g rfl).2
  | raw p g => exact (h 1 p g rfl).2
  | stream a b => simp [gen, U64]
  | promised => simp [gen, U64]
  | invalid => simp [gen, U64]

/-- a pending value keeps the generation of the base entry, or is new and has generation 0 -/
theorem Inv.gen_lt {d0 d : Doc V} (hi : Inv d0 d) (hf0 : ∀ e ∈ d0.st.refs, FieldsOK e) {j : Nat} {v : V} {g : Nat}
    (hc : chLookup d.st.changes j = some (v, g)) : g < U64 := by
  rcases Nat.lt_or_ge j d0.st.refs.length with hj0 | hj0
  · obtain ⟨e0, he0, _, hge, _⟩ := hi.ch_old j v g hc hj0
    exact hge ▸ gen_lt_of_fields e0 (hf0 e0 (List.mem_of_getElem? he0))
  · rw [(hi.ch_new j v g hc hj0).1]; decide

/-- the cross-reference stream object is the last record of the revision -/
theorem save_objs_le (P : Params V) (L : Layout) (hL : L.Pos) (d0 d d' : Doc V) (chain0) (i : SaveInfo)
    (hb : BaseOK d0 chain0) (hi : Inv d0 d) (h : Committed P L d d'.st i) :
    ∀ o ∈ d'.st.objs, o.off ≤ d.st.start + i.xpos := by
  have pf := prep_facts d0 d chain0 hb hi
  obtain ⟨w, rows, hw, hr, hst, _, hxpos, _, _, _⟩ := h.spec'
  obtain ⟨k1, _, k4, _⟩ := writeChanges_ok P L _ hL.1 _ _ _ hw pf.inv.sorted pf.inv.objs_lt
  simp only at k1 k4
  have hstart : (prep d).st2.start ≤ (prep d).st2.len := by
    have := hb.start_le; have := pf.inv.start_eq; have := pf.inv.len_ge
    simp only at *; omega
  have hwl : w.len = d.st.start + i.xpos := by rw [hxpos, ← pf.start_same]; omega
  intro o ho
  rw [hst] at ho
  simp only [commit, List.mem_append, List.mem_singleton] at ho
  rcases ho with ho | rfl
  · have := k4 o ho; omega
  · simp only; omega

/-- the widths a save announces when it wrote its revision are at most 8 bytes: every field of the table it leaves behind is
    below 2⁶⁴, provided the fields of the base table are and the file stays below 2⁶⁴ bytes -/
theorem widths_le_8 (P : Params V) (L : Layout) (hL : L.Pos) (d0 d d' : Doc V) (chain0) (i : SaveInfo)
    (hb : BaseOK d0 chain0) (hi : Inv d0 d) (h : Committed P L d d'.st i) (htr : d'.tr = d.tr)
    (hf0 : ∀ e ∈ d0.st.refs, FieldsOK e) (hlen : d.st.start + i.xpos < U64) : i.aw ≤ 8 ∧ i.bw ≤ 8 := by
  have sh := save_shape_c P L hL d0 d d' chain0 i hb hi h
  have hle := save_objs_le P L hL d0 d d' chain0 i hb hi h
  have hi' := inv_committed P L hL d0 d d' chain0 i hb hi h htr
  have hw := save_ok_widths_c P L d d' i h
  have hall : ∀ e ∈ d'.st.refs, e = .promised ∨ FieldsOK e := by
    intro e he
    obtain ⟨j, hj⟩ := List.getElem?_of_mem he
    have hjl : j < d'.st.refs.length := (List.getElem?_eq_some_iff.mp hj).1
    cases hc : chLookup d'.st.changes j with
    | none =>
      by_cases hj0 : j < d0.st.refs.length
      · have := hi'.refs_old j hj0 hc
        rw [hj] at this
        right; exact hf0 e (List.mem_of_getElem? this.symm)
      · have := hi'.refs_new j (by omega) hjl hc
        rw [hj] at this; simp only [Option.some.injEq] at this
        left; exact this
    | some x =>
      obtain ⟨v, g⟩ := x
      obtain ⟨off, h1, h2, o, ho, ho1, _, _, _⟩ := sh.pending j v g hc
      obtain ⟨r, hr1, hr2⟩ := sh.rows_of_table j e hj
      rw [h2] at hr2; simp only [Option.some.injEq] at hr2; subst hr2
      have he' := rowOf_raw e _ _ hr1
      subst he'
      have hoff : off ≤ d.st.start + i.xpos := by
        have hm : o ∈ d'.st.objs := by unfold objAt at ho; exact List.mem_of_find?_eq_some ho
        have := hle o hm; omega
      have hg := hi'.gen_lt hf0 hc
      right
      intro t a b hfe
      simp only [fieldsOf, Option.some.injEq, Prod.mk.injEq] at hfe
      obtain ⟨_, rfl, rfl⟩ := hfe
      exact ⟨by omega, hg⟩
  obtain ⟨m1, m2⟩ := maxFields_lt d'.st.refs hall
  simp only [widths] at hw
  have haw : i.aw = byteLen (maxFields d'.st.refs).1 := by have := congrArg Prod.fst hw; simpa using this
  have hbw : i.bw = byteLen (maxFields d'.st.refs).2 := by have := congrArg Prod.snd hw; simpa using this
  rw [haw, hbw]
  exact ⟨byteLen_le_8 _ m1, byteLen_le_8 _ m2⟩

end Storage

namespace Storage
open Xref

variable {V : Type}

/-- `v` is the cross-reference stream a save that wrote its revision left pending -/
def XrefLeft (P : Params V) (L : Layout) (d : Doc V) (v : V) : Prop :=
  ∃ i, v = P.xrefVal i ∧ Committed P L d (save P L d).1.st i ∧ (save P L d).1.tr = d.tr

/-- what is pending when `save` starts writing was pending before, or is the info dictionary of the trailer -/
theorem prep_changes (d0 d : Doc V) (chain0) (hb : BaseOK d0 chain0) (hi : Inv d0 d) (j : Nat) (v : V) (g : Nat)
    (hc : chLookup (prep d).st2.changes j = some (v, g)) : chLookup d.st.changes j = some (v, g) ∨ d.tr.info = some v := by
  have pf := prep_facts d0 d chain0 hb hi
  cases hinf : (prep d).infoRef with
  | none => rw [(pf.info_none hinf).2.1] at hc; exact .inl hc
  | some i' =>
    obtain ⟨v', hv', _, _, hch, _⟩ := pf.info_some i' hinf
    rw [hch, chLookup_chInsert] at hc
    split at hc
    · cases hc; exact .inr hv'
    · exact .inl hc

/-- where a pending value of the state after `save` (whatever its outcome) comes from -/
theorem save_changes (P : Params V) (L : Layout) (d0 d : Doc V) (chain0) (hb : BaseOK d0 chain0) (hi : Inv d0 d)
    (j : Nat) (v : V) (g : Nat) (h : chLookup (save P L d).1.st.changes j = some (v, g)) :
    chLookup d.st.changes j = some (v, g) ∨ d.tr.info = some v ∨ XrefLeft P L d v := by
  have hst2 := prep_changes d0 d chain0 hb hi
  cases hci : commitInfo P L d with
  | none =>
    rcases commitInfo_none P L d0 d chain0 hb hi hci with ⟨_, _, _, _, _, hch⟩ | hd
    · rw [hch] at h; exact (hst2 j v g h).imp_right .inl
    · rw [hd] at h; exact .inl h
  | some i =>
    obtain ⟨hc, htr⟩ := commitInfo_some P L d0 d chain0 hb hi i hci
    rw [hc.changes] at h
    split at h
    · cases h
      refine .inr (.inr ⟨i, rfl, hc, htr.elim id fun ⟨i', hs⟩ => ?_⟩)
      exact save_tr_eq P L d0 d _ chain0 i' hb hi (Prod.ext rfl hs)
    · exact (hst2 j v g h).imp_right .inl

/-- where a pending value of the state after one operation comes from -/
theorem step_changes (P : Params V) (d0 d : Doc V) (chain0) (hb : BaseOK d0 chain0) (hi : Inv d0 d) (op : Op V)
    (hop : OpOK op) (j : Nat) (v : V) (g : Nat) (h : chLookup (step P d op).1.st.changes j = some (v, g)) :
    chLookup d.st.changes j = some (v, g) ∨ op = .create v ∨ (∃ id, op = .update id v) ∨ (∃ id, op = .fulfil id v) ∨
      (∃ L, op = .save L ∧ (d.tr.info = some v ∨ XrefLeft P L d v)) := by
  have hupd : ∀ id w, chLookup (step P d (.update id w)).1.st.changes j = some (v, g) →
      chLookup d.st.changes j = some (v, g) ∨ w = v := by
    intro id w hu
    rw [step_update_fst] at hu
    rcases update_fst d.st id w with e | ⟨g', e⟩ <;> simp only [e, chLookup_chInsert] at hu
    · exact .inl hu
    · split at hu
      · cases hu; exact .inr rfl
      · exact .inl hu
  cases op with
  | create w =>
    simp only [step, create, alloc, chLookup_chInsert] at h
    split at h
    · cases h; exact .inr (.inl rfl)
    · exact .inl h
  | update id w => exact (hupd id w h).imp_right fun (e : w = v) => .inr (.inl ⟨id, e ▸ rfl⟩)
  | fulfil id w => exact (hupd id w h).imp_right fun (e : w = v) => .inr (.inr (.inl ⟨id, e ▸ rfl⟩))
  | get id =>
    simp only [step, get] at h
    split at h
    · split at h <;> exact .inl h
    · exact .inl h
  | save L =>
    rw [step_save_fst] at h
    exact (save_changes P L d0 d chain0 hb hi j v g h).imp_right fun h' => .inr (.inr (.inr ⟨L, rfl, h'⟩))
  | _ => exact .inl h

end Storage

namespace RepBytes
open Storage PdfLex Xref OpenBytes SaveBytes
open PdfSyntax (WF WFE keysOf vdepth vdepthE)

variable {R : Type}

/-- what the byte-level theorems ask of the base document beyond `BaseOK` and `Rep` (the numbers are those of
    `SaveBytes.Bounds`: `/Prev` is written as an `i32`, object numbers as `u64`) -/
structure BaseVals (fmt : R → List UInt8) (pr : List UInt8 → Option R) (d0 : Doc (Prim R)) : Prop where
  info : ∀ v, d0.tr.info = some v → OKVal fmt pr v
  prev : ∀ p, d0.tr.prev = some p → p ≤ 2147483647
  root : d0.tr.root.1 ≤ 18446744073709551615 ∧ d0.tr.root.2 ≤ 18446744073709551615
  fields : ∀ e ∈ d0.st.refs, FieldsOK e

/-- the limits under which the cross-reference stream object is proved to round-trip hold for every
    revision written to a file that stays below 2³¹ bytes -/
theorem bounds_of_save (fmt : R → List UInt8) (pr : List UInt8 → Option R) (P : Params (Prim R)) (L : Layout) (hL : L.Pos)
    (d0 d d' : Doc (Prim R)) (chain0) (i : SaveInfo) (hb : BaseOK d0 chain0) (hi : Inv d0 d)
    (h : Committed P L d d'.st i) (htr : d'.tr = d.tr) (hv : BaseVals fmt pr d0) (hlen : d.st.start + i.xpos ≤ fileMax) :
    Bounds d.tr (prep d).infoRef i := by
  have pf := prep_facts d0 d chain0 hb hi
  have sh := save_shape_c P L hL d0 d d' chain0 i hb hi h
  obtain ⟨_, _, _, _, _, _, _, hsize, _, hmax⟩ := h.spec'
  obtain ⟨ha, hbw⟩ := widths_le_8 P L hL d0 d d' chain0 i hb hi h htr hv.fields (by unfold fileMax at hlen; unfold Storage.U64; omega)
  have hsz : i.size ≤ 1000000 := by rw [hsize, pf.size_eq]; unfold MAX_ID at hmax; exact hmax
  refine ⟨ha, hbw, by have := sh.rows_len; omega, hsz, ?_, ?_, ?_⟩
  · rw [hi.tr_eq]; exact hv.prev
  · rw [hi.tr_eq]; exact hv.root
  · intro j hj
    obtain ⟨_, _, _, hjj, _⟩ := pf.info_some j hj
    unfold MAX_ID at hmax; omega

theorem Rep.of_same {P : Offsets.Parsers (Prim R) (Dict R)} {bytes : List UInt8} {st st' : St (Prim R)}
    (h : Rep P bytes st) (hs : SameBackend st st') : Rep P bytes st' := by
  obtain ⟨h1, h2, h3, h4, h5⟩ := hs
  exact ⟨by rw [h3]; exact h.len, h.small, by rw [h4]; exact h.header, by rw [h5, h2]; exact h.xref,
    by rw [h1]; exact h.objs, by rw [h2]; exact h.secs⟩

/-- the invariant of byte-level histories -/
structure HInv (fmt : R → List UInt8) (env : Env R) (pfuel : Nat) (dec : Dict R → List UInt8 → Out (List UInt8))
    (b0 b : BDoc R) : Prop where
  inv : Inv b0.doc b.doc
  rep : Rep (parsers env pfuel dec) b.bytes b.doc.st
  ch : ∀ j v g, chLookup b.doc.st.changes j = some (v, g) → OKVal fmt env.parseReal v
  ids : b.ids = b0.ids

/-- what is asked of one operation: the values written are within the limits of the round-trip theorems. Nothing is
    asked of a `save`: it may succeed, fail before anything is written, or fail after its revision was appended.
    (The state `_b` in which the operation runs is not looked at.) -/
def GoodOp (fmt : R → List UInt8) (pr : List UInt8 → Option R) (_b : BDoc R) : OpB R → Prop
  | .create v => OKVal fmt pr v
  | .update _ v => OKVal fmt pr v
  | .fulfil _ v => OKVal fmt pr v
  | _ => True

def GoodHist (fmt : R → List UInt8) (pr : List UInt8 → Option R) : BDoc R → List (OpB R) → Prop
  | _, [] => True
  | b, op :: ops => GoodOp fmt pr b op ∧ GoodHist fmt pr (stepB fmt b op).1 ops

theorem okVal_xrefStream (fmt : R → List UInt8) (pr : List UInt8 → Option R) (tr : Trailer (Prim R)) (infoRef : Option Nat)
    (i : SaveInfo) (hb : Bounds tr infoRef i) : OKVal fmt pr (xrefStreamVal i) := by
  obtain ⟨a1, a2, a3, a4⟩ := xrefInfoDict_props fmt pr tr infoRef i hb
  exact .stream _ _ a1 a2 a3 (by simp [xrefInfoDict, dictGet, SaveBytes.kType, SaveBytes.kSize, SaveBytes.kIndex, SaveBytes.kW, kwLength])
    (by unfold maxDepth; omega)

/-- the pending values at the moment `save` starts writing are the pending values plus the info dictionary,
    under numbers and generations below 2⁶⁴ -/
theorem prep_vals (fmt : R → List UInt8) (env : Env R) (pfuel : Nat) (dec : Dict R → List UInt8 → Out (List UInt8))
    (b0 b : BDoc R) (chain0) (hb : BaseOK b0.doc chain0) (hv : BaseVals fmt env.parseReal b0.doc)
    (h : HInv fmt env pfuel dec b0 b) (hsz : b.doc.st.refs.length + 2 ≤ MAX_ID) :
    ∀ c ∈ (prep b.doc).st2.changes, OKVal fmt env.parseReal c.2.1 ∧ c.1 ≤ 18446744073709551615 ∧
      c.2.2 ≤ 18446744073709551615 := by
  have pf := prep_facts b0.doc b.doc chain0 hb h.inv
  intro c hc
  obtain ⟨j, v, g⟩ := c
  have hl := chLookup_of_mem_sorted _ pf.inv.sorted _ hc
  simp only at hl ⊢
  have hjlt := pf.inv.ch_lt j (v, g) hl
  simp only at hjlt
  refine ⟨?_, by have := pf.len_eq; have := pf.xid_le; unfold MAX_ID at hsz; omega, ?_⟩
  · rcases prep_changes b0.doc b.doc chain0 hb h.inv j v g hl with h' | h'
    · exact h.ch j v g h'
    · exact hv.info v (h.inv.tr_eq ▸ h')
  · have := pf.inv.gen_lt hv.fields hl
    unfold Storage.U64 at this; omega

theorem toOp_ok (fmt : R → List UInt8) (b : BDoc R) (op : OpB R) : OpOK (op.toOp (layoutOf fmt op.typed b)) := by
  cases op <;> first | trivial | exact layoutOf_pos fmt _ b

/-- the value an admissible operation writes is within the limits -/
theorem okVal_of_goodOp (fmt : R → List UInt8) (pr : List UInt8 → Option R) (b : BDoc R) (op : OpB R) (L : Layout) (v : Prim R)
    (hg : GoodOp fmt pr b op)
    (h : op.toOp L = .create v ∨ (∃ id, op.toOp L = .update id v) ∨ ∃ id, op.toOp L = .fulfil id v) : OKVal fmt pr v := by
  cases op <;> simp [OpB.toOp] at h <;> first | (subst h; exact hg) | (obtain ⟨_, rfl⟩ := h; exact hg)

theorem toOp_eq_save (op : OpB R) (L L' : Layout) (h : op.toOp L = .save L') : ∃ t, op = .save t := by
  cases op <;> simp [OpB.toOp] at h; exact ⟨_, rfl⟩

/-- **one step keeps the invariant**: the bytes represent the abstract state, the pending values stay within
    the limits -/
theorem hinv_stepB (fmt : R → List UInt8) (env : Env R) (hd : env.decrypt = none) (pfuel : Nat)
    (dec : Dict R → List UInt8 → Out (List UInt8)) (hdec : NoFilter dec) (b0 b : BDoc R) (chain0)
    (hb : BaseOK b0.doc chain0) (hv : BaseVals fmt env.parseReal b0.doc) (h : HInv fmt env pfuel dec b0 b)
    (op : OpB R) (hg : GoodOp fmt env.parseReal b op)
    (hsmall : (stepB fmt b op).1.bytes.length ≤ fileMax) (hpf : 3 * (stepB fmt b op).1.bytes.length ≤ pfuel) :
    HInv fmt env pfuel dec b0 (stepB fmt b op).1 := by
  obtain ⟨s1, s2, s3⟩ := stepB_step fmt b op
  have hLpos := layoutOf_pos fmt op.typed b
  have hopok := toOp_ok fmt b op
  have hinv' : Inv b0.doc (stepB fmt b op).1.doc := by
    rw [s1]; exact step_inv _ b0.doc b.doc chain0 hb h.inv _ hopok
  -- a save that wrote its revision: the facts about the bytes
  have hcommitted : ∀ t i, op = .save t →
      Committed (params fmt b.ids) (layoutOf fmt t b) b.doc (save (params fmt b.ids) (layoutOf fmt t b) b.doc).1.st i →
      CommittedB fmt t b (stepB fmt b op).1 i ∧ Bounds b.doc.tr (prep b.doc).infoRef i := by
    rintro t i rfl hc
    rw [stepB_save_fst] at hinv' hsmall ⊢
    have hcb := committedB_of_committed fmt t b i hc
    have bk := saveB_backend fmt b0.doc chain0 b _ i hb h.inv h.rep.len t hcb
    exact ⟨hcb, bounds_of_save fmt env.parseReal _ _ (layoutOf_pos fmt t b) b0.doc b.doc _ chain0 i hb h.inv hcb.doc
      (hinv'.tr_eq.trans h.inv.tr_eq.symm) hv (Nat.le_trans bk.xpos_le hsmall)⟩
  have hch' : ∀ j v g, chLookup (stepB fmt b op).1.doc.st.changes j = some (v, g) → OKVal fmt env.parseReal v := by
    intro j v g hc
    rw [s1] at hc
    rcases step_changes _ b0.doc b.doc chain0 hb h.inv _ hopok j v g hc with h' | h' | ⟨id, h'⟩ | ⟨id, h'⟩ | ⟨L, h', h''⟩
    · exact h.ch j v g h'
    · exact okVal_of_goodOp fmt _ b op _ v hg (Or.inl h')
    · exact okVal_of_goodOp fmt _ b op _ v hg (Or.inr (Or.inl ⟨id, h'⟩))
    · exact okVal_of_goodOp fmt _ b op _ v hg (Or.inr (Or.inr ⟨id, h'⟩))
    · rcases h'' with h'' | ⟨i, rfl, h'', _⟩
      · exact hv.info v (by rw [← h.inv.tr_eq]; exact h'')
      · obtain ⟨t, rfl⟩ := toOp_eq_save op _ _ h'
        cases h'
        exact okVal_xrefStream fmt env.parseReal _ _ i (hcommitted t i rfl h'').2
  refine ⟨hinv', ?_, hch', by rw [s3]; exact h.ids⟩
  cases op with
  | save t =>
    cases hci : commitInfo (params fmt b.ids) (layoutOf fmt t b) b.doc with
    | some i =>
      obtain ⟨hc, _⟩ := commitInfo_some _ _ b0.doc b.doc chain0 hb h.inv i hci
      obtain ⟨hcb, hbd⟩ := hcommitted t i rfl hc
      obtain ⟨_, _, _, _, _, _, _, _, _, hmax⟩ := hc.spec'
      exact rep_saveB fmt env hd pfuel dec hdec b0.doc chain0 b _ i hb h.inv h.rep t hcb hbd
        (prep_vals fmt env pfuel dec b0 b chain0 hb hv h hmax) hsmall hpf
    | none =>
      rw [stepB_save_fst, saveB_fst]
      simp only [hci]
      exact h.rep.of_same (save_uncommitted_backend _ _ b0.doc b.doc chain0 hb h.inv hci)
  | _ => exact h.rep.of_same (stepB_nosave fmt b _ (fun t => by simp)).1

theorem stepB_bytes_mono (fmt : R → List UInt8) (b : BDoc R) (op : OpB R) :
    b.bytes.length ≤ (stepB fmt b op).1.bytes.length := by
  cases op with
  | save t => rw [stepB_save_fst, saveB_fst]; simp only; split <;> simp
  | _ => exact Nat.le_refl _

theorem runB_bytes_mono (fmt : R → List UInt8) : ∀ (ops : List (OpB R)) (b : BDoc R),
    b.bytes.length ≤ (runB fmt b ops).1.bytes.length := by
  intro ops
  induction ops with
  | nil => intro b; exact Nat.le_refl _
  | cons op ops ih =>
    intro b
    simp only [runB]
    exact Nat.le_trans (stepB_bytes_mono fmt b op) (ih _)

/-- **a history keeps the invariant** -/
theorem hinv_runB (fmt : R → List UInt8) (env : Env R) (hd : env.decrypt = none) (pfuel : Nat)
    (dec : Dict R → List UInt8 → Out (List UInt8)) (hdec : NoFilter dec) (b0 : BDoc R) (chain0)
    (hb : BaseOK b0.doc chain0) (hv : BaseVals fmt env.parseReal b0.doc) :
    ∀ (ops : List (OpB R)) (b : BDoc R), HInv fmt env pfuel dec b0 b → GoodHist fmt env.parseReal b ops →
      (runB fmt b ops).1.bytes.length ≤ fileMax → 3 * (runB fmt b ops).1.bytes.length ≤ pfuel →
      HInv fmt env pfuel dec b0 (runB fmt b ops).1 := by
  intro ops
  induction ops with
  | nil => intro b h _ _ _; exact h
  | cons op ops ih =>
    intro b h hg hsmall hpf
    simp only [runB] at hsmall hpf ⊢
    have hm := runB_bytes_mono fmt ops (stepB fmt b op).1
    exact ih _ (hinv_stepB fmt env hd pfuel dec hdec b0 b chain0 hb hv h op hg.1 (by omega) (by omega)) hg.2 hsmall hpf

theorem hinv_base (fmt : R → List UInt8) (env : Env R) (pfuel : Nat) (dec : Dict R → List UInt8 → Out (List UInt8))
    (b0 : BDoc R) (chain0) (hb : BaseOK b0.doc chain0) (hrep : Rep (parsers env pfuel dec) b0.bytes b0.doc.st) :
    HInv fmt env pfuel dec b0 b0 :=
  ⟨inv_base b0.doc chain0 hb, hrep, by intro j v g hc; rw [hb.changes_nil] at hc; simp [chLookup] at hc, rfl⟩

/-- every operation of the lifted history is admissible for the abstract theorems -/
theorem liftOps_ok (fmt : R → List UInt8) : ∀ (ops : List (OpB R)) (b : BDoc R), ∀ op ∈ liftOps fmt b ops, OpOK op := by
  intro ops
  induction ops with
  | nil => intro b op h; simp [liftOps] at h
  | cons o ops ih =>
    intro b op h
    simp only [liftOps, List.mem_cons] at h
    rcases h with rfl | h
    · exact toOp_ok fmt b o
    · exact ih _ op h

end RepBytes

namespace C09Bytes
open Storage PdfLex Xref OpenBytes SaveBytes RepBytes

variable {R : Type}

/-- the bridge from the abstract reload to the bytes: after a successful byte-level save on a state the bytes
    represent, the byte-level open path builds the table the abstract `reload` builds, and the byte-level resolver
    finds every value the reloaded document reads -/
theorem open_saved (fmt : R → List UInt8) (env : Env R) (hd : env.decrypt = none) (pfuel : Nat)
    (dec : Dict R → List UInt8 → Out (List UInt8)) (hdec : NoFilter dec) (b0 b : BDoc R) (chain0)
    (hb : BaseOK b0.doc chain0) (hv : BaseVals fmt env.parseReal b0.doc) (h1 : HInv fmt env pfuel dec b0 b)
    (b' : BDoc R) (i : SaveInfo) (typed : Bool) (hs : saveB fmt typed b = (b', .ok i))
    (hsmall : b'.bytes.length ≤ fileMax) (hpf : 3 * b'.bytes.length ≤ pfuel)
    (dr : Doc (Prim R)) (hrl : reload b'.doc.st false = .ok dr)
    (fuel : Nat) (hfuel : b'.doc.st.secs.length + 1 ≤ fuel) (rfuel : Nat) :
    ∃ T, openB env pfuel dec fuel b'.bytes = .ok (b0.doc.st.start, dr.st.refs, T) ∧
      dictGet T SaveBytes.kRoot = some (.ref dr.tr.root.1 dr.tr.root.2) ∧
      ∀ id v, resolve dr.st id = .val v →
        ∃ o, resolveB env pfuel dec (rfuel + 2) b'.bytes b0.doc.st.start dr.st.refs id = .ok o ∧ Denotes b'.bytes o v := by
  have hstep : stepB fmt b (.save typed) = (b', .saved i) := by simp [stepB, hs]
  have h2 := hinv_stepB fmt env hd pfuel dec hdec b0 b chain0 hb hv h1 (.save typed) trivial
    (by rw [hstep]; exact hsmall) (by rw [hstep]; exact hpf)
  rw [hstep] at h2
  obtain ⟨T, hopen, hroot⟩ := open_of_rep (parsers env pfuel dec) b'.bytes b'.doc.st h2.rep false dr hrl fuel hfuel
  obtain ⟨_, _, _, _, _, _, _, hdr, _⟩ := reload_ok_spec b'.doc.st false dr hrl
  rw [h2.inv.start_eq] at hopen
  refine ⟨T, hopen, hroot, fun id v h => ?_⟩
  rw [hdr] at h
  exact h2.inv.start_eq ▸ resolve_of_rep (parsers env pfuel dec) b'.bytes b'.doc.st h2.rep dr.st.refs false id v h rfuel

end C09Bytes
