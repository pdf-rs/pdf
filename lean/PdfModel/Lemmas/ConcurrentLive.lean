import PdfModel.Lemmas.ConcurrentSeq

/-! Progress in `Model/Concurrent.lean`: who owns an in-process marker (`OwnInv`), what a waiting thread waits for
(`WaitInv`), when a thread is enabled (`stepT_isSome_iff`), and why wait-for edges descend in rank (`GInv.not_stuck`). -/

namespace Conc
open Cache
variable {V E : Type}

variable {d : Doc V E} {cfg : Cfg} {i : Nat} {sh : Shared V E} {t : Thread V E} {x : Shared V E × Thread V E}
  {s s' : State V E}

/-- what thread-local code and the bookkeeping around it leave alone: the slots, the frames that own a slot, the
    thread's list of calls; and the thread ends up neither `done` (it may have panicked) nor waiting -/
structure Kept (slots : List (Nat × Slot V E)) (stack : List (Frame V E)) (todo : List (Prog V E))
    (x : Shared V E × Thread V E) : Prop where
  slots : x.1.slots = slots
  stack : ∀ f ∈ stack, f.store = true → f ∈ x.2.stack
  todo : x.2.todo = todo
  notDone : x.2.ctl ≠ .done
  notWaiting : ∀ T r k, x.2.ctl ≠ .waiting T r k

theorem finish_kept (sh : Shared V E) (t : Thread V E) (res : Res V E) :
    Kept sh.slots t.stack t.todo (sh, finish t res) := by
  unfold finish
  split
  · next g rest hst =>
    split
    · exact ⟨rfl, fun _ h _ => h, rfl, nofun, nofun⟩
    · next hg =>
      refine ⟨rfl, fun f hf hs => ?_, rfl, nofun, nofun⟩
      rcases List.mem_cons.mp (hst ▸ hf) with rfl | hf
      · exact absurd hs hg
      · exact hf
  · next hst => exact ⟨rfl, fun f hf _ => absurd (hst ▸ hf) List.not_mem_nil, rfl, nofun, nofun⟩

theorem runTo_kept (d : Doc V E) (cfg : Cfg) (sh : Shared V E) (t : Thread V E) (p : Prog V E) :
    Kept sh.slots t.stack t.todo (runTo d cfg sh t p) := by
  have hsl : (runTo d cfg sh t p).1.slots = sh.slots := (congrArg Shared.slots (advP_frame d cfg p sh) :)
  unfold runTo at hsl ⊢
  cases (advP d cfg sh p).1 with
  | enter T r k => cases hcb : cfg.cb <;> simp only [applyAdv, hcb] <;> exact ⟨hsl, fun _ h _ => h, rfl, nofun, nofun⟩
  | fin res => exact ⟨hsl, (finish_kept sh t res).stack, (finish_kept sh t res).todo, (finish_kept sh t res).notDone,
      (finish_kept sh t res).notWaiting⟩

theorem startLoad_kept (d : Doc V E) (cfg : Cfg) (sh : Shared V E) (t : Thread V E) (r : Nat) (p : Prog V E) :
    Kept sh.slots t.stack t.todo (startLoad d cfg sh t r p) := by
  unfold startLoad
  split
  · exact ⟨rfl, fun _ h _ => h, rfl, nofun, nofun⟩
  · exact runTo_kept d cfg sh t p

theorem Kept.tail {slots : List (Nat × Slot V E)} {f : Frame V E} {stack : List (Frame V E)} {todo : List (Prog V E)}
    {x : Shared V E × Thread V E} (h : Kept slots (f :: stack) todo x) : Kept slots stack todo x :=
  ⟨h.slots, fun g hg hs => h.stack g (List.mem_cons_of_mem _ hg) hs, h.todo, h.notDone, h.notWaiting⟩

theorem afterLookup_kept (d : Doc V E) (cfg : Cfg) (sh : Shared V E) (t : Thread V E) (T r : Nat)
    (k : Res V E → Prog V E) (T' : Nat) (res : Res V E) :
    Kept sh.slots t.stack t.todo (afterLookup d cfg sh t T r k T' res) := by
  unfold afterLookup
  split
  · split
    · exact ⟨rfl, fun _ h _ => h, rfl, nofun, nofun⟩
    · exact (startLoad_kept d cfg sh { t with stack := ⟨T, r, false, k⟩ :: t.stack } r _).tail
  · exact (startLoad_kept d cfg sh { t with stack := ⟨T, r, false, k⟩ :: t.stack } r _).tail

/-- what one transition does to the slots and to the frames that own a slot -/
theorem Step.shape
    (hx : Step d cfg i sh t x) :
    (∀ r, sh.slots.lookup r ≠ none → x.1.slots.lookup r ≠ none) ∧
    (∀ r j, x.1.slots.lookup r = some (.inProcess j) →
      sh.slots.lookup r = some (.inProcess j) ∨
        (sh.slots.lookup r = none ∧ j = i ∧ ∃ f ∈ x.2.stack, f.r = r ∧ f.store = true)) ∧
    (∀ f ∈ t.stack, f.store = true → f ∈ x.2.stack ∨ ∃ T res, x.1.slots.lookup f.r = some (.computed T res)) ∧
    (∀ T r k, x.2.ctl = .waiting T r k → x.1.slots.lookup r ≠ none) := by
  have same : ∀ {todo : List (Prog V E)} {x : Shared V E × Thread V E}, Kept sh.slots t.stack todo x →
      (∀ r, sh.slots.lookup r ≠ none → x.1.slots.lookup r ≠ none) ∧
      (∀ r j, x.1.slots.lookup r = some (.inProcess j) →
        sh.slots.lookup r = some (.inProcess j) ∨
        (sh.slots.lookup r = none ∧ j = i ∧ ∃ f ∈ x.2.stack, f.r = r ∧ f.store = true)) ∧
      (∀ f ∈ t.stack, f.store = true → f ∈ x.2.stack ∨ ∃ T res, x.1.slots.lookup f.r = some (.computed T res)) ∧
      (∀ T r k, x.2.ctl = .waiting T r k → x.1.slots.lookup r ≠ none) :=
    fun h => ⟨fun r hr => h.slots ▸ hr, fun r j hj => .inl (h.slots ▸ hj), fun f hf hst => .inl (h.stack f hf hst),
      fun T r k hw => absurd hw (h.notWaiting T r k)⟩
  cases hx with
  | finished => exact ⟨fun r h => h, fun r j h => .inl h, fun f hf _ => .inl hf, nofun⟩
  | push => exact same ⟨rfl, fun _ h _ => h, rfl, nofun, nofun⟩
  | pushShared => exact same ⟨rfl, fun _ h _ => h, rfl, nofun, nofun⟩
  | poisoned => exact same ⟨rfl, fun _ h _ => h, rfl, nofun, nofun⟩
  | logged => exact same ⟨rfl, fun _ h _ => h, rfl, nofun, nofun⟩
  | popFail => exact same ⟨rfl, fun _ h _ => h, rfl, nofun, nofun⟩
  | popSharedFail => exact same ⟨rfl, fun _ h _ => h, rfl, nofun, nofun⟩
  | call p ps => exact same (runTo_kept d cfg sh { t with todo := ps } p)
  | refused T r k => exact same (runTo_kept d cfg sh t _)
  | loaded r p => exact same (runTo_kept d cfg sh t p)
  | pop T r k res cs => exact same (runTo_kept d cfg sh { t with chain := cs } _)
  | popShared T r k res cs => exact same (runTo_kept d cfg { sh with chain := cs } t _)
  | hit T r k T' res => exact same (afterLookup_kept d cfg sh t T r k T' res)
  | uncached T r k => exact same (startLoad_kept d cfg sh { t with stack := ⟨T, r, false, k⟩ :: t.stack } r _).tail
  | wait T r k o _ hl =>
    refine ⟨fun r h => h, fun r j h => .inl h, fun f hf _ => .inl hf, ?_⟩
    rintro _ _ _ ⟨⟩
    rw [hl]; nofun
  | claim T r k _ hl =>
    obtain ⟨h1, h2, _, _, h3⟩ := startLoad_kept d cfg { sh with slots := (r, .inProcess i) :: sh.slots }
      { t with stack := ⟨T, r, true, k⟩ :: t.stack } r (d.compute T r)
    refine ⟨fun r' hr' => ?_, fun r' j hj => ?_, fun f hf hst => .inl (h2 f (List.mem_cons_of_mem _ hf) hst),
      fun T1 r1 k1 hw => absurd hw (h3 T1 r1 k1)⟩
    · rw [h1, List.lookup_cons]
      split
      · nofun
      · exact hr'
    · rw [h1] at hj
      rcases lookup_cons_some hj with ⟨rfl, e⟩ | ⟨_, hj⟩
      · cases e
        exact .inr ⟨hl, rfl, ⟨T, r', true, k⟩, h2 _ (List.mem_cons_self ..) rfl, rfl, rfl⟩
      · exact .inl hj
  | store res f rest _ hst =>
    refine ⟨fun r' hr' => ?_, fun r' j hj => ?_, fun g hg hgs => ?_, nofun⟩
    · show List.lookup r' ((f.r, _) :: sh.slots) ≠ none
      rw [List.lookup_cons]
      split
      · nofun
      · exact hr'
    · rcases lookup_cons_some hj with ⟨_, e⟩ | ⟨_, hj⟩
      · cases e
      · exact .inl hj
    · rcases List.mem_cons.mp (hst ▸ hg) with rfl | hg
      · exact .inr ⟨g.T, res, by simp⟩
      · exact .inl hg

/-- a slot that holds a value keeps holding one -/
theorem Step.computed
    (hx : Step d cfg i sh t x) {r T : Nat} {res : Res V E} (h : sh.slots.lookup r = some (.computed T res)) :
    ∃ T' res', x.1.slots.lookup r = some (.computed T' res') := by
  obtain ⟨h1, h2, _, _⟩ := hx.shape
  cases hl : x.1.slots.lookup r with
  | none => exact absurd hl (h1 r (by rw [h]; nofun))
  | some sl =>
    cases sl with
    | computed T' res' => exact ⟨T', res', rfl⟩
    | inProcess j => rcases h2 r j hl with h' | ⟨h', _⟩ <;> rw [h] at h' <;> cases h'

/-- every in-process marker belongs to a frame of its owner that will store into it -/
def OwnInv (s : State V E) : Prop :=
  ∀ (r j : Nat), s.sh.slots.lookup r = some (.inProcess j) →
    ∃ t, s.threads[j]? = some t ∧ ∃ f ∈ t.stack, f.r = r ∧ f.store = true

/-- a waiting thread waits for a slot that exists -/
def WaitInv (s : State V E) : Prop :=
  ∀ (i : Nat) (t : Thread V E) (T r : Nat) (k : Res V E → Prog V E),
    s.threads[i]? = some t → t.ctl = .waiting T r k → s.sh.slots.lookup r ≠ none

theorem step_ownWait
    (h : OwnInv s ∧ WaitInv s) (hs : step d cfg s i = some s') : OwnInv s' ∧ WaitInv s' := by
  obtain ⟨ho, hw⟩ := h
  obtain ⟨t, sh', t', hti, hst, rfl⟩ := step_inv hs
  have hself : (s.threads.set i t')[i]? = some t' := by simp [(List.getElem?_eq_some_iff.mp hti).1]
  obtain ⟨hmono, hnew, hkeep, hwait⟩ := (stepT_sound hst).shape
  constructor
  · intro r j hj
    rcases hnew r j hj with hold | ⟨_, rfl, f, hf, hfr, hfs⟩
    · obtain ⟨u, hu, f, hf, hfr, hfs⟩ := ho r j hold
      by_cases e : j = i
      · subst e
        cases hti.symm.trans hu
        refine ⟨t', hself, ?_⟩
        rcases hkeep f hf hfs with hin | ⟨T, res, hc⟩
        · exact ⟨f, hin, hfr, hfs⟩
        · rw [hfr, hj] at hc; cases hc
      · exact ⟨u, (List.getElem?_set_ne (Ne.symm e)).trans hu, f, hf, hfr, hfs⟩
    · exact ⟨t', hself, f, hf, hfr, hfs⟩
  · intro j u T r k hu hc
    rcases set_get hu with ⟨rfl, rfl⟩ | ⟨_, hu⟩
    · exact hwait T r k hc
    · exact hmono r (hw j u T r k hu hc)

/-- from an object cache without entries (an in-process marker present at the start would have no owner) -/
theorem init_ownWait (stm : List (Nat × Res V E)) (css : List (List (Prog V E))) :
    OwnInv (State.init ([] : List (Nat × Slot V E)) stm css) ∧ WaitInv (State.init ([] : List (Nat × Slot V E)) stm css) := by
  constructor
  · intro r j h; simp [State.init] at h
  · intro i t T r k ht hc
    simp only [State.init, List.getElem?_map, Option.map_eq_some_iff] at ht
    obtain ⟨cs, _, rfl⟩ := ht
    simp [Thread.init] at hc

theorem reachable_ownWait {d : Doc V E} {cfg : Cfg} {s0 s : State V E} (h0 : OwnInv s0 ∧ WaitInv s0)
    (hr : Reachable d cfg s0 s) : OwnInv s ∧ WaitInv s := by
  induction hr with
  | init => exact h0
  | step i _ hs ih => exact step_ownWait ih hs

/-- when can a thread take its step: it is not finished, a store has its frame, a waiting thread's slot is stored -/
theorem stepT_isSome_iff (d : Doc V E) (cfg : Cfg) (i : Nat) (sh : Shared V E) (t : Thread V E) :
    (stepT d cfg i sh t).isSome = true ↔
      (t.ctl.isFinal = false ∧ (∀ res, t.ctl = .storing res → t.stack ≠ []) ∧
        (∀ T r k, t.ctl = .waiting T r k → ∃ T' res, sh.slots.lookup r = some (.computed T' res))) := by
  obtain ⟨ctl, stack, chain, todo, out⟩ := t
  have triv : ∀ {c : Ctl V E}, c.isFinal = false → (∀ res, c ≠ .storing res) → (∀ T r k, c ≠ .waiting T r k) →
      (c.isFinal = false ∧ (∀ res, c = .storing res → stack ≠ []) ∧
        (∀ T r k, c = .waiting T r k → ∃ T' res, sh.slots.lookup r = some (.computed T' res))) :=
    fun h1 h2 h3 => ⟨h1, fun res e => absurd e (h2 res), fun T r k e => absurd e (h3 T r k)⟩
  cases ctl with
  | done => simp [stepT, Ctl.isFinal]
  | panicked => simp [stepT, Ctl.isFinal]
  | start => exact iff_of_true (by cases todo <;> rfl) (triv rfl nofun nofun)
  | logging T r k => exact iff_of_true rfl (triv rfl nofun nofun)
  | loading r p => exact iff_of_true rfl (triv rfl nofun nofun)
  | enter T r k =>
    refine iff_of_true ?_ (triv rfl nofun nofun)
    simp only [stepT, apply_ite Option.isSome, Option.isSome_some, ite_self]
  | pushed T r k =>
    refine iff_of_true ?_ (triv rfl nofun nofun)
    simp only [stepT]
    cases sh.slots.lookup r with
    | none => simp only [apply_ite Option.isSome, Option.isSome_some, ite_self]
    | some sl => cases sl <;> simp only [apply_ite Option.isSome, Option.isSome_some, ite_self]
  | popping T r k res =>
    refine iff_of_true ?_ (triv rfl nofun nofun)
    simp only [stepT]
    cases sh.chain <;> cases chain <;> simp only [apply_ite Option.isSome, Option.isSome_some, ite_self]
  | storing res => cases stack <;> simp [stepT, Ctl.isFinal]
  | waiting T r k =>
    simp only [stepT, Ctl.isFinal, true_and, Ctl.waiting.injEq, reduceCtorEq, false_imp_iff, implies_true]
    constructor
    · intro h
      split at h
      · next T' res hl => rintro _ _ _ ⟨_, rfl, _⟩; exact ⟨T', res, hl⟩
      · cases h
    · intro h
      obtain ⟨T', res, hl⟩ := h T r k ⟨rfl, rfl, rfl⟩
      rw [hl]; rfl

section Stuck
variable {d : Doc V E} {filt : Nat → List Nat} {rank : Nat → Nat} {N : Nat} {css : List (List (Prog V E))} {s : State V E}
  {cfg : Cfg}

/-- an unfinished thread that cannot move is waiting for a slot somebody has in process -/
theorem GInv.stuck (hG : GInv d filt rank N css s) (hw : WaitInv s) {i : Nat} {t : Thread V E} (ht : s.threads[i]? = some t)
    (hfin : t.ctl.isFinal = false) (hen : step d cfg s i = none) :
    ∃ T r k j, t.ctl = .waiting T r k ∧ s.sh.slots.lookup r = some (.inProcess j) := by
  obtain ⟨cs, _, _, hT⟩ := hG.thread ht
  have hno : ¬ (stepT d cfg i s.sh t).isSome = true := by
    rw [step_of ht, Option.map_eq_none_iff] at hen
    simp [hen]
  rw [stepT_isSome_iff] at hno
  have : ∃ T r k, t.ctl = .waiting T r k ∧ ¬ ∃ T' res, s.sh.slots.lookup r = some (.computed T' res) :=
    Classical.byContradiction fun hc => hno ⟨hfin, fun res h => hT.storing h, fun T r k h =>
      Classical.byContradiction fun hn => hc ⟨T, r, k, h, hn⟩⟩
  obtain ⟨T, r, k, hc, hn⟩ := this
  cases hl : s.sh.slots.lookup r with
  | none => exact absurd hl (hw i t T r k ht hc)
  | some sl =>
    cases sl with
    | inProcess j => exact ⟨T, r, k, j, hc, hl⟩
    | computed T' res => exact absurd ⟨T', res, hl⟩ hn

/-- **Wait-for edges descend in rank.** If every thread that is in the middle of a load is blocked, then no
    unfinished thread is blocked: a blocked thread waits for a slot whose owner is in the middle of loading it, hence
    blocked, hence waiting for a reference of smaller rank. -/
theorem GInv.not_stuck (hG : GInv d filt rank N css s) (ho : OwnInv s) (hw : WaitInv s)
    (hb : ∀ j u, s.threads[j]? = some u → u.stack ≠ [] → step d cfg s j = none)
    {i : Nat} {t : Thread V E} (ht : s.threads[i]? = some t) (hfin : t.ctl.isFinal = false) :
    step d cfg s i ≠ none := by
  have key : ∀ (m : Nat) (i : Nat) (t : Thread V E) (T r : Nat) (k : Res V E → Prog V E),
      s.threads[i]? = some t → t.ctl = .waiting T r k → step d cfg s i = none → rank r = m → False := by
    intro m
    induction m using Nat.strongRecOn with
    | _ m ih =>
      intro i t T r k ht hc hen hm
      obtain ⟨_, r1, _, j, hc1, hslot⟩ := hG.stuck hw ht (by rw [hc]; rfl) hen
      cases hc.symm.trans hc1
      obtain ⟨u, hu, f, hf, hfr, _⟩ := ho r j hslot
      have hne : u.stack ≠ [] := List.ne_nil_of_mem hf
      obtain ⟨_, _, _, hT⟩ := hG.thread hu
      obtain ⟨T2, r2, k2, _, hc2, _⟩ := hG.stuck hw hu (hT.isFinal_false hne) (hb j u hu hne)
      obtain ⟨_, cur, _, _, hp, hst⟩ := hT.running (p := .get T2 r2 k2) (by rw [hc2]; rfl)
      exact ih (rank r2) (hm ▸ hfr ▸ rank_lt_of_mem hp hst hf) j u T2 r2 k2 hu hc2 (hb j u hu hne) rfl
  intro hen
  obtain ⟨T, r, k, _, hc, _⟩ := hG.stuck hw ht hfin hen
  exact key (rank r) i t T r k ht hc hen rfl

end Stuck

end Conc
