import PdfModel.Spec.PageTreeBytes
import PdfModel.Lemmas.PageTree
import PdfModel.Lemmas.BuildBytes
import PdfModel.Lemmas.ContentBytesUtf8
import PdfModel.Props.C09

/-! C07 at byte level: what the spec writer writes is read back as the object table of the tree. -/


namespace PageTreeB
open PdfLex PageTree BuildBytes SaveBytes Storage RepBytes OpenBytes Xref
open PdfSyntax (WF WFE WFL keysOf vdepth vdepthE vdepthL)

variable {R : Type}

/-! ### reading a written body -/

theorem refsOf_refs : ∀ (ks : List Nat), refsOf (ks.map fun k => (Prim.ref k 0 : Prim R)) = some ks
  | [] => rfl
  | k :: ks => by simp [refsOf, refsOf_refs ks]

theorem dictGet_append (p q : Dict R) (k : List UInt8) :
    dictGet (p ++ q) k = match dictGet p k with | some v => some v | none => dictGet q k := by
  induction p with
  | nil => rfl
  | cons kv p ih =>
    obtain ⟨k', v'⟩ := kv
    simp only [dictGet, List.cons_append]
    split
    · rfl
    · exact ih

/-- the three attribute entries of the dictionary `d` are those the writer emits for `a` -/
def AttrsAt (d : Dict R) (a : Attrs) : Prop :=
  dictGet d kMediaBox = a.mediaBox.map boxVal ∧ dictGet d kCropBox = a.cropBox.map boxVal ∧
    dictGet d kResources = a.resources.map resVal

theorem attrsAt_entries (a : Attrs) : AttrsAt (attrEntries a : Dict R) a := by
  obtain ⟨_ | m, _ | c, _ | r⟩ := a <;> simp [AttrsAt, attrEntries, dictGet, kMediaBox, kCropBox, kResources]

theorem AttrsAt.append {a : Attrs} (pre : Dict R) (h1 : dictGet pre kMediaBox = none) (h2 : dictGet pre kCropBox = none)
    (h3 : dictGet pre kResources = none) : AttrsAt (pre ++ attrEntries a) a := by
  simp only [AttrsAt, dictGet_append, h1, h2, h3]
  exact attrsAt_entries a

theorem resMarker_resVal (m : Nat) (hm : m ≤ 2147483647) : resMarker (some (resVal m : Prim R)) = some m := by
  have := parseUsize_natTok (fmtNat m) m (fmtNat_spec m) (by unfold OffLex.usizeMax; omega)
  simp [resMarker, resVal, dictGet, this]
theorem boxMarker_boxVal (m : Nat) : boxMarker (some (boxVal m : Prim R)) = some m := by
  simp [boxMarker, boxVal]

theorem AttrsAt.attrsOf {d : Dict R} {a : Attrs} (h : AttrsAt d a) (ha : attrsOK a = true) : attrsOf d = a := by
  obtain ⟨m, c, r⟩ := a
  simp only [attrsOK, Bool.and_eq_true, decide_eq_true_eq] at ha
  simp only [PageTreeB.attrsOf, h.1, h.2.1, h.2.2]
  have hb : ∀ o : Option Nat, boxMarker (o.map (boxVal (R := R))) = o := fun o => by
    cases o with
    | none => rfl
    | some x => exact boxMarker_boxVal x
  have hr : resMarker (r.map (resVal (R := R))) = r := by
    cases r with
    | none => simp [resMarker]
    | some x => exact resMarker_resVal x (by simpa using ha.2)
  rw [hb, hb, hr]

/-- the dictionary of a written /Page object -/
def leafDict (p : Nat) (a : Attrs) : Dict R := [(SaveBytes.kType, .name kPage), (kParent, .ref p 0)] ++ attrEntries a
/-- the dictionary of a written /Pages object -/
def nodeDict (parent : Option Nat) (kids : List Nat) (count : Nat) (a : Attrs) : Dict R :=
  [(SaveBytes.kType, .name kPagesT)] ++ (match parent with | some p => [(kParent, .ref p 0)] | none => []) ++
    [(kKids, .arr (kids.map fun k => .ref k 0)), (kCount, .int count)] ++ attrEntries a

theorem leafVal_eq (p : Nat) (a : Attrs) : (leafVal p a : Prim R) = .dict (leafDict p a) := rfl
theorem nodeVal_eq (parent : Option Nat) (kids : List Nat) (count : Nat) (a : Attrs) :
    (nodeVal parent kids count a : Prim R) = .dict (nodeDict parent kids count a) := rfl

theorem attrEntries_other (a : Attrs) (k : List UInt8) (h1 : k ≠ kMediaBox) (h2 : k ≠ kCropBox) (h3 : k ≠ kResources) :
    dictGet (attrEntries a : Dict R) k = none := by
  obtain ⟨_ | m, _ | c, _ | r⟩ := a <;> simp [attrEntries, dictGet, Ne.symm h1, Ne.symm h2, Ne.symm h3]

theorem leafDict_lookups (p : Nat) (a : Attrs) :
    dictGet (leafDict p a : Dict R) SaveBytes.kType = some (.name kPage) ∧
    dictGet (leafDict p a : Dict R) kParent = some (.ref p 0) ∧ AttrsAt (leafDict p a : Dict R) a :=
  ⟨rfl, rfl, .append _ rfl rfl rfl⟩

theorem nodeDict_lookups (parent : Option Nat) (kids : List Nat) (count : Nat) (a : Attrs) :
    dictGet (nodeDict parent kids count a : Dict R) SaveBytes.kType = some (.name kPagesT) ∧
    dictGet (nodeDict parent kids count a : Dict R) kParent = parent.map (.ref · 0) ∧
    dictGet (nodeDict parent kids count a : Dict R) kKids = some (.arr (kids.map fun k => .ref k 0)) ∧
    dictGet (nodeDict parent kids count a : Dict R) kCount = some (.int count) ∧
    AttrsAt (nodeDict parent kids count a : Dict R) a := by
  cases parent with
  | none => exact ⟨rfl, by rw [nodeDict, dictGet_append, attrEntries_other a _ (by decide) (by decide) (by decide)]; rfl, rfl, rfl, .append _ rfl rfl rfl⟩
  | some p => exact ⟨rfl, rfl, rfl, rfl, .append _ rfl rfl rfl⟩

theorem nodeOf_leafVal (p : Nat) (a : Attrs) (ha : attrsOK a = true) :
    nodeOf (leafVal p a : Prim R) = .page p a := by
  obtain ⟨h1, h2, h3⟩ := leafDict_lookups (R := R) p a
  simp only [leafVal_eq, nodeOf, show OpenBytes.kType = SaveBytes.kType from rfl, h1, h2, h3.attrsOf ha, if_true]

theorem nodeOf_nodeVal (parent : Option Nat) (kids : List Nat) (count : Nat) (a : Attrs) (ha : attrsOK a = true) :
    nodeOf (nodeVal parent kids count a : Prim R) = .pages parent kids count a := by
  obtain ⟨h1, h2, h3, h4, h5⟩ := nodeDict_lookups (R := R) parent kids count a
  have hne : kPagesT ≠ kPage := by decide
  simp only [nodeVal_eq, nodeOf, show OpenBytes.kType = SaveBytes.kType from rfl, h1, h2, h3, h4, h5.attrsOf ha, hne,
    if_false, if_true]
  cases parent <;> simp [refsOf_refs]

/-! ### the table of the written objects represents the tree -/

mutual
theorem represents_of_objs (tbl : Tbl) : ∀ (t : PTree) (parent : Option Nat), markersOK t = true →
    (∀ p ∈ (objsOf parent t : List (Nat × Prim R)), tbl p.1 = some (nodeOf p.2)) →
    (match t with | .leaf _ _ => parent.isSome | _ => true) = true →
    represents tbl parent t = true
  | .leaf id a, parent, hm, h, hp => by
    cases parent with
    | none => simp at hp
    | some q =>
      have := h (id, leafVal q a) (by simp [objsOf])
      simp only [markersOK] at hm
      simp only [nodeOf_leafVal q a hm] at this
      simp [represents, this]
  | .node id a ks, parent, hm, h, _ => by
    simp only [markersOK, Bool.and_eq_true] at hm
    have := h (id, nodeVal parent (ks.map PTree.id) (nLeavesL ks) a) (by simp [objsOf])
    simp only [nodeOf_nodeVal _ _ _ a hm.1] at this
    simp only [represents, this, decide_true, Bool.true_and]
    exact representsL_of_objs tbl ks id hm.2 (fun p hp => h p (by simp [objsOf, hp]))
theorem representsL_of_objs (tbl : Tbl) : ∀ (ks : List PTree) (pid : Nat), markersOKL ks = true →
    (∀ p ∈ (objsOfL pid ks : List (Nat × Prim R)), tbl p.1 = some (nodeOf p.2)) → representsL tbl pid ks = true
  | [], _, _, _ => rfl
  | k :: ks, pid, hm, h => by
    simp only [markersOKL, Bool.and_eq_true] at hm
    simp only [representsL, Bool.and_eq_true]
    refine ⟨represents_of_objs tbl k (some pid) hm.1 (fun p hp => h p (by simp [objsOfL, hp]))
      (by cases k <;> rfl), representsL_of_objs tbl ks pid hm.2 (fun p hp => h p (by simp [objsOfL, hp]))⟩
end

/-! ### the bodies are within the limits of the round-trip theorems -/

theorem isDig_lt : ∀ b : UInt8, PdfSyntax.isDig b = true → b < 128 := by
  intro b h
  simp only [PdfSyntax.isDig, Bool.and_eq_true, decide_eq_true_eq] at h
  exact Nat.lt_of_le_of_lt h.2 (by decide)

theorem utf8Valid_digits : ∀ (ds : List UInt8), PdfSyntax.Digits ds → PdfLex.utf8Valid ds = true
  | [], _ => rfl
  | d :: ds, h => by
    rw [ContentBytes.utf8Valid_ascii d ds (isDig_lt d (h d (by simp)))]
    exact utf8Valid_digits ds (fun b hb => h b (by simp [hb]))

/-- the key `M<m>` of a written /Properties dictionary (`77` = `M`) -/
theorem utf8Valid_key (m : Nat) : PdfLex.utf8Valid (77 :: fmtNat m) = true := by
  rw [ContentBytes.utf8Valid_ascii 77 _ (by decide)]
  exact utf8Valid_digits _ (fmtNat_spec m).2.1

/-- entries within the limits of the round-trip theorems: serialisable, well formed, nested at most four deep (the
    deepest written entry is /Resources: dictionary, /Properties, its dictionary, the empty dictionary under `M<m>`;
    one more level for the node itself stays within `maxDepth`) -/
def EntriesOK (fmt : R → List UInt8) (pr : List UInt8 → Option R) (d : Dict R) : Prop :=
  SerialisableE fmt pr d ∧ WFE d ∧ vdepthE d ≤ 4

theorem EntriesOK.append {fmt : R → List UInt8} {pr : List UInt8 → Option R} {a b : Dict R} (ha : EntriesOK fmt pr a)
    (hb : EntriesOK fmt pr b) : EntriesOK fmt pr (a ++ b) :=
  ⟨serialisableE_append fmt pr _ _ ha.1 hb.1, wfe_append _ _ ha.2.1 hb.2.1, vdepthE_append 4 _ _ ha.2.2 hb.2.2⟩

theorem EntriesOK.opt {fmt : R → List UInt8} {pr : List UInt8 → Option R} (o : Option Nat) (k : List UInt8) (f : Nat → Prim R)
    (h : ∀ m, o = some m → EntriesOK fmt pr [(k, f m)]) :
    EntriesOK fmt pr (match (generalizing := false) o with | some m => [(k, f m)] | none => []) := by
  cases o with
  | none => exact ⟨trivial, trivial, Nat.zero_le _⟩
  | some m => exact h m rfl

theorem entriesOK_box (fmt : R → List UInt8) (pr : List UInt8 → Option R) (k : List UInt8)
    (hk : PdfLex.utf8Valid k = true) (m : Nat) (hm : m ≤ 2147483647) : EntriesOK fmt pr [(k, (boxVal m : Prim R))] := by
  simp [EntriesOK, boxVal, SerialisableE, Serialisable, SerialisableL, WFE, WF, WFL, vdepthE, vdepth, vdepthL, hk]
  omega

theorem entriesOK_res (fmt : R → List UInt8) (pr : List UInt8 → Option R) (m : Nat) :
    EntriesOK fmt pr [(kResources, (resVal m : Prim R))] := by
  simp [EntriesOK, resVal, SerialisableE, Serialisable, WFE, WF, keysOf, vdepthE, vdepth, utf8Valid_key]
  decide

theorem entriesOK_attrs (fmt : R → List UInt8) (pr : List UInt8 → Option R) (a : Attrs) (ha : attrsOK a = true) :
    EntriesOK fmt pr (attrEntries a : Dict R) := by
  obtain ⟨m, c, r⟩ := a
  simp only [attrsOK, Bool.and_eq_true, decide_eq_true_eq] at ha
  exact ((EntriesOK.opt m kMediaBox _ fun x hx => entriesOK_box fmt pr _ (by decide) x (by subst hx; exact ha.1.1)).append
    (.opt c kCropBox _ fun x hx => entriesOK_box fmt pr _ (by decide) x (by subst hx; exact ha.1.2))).append
    (.opt r _ _ fun x _ => entriesOK_res fmt pr x)

/-- references are serialisable when the object number fits a `u64` (`18446744073709551615` = 2⁶⁴ − 1, the bound of
    `Serialisable` on `.ref`) -/
theorem serL_refs (fmt : R → List UInt8) (pr : List UInt8 → Option R) : ∀ (ks : List Nat),
    (∀ k ∈ ks, k ≤ 18446744073709551615) →
    SerialisableL fmt pr (ks.map fun k => (Prim.ref k 0 : Prim R)) ∧ WFL (ks.map fun k => (Prim.ref k 0 : Prim R)) ∧
      vdepthL (ks.map fun k => (Prim.ref k 0 : Prim R)) = 0
  | [], _ => by simp [SerialisableL, WFL, vdepthL]
  | k :: ks, h => by
    obtain ⟨a, b, c⟩ := serL_refs fmt pr ks (fun x hx => h x (by simp [hx]))
    have := h k (by simp)
    simp [SerialisableL, Serialisable, WFL, WF, vdepthL, vdepth, a, b, c, this]

theorem attrKeys_sublist (a : Attrs) : (keysOf (attrEntries a : Dict R)).Sublist [kMediaBox, kCropBox, kResources] := by
  obtain ⟨m, c, r⟩ := a
  cases m <;> cases c <;> cases r <;> simp [attrEntries, keysOf]

theorem okVal_of_parts (fmt : R → List UInt8) (pr : List UInt8 → Option R) (pre : Dict R) (a : Attrs)
    (ha : attrsOK a = true) (hpre : EntriesOK fmt pr pre)
    (h4 : (keysOf pre).Sublist [SaveBytes.kType, kParent, kKids, kCount]) :
    OKVal fmt pr (.dict (pre ++ attrEntries a) : Prim R) := by
  have h := hpre.append (entriesOK_attrs fmt pr a ha)
  refine .direct _ h.1 ⟨h.2.1, ?_⟩ (by have := h.2.2; simp only [vdepth, maxDepth]; omega)
  have : (keysOf (pre ++ attrEntries a)).Sublist
      ([SaveBytes.kType, kParent, kKids, kCount] ++ [kMediaBox, kCropBox, kResources]) := by
    simp only [keysOf, List.map_append]
    exact List.Sublist.append h4 (attrKeys_sublist a)
  exact List.Nodup.sublist this (by decide)

theorem okVal_leafVal (fmt : R → List UInt8) (pr : List UInt8 → Option R) (p : Nat) (a : Attrs)
    (hp : p ≤ 18446744073709551615) (ha : attrsOK a = true) : OKVal fmt pr (leafVal p a : Prim R) := by
  refine okVal_of_parts fmt pr _ a ha ⟨?_, ?_, ?_⟩ ?_
  · simp [SerialisableE, Serialisable, hp]
  · simp only [WFE, WF, and_true]; decide
  · simp [vdepthE, vdepth]
  · simp [keysOf]

theorem okVal_nodeVal (fmt : R → List UInt8) (pr : List UInt8 → Option R) (parent : Option Nat) (kids : List Nat)
    (count : Nat) (a : Attrs) (hp : ∀ p, parent = some p → p ≤ 18446744073709551615)
    (hk : ∀ k ∈ kids, k ≤ 18446744073709551615) (hc : count ≤ 2147483647) (ha : attrsOK a = true) :
    OKVal fmt pr (nodeVal parent kids count a : Prim R) := by
  obtain ⟨s1, s2, s3⟩ := serL_refs fmt pr kids hk
  refine okVal_of_parts fmt pr _ a ha ⟨?_, ?_, ?_⟩ ?_
  · cases parent with
    | none => simp [SerialisableE, Serialisable, s1]; omega
    | some p => have := hp p rfl; simp [SerialisableE, Serialisable, s1, this]; omega
  · cases parent <;> simp only [WFE, WF, List.append_nil, List.cons_append, List.nil_append, s2, and_true, true_and] <;> decide
  · cases parent <;> simp [vdepthE, vdepth, s3]
  · cases parent <;> simp [keysOf]

/-- `emptyDoc` is the builder's empty storage (`BuildBytes.emptyB`) but for the /Root of its trailer -/
theorem baseOK_emptyDoc (root : Nat) : BaseOK (emptyDoc root : BDoc R).doc [] :=
  baseOK_header false _ rfl

theorem rep_emptyDoc (P : Offsets.Parsers (Prim R) (Dict R)) (root : Nat) :
    Rep P (emptyDoc root : BDoc R).bytes (emptyDoc root : BDoc R).doc.st :=
  rep_empty P none 0

theorem baseVals_emptyDoc (fmt : R → List UInt8) (pr : List UInt8 → Option R) (root : Nat)
    (hn : root ≤ 18446744073709551615) : BaseVals fmt pr (emptyDoc root : BDoc R).doc :=
  let h := baseVals_empty fmt pr none 0 nofun (Nat.zero_le _)
  ⟨nofun, h.prev, by simp only [emptyDoc]; omega, h.fields⟩

/-- a run of `create`s appends references, leaves the objects below untouched and makes the `j`-th value pending under
    the `j`-th new number -/
theorem run_creates (fmt : R → List UInt8) : ∀ (vs : List (Prim R)) (b : BDoc R),
    (runB fmt b (vs.map .create)).1.doc.st.refs.length = b.doc.st.refs.length + vs.length ∧
    (∀ j, j < b.doc.st.refs.length →
      chLookup (runB fmt b (vs.map .create)).1.doc.st.changes j = chLookup b.doc.st.changes j) ∧
    ∀ j v, vs[j]? = some v →
      chLookup (runB fmt b (vs.map .create)).1.doc.st.changes (b.doc.st.refs.length + j) = some (v, 0)
  | [], b => ⟨rfl, fun _ _ => rfl, fun j v h => by simp at h⟩
  | v :: vs, b => by
    obtain ⟨h1, h2, h3⟩ := run_creates fmt vs (stepB fmt b (.create v)).1
    have el : (create b.doc.st v).1.refs.length = b.doc.st.refs.length + 1 := by simp [create, alloc]
    have ec : ∀ j, chLookup (create b.doc.st v).1.changes j =
        if j = b.doc.st.refs.length then some (v, 0) else chLookup b.doc.st.changes j := by
      intro j; simp [create, alloc, chLookup_chInsert]
    rw [stepB_create, el] at h1 h2 h3
    simp only [List.map_cons, runB, List.length_cons]
    refine ⟨by rw [h1]; omega, fun j hj => by rw [h2 j (by omega), ec, if_neg (by omega)], fun j w hw => ?_⟩
    cases j with
    | zero =>
      cases hw
      rw [Nat.add_zero, h2 _ (by omega), ec, if_pos rfl]
    | succ j =>
      rw [← h3 j w hw]
      congr 1
      omega

/-! ### the written file, opened and resolved at byte level -/

mutual
theorem ids_objs : ∀ (t : PTree) (parent : Option Nat), (objsOf parent t : List (Nat × Prim R)).map (·.1) = idsOf t
  | .leaf _ _, _ => rfl
  | .node _ _ ks, _ => by simp [objsOf, idsOf, idsL_objs ks]
theorem idsL_objs : ∀ (ks : List PTree) (pid : Nat), (objsOfL pid ks : List (Nat × Prim R)).map (·.1) = idsOfL ks
  | [], _ => rfl
  | k :: ks, pid => by simp [objsOfL, idsOfL, ids_objs k, idsL_objs ks]
end

theorem id_mem_idsOf (t : PTree) : t.id ∈ idsOf t := by
  cases t <;> simp [idsOf, PTree.id]

theorem id_mem_idsOfL {c : PTree} : ∀ {ks : List PTree}, c ∈ ks → c.id ∈ idsOfL ks
  | k :: ks, h => by
    rcases List.mem_cons.mp h with rfl | h
    · simp [idsOfL, id_mem_idsOf]
    · simp [idsOfL, id_mem_idsOfL h]

mutual
theorem okVal_objs (fmt : R → List UInt8) (pr : List UInt8 → Option R) (n : Nat) (hn : n ≤ 18446744073709551615) :
    ∀ (t : PTree) (parent : Option Nat), markersOK t = true → (∀ x ∈ idsOf t, x ≤ n) → (∀ p, parent = some p → p ≤ n) →
    nLeaves t ≤ 2147483647 → ∀ q ∈ (objsOf parent t : List (Nat × Prim R)), OKVal fmt pr q.2
  | .leaf id a, parent, hm, _, hp, _, q, hq => by
    simp only [objsOf, List.mem_singleton] at hq
    subst hq
    simp only [markersOK] at hm
    refine okVal_leafVal fmt pr _ a ?_ hm
    cases parent with
    | none => simp
    | some p => have := hp p rfl; simp; omega
  | .node id a ks, parent, hm, hi, hp, hc, q, hq => by
    simp only [markersOK, Bool.and_eq_true] at hm
    simp only [objsOf, List.mem_cons] at hq
    simp only [nLeaves] at hc
    have hid : id ≤ n := hi id (by simp [idsOf])
    rcases hq with rfl | hq
    · refine okVal_nodeVal fmt pr parent _ _ a (fun p hp' => by have := hp p hp'; omega) ?_ hc hm.1
      intro k hk
      obtain ⟨c, hc', rfl⟩ := List.mem_map.mp hk
      have := hi c.id (by simp [idsOf, id_mem_idsOfL hc'])
      omega
    · exact okValL_objs fmt pr n hn ks id hm.2 (fun x hx => hi x (by simp [idsOf, hx])) hid hc q hq
theorem okValL_objs (fmt : R → List UInt8) (pr : List UInt8 → Option R) (n : Nat) (hn : n ≤ 18446744073709551615) :
    ∀ (ks : List PTree) (pid : Nat), markersOKL ks = true → (∀ x ∈ idsOfL ks, x ≤ n) → pid ≤ n →
    nLeavesL ks ≤ 2147483647 → ∀ q ∈ (objsOfL pid ks : List (Nat × Prim R)), OKVal fmt pr q.2
  | [], _, _, _, _, _, q, hq => by simp [objsOfL] at hq
  | k :: ks, pid, hm, hi, hp, hc, q, hq => by
    simp only [markersOKL, Bool.and_eq_true] at hm
    simp only [nLeavesL] at hc
    simp only [objsOfL, List.mem_append] at hq
    rcases hq with hq | hq
    · exact okVal_objs fmt pr n hn k (some pid) hm.1 (fun x hx => hi x (by simp [idsOfL, hx])) (fun p hp' => by cases hp'; exact hp)
        (by omega) q hq
    · exact okValL_objs fmt pr n hn ks pid hm.2 (fun x hx => hi x (by simp [idsOfL, hx])) hp (by omega) q hq
end

mutual
theorem objs_dict : ∀ (t : PTree) (parent : Option Nat), ∀ q ∈ (objsOf parent t : List (Nat × Prim R)), ∃ d, q.2 = .dict d
  | .leaf _ _, _, q, hq => by
    simp only [objsOf, List.mem_singleton] at hq
    subst hq
    exact ⟨_, rfl⟩
  | .node _ _ ks, _, q, hq => by
    simp only [objsOf, List.mem_cons] at hq
    rcases hq with rfl | hq
    · exact ⟨_, rfl⟩
    · exact objsL_dict ks _ q hq
theorem objsL_dict : ∀ (ks : List PTree) (pid : Nat), ∀ q ∈ (objsOfL pid ks : List (Nat × Prim R)), ∃ d, q.2 = .dict d
  | [], _, q, hq => by simp [objsOfL] at hq
  | k :: ks, pid, q, hq => by
    simp only [objsOfL, List.mem_append] at hq
    rcases hq with hq | hq
    · exact objs_dict k _ q hq
    · exact objsL_dict ks pid q hq
end

theorem find_of_mem_nodup : ∀ (l : List (Nat × Prim R)), (l.map (·.1)).Nodup → ∀ q ∈ l, l.find? (·.1 == q.1) = some q
  | [], _, q, hq => by simp at hq
  | x :: l, hn, q, hq => by
    simp only [List.map_cons, List.nodup_cons] at hn
    rcases List.mem_cons.mp hq with rfl | hq
    · simp
    · have hne : x.1 ≠ q.1 := fun h => hn.1 (by rw [h]; exact List.mem_map.mpr ⟨q, hq, rfl⟩)
      have : (x.1 == q.1) = false := by simpa using hne
      simp only [List.find?_cons, this]
      exact find_of_mem_nodup l hn.2 q hq

theorem okVal_bodyAt (fmt : R → List UInt8) (pr : List UInt8 → Option R) (objs : List (Nat × Prim R))
    (h : ∀ q ∈ objs, OKVal fmt pr q.2) (k : Nat) : OKVal fmt pr (bodyAt objs k) := by
  unfold bodyAt
  cases hf : objs.find? (·.1 == k) with
  | none => exact .direct _ (by simp [Serialisable]) (by simp [WF]) (by simp [vdepth])
  | some p => exact h p (List.mem_of_find?_eq_some hf)

/-- **the written document at byte level**: the file opens (header at 0, one revision), the trailer's /Root leads through
    the catalog `n + 1` to the root of the tree, and the body of every node of the tree is what the byte-level resolver
    returns under its number. -/
theorem written_objects (fmt : R → List UInt8) (env : Env R) (hd : env.decrypt = none) (pfuel : Nat)
    (dec : Dict R → List UInt8 → Out (List UInt8)) (hdec : NoFilter dec) (t : PTree) (n : Nat) (hn : n ≤ 1000000)
    (hnd : (idsOf t).Nodup) (hrange : ∀ x ∈ idsOf t, 1 ≤ x ∧ x ≤ n) (hm : markersOK t = true)
    (hc : nLeaves t ≤ 2147483647) (bytes : List UInt8) (hw : writeDoc fmt t n = .ok bytes)
    (hsmall : bytes.length ≤ fileMax) (hpf : 3 * bytes.length ≤ pfuel) (rfuel : Nat) :
    ∃ tb T, openB env pfuel dec 2 bytes = .ok (0, tb, T) ∧ rootOf env pfuel dec (rfuel + 2) bytes 0 tb T = .ok t.id ∧
      ∀ q ∈ (objsOf none t : List (Nat × Prim R)), resolveB env pfuel dec (rfuel + 2) bytes 0 tb q.1 = .ok (.plain q.2) := by
  -- The file is a `save` of the storage in which the bodies are pending creates on `emptyDoc`: such a run keeps the storage
  -- invariant (`hinv_runB`), after a save every pending value is what the byte-level resolver returns under its number
  -- (`C09Bytes.reload_sees_pending_bytes`), and `run_creates` says which value is pending under which number.
  obtain ⟨b', i, hs, rfl⟩ : ∃ b' i, saveB fmt true (preparedDoc fmt t n) = (b', .ok i) ∧ b'.bytes = bytes := by
    unfold writeDoc at hw
    split at hw <;> cases hw
    exact ⟨_, _, ‹_›, rfl⟩
  have hmono : (preparedDoc fmt t n).bytes.length ≤ b'.bytes.length := by
    rw [(saveB_ok_iff fmt true _ _ i hs).2.2]; simp
  have hb0 : BaseOK (emptyDoc (n + 1) : BDoc R).doc [] := baseOK_emptyDoc _
  have hv0 : BaseVals fmt env.parseReal (emptyDoc (n + 1) : BDoc R).doc := baseVals_emptyDoc fmt _ _ (by omega)
  have hokobjs := okVal_objs fmt env.parseReal n (by omega) t none hm (fun x hx => (hrange x hx).2) (by simp) hc
  have hgood : GoodHist fmt env.parseReal (emptyDoc (n + 1)) (docOps t n) := by
    apply goodHist_of_vals
    intro op ho b
    simp only [docOps, List.mem_append, List.mem_map, List.mem_singleton] at ho
    rcases ho with ⟨k, _, rfl⟩ | rfl
    · exact okVal_bodyAt fmt _ _ hokobjs k
    · exact okVal_catalog fmt _ _ (by have := (hrange _ (id_mem_idsOf t)).2; omega)
  have hnosave : ∀ op ∈ (docOps t n : List (OpB R)), ∀ ty, op ≠ .save ty := by
    intro op ho ty
    simp only [docOps, List.mem_append, List.mem_map, List.mem_singleton] at ho
    rcases ho with ⟨k, _, rfl⟩ | rfl <;> simp
  obtain ⟨⟨k1, k2, k3, k4, _⟩, kb⟩ := runB_nosave fmt (docOps t n) (emptyDoc (n + 1)) hnosave
  have h1 : HInv fmt env pfuel dec (emptyDoc (n + 1)) (preparedDoc fmt t n) :=
    hinv_runB fmt env hd pfuel dec hdec _ [] hb0 hv0 (docOps t n) _ (hinv_base fmt env pfuel dec _ [] hb0 (rep_emptyDoc _ _))
      hgood (by unfold preparedDoc at hmono; omega) (by unfold preparedDoc at hmono; omega)
  have bk := saveB_backend fmt _ [] _ b' i hb0 h1.inv h1.rep.len true (committedB_of_ok fmt true _ _ i hs)
  have hsecs : b'.doc.st.secs.length + 1 ≤ 2 := by
    rw [bk.secs]
    have : (preparedDoc fmt t n).doc.st.secs = [] := by
      have := k2; simp only [emptyDoc] at this; exact this
    rw [this]; simp
  obtain ⟨tb, T, hopen, _, hroot, hres⟩ := C09Bytes.reload_sees_pending_bytes fmt env hd pfuel dec hdec _ _ [] hb0 hv0 h1 b' i true hs
    hsmall hpf 2 hsecs rfuel
  have pf := prep_facts _ (preparedDoc fmt t n).doc [] hb0 h1.inv
  -- what is pending under which number
  have hops : (docOps t n : List (OpB R)) =
      (((List.range' 1 n).map (fun k => bodyAt (objsOf none t) k)) ++ [catalogVal t.id]).map .create := by
    simp [docOps]
  have hch : ∀ j v, (((List.range' 1 n).map (fun k => bodyAt (objsOf none t : List (Nat × Prim R)) k)) ++ [catalogVal t.id])[j]? = some v →
      chLookup (preparedDoc fmt t n).doc.st.changes (1 + j) = some (v, 0) := by
    rw [preparedDoc, hops]
    exact (run_creates fmt _ (emptyDoc (n + 1))).2.2
  have plain_of : ∀ (id : Nat) (v : Prim R), (∀ info s, v ≠ .stream info s) →
      chLookup (preparedDoc fmt t n).doc.st.changes id = some (v, 0) →
      resolveB env pfuel dec (rfuel + 2) b'.bytes 0 tb id = .ok (.plain v) := by
    intro id v hv hc'
    obtain ⟨o, ho, hden⟩ := hres id v 0 (pf.ch_sup _ _ hc')
    cases hden with
    | plain _ _ => exact ho
    | stream info a data _ _ => exact absurd rfl (hv _ _)
  refine ⟨tb, T, hopen, ?_, ?_⟩
  · have hcat : resolveB env pfuel dec (rfuel + 2) b'.bytes 0 tb (n + 1) = .ok (.plain (catalogVal t.id)) := by
      apply plain_of _ _ (by intro info s h; simp [catalogVal] at h)
      rw [Nat.add_comm]
      exact hch n _ (by rw [List.getElem?_append_right (by simp)]; simp)
    have e : kRootK = SaveBytes.kRoot := by decide
    have hroot : dictGet T kRoot = some (.ref (n + 1) 0) := hroot
    simp only [rootOf, e, hroot, hcat, BuildBytes.catalogVal]
    simp [dictGet, BuildBytes.kPagesT, BuildBytes.kVersion, SaveBytes.kType]
  · intro q hq
    have hqid : q.1 ∈ idsOf t := by rw [← ids_objs t none]; exact List.mem_map.mpr ⟨q, hq, rfl⟩
    obtain ⟨hq1, hq2⟩ := hrange _ hqid
    have hbody : bodyAt (objsOf none t : List (Nat × Prim R)) q.1 = q.2 := by
      simp only [bodyAt, find_of_mem_nodup _ (by rw [ids_objs]; exact hnd) q hq]
    have hns : ∀ info s, q.2 ≠ .stream info s := by
      intro info s h
      obtain ⟨d, hd'⟩ := objs_dict t none q hq
      rw [hd'] at h
      cases h
    apply plain_of _ _ hns
    rw [show q.1 = 1 + (q.1 - 1) by omega]
    refine hch _ _ ?_
    rw [List.getElem?_append_left (by simp; omega), List.getElem?_map, List.getElem?_range' (by omega)]
    simp only [Option.map_some, Nat.one_mul]
    rw [← show q.1 = 1 + (q.1 - 1) by omega, hbody]

end PageTreeB

namespace C07
open PageTree PageTreeB OpenBytes

/-- evaluating the writer shows that it succeeds with a small file -/
theorem written_of_eval {t : PTree} {n : Nat}
    (h : (match writeDoc (R := List UInt8) id t n with | .ok b => decide (b.length ≤ fileMax) | _ => false) = true) :
    ∃ bytes, writeDoc (R := List UInt8) id t n = .ok bytes ∧ bytes.length ≤ fileMax := by
  split at h
  · exact ⟨_, ‹_›, by simpa using h⟩
  · cases h

end C07
