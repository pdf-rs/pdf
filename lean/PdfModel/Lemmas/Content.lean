import PdfModel.Model.Content
import PdfModel.Spec.ContentEquiv

/-! Helper lemmas for C08 (round trip of `serializeOps` / `parseOps`). -/

namespace Content

/-- What the proofs assume about the real numbers (for `f32`: `==` is an equivalence on finite values,
    unary minus respects it, and an integral value printed by `{}` as an integer token that fits an `i32`
    converts back (`i32 as f32`) to a value `==` to the original).  These are *hypotheses* of the general theorems.
    For the bit-level `f32` instance of the driver they are proved (`Content.F32.f32Laws`); that this instance computes
    what Rust's `f32` computes is what the stream `c08.real` compares, and the oracle `c08.laws` checks the laws on
    Rust's `f32` directly. -/
structure RealLaws {R : Type} (ro : RealOps R) : Prop where
  beq_refl : ∀ r, ro.special r = none → ro.beq r r = true
  beq_symm : ∀ a b, ro.beq a b = true → ro.beq b a = true
  beq_trans : ∀ a b c, ro.beq a b = true → ro.beq b c = true → ro.beq a c = true
  neg_congr : ∀ a b, ro.beq a b = true → ro.beq (ro.neg a) (ro.neg b) = true
  /-- an integral value below 2^31 in magnitude is printed as an integer that converts back to it
      (`struct Real` writes the integer token exactly when `big` is false: `rb_beq`) -/
  digits_small : ∀ r n, ro.special r = none → ro.intDigits? r = some n → ro.big r = false →
    ro.beq (ro.ofInt n) r = true
  /-- printed digits that fit an `i32` convert back to the value (`Primitive::serialize` while D9 is open writes the
      integer token whatever the magnitude; `acceptedOp` keeps those that fit: `primReal?_equiv`) -/
  digits_i32 : ∀ r n, ro.special r = none → ro.intDigits? r = some n → inI32 n = true →
    ro.beq (ro.ofInt n) r = true

section
variable {R : Type} (ro : RealOps R)

/-- the operand read for a finite real written with `Real` -/
def numQ (r : R) : Prim R := (numPrim? ro r).getD (.real r)

/-- the value read back for it -/
def rb (r : R) : R :=
  match numQ ro r with
  | .int n => ro.ofInt n
  | _ => r

theorem numPrim?_fin {r : R} (h : finiteR ro r = true) : numPrim? ro r = some (numQ ro r) := by
  unfold finiteR at h
  unfold numQ numPrim?
  cases hs : ro.special r with
  | some s => simp [hs] at h
  | none =>
    simp only
    cases ro.intDigits? r with
    | none => rfl
    | some n => by_cases hb : ro.big r = true <;> simp [hb]

theorem numTok_fin {r : R} (h : finiteR ro r = true) : numTok ro r = .prim (numQ ro r) := by
  unfold numTok; rw [numPrim?_fin ro h]

theorem numQ_cases (r : R) : (numQ ro r = .real r) ∨
    (∃ n, numQ ro r = .int n ∧ ro.intDigits? r = some n ∧ ro.big r = false) := by
  unfold numQ numPrim?
  cases hs : ro.special r with
  | some s => left; rfl
  | none =>
    simp only
    cases hd : ro.intDigits? r with
    | none => left; rfl
    | some n =>
      by_cases hb : ro.big r = true
      · left; simp [hb]
      · right; exact ⟨n, by simp [hb], rfl, by simpa using hb⟩

theorem asNumber_numQ (r : R) : asNumber ro (numQ ro r) = some (rb ro r) := by
  unfold rb
  rcases numQ_cases ro r with h | ⟨n, h, _, _⟩ <;> rw [h] <;> rfl

theorem rb_beq (laws : RealLaws ro) {r : R} (h : finiteR ro r = true) : ro.beq (rb ro r) r = true := by
  have hs : ro.special r = none := by simpa [finiteR] using h
  unfold rb
  rcases numQ_cases ro r with h1 | ⟨n, h1, h2, h3⟩ <;> rw [h1]
  · exact laws.beq_refl r hs
  · exact laws.digits_small r n hs h2 h3

theorem allSome_map_some {α β : Type} (f : α → β) (xs : List α) :
    allSome (xs.map fun x => some (f x)) = some (xs.map f) := by
  induction xs with
  | nil => rfl
  | cons x xs ih => simp [allSome, ih]

theorem all_finite_cons {x : R} {xs : List R} (h : (x :: xs).all (finiteR ro) = true) :
    finiteR ro x = true ∧ xs.all (finiteR ro) = true := by
  simpa using h

theorem numArrayTok_fin {xs : List R} (h : xs.all (finiteR ro) = true) :
    numArrayTok ro xs = .prim (.arr (xs.map (numQ ro))) := by
  have : xs.map (numPrim? ro) = xs.map (fun x => some (numQ ro x)) := by
    induction xs with
    | nil => rfl
    | cons x xs ih =>
      obtain ⟨h1, h2⟩ := all_finite_cons ro h
      simp [numPrim?_fin ro h1, ih h2]
  unfold numArrayTok
  rw [this, allSome_map_some]

theorem allSome_asNumber_numQ (xs : List R) :
    allSome ((xs.map (numQ ro)).map (asNumber ro)) = some (xs.map (rb ro)) := by
  induction xs with
  | nil => rfl
  | cons x xs ih =>
    simp only [List.map_cons, allSome, asNumber_numQ]
    rw [ih]

theorem realsEquiv_rb (laws : RealLaws ro) {xs : List R} (h : xs.all (finiteR ro) = true) :
    realsEquiv ro (xs.map (rb ro)) xs = true := by
  induction xs with
  | nil => rfl
  | cons x xs ih =>
    obtain ⟨h1, h2⟩ := all_finite_cons ro h
    simp [realsEquiv, rb_beq ro laws h1, ih h2]

def tdaQ : TDA R → Prim R
  | .text bs => .str bs
  | .spacing s => numQ ro s

def tdaRb : TDA R → TDA R
  | .text bs => .text bs
  | .spacing s => .spacing (rb ro s)

theorem tdaPrim?_fin {x : TDA R} (h : finiteTDA ro x = true) : tdaPrim? ro x = some (tdaQ ro x) := by
  cases x with
  | text bs => rfl
  | spacing s => exact numPrim?_fin ro h

theorem tdaArrayTok_fin {xs : List (TDA R)} (h : xs.all (finiteTDA ro) = true) :
    tdaArrayTok ro xs = .prim (.arr (xs.map (tdaQ ro))) := by
  have : xs.map (tdaPrim? ro) = xs.map (fun x => some (tdaQ ro x)) := by
    induction xs with
    | nil => rfl
    | cons x xs ih =>
      have h' : finiteTDA ro x = true ∧ xs.all (finiteTDA ro) = true := by simpa using h
      simp [tdaPrim?_fin ro h'.1, ih h'.2]
  unfold tdaArrayTok
  rw [this, allSome_map_some]

theorem tdaOfPrim_tdaQ (x : TDA R) : tdaOfPrim ro (tdaQ ro x) = some (tdaRb ro x) := by
  cases x with
  | text bs => rfl
  | spacing s =>
    show tdaOfPrim ro (numQ ro s) = some (.spacing (rb ro s))
    unfold rb
    rcases numQ_cases ro s with h | ⟨n, h, _, _⟩ <;> rw [h] <;> rfl

theorem allSome_tdaOfPrim (xs : List (TDA R)) :
    allSome ((xs.map (tdaQ ro)).map (tdaOfPrim ro)) = some (xs.map (tdaRb ro)) := by
  induction xs with
  | nil => rfl
  | cons x xs ih =>
    simp only [List.map_cons, allSome, tdaOfPrim_tdaQ]
    rw [ih]

theorem tdasEquiv_rb (laws : RealLaws ro) {xs : List (TDA R)} (h : xs.all (finiteTDA ro) = true) :
    tdasEquiv ro (xs.map (tdaRb ro)) xs = true := by
  induction xs with
  | nil => rfl
  | cons x xs ih =>
    have h' : finiteTDA ro x = true ∧ xs.all (finiteTDA ro) = true := by simpa using h
    cases x with
    | text bs => simp [tdasEquiv, tdaRb, tdaEquiv, ih h'.2]
    | spacing s =>
      have : finiteR ro s = true := h'.1
      simp [tdasEquiv, tdaRb, tdaEquiv, rb_beq ro laws this, ih h'.2]

theorem primReal?_equiv (laws : RealLaws ro) (cfg : Cfg) {r : R} {q : Prim R}
    (hf : finiteR ro r = true) (h : primReal? ro cfg r = some q) : primEquiv ro q (.real r) = true := by
  have hs : ro.special r = none := by simpa [finiteR] using hf
  unfold primReal? at h
  simp only [hs] at h
  by_cases hd : cfg.primDot = true
  · simp [hd] at h; subst h; simpa [primEquiv] using laws.beq_refl r hs
  · simp [hd] at h
    cases hi : ro.intDigits? r with
    | none => simp [hi] at h; subst h; simpa [primEquiv] using laws.beq_refl r hs
    | some n =>
      simp [hi] at h
      obtain ⟨h1, h2⟩ := h
      subst h2
      simpa [primEquiv] using laws.digits_i32 r n hs hi h1

mutual
theorem serPrim?_equiv (laws : RealLaws ro) (cfg : Cfg) : (p q : Prim R) → finitePrim ro p = true →
    serPrim? ro cfg p = some q → primEquiv ro q p = true
  | .null, q, _, h => by simp [serPrim?] at h; subst h; simp [primEquiv]
  | .bool b, q, _, h => by simp [serPrim?] at h; subst h; simp [primEquiv]
  | .int i, q, _, h => by simp [serPrim?] at h; subst h; simp [primEquiv]
  | .real r, q, hf, h => by
    simp [serPrim?] at h
    exact primReal?_equiv ro laws cfg (by simpa [finitePrim] using hf) h
  | .str bs, q, _, h => by simp [serPrim?] at h; subst h; simp [primEquiv]
  | .name s, q, _, h => by simp [serPrim?] at h; subst h; simp [primEquiv]
  | .ref a b, q, _, h => by simp [serPrim?] at h; subst h; simp [primEquiv]
  | .arr xs, q, hf, h => by
    simp only [serPrim?] at h
    cases hx : serPrims? ro cfg xs with
    | none => simp [hx] at h
    | some ys =>
      simp [hx] at h; subst h
      simpa [primEquiv] using serPrims?_equiv laws cfg xs ys (by simpa [finitePrim] using hf) hx
  | .dict ks xs, q, hf, h => by
    simp only [serPrim?] at h
    cases hx : serPrims? ro cfg xs with
    | none => simp [hx] at h
    | some ys =>
      simp [hx] at h; subst h
      simpa [primEquiv] using serPrims?_equiv laws cfg xs ys (by simpa [finitePrim] using hf) hx
theorem serPrims?_equiv (laws : RealLaws ro) (cfg : Cfg) : (ps qs : List (Prim R)) → finitePrims ro ps = true →
    serPrims? ro cfg ps = some qs → primsEquiv ro qs ps = true
  | [], qs, _, h => by simp [serPrims?] at h; subst h; simp [primsEquiv]
  | p :: ps, qs, hf, h => by
    simp only [serPrims?] at h
    have hf' : finitePrim ro p = true ∧ finitePrims ro ps = true := by simpa [finitePrims] using hf
    cases hp : serPrim? ro cfg p with
    | none => simp [hp] at h
    | some q =>
      cases hps : serPrims? ro cfg ps with
      | none => simp [hp, hps] at h
      | some qs' =>
        simp [hp, hps] at h; subst h
        simp [primsEquiv, serPrim?_equiv laws cfg p q hf'.1 hp, serPrims?_equiv laws cfg ps qs' hf'.2 hps]
end

theorem parseLoop_append (allow : Bool) (c : PCfg R) (ts us : List (Tok R)) :
    parseLoop ro allow c (ts ++ us) =
      match parseLoop ro allow c ts with
      | .ok c' => parseLoop ro allow c' us
      | .err => .err
      | .panic => .panic
      | .oof => .oof := by
  induction ts generalizing c with
  | nil => rfl
  | cons t ts ih =>
    simp only [List.cons_append, parseLoop]
    cases step ro allow c t <;> simp [ih]

/-- serializer state and reader state agree on the current point and on the start of the subpath,
    as far as the serializer knows them -/
def Inv (s : SState R) (st : PState R) : Prop :=
  (∀ q, s.cur = some q → ptEquiv ro st.last q = true) ∧ (∀ q, s.start = some q → ptEquiv ro st.start q = true)

theorem ptEquiv_symm (laws : RealLaws ro) {a b : Pt R} (h : ptEquiv ro a b = true) : ptEquiv ro b a = true := by
  simp only [ptEquiv, Bool.and_eq_true] at *
  exact ⟨laws.beq_symm _ _ h.1, laws.beq_symm _ _ h.2⟩

theorem ptEquiv_trans (laws : RealLaws ro) {a b c : Pt R} (h1 : ptEquiv ro a b = true) (h2 : ptEquiv ro b c = true) :
    ptEquiv ro a c = true := by
  simp only [ptEquiv, Bool.and_eq_true] at *
  exact ⟨laws.beq_trans _ _ _ h1.1 h2.1, laws.beq_trans _ _ _ h1.2 h2.2⟩

theorem opsEquiv_append {a b c d : List (Op R)} (h1 : opsEquiv ro a b = true) (h2 : opsEquiv ro c d = true) :
    opsEquiv ro (a ++ c) (b ++ d) = true := by
  induction a generalizing b with
  | nil => cases b with
    | nil => simpa using h2
    | cons y ys => simp [opsEquiv] at h1
  | cons x xs ih => cases b with
    | nil => simp [opsEquiv] at h1
    | cons y ys =>
      simp only [opsEquiv, Bool.and_eq_true] at h1
      simp [opsEquiv, h1.1, ih h1.2]

end

/-! `add` on each keyword: one lemma per arm of `Content.add`, proved by evaluating the keyword tests. -/

section
variable {R : Type} (ro : RealOps R) (st : PState R) (args : List (Prim R))

@[simp] theorem add_kw_b : add ro st "b" args = ⟨{ st.push [.close, .fillAndStroke .nonZero] with last := st.start }, true⟩ := by simp [add]
@[simp] theorem add_kw_B : add ro st "B" args = okPush st [.fillAndStroke .nonZero] := by simp [add]
@[simp] theorem add_kw_bStar : add ro st "b*" args = ⟨{ st.push [.close, .fillAndStroke .evenOdd] with last := st.start }, true⟩ := by simp [add]
@[simp] theorem add_kw_BStar : add ro st "B*" args = okPush st [.fillAndStroke .evenOdd] := by simp [add]
@[simp] theorem add_kw_BI : add ro st "BI" args = fail st := by simp [add]
@[simp] theorem add_kw_BDC : add ro st "BDC" args = addBDC ro st args := by simp [add]
@[simp] theorem add_kw_BMC : add ro st "BMC" args = name1 st args (fun tag => .beginMarkedContent tag none) := by simp [add]
@[simp] theorem add_kw_BT : add ro st "BT" args = okPush st [.beginText] := by simp [add]
@[simp] theorem add_kw_BX : add ro st "BX" args = ⟨{ st with compat := true }, true⟩ := by simp [add]
@[simp] theorem add_kw_c : add ro st "c" args = addC ro st args := by simp [add]
@[simp] theorem add_kw_cm : add ro st "cm" args = addCm ro st args := by simp [add]
@[simp] theorem add_kw_CS : add ro st "CS" args = name1 st args .strokeColorSpace := by simp [add]
@[simp] theorem add_kw_cs : add ro st "cs" args = name1 st args .fillColorSpace := by simp [add]
@[simp] theorem add_kw_d : add ro st "d" args = addD ro st args := by simp [add]
@[simp] theorem add_kw_d0 : add ro st "d0" args = ⟨st, true⟩ := by simp [add]
@[simp] theorem add_kw_d1 : add ro st "d1" args = ⟨st, true⟩ := by simp [add]
@[simp] theorem add_kw_Do : add ro st "Do" args = name1 st args .xObject := by simp [add]
@[simp] theorem add_kw_Do0 : add ro st "Do0" args = name1 st args .xObject := by simp [add]
@[simp] theorem add_kw_DP : add ro st "DP" args = addDP ro st args := by simp [add]
@[simp] theorem add_kw_EI : add ro st "EI" args = fail st := by simp [add]
@[simp] theorem add_kw_EMC : add ro st "EMC" args = okPush st [.endMarkedContent] := by simp [add]
@[simp] theorem add_kw_ET : add ro st "ET" args = okPush st [.endText] := by simp [add]
@[simp] theorem add_kw_EX : add ro st "EX" args = ⟨{ st with compat := false }, true⟩ := by simp [add]
@[simp] theorem add_kw_f : add ro st "f" args = okPush st [.fill .nonZero] := by simp [add]
@[simp] theorem add_kw_F : add ro st "F" args = okPush st [.fill .nonZero] := by simp [add]
@[simp] theorem add_kw_fStar : add ro st "f*" args = okPush st [.fill .evenOdd] := by simp [add]
@[simp] theorem add_kw_G : add ro st "G" args = one1 ro st args (fun g => .strokeColor (.gray g)) := by simp [add]
@[simp] theorem add_kw_g : add ro st "g" args = one1 ro st args (fun g => .fillColor (.gray g)) := by simp [add]
@[simp] theorem add_kw_gs : add ro st "gs" args = name1 st args .graphicsState := by simp [add]
@[simp] theorem add_kw_h : add ro st "h" args = ⟨{ st.push [.close] with last := st.start }, true⟩ := by simp [add]
@[simp] theorem add_kw_i : add ro st "i" args = one1 ro st args .flatness := by simp [add]
@[simp] theorem add_kw_ID : add ro st "ID" args = fail st := by simp [add]
@[simp] theorem add_kw_j : add ro st "j" args = addJLower ro st args := by simp [add]
@[simp] theorem add_kw_J : add ro st "J" args = addJUpper ro st args := by simp [add]
@[simp] theorem add_kw_K : add ro st "K" args = addKUpper ro st args := by simp [add]
@[simp] theorem add_kw_k : add ro st "k" args = addKLower ro st args := by simp [add]
@[simp] theorem add_kw_l : add ro st "l" args = addL ro st args := by simp [add]
@[simp] theorem add_kw_m : add ro st "m" args = addM ro st args := by simp [add]
@[simp] theorem add_kw_M : add ro st "M" args = one1 ro st args .miterLimit := by simp [add]
@[simp] theorem add_kw_MP : add ro st "MP" args = name1 st args (fun tag => .markedContentPoint tag none) := by simp [add]
@[simp] theorem add_kw_n : add ro st "n" args = okPush st [.endPath] := by simp [add]
@[simp] theorem add_kw_q : add ro st "q" args = okPush st [.save] := by simp [add]
@[simp] theorem add_kw_Q : add ro st "Q" args = okPush st [.restore] := by simp [add]
@[simp] theorem add_kw_re : add ro st "re" args = addRe ro st args := by simp [add]
@[simp] theorem add_kw_RG : add ro st "RG" args = addRGUpper ro st args := by simp [add]
@[simp] theorem add_kw_rg : add ro st "rg" args = addRgLower ro st args := by simp [add]
@[simp] theorem add_kw_ri : add ro st "ri" args = addRi ro st args := by simp [add]
@[simp] theorem add_kw_s : add ro st "s" args = ⟨{ st.push [.close, .stroke] with last := st.start }, true⟩ := by simp [add]
@[simp] theorem add_kw_S : add ro st "S" args = okPush st [.stroke] := by simp [add]
@[simp] theorem add_kw_SC : add ro st "SC" args = okPush st [.strokeColor (.other args)] := by simp [add]
@[simp] theorem add_kw_SCN : add ro st "SCN" args = okPush st [.strokeColor (.other args)] := by simp [add]
@[simp] theorem add_kw_sc : add ro st "sc" args = okPush st [.fillColor (.other args)] := by simp [add]
@[simp] theorem add_kw_scn : add ro st "scn" args = okPush st [.fillColor (.other args)] := by simp [add]
@[simp] theorem add_kw_sh : add ro st "sh" args = name1 st args .shade := by simp [add]
@[simp] theorem add_kw_TStar : add ro st "T*" args = okPush st [.textNewline] := by simp [add]
@[simp] theorem add_kw_Tc : add ro st "Tc" args = one1 ro st args .charSpacing := by simp [add]
@[simp] theorem add_kw_Td : add ro st "Td" args = addTdLower ro st args := by simp [add]
@[simp] theorem add_kw_TD : add ro st "TD" args = addTDUpper ro st args := by simp [add]
@[simp] theorem add_kw_Tf : add ro st "Tf" args = addTf ro st args := by simp [add]
@[simp] theorem add_kw_Tj : add ro st "Tj" args = addTjLower ro st args := by simp [add]
@[simp] theorem add_kw_TJ : add ro st "TJ" args = addTJUpper ro st args := by simp [add]
@[simp] theorem add_kw_TL : add ro st "TL" args = one1 ro st args .leading := by simp [add]
@[simp] theorem add_kw_Tm : add ro st "Tm" args = addTm ro st args := by simp [add]
@[simp] theorem add_kw_Tr : add ro st "Tr" args = addTr ro st args := by simp [add]
@[simp] theorem add_kw_Ts : add ro st "Ts" args = one1 ro st args .textRise := by simp [add]
@[simp] theorem add_kw_Tw : add ro st "Tw" args = one1 ro st args .wordSpacing := by simp [add]
@[simp] theorem add_kw_Tz : add ro st "Tz" args = one1 ro st args .textScaling := by simp [add]
@[simp] theorem add_kw_v : add ro st "v" args = addV ro st args := by simp [add]
@[simp] theorem add_kw_w : add ro st "w" args = one1 ro st args .lineWidth := by simp [add]
@[simp] theorem add_kw_W : add ro st "W" args = okPush st [.clip .nonZero] := by simp [add]
@[simp] theorem add_kw_WStar : add ro st "W*" args = okPush st [.clip .evenOdd] := by simp [add]
@[simp] theorem add_kw_y : add ro st "y" args = addY ro st args := by simp [add]
@[simp] theorem add_kw_Quote : add ro st "'" args = addQuote ro st args := by simp [add]
@[simp] theorem add_kw_DQuote : add ro st "\"" args = addDQuote ro st args := by simp [add]

end

/-! The arms of `add` on operands already known to be numbers (integers, names, arrays of the right kind). -/
section
variable {R : Type} (ro : RealOps R) (st : PState R) {p1 p2 p3 p4 p5 p6 : Prim R} {a b c d e f : R}
  (ps : List (Prim R)) (h1 : asNumber ro p1 = some a) (h2 : asNumber ro p2 = some b) (h3 : asNumber ro p3 = some c)
  (h4 : asNumber ro p4 = some d) (h5 : asNumber ro p5 = some e) (h6 : asNumber ro p6 = some f)

section
include h1

theorem one1_num (g : R → Op R) : one1 ro st (p1 :: ps) g = okPush st [g a] := by
  simp [one1, popNum, h1]

theorem addTf_num (n : String) : addTf ro st (.name n :: p1 :: ps) = okPush st [.textFont n a] := by
  simp [addTf, popName, popNum, h1]

theorem addD_nums {xs : List (Prim R)} {rs : List R} (hx : allSome (xs.map (asNumber ro)) = some rs) :
    addD ro st (.arr xs :: p1 :: ps) = okPush st [.dash rs a] := by
  simp [addD, popNum, hx, h1]

include h2

theorem addL_nums : addL ro st (p1 :: p2 :: ps) = ⟨{ st.push [.lineTo ⟨a, b⟩] with last := ⟨a, b⟩ }, true⟩ := by
  simp [addL, popNums, popNum, h1, h2]

theorem addM_nums :
    addM ro st (p1 :: p2 :: ps) = ⟨{ st.push [.moveTo ⟨a, b⟩] with last := ⟨a, b⟩, start := ⟨a, b⟩ }, true⟩ := by
  simp [addM, popNums, popNum, h1, h2]

theorem addTdLower_nums : addTdLower ro st (p1 :: p2 :: ps) = okPush st [.moveTextPosition ⟨a, b⟩] := by
  simp [addTdLower, popNums, popNum, h1, h2]

theorem addTDUpper_nums :
    addTDUpper ro st (p1 :: p2 :: ps) = okPush st [.leading (ro.neg b), .moveTextPosition ⟨a, b⟩] := by
  simp [addTDUpper, popNums, popNum, h1, h2]

theorem addDQuote_nums (bs : List UInt8) : addDQuote ro st (p1 :: p2 :: .str bs :: ps) =
    okPush st [.wordSpacing a, .charSpacing b, .textNewline, .textDraw bs] := by
  simp [addDQuote, popNum, popStr, h1, h2]

include h3

theorem addRGUpper_nums : addRGUpper ro st (p1 :: p2 :: p3 :: ps) = okPush st [.strokeColor (.rgb a b c)] := by
  simp [addRGUpper, popNums, popNum, h1, h2, h3]

theorem addRgLower_nums : addRgLower ro st (p1 :: p2 :: p3 :: ps) = okPush st [.fillColor (.rgb a b c)] := by
  simp [addRgLower, popNums, popNum, h1, h2, h3]

include h4

theorem addKUpper_nums :
    addKUpper ro st (p1 :: p2 :: p3 :: p4 :: ps) = okPush st [.strokeColor (.cmyk a b c d)] := by
  simp [addKUpper, popNums, popNum, h1, h2, h3, h4]

theorem addKLower_nums :
    addKLower ro st (p1 :: p2 :: p3 :: p4 :: ps) = okPush st [.fillColor (.cmyk a b c d)] := by
  simp [addKLower, popNums, popNum, h1, h2, h3, h4]

theorem addRe_nums : addRe ro st (p1 :: p2 :: p3 :: p4 :: ps) =
    ⟨{ st.push [.rect a b c d] with last := ⟨a, b⟩, start := ⟨a, b⟩ }, true⟩ := by
  simp [addRe, popNums, popNum, h1, h2, h3, h4]

theorem addV_nums : addV ro st (p1 :: p2 :: p3 :: p4 :: ps) =
    ⟨{ st.push [.curveTo st.last ⟨a, b⟩ ⟨c, d⟩] with last := ⟨c, d⟩ }, true⟩ := by
  simp [addV, popNums, popNum, h1, h2, h3, h4]

theorem addY_nums : addY ro st (p1 :: p2 :: p3 :: p4 :: ps) =
    ⟨{ st.push [.curveTo ⟨a, b⟩ ⟨c, d⟩ ⟨c, d⟩] with last := ⟨c, d⟩ }, true⟩ := by
  simp [addY, popNums, popNum, h1, h2, h3, h4]

include h5 h6

theorem addC_nums : addC ro st (p1 :: p2 :: p3 :: p4 :: p5 :: p6 :: ps) =
    ⟨{ st.push [.curveTo ⟨a, b⟩ ⟨c, d⟩ ⟨e, f⟩] with last := ⟨e, f⟩ }, true⟩ := by
  simp [addC, popNums, popNum, h1, h2, h3, h4, h5, h6]

theorem addCm_nums :
    addCm ro st (p1 :: p2 :: p3 :: p4 :: p5 :: p6 :: ps) = okPush st [.transform ⟨a, b, c, d, e, f⟩] := by
  simp [addCm, popNums, popNum, h1, h2, h3, h4, h5, h6]

theorem addTm_nums :
    addTm ro st (p1 :: p2 :: p3 :: p4 :: p5 :: p6 :: ps) = okPush st [.setTextMatrix ⟨a, b, c, d, e, f⟩] := by
  simp [addTm, popNums, popNum, h1, h2, h3, h4, h5, h6]

end

theorem addJLower_int {n : Int} {j : Fin 3} (h : finOfInt 3 n = some j) :
    addJLower ro st (.int n :: ps) = okPush st [.lineJoin j] := by
  simp [addJLower, popInt, h]

theorem addJUpper_int {n : Int} {j : Fin 3} (h : finOfInt 3 n = some j) :
    addJUpper ro st (.int n :: ps) = okPush st [.lineCap j] := by
  simp [addJUpper, popInt, h]

theorem addTr_int {n : Int} {m : Fin 8} (h : finOfInt 8 n = some m) :
    addTr ro st (.int n :: ps) = okPush st [.textRenderMode m] := by
  simp [addTr, popInt, h]

theorem addRi_name {s : String} {i : Intent} (h : intentOfName s = some i) :
    addRi ro st (.name s :: ps) = okPush st [.renderingIntent i] := by
  simp [addRi, popName, h]

theorem addTJUpper_arr {xs : List (Prim R)} {ts : List (TDA R)} (h : allSome (xs.map (tdaOfPrim ro)) = some ts) :
    addTJUpper ro st (.arr xs :: ps) = okPush st [.textDrawAdjusted ts] := by
  simp [addTJUpper, h]

end

end Content
