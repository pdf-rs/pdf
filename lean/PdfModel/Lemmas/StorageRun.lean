import PdfModel.Lemmas.StorageReload
import PdfModel.Spec.Storage

/-! Histories: the invariant and the abstract map along `run`; when `save` succeeds. -/

namespace Storage
open Xref

variable {V : Type}

/-- what the theorems ask of one operation: a `save` lays its records out with positive lengths -/
def OpOK : Op V → Prop
  | .save L => L.Pos
  | _ => True

theorem step_inv (P : Params V) (d0 d : Doc V) (chain0) (hb : BaseOK d0 chain0) (hi : Inv d0 d) (op : Op V)
    (hop : OpOK op) : Inv d0 (step P d op).1 := by
  cases op with
  | create v => exact inv_create d0 d chain0 hb hi v
  | promise => exact inv_promise d0 d hi
  | update id v => rw [step_update_fst]; exact inv_update d0 d chain0 hb hi id v
  | fulfil id v => exact (step_update_fst P d id v).symm ▸ inv_update d0 d chain0 hb hi id v
  | get id => exact inv_get d0 d hi id
  | resolve id => exact hi
  | save L => rw [step_save_fst]; exact (inv_save P L hop d0 d chain0 hb hi).1

theorem run_inv (P : Params V) (d0 : Doc V) (chain0) (hb : BaseOK d0 chain0) :
    ∀ (ops : List (Op V)) (d : Doc V), Inv d0 d → (∀ op ∈ ops, OpOK op) → Inv d0 (run P d ops).1 := by
  intro ops
  induction ops with
  | nil => intro d hi _; exact hi
  | cons op ops ih =>
    intro d hi hops
    simp only [run]
    exact ih _ (step_inv P d0 d chain0 hb hi op (hops op (by simp))) (fun o ho => hops o (by simp [ho]))

/-- `update` either records the value under the very number it was given, or changes nothing -/
theorem update_cases (st : St V) (id : Nat) (v : V) :
    (∃ g, update st id v = ({ st with changes := chInsert st.changes id (v, g), cache := [] }, .ok (id, g))) ∨
    (update st id v = (st, .err)) ∨ (update st id v = (st, .panic)) := by
  unfold update
  cases st.refs[id]? with
  | none => right; left; rfl
  | some e =>
    cases e with
    | free n g => right; right; rfl
    | invalid => right; right; rfl
    | raw pos g => left; exact ⟨g, rfl⟩
    | stream s i => left; exact ⟨0, rfl⟩
    | promised => left; exact ⟨0, rfl⟩

theorem step_update_cases (P : Params V) (d : Doc V) (id : Nat) (v : V) :
    (∃ g, step P d (.update id v) =
      (⟨{ d.st with changes := chInsert d.st.changes id (v, g), cache := [] }, d.tr⟩, .ref id g)) ∨
    (∃ o, step P d (.update id v) = (d, .failed o)) := by
  rcases update_cases d.st id v with ⟨g, h⟩ | h | h
  · left; exact ⟨g, by simp [step, h]⟩
  · right; exact ⟨.err, by simp [step, h]⟩
  · right; exact ⟨.panic, by simp [step, h]⟩

theorem step_fulfil_eq (P : Params V) (d : Doc V) (id : Nat) (v : V) :
    step P d (.fulfil id v) = step P d (.update id v) := rfl

/-! ### the abstract map and `changes` -/

/-- what ties the abstract map to the storage: a written reference has exactly its last value pending;
    a reference of the original table that was never written has nothing pending -/
structure LogInv (m : AMap V) (d0 d : Doc V) : Prop where
  written : ∀ (id : Nat) (v : V), m id = some v → ∃ g, chLookup d.st.changes id = some (v, g)
  untouched : ∀ id : Nat, m id = none → id < d0.st.refs.length → chLookup d.st.changes id = none

theorem logInv_base (d0 : Doc V) (chain0) (hb : BaseOK d0 chain0) : LogInv AMap.empty d0 d0 where
  written := by intro id v h; simp [AMap.empty] at h
  untouched := by intro id _ _; rw [hb.changes_nil]; rfl

/-- pending values of numbers that existed before the save are not touched by it -/
theorem save_changes_old (P : Params V) (L : Layout) (d0 d : Doc V) (chain0) (hb : BaseOK d0 chain0) (hi : Inv d0 d)
    (j : Nat) (hj : j < d.st.refs.length) :
    chLookup (save P L d).1.st.changes j = chLookup d.st.changes j := by
  have pf := prep_facts d0 d chain0 hb hi
  have := commitInfo_spec P L d0 d chain0 hb hi
  cases hc : commitInfo P L d with
  | none =>
    rw [hc] at this
    rcases this with ⟨_, _, _, _, _, h⟩ | h
    · rw [h]; exact pf.ch_sub j hj
    · rw [h]
  | some i =>
    rw [hc] at this
    rw [this.1.changes, if_neg (by have := pf.xid_ge; omega)]; exact pf.ch_sub j hj

theorem step_log (P : Params V) (d0 d : Doc V) (chain0) (hb : BaseOK d0 chain0) (hi : Inv d0 d) (m : AMap V)
    (hm : LogInv m d0 d) (op : Op V) :
    LogInv (specStep m op (step P d op).2) d0 (step P d op).1 := by
  have put : ∀ (id : Nat) (v : V) (g : Nat) (d' : Doc V),
      d'.st.changes = chInsert d.st.changes id (v, g) → LogInv (m.set id v) d0 d' := by
    intro id v g d' hch
    constructor
    · intro j w hj
      simp only [AMap.set] at hj
      rw [hch, chLookup_chInsert]
      split at hj
      · simp only [Option.some.injEq] at hj; subst hj; subst_vars; exact ⟨g, by simp⟩
      · rename_i hne; rw [if_neg hne]; exact hm.written j w hj
    · intro j hj hlt
      simp only [AMap.set] at hj
      rw [hch, chLookup_chInsert]
      split at hj
      · simp at hj
      · rename_i hne; rw [if_neg hne]; exact hm.untouched j hj hlt
  -- an operation that leaves the pending values of existing numbers alone
  have same : ∀ d' : Doc V, (∀ j, j < d.st.refs.length → chLookup d'.st.changes j = chLookup d.st.changes j) →
      LogInv m d0 d' := fun d' h =>
    ⟨fun id v hv => let ⟨g, hg⟩ := hm.written id v hv; ⟨g, (h id (hi.ch_lt id _ hg)).trans hg⟩,
     fun id hn hlt => (h id (Nat.lt_of_lt_of_le hlt hi.refs_len)).trans (hm.untouched id hn hlt)⟩
  cases op with
  | create v => exact put _ v 0 _ (by simp [step, create, alloc])
  | promise => exact same _ fun _ _ => rfl
  | update id v =>
    rcases step_update_cases P d id v with ⟨g, h⟩ | ⟨o, h⟩ <;> rw [h]
    · exact put id v g _ rfl
    · exact hm
  | fulfil id v =>
    rw [step_fulfil_eq]
    rcases step_update_cases P d id v with ⟨g, h⟩ | ⟨o, h⟩ <;> rw [h]
    · exact put id v g _ rfl
    · exact hm
  | get id =>
    refine same _ fun j _ => ?_
    simp only [step, get]
    split <;> (try split) <;> rfl
  | resolve id => exact hm
  | save L =>
    rw [show specStep m (.save L) (step P d (.save L)).2 = m by simp only [step]; split <;> rfl, step_save_fst]
    exact same _ (save_changes_old P L d0 d chain0 hb hi)

theorem run_log (P : Params V) (d0 : Doc V) (chain0) (hb : BaseOK d0 chain0) :
    ∀ (ops : List (Op V)) (d : Doc V) (m : AMap V), Inv d0 d → LogInv m d0 d → (∀ op ∈ ops, OpOK op) →
      LogInv (specRun m ops (run P d ops).2) d0 (run P d ops).1 := by
  intro ops
  induction ops with
  | nil => intro d m _ hm _; exact hm
  | cons op ops ih =>
    intro d m hi hm hops
    simp only [run, specRun]
    exact ih _ _ (step_inv P d0 d chain0 hb hi op (hops op (by simp)))
      (step_log P d0 d chain0 hb hi m hm op) (fun o ho => hops o (by simp [ho]))

/-! ### when `save` succeeds -/

theorem allOk_chInsert (P : Params V) (l : List (Nat × V × Nat)) (id : Nat) (v : V) (g : Nat)
    (h : allOk P l = true) (hv : P.ok v = true) : allOk P (chInsert l id (v, g)) = true := by
  induction l with
  | nil => rw [chInsert, allOk_cons, hv]; rfl
  | cons hd t ih =>
    obtain ⟨i, v', g'⟩ := hd
    rw [allOk_cons, Bool.and_eq_true] at h
    simp only [chInsert]
    split
    · rw [allOk_cons, allOk_cons, hv, h.1, h.2]; rfl
    · split
      · rw [allOk_cons, hv, h.2]; rfl
      · rw [allOk_cons, h.1, ih h.2]; rfl

/-- the criterion under which a save goes through -/
structure Savable (P : Params V) (d : Doc V) : Prop where
  values_ok : allOk P d.st.changes = true
  info_ok : ∀ v, d.tr.info = some v → P.ok v = true
  no_open_promise : ∀ j : Nat, d.st.refs[j]? = some .promised → chLookup d.st.changes j ≠ none
  root_ok : ∃ v, resolve d.st d.tr.root.1 = .val v

/-- every pending value at the start of the loop (the info dictionary included) can be serialised -/
theorem prep_allOk (P : Params V) (d0 d : Doc V) (chain0) (hb : BaseOK d0 chain0) (hi : Inv d0 d) (hs : Savable P d) :
    allOk P (prep d).st2.changes = true := by
  have pf := prep_facts d0 d chain0 hb hi
  cases hir : (prep d).infoRef with
  | none => rw [(pf.info_none hir).2.1]; exact hs.values_ok
  | some ii =>
    obtain ⟨v, a, _, _, e, _⟩ := pf.info_some ii hir
    rw [e]; exact allOk_chInsert P _ _ _ _ hs.values_ok (hs.info_ok v a)

theorem save_succeeds (P : Params V) (L : Layout) (hL : L.Pos) (ht : L.typed = true) (d0 d : Doc V) (chain0) (hb : BaseOK d0 chain0)
    (hi : Inv d0 d) (hs : Savable P d) (hsz : d.st.refs.length + 2 ≤ MAX_ID) :
    ∃ d' i, save P L d = (d', .ok i) := by
  have pf := prep_facts d0 d chain0 hb hi
  rcases save_cases P L d0 d chain0 hb hi hsz with ⟨w, hw, _⟩ | ⟨w, hw, hr, _⟩ | ⟨w, rows, hw, hr, hs2⟩
  · -- the loop cannot fail
    have := writeChanges_outcome P L (prep d).st2.start (prep d).st2.changes
      ⟨(prep d).st2.refs, (prep d).st2.objs, (prep d).st2.len⟩ (keys_lt d0 _ pf.inv)
    rw [hw, if_pos (prep_allOk P d0 d chain0 hb hi hs)] at this; cases this
  · -- no promised slot is left in the table
    exfalso
    obtain ⟨f1, f2, _, _⟩ := writeChanges_frame P L _ _ _ _ _ hw pf.inv.sorted
    obtain ⟨_, _, _, k5⟩ := writeChanges_ok P L _ hL.1 _ _ _ hw pf.inv.sorted pf.inv.objs_lt
    simp only at f1 f2 k5
    have hxlt : (prep d).xid < w.refs.length := by rw [f1, pf.len_eq]; omega
    rw [take_all _ _ (by rw [List.length_set, f1, pf.len_eq]; exact Nat.le_refl _)] at hr
    obtain ⟨rows, hrows⟩ := rowsOf_isSome (w.refs.set (prep d).xid (.raw (w.len - (prep d).st2.start) 0)) (by
      intro e he hprom
      subst hprom
      obtain ⟨j, hg⟩ := List.getElem?_of_mem he
      by_cases hx : (prep d).xid = j
      · subst hx; rw [List.getElem?_set_self hxlt] at hg; cases hg
      · rw [List.getElem?_set_ne hx] at hg
        rcases Option.eq_none_or_eq_some (chLookup (prep d).st2.changes j) with hc | ⟨⟨v, g⟩, hc⟩
        · rw [f2 j hc] at hg
          by_cases hjl : j < d.st.refs.length
          · rw [pf.refs_sub j hjl] at hg
            exact hs.no_open_promise j hg (pf.ch_sub j hjl ▸ hc)
          · have := (List.getElem?_eq_some_iff.mp hg).1
            exact pf.ch_mid j (by omega) (by rw [pf.len_eq] at this; omega) hc
        · obtain ⟨_, _, off, _, b, _⟩ := k5 j v g hc
          rw [b] at hg; cases hg)
    rw [hr] at hrows; cases hrows
  · rcases hs2 with ⟨i, tr, hs2⟩ | ⟨hl, _⟩
    · exact ⟨_, i, hs2⟩
    · -- the trailer loads: the root still resolves, the info dictionary is pending
      exfalso
      rcases hl with hl | hl
      case inr => rw [ht] at hl; cases hl
      generalize hst : commit P L d (prep d) w _ rows = st' at hl
      have hcm : Committed P L d st' _ := ⟨w, rows, hw, hr, hst.symm, rfl, hsz⟩
      have hi2 := inv_committed P L hL d0 d ⟨st', d.tr⟩ chain0 _ hb hi hcm rfl
      have hold : ∀ j : Nat, j < d.st.refs.length → chLookup st'.changes j = chLookup d.st.changes j := fun j hj => by
        rw [hcm.changes, if_neg (by have := pf.xid_ge; omega)]; exact pf.ch_sub j hj
      obtain ⟨vr, hroot⟩ := hs.root_ok
      have hroot2 : resolve st' d.tr.root.1 = .val vr := by
        rcases Option.eq_none_or_eq_some (chLookup d.st.changes d.tr.root.1) with hc | ⟨⟨v, g⟩, hc⟩
        · obtain ⟨hlt, hcont, h0⟩ := resolve_val_old d0 d chain0 hb hi _ vr hc hroot
          have hlt2 : ∀ k, k < d0.st.refs.length → k < d.st.refs.length := fun k hk =>
            Nat.lt_of_lt_of_le hk hi.refs_len
          rw [resolve_untouched d0 _ chain0 hb hi2 _ hlt (by rw [hold _ (hlt2 _ hlt)]; exact hc) fun sid idx he => by
            rw [hold sid (hlt2 _ (hb.stream_lt _ sid idx he))]; exact hcont sid idx he]
          exact h0
        · rw [resolve_changed d.st _ v g hc] at hroot
          cases hroot
          exact resolve_changed _ _ vr g (by rw [hold _ (hi.ch_lt _ _ hc)]; exact hc)
      cases hir : (prep d).infoRef with
      | none => simp [loadTrailer, hroot2, hir] at hl
      | some ii =>
        obtain ⟨v, _, b, _, _, _⟩ := pf.info_some ii hir
        have hne : ii ≠ (prep d).xid := fun heq => by rw [heq, pf.xid_free] at b; cases b
        simp [loadTrailer, hroot2, hir, resolve_changed st' ii v 0 (by rw [hcm.changes, if_neg hne]; exact b)] at hl

/-- after a successful save the document is savable again (the cross-reference stream left pending is
    itself serialisable) -/
theorem savable_after_save (P : Params V) (L : Layout) (hL : L.Pos) (d0 d d' : Doc V) (chain0) (i : SaveInfo)
    (hb : BaseOK d0 chain0) (hi : Inv d0 d) (hx : ∀ i, P.ok (P.xrefVal i) = true) (hs : Savable P d)
    (h : save P L d = (d', .ok i)) : Savable P d' := by
  obtain ⟨w, rows, _, _, hst, hl, _, _, _, _, _⟩ := save_ok_spec P L d d' i h
  have htr := save_tr_eq P L d0 d d' chain0 i hb hi h
  refine ⟨?_, ?_, ?_, ?_⟩
  · rw [hst]; exact allOk_chInsert P _ _ _ _ (prep_allOk P d0 d chain0 hb hi hs) (hx _)
  · rw [htr]; exact hs.info_ok
  · intro j hj
    obtain ⟨r, ra, _⟩ := (save_shape P L hL d0 d d' chain0 i hb hi h).rows_of_table j _ hj
    cases ra
  · obtain ⟨_, _, hroot, _, _⟩ := loadTrailer_ok _ _ _ _ _ hl
    rw [htr]; exact hroot

/-- a save allocates at most two numbers (info dictionary, cross-reference stream) -/
theorem save_grows (P : Params V) (L : Layout) (d0 d d' : Doc V) (chain0) (i : SaveInfo)
    (hb : BaseOK d0 chain0) (hi : Inv d0 d) (h : save P L d = (d', .ok i)) :
    d'.st.refs.length ≤ d.st.refs.length + 2 := by
  have pf := prep_facts d0 d chain0 hb hi
  obtain ⟨w, rows, hw, hr, hst, hl, _, _, _, _, _⟩ := save_ok_spec P L d d' i h
  obtain ⟨f1, _, _, _⟩ := writeChanges_frame P L _ _ _ _ _ hw pf.inv.sorted
  simp only at f1
  rw [hst]; simp only [commit, List.length_set]; rw [f1, pf.len_eq]
  have := pf.xid_le; omega

end Storage
