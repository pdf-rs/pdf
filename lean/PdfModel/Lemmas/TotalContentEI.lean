import PdfModel.Model.ContentLoopEI
import PdfModel.Lemmas.TotalContent

/-! Totality of `inlineImageEI` (the end-of-data search of repo commit 4386f8d), for every buffer, cursor and oracle. -/

namespace PdfLex

variable {R : Type}

/-- a hit `j` is a white-space byte followed by `E` `I`: three bytes inside the buffer -/
theorem findEI_spec (buf : Buf) (fuel pos j : Nat) (h : findEI buf fuel pos = some j) :
    pos ≤ j ∧ j + 3 ≤ buf.size := by
  induction fuel generalizing pos with
  | zero => simp [findEI] at h
  | succ fuel ih =>
    unfold findEI at h
    cases hb : buf[pos]? with
    | none => rw [hb] at h; cases h
    | some b =>
      rw [hb] at h
      simp only at h
      split at h
      · rename_i hc
        cases h
        simp only [Bool.and_eq_true, beq_iff_eq] at hc
        have := getElem?_lt hc.1.2
        exact ⟨Nat.le_refl _, by omega⟩
      · have := ih (pos + 1) h
        omega

theorem inlineImageEI_spec (env : Env R) (henv : EnvOk env) (buf : Buf) (hs : RealSize buf) (o : Oracle)
    (pos : Nat) (h : pos ≤ buf.size) : ImgGood buf pos (inlineImageEI env buf o pos) := by
  refine imgHead_spec env henv buf hs o pos h _ fun w hw a3 => ?_
  have hsz : buf.size < usizeMax := by unfold RealSize at hs; unfold usizeMax; omega
  rw [if_neg (by omega : ¬ (w.2 + 1 > usizeMax)), remainingStart_spec buf w.2 a3]; simp only [Out.bind_ok]
  cases hf : findEI buf (buf.size - w.2) w.2 with
  | none =>
    simp only []
    rw [offsetPos_exact buf w.2 (buf.size - w.2) a3 (by omega)]
    exact .stop (by omega) (by omega)
  | some j =>
    obtain ⟨j1, j2⟩ := findEI_spec buf _ _ _ hf
    simp only []
    rw [offsetPos_exact buf w.2 (j - w.2 + 3) a3 (by omega), (by omega : min (w.2 + (j - w.2 + 3)) buf.size = j + 3)]
    simp only [Out.bind_ok]
    refine iteInduction (fun _ => .stop (by omega) j2) fun _ => ?_
    rw [newSubstr_fwd (by omega) (by omega)]
    exact .data (by omega) j2 (by simp; omega) (by simp; omega)

end PdfLex
