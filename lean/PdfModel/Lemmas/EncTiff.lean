import PdfModel.Lemmas.EncImage

/-! TIFF predictor 2: the in-place summing loop of `tiff_unpredict` undoes horizontal differencing for
    samples of 1, 2, 4, 8 and 16 bits. The argument is generic in the sample accessors (`Lens`); the three
    packings are instances (a sample of 1, 2 or 4 bits is a digit of weight `2 ^ shift` and radix `2 ^ bpc` of its byte). -/

namespace Enc
open Codecs

/-- the digit of weight `P` and radix `Q` of `B` (a bit field: `P = 2 ^ shift`, `Q = 2 ^ width`) -/
def fieldGet (B P Q : Nat) : Nat := B / P % Q
/-- `B` with its digit of weight `P` and radix `Q` replaced by `v % Q` -/
def fieldPut (B P Q v : Nat) : Nat := B - B / P % Q * P + v % Q * P

theorem fieldPut_eq (B P Q v : Nat) : fieldPut B P Q v = (B / P / Q * Q + v % Q) * P + B % P := by
  have h1 := Nat.div_add_mod' B P
  have h2 : B / P * P = B / P / Q * Q * P + B / P % Q * P := by rw [← Nat.add_mul, Nat.div_add_mod']
  unfold fieldPut
  rw [Nat.add_mul]
  omega

section
variable {P Q : Nat} (hP : 0 < P) (hQ : 0 < Q)
include hP
theorem fieldPut_mod (B v : Nat) : fieldPut B P Q v % P = B % P := by
  rw [fieldPut_eq, Nat.mul_add_mod_of_lt (Nat.mod_lt _ hP)]

theorem fieldPut_div (B v : Nat) : fieldPut B P Q v / P = B / P / Q * Q + v % Q := by
  rw [fieldPut_eq, mul_add_div_of_lt _ (Nat.mod_lt _ hP)]

include hQ
theorem fieldPut_div_div (B v : Nat) : fieldPut B P Q v / P / Q = B / P / Q := by
  rw [fieldPut_div hP, mul_add_div_of_lt _ (Nat.mod_lt _ hQ)]

theorem fieldGet_put (B v : Nat) : fieldGet (fieldPut B P Q v) P Q = v % Q := by
  rw [fieldGet, fieldPut_div hP, Nat.mul_add_mod_of_lt (Nat.mod_lt _ hQ)]

theorem fieldPut_put (B a b : Nat) : fieldPut (fieldPut B P Q a) P Q b = fieldPut B P Q b := by
  rw [fieldPut_eq (fieldPut B P Q a), fieldPut_div_div hP hQ, fieldPut_mod hP, ← fieldPut_eq]
end

theorem fieldPut_get {B P Q v : Nat} (h : v % Q = fieldGet B P Q) : fieldPut B P Q v = B := by
  rw [fieldPut_eq, h, fieldGet, Nat.div_add_mod', Nat.div_add_mod']

/-- a field that lies below weight `P` is read off `B % P` -/
theorem fieldGet_congr_mod {X Y P P' Q' : Nat} (hd : P' * Q' ∣ P) (h : X % P = Y % P) :
    fieldGet X P' Q' = fieldGet Y P' Q' := by
  unfold fieldGet
  rw [← Nat.mod_mul_right_div_self, ← Nat.mod_mul_right_div_self, ← Nat.mod_mod_of_dvd X hd, h, Nat.mod_mod_of_dvd Y hd]

/-- a field at or above weight `P * Q` is read off `B / P / Q` -/
theorem fieldGet_congr_div {X Y P Q R Q' : Nat} (h : X / P / Q = Y / P / Q) :
    fieldGet X (P * Q * R) Q' = fieldGet Y (P * Q * R) Q' := by
  unfold fieldGet
  rw [← Nat.div_div_eq_div_mul, ← Nat.div_div_eq_div_mul, ← Nat.div_div_eq_div_mul, ← Nat.div_div_eq_div_mul, h]

theorem fieldPut_lt {B P Q R : Nat} (hP : 0 < P) (hQ : 0 < Q) (v : Nat) (h : B < R * Q * P) : fieldPut B P Q v < R * Q * P := by
  rw [← Nat.div_lt_iff_lt_mul hP, ← Nat.div_lt_iff_lt_mul hQ] at h ⊢
  rwa [fieldPut_div_div hP hQ]

/-- fields of `w` bits at the shifts `s ≠ s'` that do not overlap -/
theorem fieldGet_put_ne {w s s' : Nat} (h : s' + w ≤ s ∨ s + w ≤ s') (B v : Nat) :
    fieldGet (fieldPut B (2 ^ s) (2 ^ w) v) (2 ^ s') (2 ^ w) = fieldGet B (2 ^ s') (2 ^ w) := by
  have hs := Nat.pow_pos (n := s) (show 0 < 2 by decide)
  have hw := Nat.pow_pos (n := w) (show 0 < 2 by decide)
  rcases h with h | h
  · exact fieldGet_congr_mod (by rw [← Nat.pow_add]; exact Nat.pow_dvd_pow 2 h) (fieldPut_mod hs B v)
  · have e : 2 ^ s' = 2 ^ s * 2 ^ w * 2 ^ (s' - (s + w)) := by rw [← Nat.pow_add, ← Nat.pow_add]; congr 1; omega
    rw [e]
    exact fieldGet_congr_div (fieldPut_div_div hs hw B v)

theorem fieldPut_lt_256 {w s : Nat} (h : s + w ≤ 8) {B : Nat} (hB : B < 256) (v : Nat) : fieldPut B (2 ^ s) (2 ^ w) v < 256 := by
  have e : 256 = 2 ^ (8 - (s + w)) * 2 ^ w * 2 ^ s := by
    rw [← Nat.pow_add, ← Nat.pow_add, show 8 - (s + w) + w + s = 8 by omega]
  rw [e] at hB ⊢
  exact fieldPut_lt (Nat.pow_pos (by decide)) (Nat.pow_pos (by decide)) v hB

/-- what the proofs need to know about the sample accessors of one bit depth (`n` samples are addressable) -/
structure Lens (get : Bytes → Nat → Nat) (set : Bytes → Nat → Nat → Bytes) (M n : Nat) (len : Nat) : Prop where
  len_set : ∀ r k v, (set r k v).length = r.length
  get_set : ∀ r k v, r.length = len → k < n → get (set r k v) k = v % M
  get_set_ne : ∀ r k j v, r.length = len → k < n → j < n → j ≠ k → get (set r k v) j = get r j
  set_get : ∀ r k v, r.length = len → k < n → v % M = get r k → set r k v = r
  set_set : ∀ r k a b, r.length = len → k < n → set (set r k a) k b = set r k b
  get_lt : ∀ r k, get r k < M

theorem diffFrom_length {get set M n len colors} (L : Lens get set M n len) (row : Bytes) :
    ∀ cnt lo, (diffFrom get set M colors row lo cnt).length = row.length := by
  intro cnt
  induction cnt with
  | zero => intro lo; rfl
  | succ c ih => intro lo; simp [diffFrom, L.len_set, ih]

/-- samples below `lo` are untouched by `diffFrom … lo cnt` -/
theorem diffFrom_get_below {get set M n len colors} (L : Lens get set M n len) (row : Bytes) (hl : row.length = len) :
    ∀ cnt lo j, lo + cnt ≤ n → j < lo → get (diffFrom get set M colors row lo cnt) j = get row j := by
  intro cnt
  induction cnt with
  | zero => intro lo j _ _; rfl
  | succ c ih =>
    intro lo j hn hj
    simp only [diffFrom]
    rw [L.get_set_ne _ lo j _ (by rw [diffFrom_length L, hl]) (by omega) (by omega) (by omega)]
    exact ih (lo + 1) j (by omega) (by omega)

/-- the decoder loop (as in `tiffRow`) undoes `diffFrom`. `diffFrom` writes sample `lo` last, the loop reads it first: at
    that moment the samples below `lo` are the original ones (`diffFrom_get_below`), so the sum is the original sample
    `lo` mod `M` (`hM16`: reducing mod 65536 first does no harm), and writing it over what `diffFrom` wrote there
    (`set_set`) gives back the row on which `diffFrom` worked before (`set_get`) -/
theorem undiff {get set M n len colors} (L : Lens get set M n len) (hc : 1 ≤ colors) (hM16 : 65536 % M = 0)
    (row : Bytes) (hl : row.length = len) :
    ∀ cnt lo, colors ≤ lo → cnt ≤ n - lo →
      forFrom (fun k r => set r k ((get r k + get r (k - colors)) % 65536)) lo cnt (diffFrom get set M colors row lo cnt) = row := by
  intro cnt
  induction cnt with
  | zero => intro lo _ _; rfl
  | succ c ih =>
    intro lo hlo hn
    simp only [forFrom, diffFrom]
    have hlen : (diffFrom get set M colors row (lo + 1) c).length = len := by rw [diffFrom_length L, hl]
    rw [L.get_set _ lo _ hlen (by omega), L.get_set_ne _ lo (lo - colors) _ hlen (by omega) (by omega) (by omega),
      diffFrom_get_below L row hl c (lo + 1) (lo - colors) (by omega) (by omega), L.set_set _ lo _ _ hlen (by omega)]
    have hk := diffFrom_get_below (colors := colors) L row hl c (lo + 1) lo (by omega) (by omega)
    have hv : ((get row lo + M - get row (lo - colors)) % M % M + get row (lo - colors)) % 65536 % M = get (diffFrom get set M colors row (lo + 1) c) lo := by
      rw [hk]
      have h1 := L.get_lt row lo
      have h2 := L.get_lt row (lo - colors)
      rw [Nat.mod_mod_of_dvd _ (Nat.dvd_of_mod_eq_zero hM16), Nat.mod_mod, Nat.mod_add_mod]
      have : get row lo + M - get row (lo - colors) + get row (lo - colors) = get row lo + M := by omega
      rw [this, Nat.add_mod_right, Nat.mod_eq_of_lt h1]
    rw [L.set_get _ lo _ hlen (by omega) hv]
    exact ih (lo + 1) (by omega) (by omega)

/-! ### accessor facts -/

theorem set_getD_self (r : Bytes) (i : Nat) (h : i < r.length) : r.set i (r.getD i 0) = r := by
  simp [List.getD, h]

theorem tiffGet_8 (r : Bytes) (k : Nat) : tiffGet r 8 k = (r.getD k 0).toNat := rfl
theorem tiffSet_8 (r : Bytes) (k v : Nat) : tiffSet r 8 k v = r.set k (UInt8.ofNat v) := rfl
theorem tiffGet_16 (r : Bytes) (k : Nat) :
    tiffGet r 16 k = (r.getD (2 * k) 0).toNat * 256 + (r.getD (2 * k + 1) 0).toNat := rfl
theorem tiffSet_16 (r : Bytes) (k v : Nat) :
    tiffSet r 16 k v = (r.set (2 * k) (UInt8.ofNat (v / 256))).set (2 * k + 1) (UInt8.ofNat v) := rfl

/-- 8-bit samples -/
theorem lens8 (len n : Nat) (hn : n ≤ len) :
    Lens (fun r k => tiffGet r 8 k) (fun r k v => tiffSet r 8 k v) (2 ^ 8) n len where
  len_set r k v := List.length_set
  get_set r k v hl hk := by
    rw [tiffSet_8, tiffGet_8, getD_set_self r k _ (by omega), toNat_ofNat_mod]
  get_set_ne r k j v hl hk hj hne := by
    rw [tiffSet_8, tiffGet_8, tiffGet_8, getD_set_ne r k j _ (by omega)]
  set_get r k v hl hk hv := by
    rw [tiffSet_8, ofNat_eq_of_mod hv, set_getD_self r k (by omega)]
  set_set r k a b hl hk := List.set_set ..
  get_lt r k := UInt8.toNat_lt _

/-- 16-bit big-endian samples -/
theorem lens16 (len n : Nat) (hn : n ≤ len * 8 / 16) :
    Lens (fun r k => tiffGet r 16 k) (fun r k v => tiffSet r 16 k v) (2 ^ 16) n len where
  len_set r k v := by rw [tiffSet_16, List.length_set, List.length_set]
  get_set r k v hl hk := by
    rw [tiffSet_16, tiffGet_16, getD_set_self _ (2 * k + 1) _ (by rw [List.length_set]; omega),
      getD_set_ne _ (2 * k + 1) (2 * k) _ (by omega), getD_set_self r (2 * k) _ (by omega), toNat_ofNat_mod, toNat_ofNat_mod,
      show 2 ^ 16 = 256 * 256 by decide, Nat.mod_mul, Nat.add_comm, Nat.mul_comm]
  get_set_ne r k j v hl hk hj hne := by
    rw [tiffSet_16, tiffGet_16, tiffGet_16, getD_set_ne _ (2 * k + 1) (2 * j) _ (by omega), getD_set_ne _ (2 * k) (2 * j) _ (by omega),
      getD_set_ne _ (2 * k + 1) (2 * j + 1) _ (by omega), getD_set_ne _ (2 * k) (2 * j + 1) _ (by omega)]
  set_get r k v hl hk hv := by
    rw [tiffGet_16] at hv
    -- the two bytes of `v % 2 ^ 16`, read off `v` itself
    have hlo : v % 256 = (r.getD (2 * k + 1) 0).toNat := by
      rw [← Nat.mod_mod_of_dvd v (show 256 ∣ 2 ^ 16 by decide), hv, Nat.mul_add_mod_of_lt (UInt8.toNat_lt _)]
    have hhi : v / 256 % 256 = (r.getD (2 * k) 0).toNat := by
      rw [← Nat.mod_mul_right_div_self, show 256 * 256 = 2 ^ 16 by decide, hv, mul_add_div_of_lt _ (UInt8.toNat_lt _)]
    rw [tiffSet_16, ofNat_eq_of_mod hhi, ofNat_eq_of_mod hlo, set_getD_self r (2 * k) (by omega), set_getD_self r (2 * k + 1) (by omega)]
  set_set r k a b hl hk := by
    simp only [tiffSet_16]
    rw [List.set_comm _ _ (show 2 * k + 1 ≠ 2 * k by omega), List.set_set, List.set_set]
  get_lt r k := by
    have h0 := (r.getD (2 * k) 0).toNat_lt
    have h1 := (r.getD (2 * k + 1) 0).toNat_lt
    rw [tiffGet_16]; omega

theorem tiffGet_field (r : Bytes) (bpc k : Nat) (h16 : bpc ≠ 16) (h8 : bpc ≠ 8) :
    tiffGet r bpc k = fieldGet (r.getD (k * bpc / 8) 0).toNat (2 ^ (8 - bpc - k * bpc % 8)) (2 ^ bpc) := by
  simp only [tiffGet, h16, h8, if_false, fieldGet]

theorem tiffSet_field (r : Bytes) (bpc k v : Nat) (h16 : bpc ≠ 16) (h8 : bpc ≠ 8) :
    tiffSet r bpc k v = r.set (k * bpc / 8)
      (UInt8.ofNat (fieldPut (r.getD (k * bpc / 8) 0).toNat (2 ^ (8 - bpc - k * bpc % 8)) (2 ^ bpc) v)) := by
  simp only [tiffSet, h16, h8, if_false, fieldPut]

/-- where `tiff_unpredict` keeps sample `k` of `bpc` bits (`per` of them to a byte): the shift fits into the byte, and two
    samples of one byte do not overlap -/
theorem layout {bpc per : Nat} (h : per * bpc = 8) (hb : 0 < bpc) (k j : Nat) :
    8 - bpc - k * bpc % 8 + bpc ≤ 8 ∧
    (j ≠ k → j * bpc / 8 = k * bpc / 8 →
      8 - bpc - j * bpc % 8 + bpc ≤ 8 - bpc - k * bpc % 8 ∨ 8 - bpc - k * bpc % 8 + bpc ≤ 8 - bpc - j * bpc % 8) := by
  have hper : 0 < per := Nat.pos_of_ne_zero (by rintro rfl; simp at h)
  -- shift of sample `k`: `(per - 1 - k % per) * bpc`
  have sh : ∀ k, 8 - bpc - k * bpc % 8 = (per - 1 - k % per) * bpc := by
    intro k; rw [← h, Nat.mul_mod_mul_right, Nat.sub_mul, Nat.sub_mul, Nat.one_mul]
  have step : ∀ {a b : Nat}, a < b → a * bpc + bpc ≤ b * bpc := fun hab => by
    rw [← Nat.succ_mul]; exact Nat.mul_le_mul_right _ hab
  have hk := Nat.mod_lt k hper
  have hj := Nat.mod_lt j hper
  rw [sh k, sh j]
  refine ⟨h ▸ step (by omega), fun hne he => ?_⟩
  rw [← h, Nat.mul_div_mul_right _ _ hb, Nat.mul_div_mul_right _ _ hb] at he
  have hr : j % per ≠ k % per := fun e => hne (by rw [← Nat.div_add_mod j per, ← Nat.div_add_mod k per, he, e])
  rcases Nat.lt_or_gt_of_ne hr with hlt | hlt
  · exact .inr (step (by omega))
  · exact .inl (step (by omega))

/-- samples of 1, 2 or 4 bits: sample `k` is the field of byte `k * bpc / 8` at the shift `8 - bpc - k * bpc % 8` -/
theorem lensSub (bpc : Nat) (hb : bpc = 1 ∨ bpc = 2 ∨ bpc = 4) (len n : Nat) (hn : n ≤ len * 8 / bpc) :
    Lens (fun r k => tiffGet r bpc k) (fun r k v => tiffSet r bpc k v) (2 ^ bpc) n len := by
  have hg := fun r k => tiffGet_field r bpc k (by omega) (by omega)
  have hs := fun r k v => tiffSet_field r bpc k v (by omega) (by omega)
  have hidx : ∀ {k}, k < n → k * bpc / 8 < len := by
    intro k hk; rcases hb with rfl | rfl | rfl <;> omega
  have h8 : 8 / bpc * bpc = 8 := by rcases hb with rfl | rfl | rfl <;> rfl
  have hfit := fun k => (layout h8 (by omega) k k).1
  have hsh := fun k j => (layout h8 (by omega) k j).2
  have hP : ∀ s, 0 < 2 ^ s := fun s => Nat.pow_pos (by decide)
  have hput : ∀ (r : Bytes) k v, (UInt8.ofNat (fieldPut (r.getD (k * bpc / 8) 0).toNat (2 ^ (8 - bpc - k * bpc % 8)) (2 ^ bpc) v)).toNat
      = fieldPut (r.getD (k * bpc / 8) 0).toNat (2 ^ (8 - bpc - k * bpc % 8)) (2 ^ bpc) v :=
    fun r k v => UInt8.toNat_ofNat_of_lt' (fieldPut_lt_256 (hfit k) (UInt8.toNat_lt _) v)
  refine ⟨?_, ?_, ?_, ?_, ?_, ?_⟩
  · intro r k v; rw [hs, List.length_set]
  · intro r k v hl hk
    rw [hs, hg, getD_set_self r _ _ (hl ▸ hidx hk), hput, fieldGet_put (hP _) (hP _)]
  · intro r k j v hl hk hj hne
    rw [hs, hg, hg]
    by_cases he : j * bpc / 8 = k * bpc / 8
    · rw [he, getD_set_self r _ _ (hl ▸ hidx hk), hput, fieldGet_put_ne (hsh k j hne he)]
    · rw [getD_set_ne r _ _ _ (fun h => he h.symm)]
  · intro r k v hl hk hv
    rw [hg] at hv
    rw [hs, fieldPut_get hv, UInt8.ofNat_toNat, set_getD_self r _ (hl ▸ hidx hk)]
  · intro r k a b hl hk
    rw [hs r k a, hs _ k b, getD_set_self r _ _ (hl ▸ hidx hk), hput, fieldPut_put (hP _) (hP _), List.set_set, hs r k b]
  · intro r k
    rw [hg]
    exact Nat.mod_lt _ (hP _)

/-- byte index and shift of a packed sample, as `tiff_unpredict` and as the specification compute them, for any sample
    width that divides 8 -/
theorem packing {bpc : Nat} (h : 8 / bpc * bpc = 8) (k : Nat) :
    k * bpc / 8 = k / (8 / bpc) ∧ 8 - bpc - k * bpc % 8 = bpc * (8 / bpc - 1 - k % (8 / bpc)) := by
  have hb : 0 < bpc := Nat.pos_of_ne_zero (by rintro rfl; simp at h)
  generalize 8 / bpc = per at h ⊢
  rw [← h]
  exact ⟨Nat.mul_div_mul_right _ _ hb, by
    rw [Nat.mul_mod_mul_right, Nat.mul_comm bpc, Nat.sub_mul, Nat.sub_mul, Nat.one_mul]⟩

theorem ValidBpc.packed {bpc : Nat} (hb : ValidBpc bpc) (h16 : ¬ bpc = 16) (h8 : ¬ bpc = 8) : 8 / bpc * bpc = 8 := by
  have : bpc = 1 ∨ bpc = 2 ∨ bpc = 4 := by unfold ValidBpc at hb; omega
  rcases this with rfl | rfl | rfl <;> rfl

theorem sampleGet_eq_tiffGet {bpc : Nat} (hb : ValidBpc bpc) : sampleGet bpc = fun r k => tiffGet r bpc k := by
  funext r k
  unfold tiffGet sampleGet
  split
  · rfl
  · split
    · rfl
    · obtain ⟨e1, e2⟩ := packing (hb.packed ‹_› ‹_›) k
      simp only [e1, e2]

theorem samplePut_eq_tiffSet {bpc : Nat} (hb : ValidBpc bpc) : samplePut bpc = fun r k v => tiffSet r bpc k v := by
  funext r k v
  unfold tiffSet samplePut
  split
  · rfl
  · split
    · rfl
    · obtain ⟨e1, e2⟩ := packing (hb.packed ‹_› ‹_›) k
      simp only [e1, e2]

theorem lensAny (bpc : Nat) (hb : ValidBpc bpc) (len n : Nat) (hn : n ≤ len * 8 / bpc) :
    Lens (fun r k => tiffGet r bpc k) (fun r k v => tiffSet r bpc k v) (2 ^ bpc) n len := by
  rcases hb with rfl | rfl | rfl | rfl | rfl
  · exact lensSub 1 (by omega) len n hn
  · exact lensSub 2 (by omega) len n hn
  · exact lensSub 4 (by omega) len n hn
  · exact lens8 len n (by omega)
  · exact lens16 len n hn

/-- **one row**: the summing loop of `tiff_unpredict` restores a horizontally differenced row, for every
    bit depth, any number of colour components and columns, padding bits included -/
theorem tiffRow_diffRow (colors bpc columns : Nat) (hc : 1 ≤ colors) (hb : ValidBpc bpc) (row : Bytes) :
    tiffRow colors bpc columns (tiffDiffRow colors bpc columns row) = row := by
  unfold tiffDiffRow
  rw [sampleGet_eq_tiffGet hb, samplePut_eq_tiffSet hb]
  generalize hn : min (colors * columns) (row.length * 8 / bpc) = n
  have L := lensAny bpc hb row.length n (by omega)
  unfold tiffRow
  rw [diffFrom_length L, hn]
  dsimp only
  have hM16 : 65536 % 2 ^ bpc = 0 := by rcases hb with rfl | rfl | rfl | rfl | rfl <;> decide
  exact undiff L hc hM16 row rfl (n - colors) colors (Nat.le_refl _) (Nat.le_refl _)

theorem chunksLoop_rows (f : Bytes → Bytes) (S : Nat) (hS : 1 ≤ S) :
    ∀ (rows : List Bytes) (fuel : Nat), (∀ r ∈ rows, r.length = S) → rows.flatten.length < fuel →
      chunksLoop f S fuel rows.flatten = .ok (rows.map f).flatten := by
  intro rows
  induction rows with
  | nil =>
    intro fuel _ hf
    cases fuel with
    | zero => simp at hf
    | succ n => rfl
  | cons r rs ih =>
    intro fuel hr hf
    have hrl : r.length = S := hr r (List.mem_cons_self ..)
    rw [List.flatten_cons, List.length_append] at hf
    cases fuel with
    | zero => omega
    | succ n =>
      obtain ⟨b, r', rfl⟩ := List.exists_cons_of_length_pos (hrl ▸ hS)
      rw [List.flatten_cons, List.cons_append, chunksLoop, ← List.cons_append, List.take_left' hrl, List.drop_left' hrl,
        ih n (fun r hr' => hr r (List.mem_cons_of_mem _ hr')) (by omega)]
      rfl

theorem chunksLoop_returns (f : Bytes → Bytes) (S : Nat) (hS : 1 ≤ S) :
    ∀ (fuel : Nat) (d : Bytes), d.length < fuel → (chunksLoop f S fuel d).Returns := by
  intro fuel
  induction fuel with
  | zero => intro d h; simp at h
  | succ n ih =>
    intro d hf
    cases d with
    | nil => exact .ok _
    | cons b rest =>
      rw [chunksLoop]
      rcases (ih ((b :: rest).drop S) (by simp at hf ⊢; omega)).cases with e | ⟨t, e⟩ <;> rw [e]
      · exact .err
      · exact .ok _

theorem tiffDiffRow_length (colors bpc columns : Nat) (hb : ValidBpc bpc) (row : Bytes) :
    (tiffDiffRow colors bpc columns row).length = row.length := by
  unfold tiffDiffRow
  rw [sampleGet_eq_tiffGet hb, samplePut_eq_tiffSet hb]
  dsimp only
  exact diffFrom_length (lensAny bpc hb row.length (min (colors * columns) (row.length * 8 / bpc)) (Nat.min_le_right _ _)) row _ _

/-- **whole image, TIFF predictor 2**: every image made of complete rows is restored -/
theorem unpredict_tiff (p : Params) (bpp S : Nat) (hp : p.predictor = 2)
    (hg : predictorGeometry p = .ok (bpp, S)) (rows : List Bytes) (hrows : ∀ r ∈ rows, r.length = S) :
    unpredict (rows.map (tiffDiffRow p.colors.toNat p.bpc.toNat p.columns.toNat)).flatten p = .ok rows.flatten := by
  obtain ⟨⟨hc, hcol, hb⟩, hb1, hbs⟩ := geometry_spec hg
  unfold unpredict
  simp only [hp, show ¬ ((2 : Int) ≥ 10) by decide, if_false, if_true, hg]
  unfold tiffUnpredict
  simp only [show S ≠ 0 by omega, if_false]
  rw [chunksLoop_rows _ S (by omega) _ _
      (List.forall_mem_map.mpr fun r h => (tiffDiffRow_length _ _ _ hb r).trans (hrows r h)) (Nat.lt_succ_self _),
    List.map_map,
    List.map_congr_left (f := tiffRow _ _ _ ∘ _) (g := id) (fun r _ => tiffRow_diffRow _ _ p.columns.toNat hc hb r), List.map_id]

end Enc
