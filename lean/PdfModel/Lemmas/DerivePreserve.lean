import PdfModel.Lemmas.DeriveLaw

/-! Read, then write: what becomes of the entries of the input dictionary (second law of C15). -/

namespace Derive

theorem readFields_other (cfg : Cfg) (sem : Sem) (env : Env) :
    ∀ (fs : List Field) (d : Dict) (acc : List Val) (oth0 : Option Dict) res dfin oth',
      (∀ f ∈ fs, f.skip = false) → lastIsOther fs = true →
      readFields cfg sem env fs d acc oth0 = .ok (res, dfin, oth') →
      oth' = if fs.any (·.other) then some dfin else oth0 := by
  intro fs
  induction fs with
  | nil => intro d acc oth0 res dfin oth' _ _ h; simp [readFields] at h; simp [h.2.2]
  | cons f fs ih =>
    intro d acc oth0 res dfin oth' hskip hlast h
    have hs : f.skip = false := hskip f (by simp)
    cases ho : f.other with
    | true =>
      have hnil := lastIsOther_cons_other hlast ho
      subst hnil
      simp [readFields, hs, ho] at h
      obtain ⟨_, h2, h3⟩ := h
      subst h2
      simp [ho, ← h3]
    | false =>
      simp only [readFields, hs, ho] at h
      cases hr : readField cfg sem env f acc (dget (f.key.getD "") d) with
      | error e => simp [hr] at h
      | ok v =>
        simp [hr] at h
        have := ih _ _ oth0 res dfin oth' (fun g hg => hskip g (by simp [hg])) (lastIsOther_tail hlast) h
        simp [ho, this]

theorem mem_fkeys : ∀ (fs : List Field) (g : Field), g ∈ fs → g.skip = false → g.other = false →
    keyOf g ∈ fkeys fs := by
  intro fs
  induction fs with
  | nil => intro g hg; simp at hg
  | cons x xs ih =>
    intro g hg hs ho
    cases List.mem_cons.1 hg with
    | inl e => subst e; simp [fkeys, hs, ho]
    | inr hm =>
      have := ih g hm hs ho
      simp only [fkeys]
      cases hxs : (x.skip || x.other) <;> simp [this]

/-- read, then write, field loop by field loop. If the reader loop accepts `d`, then it adds one value per keyed field
    (`res = acc ++ vs`); what it leaves over is `d` without the keys of the fields; and whenever the writer loop then
    writes those values over a dictionary `b` free of those keys, the output holds under the key of each keyed field `f`
    exactly what `emit` gives for the value `f`'s own reader made of `d`'s entry. That value was read with the
    accumulator the loop had reached at `f` (it matters only to `default` expressions), hence `∃ acc'`. -/
theorem read_then_write (cfg : Cfg) (sem : Sem) (env : Env) :
    ∀ (fs : List Field) (d : Dict) (acc : List Val) (oth0 : Option Dict) res dfin oth',
      (∀ f ∈ fs, f.skip = false) → distinct (fkeys fs) = true →
      readFields cfg sem env fs d acc oth0 = .ok (res, dfin, oth') →
      ∃ vs, res = acc ++ vs ∧ (∀ k, k ∉ fkeys fs → dget k dfin = dget k d) ∧ (∀ k ∈ fkeys fs, dget k dfin = none) ∧
        ∀ b out, (∀ k ∈ fkeys fs, dget k b = none) → writeFields sem fs vs b = .ok out →
          ∀ f ∈ fs, f.other = false →
            ∃ acc' fv e, readField cfg sem env f acc' (dget (keyOf f) d) = .ok fv ∧ emit sem f fv = .ok e ∧
              dget (keyOf f) out = e := by
  intro fs
  induction fs with
  | nil =>
    intro d acc oth0 res dfin oth' _ _ h
    simp [readFields] at h
    exact ⟨[], by simp [h.1], by simp [h.2.1], by simp [fkeys], by intro b out _ _ f hf; simp at hf⟩
  | cons f fs ih =>
    intro d acc oth0 res dfin oth' hskip hdist h
    have hs : f.skip = false := hskip f (by simp)
    have hskip' : ∀ g ∈ fs, g.skip = false := fun g hg => hskip g (by simp [hg])
    cases ho : f.other with
    | true =>
      have hso : (f.skip || f.other) = true := by simp [ho]
      simp only [readFields, hs, ho] at h
      have hfk : fkeys (f :: fs) = fkeys fs := by simp [fkeys, hso]
      rw [hfk] at hdist ⊢
      obtain ⟨vs, h1, h2, h3, h4⟩ := ih d acc (some d) res dfin oth' hskip' hdist (by simpa using h)
      refine ⟨vs, h1, h2, h3, ?_⟩
      intro b out hb hw
      simp only [writeFields, hso] at hw
      intro g hg hgo
      cases List.mem_cons.1 hg with
      | inl e => subst e; simp [ho] at hgo
      | inr hm => exact h4 b out hb (by simpa using hw) g hm hgo
    | false =>
      have hso : (f.skip || f.other) = false := by simp [hs, ho]
      simp only [readFields, hs, ho] at h
      have hfk : fkeys (f :: fs) = keyOf f :: fkeys fs := by simp [fkeys, hso]
      rw [hfk] at hdist ⊢
      rw [distinct_cons] at hdist
      cases hr : readField cfg sem env f acc (dget (f.key.getD "") d) with
      | error e => simp [hr] at h
      | ok v =>
        simp [hr] at h
        obtain ⟨vs, h1, h2, h3, h4⟩ := ih _ (acc ++ [v]) oth0 res dfin oth' hskip' hdist.2 h
        have hkf := keyOf_eq f
        refine ⟨v :: vs, by simp [h1], ?_, ?_, ?_⟩
        · intro k hk
          have hk1 : k ≠ keyOf f := fun e => hk (by simp [e])
          have hk2 : k ∉ fkeys fs := fun m => hk (by simp [m])
          rw [h2 k hk2, hkf]; exact dget_derase_ne (fun e => hk1 e.symm) d
        · intro k hk
          cases List.mem_cons.1 hk with
          | inl e => subst e; rw [h2 _ hdist.1, hkf]; simp
          | inr hm => exact h3 k hm
        · intro b out hb hw
          have hb1 : dget (keyOf f) b = none := hb _ (by simp)
          have hb2 : ∀ k ∈ fkeys fs, dget k b = none := fun k hk => hb k (by simp [hk])
          rw [writeFields_cons_ok, if_neg (by simp [hso])] at hw
          obtain ⟨_, _, e, hvs, hem, hw⟩ := hw
          cases hvs
          intro g hg hgo
          cases List.mem_cons.1 hg with
          | inl eg =>
            subst eg
            refine ⟨acc, v, e, by rw [← hkf]; exact hr, hem, ?_⟩
            rw [writeFields_foreign sem _ fs vs _ out hw hdist.1]
            cases e
            · exact hb1
            · exact dget_dinsert_self ..
          | inr hm =>
            have hgk : keyOf g ∈ fkeys fs := mem_fkeys fs g hm (hskip' g hm) hgo
            have hne : keyOf f ≠ keyOf g := fun e => hdist.1 (e ▸ hgk)
            have hb' : ∀ k ∈ fkeys fs, dget k (e.elim b fun q => dinsert (keyOf f) q b) = none := by
              intro k hk
              cases e
              · exact hb2 k hk
              · exact (dget_dinsert_ne (k := k) (k' := keyOf f) (fun e2 => hdist.1 (e2 ▸ hk)) _ b).trans (hb2 k hk)
            obtain ⟨acc', fv, e', hrd, hem', hget⟩ := h4 _ out hb' hw g hm hgo
            refine ⟨acc', fv, e', ?_, hem', hget⟩
            rw [← hrd, hkf, dget_derase_ne (k := keyOf g) (k' := keyOf f) hne d]

theorem expect_ok_get {d : Dict} {key value : String} {req : Bool} {v : Prim}
    (h : expect d key value req = .ok ()) (hg : dget key d = some v) : v = .name value := by
  simp only [expect, hg] at h
  cases v <;> simp at h
  rename_i n
  by_cases hn : n = value
  · simp [hn]
  · simp [hn] at h

theorem expectAll_ok_get {d : Dict} :
    ∀ (cs : List (String × String)), expectAll d cs = .ok () → ∀ k c v, (k, c) ∈ cs → dget k d = some v →
      v = .name c := by
  intro cs
  induction cs with
  | nil => intro _ k c v hm; simp at hm
  | cons x xs ih =>
    obtain ⟨k0, c0⟩ := x
    intro h k c v hm hg
    simp only [expectAll] at h
    cases he : expect d k0 c0 true with
    | error e => simp [he] at h
    | ok u =>
      cases u
      simp [he] at h
      cases List.mem_cons.1 hm with
      | inl e => cases e; exact expect_ok_get he hg
      | inr hm' => exact ih h k c v hm' hg

theorem readStructD_ok {cfg : Cfg} {sem : Sem} {env : Env} {S : Schema} {d : Dict} {x : Val}
    (h : readStructD cfg sem env S d = .ok x) :
    (∀ t, S.typeName = some t → expect d "Type" t S.typeRequired = .ok ()) ∧ expectAll d S.checks = .ok () ∧
      ∃ vals dfin oth, readFields cfg sem env S.fields d [] none = .ok (vals, dfin, oth) ∧ x = .struct vals (oth.getD []) := by
  unfold readStructD at h
  split at h
  · cases h
  next hexp =>
    split at h
    · cases h
    next hch =>
      split at h
      · cases h
      next vals dfin oth hrf =>
        cases h
        exact ⟨fun t ht => by simpa [ht] using hexp, hch, vals, dfin, oth, hrf, rfl⟩
/-- the second law for one derived struct with a catch-all -/
theorem struct_preserves (cfg : Cfg) (sem : Sem) (env : Env) (S : Schema)
    (hk : S.kind = .struct) (hrd : S.derivesRead = true) (wf : S.WF) (ho : S.hasOther = true)
    (d : Dict) (x : Val) (hr : readStructD cfg sem env S d = .ok x)
    (out : Dict) (hw : writeStruct sem S x = .ok (.dict out)) :
    ∀ k v, dget k d = some v →
      (k ∉ S.fieldKeys → dget k out = some v) ∧
      (∀ f ∈ S.fields, f.other = false → keyOf f = k →
        ∃ acc fv e, readField cfg sem env f acc (some v) = .ok fv ∧ emit sem f fv = .ok e ∧ dget k out = e) := by
  intro k v hkv
  have F := structFacts hk hrd wf
  obtain ⟨hty, hch, vals, dfin, oth', hrf, hx⟩ := readStructD_ok hr
  subst hx
  have hoth := readFields_other cfg sem env S.fields d [] none vals dfin oth' F.noSkip F.last hrf
  have hany : (S.fields.any fun f => f.other) = true := ho
  simp only [hany, if_true] at hoth
  subst hoth
  obtain ⟨vs, h1, h2, h3, h4⟩ := read_then_write cfg sem env S.fields d [] none vals dfin _ F.noSkip F.distinctKeys hrf
  simp at h1; subst h1
  obtain ⟨out, hD, hDD⟩ := writeStruct_ok.1 (by simpa using hw)
  cases hDD
  have hfresh : ∀ k ∈ fkeys S.fields, dget k (writeBase S dfin) = none := by
    intro k' hk'
    rw [dget_writeBase_foreign S dfin k' (fun h => F.disjoint k' h hk')]
    simp [ho]; exact h3 k' hk'
  refine ⟨?_, ?_⟩
  · intro hnk
    rw [F.keysEq] at hnk
    rw [writeFields_foreign sem k S.fields vals _ out hD hnk]
    by_cases htag : k ∈ S.tagKeys
    · simp only [Schema.tagKeys, List.mem_append] at htag
      cases htag with
      | inl ht =>
        cases htn : S.typeName with
        | none => simp [htn] at ht
        | some t =>
          simp [htn] at ht; subst ht
          rw [writeBase_type S dfin F.distinctTags t htn, expect_ok_get (hty t htn) hkv]
      | inr hc =>
        obtain ⟨⟨k0, c⟩, hm, hkk⟩ := List.mem_map.1 hc
        simp at hkk; subst hkk
        rw [writeBase_checks S dfin F.distinctTags k0 c hm, expectAll_ok_get S.checks hch k0 c v hm hkv]
    · rw [dget_writeBase_foreign S dfin k htag]
      simp [ho]; rw [h2 k hnk]; exact hkv
  · intro f hf hfo hkf
    obtain ⟨acc', fv, e, hrd', hem, hget⟩ := h4 _ out hfresh hD f hf hfo
    rw [hkf, hkv] at hrd'
    exact ⟨acc', fv, e, hrd', hem, by rw [← hkf]; exact hget⟩

end Derive
