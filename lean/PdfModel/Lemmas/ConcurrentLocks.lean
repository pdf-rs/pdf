import PdfModel.Model.ConcurrentLocks
import PdfModel.Lemmas.ConcurrentLive

/-! Invariants of the explicit-lock system `Model/ConcurrentLocks.lean` (the code under test: `logUnderLock = false`):
a thread that holds a mutex is at a control point whose step takes exactly that mutex, is therefore not inside
user code, and can take its step whatever the others do; no mutex has two holders. -/

namespace Conc
open Cache
variable {V E : Type}

/-- a step of another thread never disables a thread -/
theorem step_enabled_stable {d : Doc V E} {cfg : Cfg} {s s' : State V E} {i j : Nat} (hs : step d cfg s i = some s')
    (hj : j ≠ i) (h : (step d cfg s j).isSome = true) : (step d cfg s' j).isSome = true := by
  have hth := step_other hs j hj
  obtain ⟨t, sh', t', _, hst, rfl⟩ := step_inv hs
  cases htj : s.threads[j]? with
  | none => simp [step, htj] at h
  | some u =>
    rw [step_of (hth.trans htj)]
    rw [step_of htj] at h
    rw [Option.isSome_map, stepT_isSome_iff] at h ⊢
    refine ⟨h.1, h.2.1, fun T r k e => ?_⟩
    obtain ⟨T', res, hl⟩ := h.2.2 T r k e
    exact (stepT_sound hst).computed hl

theorem lockOf_not_callback {cfg : Cfg} {c : Ctl V E} {L : Lock} (h : lockOf cfg c = some L) : isCallback c = false := by
  cases c <;> simp_all [lockOf, isCallback]

theorem wlockOf_eq {wc : WCfg} (hw : wc.logUnderLock = false) (c : Ctl V E) : wlockOf wc c = lockOf wc.cfg c := by
  simp [wlockOf, hw]

theorem userStep_some {d : Doc V E} {cfg : Cfg} {gate : Nat → State V E → Bool} {s s' : State V E} {i : Nat} {t : Thread V E}
    (h : userStep d cfg gate s i t = some s') : step d cfg s i = some s' := by
  unfold userStep at h
  split at h
  · cases h
  · exact h

section Inv
variable (d : Doc V E)

/-- who holds what: a holder stands at a control point whose step takes that mutex, and can take the step -/
structure WInv (wc : WCfg) (s : WState V E) : Prop where
  len : s.held.length = s.inner.threads.length
  holds : ∀ (i : Nat) (t : Thread V E) (L : Lock), s.inner.threads[i]? = some t → s.held[i]? = some (some L) →
    lockOf wc.cfg t.ctl = some L ∧ (step d wc.cfg s.inner i).isSome = true
  excl : ∀ (i j : Nat) (L : Lock), s.held[i]? = some (some L) → s.held[j]? = some (some L) → i = j

theorem init_WInv (wc : WCfg) (s : State V E) : WInv d wc (WState.init s) := by
  refine ⟨by simp [WState.init], ?_, ?_⟩
  · intro i t L _ h
    simp [WState.init] at h
  · intro i j L h
    simp [WState.init] at h

variable {d}

theorem wstep_WInv {wc : WCfg} (hw : wc.logUnderLock = false) {gate : Nat → State V E → Bool} {s s' : WState V E} {i : Nat}
    (h : WInv d wc s) (hs : wstep d wc gate s i = some s') : WInv d wc s' := by
  unfold wstep at hs
  cases hti : s.inner.threads[i]? with
  | none => simp [hti] at hs
  | some t =>
  cases hhi : s.held[i]? with
  | none => simp [hti, hhi] at hs
  | some hl =>
  -- the other threads after an inner step of `i`
  have others : ∀ (inner' : State V E) (held' : List (Option Lock)), step d wc.cfg s.inner i = some inner' →
      (∀ (j : Nat) x, held'[j]? = some (some x) → j ≠ i ∧ s.held[j]? = some (some x)) → held'.length = s.held.length →
      WInv d wc ⟨inner', held'⟩ := by
    intro inner' held' hst hheld hlen
    refine ⟨by rw [hlen, h.len, step_length hst], ?_, ?_⟩
    · intro j u L hu hj
      obtain ⟨hne, hold⟩ := hheld j L hj
      simp only at hu
      rw [step_other hst j hne] at hu
      obtain ⟨h1, h2⟩ := h.holds j u L hu hold
      exact ⟨h1, step_enabled_stable hst hne h2⟩
    · intro j k L hj hk
      exact h.excl j k L (hheld j L hj).2 (hheld k L hk).2
  cases hl with
  | some L =>
    -- the holder runs the body of its critical section and unlocks
    simp only [hti, hhi, hw, Bool.false_and, Bool.false_eq_true, if_false, Option.map_eq_some_iff] at hs
    obtain ⟨inner', hu, rfl⟩ := hs
    refine others inner' _ (userStep_some hu) ?_ (by simp)
    intro j x hj
    rcases set_get hj with ⟨_, e⟩ | ⟨hne, hold⟩
    · cases e
    · exact ⟨hne, hold⟩
  | none =>
    simp only [hti, hhi, wlockOf_eq hw] at hs
    cases hlo : lockOf wc.cfg t.ctl with
    | none =>
      -- a step that takes no mutex
      simp only [hlo, Option.map_eq_some_iff] at hs
      obtain ⟨inner', hu, rfl⟩ := hs
      refine others inner' _ (userStep_some hu) ?_ rfl
      intro j x hj
      by_cases e : j = i
      · subst e; rw [hhi] at hj; cases hj
      · exact ⟨e, hj⟩
    | some L =>
      -- `lock`: the mutex is free and the inner step enabled; the inner state stays
      simp only [hlo] at hs
      split at hs
      · rename_i hcond
        simp only [Bool.and_eq_true] at hcond
        simp only [Option.some.injEq] at hs
        subst hs
        refine ⟨by simp [h.len], ?_, ?_⟩
        · intro j u L' hu hj
          rcases set_get hj with ⟨rfl, e⟩ | ⟨_, hold⟩
          · simp only [Option.some.injEq] at e
            subst e
            simp only at hu
            rw [hti] at hu
            simp only [Option.some.injEq] at hu
            subst hu
            exact ⟨hlo, hcond.2⟩
          · exact h.holds j u L' hu hold
        · intro j k L' hj hk
          have free : ∀ (m : Nat), s.held[m]? = some (some L) → False := by
            intro m hm
            have := hcond.1
            simp only [lockFree, List.all_eq_true] at this
            have := this (some L) (List.mem_of_getElem? hm)
            simp at this
          rcases set_get hj with ⟨rfl, ej⟩ | ⟨hnj, hoj⟩
          · rcases set_get hk with ⟨rfl, _⟩ | ⟨_, hok⟩
            · rfl
            · simp only [Option.some.injEq] at ej; subst ej; exact (free k hok).elim
          · rcases set_get hk with ⟨rfl, ek⟩ | ⟨_, hok⟩
            · simp only [Option.some.injEq] at ek; subst ek; exact (free j hoj).elim
            · exact h.excl j k L' hoj hok
      · cases hs

theorem reachable_WInv {wc : WCfg} (hw : wc.logUnderLock = false) {gate : Nat → State V E → Bool} {s0 s : WState V E}
    (h0 : WInv d wc s0) (hr : WReachable d wc gate s0 s) : WInv d wc s := by
  induction hr with
  | init => exact h0
  | step i _ hs ih => exact wstep_WInv hw ih hs

/-- every step of the explicit-lock system is a step of `Model/Concurrent.lean`, or leaves its state alone (`lock`) -/
theorem wstep_inner {wc : WCfg} {gate : Nat → State V E → Bool} {s s' : WState V E} {i : Nat}
    (hs : wstep d wc gate s i = some s') : s'.inner = s.inner ∨ step d wc.cfg s.inner i = some s'.inner := by
  unfold wstep at hs
  cases hti : s.inner.threads[i]? with
  | none => simp [hti] at hs
  | some t =>
  cases hhi : s.held[i]? with
  | none => simp [hti, hhi] at hs
  | some hl =>
  cases hl with
  | some L =>
    simp only [hti, hhi, Option.map_eq_some_iff] at hs
    obtain ⟨inner', hu, rfl⟩ := hs
    exact .inr (userStep_some hu)
  | none =>
    simp only [hti, hhi] at hs
    split at hs
    · simp only [Option.map_eq_some_iff] at hs
      obtain ⟨inner', hu, rfl⟩ := hs
      exact .inr (userStep_some hu)
    · split at hs
      · simp only [Option.some.injEq] at hs; subst hs; exact .inl rfl
      · cases hs

theorem reachable_inner {wc : WCfg} {gate : Nat → State V E → Bool} {s0 s : WState V E}
    (hr : WReachable d wc gate s0 s) : Reachable d wc.cfg s0.inner s.inner := by
  induction hr with
  | init => exact .init
  | step i _ hs ih =>
    rcases wstep_inner hs with e | e
    · rw [e]; exact ih
    · exact .step i ih e

end Inv
end Conc
