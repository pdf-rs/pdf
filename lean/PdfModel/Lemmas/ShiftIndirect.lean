import PdfModel.Lemmas.ShiftOffset

/-! `parse_indirect_object` under a prefix and under a change of the lexer's file offset. -/

namespace PdfShift
open PdfLex

variable {R : Type}

theorem parseObjHeader_shift (p b : Buf) (pos : Nat) :
    parseObjHeader (p ++ b) (p.size + pos) = omap (shV p.size) (parseObjHeader b pos) := by
  unfold parseObjHeader
  apply bind_shift _ _ (sh2 p.size) (shV p.size) _ _ (next_shift p b pos)
  intro w1
  simp only [sh2, slice_shift]
  cases parseU64 (slice b w1.1 w1.2) with
  | none => rfl
  | some id =>
    simp only
    apply bind_shift _ _ (sh2 p.size) (shV p.size) _ _ (next_shift p b w1.2)
    intro w2
    simp only [sh2, slice_shift]
    cases parseU64 (slice b w2.1 w2.2) with
    | none => rfl
    | some gen =>
      simp only
      apply bind_shift _ _ (p.size + ·) (shV p.size) _ _ (nextExpect_shift p b w2.2 kwObj)
      intro q; rfl

/-- `((id, gen), value)` and the cursor behind the object, the cursor moved by `k` (`shV` at that type) -/
def shI (k : Nat) (r : ((Nat × Nat) × Prim R) × Nat) : ((Nat × Nat) × Prim R) × Nat := (r.1, k + r.2)
/-- the same result with every `file_range` of the value moved by `k` -/
def mapI (k : Nat) (r : ((Nat × Nat) × Prim R) × Nat) : ((Nat × Nat) × Prim R) × Nat := ((r.1.1, shiftR k r.1.2), r.2)

/-- **`parse_indirect_object` under a prefix** -/
theorem parseIndirectObject_shift (env : Env R) (p b : Buf) (hsz : (p ++ b).size ≤ 2147483647) (hlen : LenBounded env)
    (fuel pos flags : Nat) :
    parseIndirectObject env (p ++ b) fuel (p.size + pos) flags
      = omap (shI p.size) (parseIndirectObject (env.shiftOffset p.size) b fuel pos flags) := by
  unfold parseIndirectObject
  apply bind_shift _ _ (shV p.size) (shI p.size) _ _ (parseObjHeader_shift p b pos)
  rintro ⟨id, q⟩
  simp only [shV]
  apply bind_shift _ _ (shV p.size) (shI p.size) _ _ (parseCtx_shift env p b hsz hlen fuel q (some id) flags maxDepth)
  rintro ⟨obj, q2⟩
  simp only [shV]
  have hm : (env.shiftOffset p.size).allowMissingEndobj = env.allowMissingEndobj := rfl
  rw [hm]
  split
  · rw [nextExpect_shift]
    cases nextExpect b q2 kwEndobj with
    | ok q3 => rfl
    | err =>
      simp only [omap_err]
      apply bind_shift _ _ (p.size + ·) (shI p.size) _ _ (setPos_shift p b q2 q2)
      intro q4; rfl
    | panic => rfl
    | oof => rfl
  · apply bind_shift _ _ (p.size + ·) (shI p.size) _ _ (nextExpect_shift p b q2 kwEndobj)
    intro q3; rfl

/-- **`parse_indirect_object` under a change of environment**: the object is parsed with its own number and
    generation (the header just read) as context -/
theorem parseIndirectObject_sim {fs : Nat × Nat → List UInt8 → List UInt8} {fi : StreamInner → StreamInner}
    {env env' : Env R} (h : ∀ id, EnvSim (fs id) fi env env' (some id))
    (hm : env'.allowMissingEndobj = env.allowMissingEndobj) (buf : Buf) (fuel pos flags : Nat) :
    parseIndirectObject env' buf fuel pos flags
      = omap (fun r => ((r.1.1, mapLeaves (fs r.1.1) fi r.1.2), r.2)) (parseIndirectObject env buf fuel pos flags) := by
  unfold parseIndirectObject
  apply bind_same
  rintro ⟨id, q⟩
  apply bind_shift _ _ (mapLV (fs id) fi) _ _ _ ((sims (h id) buf fuel).ctx q flags maxDepth)
  rintro ⟨obj, q2⟩
  rw [hm]
  apply ite_omap
  · cases nextExpect buf q2 kwEndobj with
    | ok q3 => rfl
    | err => exact bind_same _ _ _ _ fun _ => rfl
    | panic => rfl
    | oof => rfl
  · exact bind_same _ _ _ _ fun _ => rfl

/-- **the lexer's file offset only moves the reported ranges** -/
theorem parseIndirectObject_offset (env : Env R) (k : Nat) (buf : Buf) (fuel pos flags : Nat) :
    parseIndirectObject (env.shiftOffset k) buf fuel pos flags
      = omap (mapI k) (parseIndirectObject env buf fuel pos flags) := by
  rw [show mapI (R := R) k = fun r => ((r.1.1, mapLeaves (fun s => s) (shiftInner k) r.1.2), r.2) from
    funext fun r => by simp only [mapI, shiftR_eq]]
  exact parseIndirectObject_sim (fs := fun _ s => s) (fun id => envSim_shiftOffset env k (some id)) rfl
    buf fuel pos flags

/-- **suffix view**: parsing the suffix `buf[q ..]` from 0 with lexer offset `o + q` is parsing the whole
    buffer from `q` with lexer offset `o` (cursor counted from `q`) — `Lexer::with_offset(read(q ..), q)` -/
theorem parseIndirectObject_suffix (env : Env R) (pre sfx : Buf) (hsz : (pre ++ sfx).size ≤ 2147483647)
    (hlen : LenBounded env) (fuel flags : Nat) :
    parseIndirectObject env (pre ++ sfx) fuel pre.size flags
      = omap (shI pre.size) (parseIndirectObject (env.shiftOffset pre.size) sfx fuel 0 flags) := by
  have := parseIndirectObject_shift env pre sfx hsz hlen fuel 0 flags
  simpa using this

end PdfShift
