import PdfModel.Lemmas.SaveShape

/-! What a reload of the bytes of a successful save reads. -/

namespace Storage
open Xref

variable {V : Type}

/-- equal, or "free" where the original said "undefined" (an undefined number below /Size is written
    as a free entry; both read as null) -/
def sameRd (a b : Rd V) : Prop := a = b ∨ (a = .free ∧ b = .null)

theorem sameRd_val (a : Rd V) (v : V) (h : sameRd a (.val v)) : a = .val v := by
  rcases h with h | ⟨_, h⟩
  · exact h
  · cases h

/-- the state a reload of `d'` builds, once the table `t` is known -/
def reloaded (st : St V) (t : List XRef) (c : Bool) : St V :=
  { st with refs := t, changes := [], cache := [], cached := c }

/-- What the table `t`, rebuilt from the bytes `save` left in `d'` (`d0`: the loaded document, `d`: the document saved),
    makes every number read as: its pending value, the cross-reference stream under its own number, and — `old` — what it
    read in `d0` if neither it nor the object stream holding it was written. -/
structure ReloadFacts (P : Params V) (d0 d d' : Doc V) (i : SaveInfo) (t : List XRef) : Prop where
  len : t.length = (prep d).size + 1
  pending : ∀ (j : Nat) (v : V) (g : Nat), chLookup (prep d).st2.changes j = some (v, g) →
      ∀ c, resolve (reloaded d'.st t c) j = .val v
  xref : ∀ c, resolve (reloaded d'.st t c) (prep d).xid = .val (P.xrefRec d.tr (prep d).infoRef i)
  old : ∀ j : Nat, j < d0.st.refs.length → chLookup (prep d).st2.changes j = none →
      (∀ sid idx, d0.st.refs[j]? = some (.stream sid idx) → chLookup (prep d).st2.changes sid = none) →
      ∀ c, sameRd (resolve (reloaded d'.st t c) j) (resolve d0.st j)

/-- a direct row of the rebuilt table reads the record at its offset -/
theorem resolve_reloaded_raw (st : St V) (t : List XRef) (c : Bool) (j off g : Nat) (o : Obj V)
    (ht : t[j]? = some (.raw (off - st.start) g)) (hle : st.start ≤ off) (ho : objAt st.objs off = some o) :
    resolve (reloaded st t c) j = .val o.val := by
  simp only [resolve, reloaded, chLookup, ht, readAt]
  rw [Nat.add_sub_cancel' hle, ho]

/-- the table rebuilt from the saved bytes and what it makes every number read as -/
theorem reload_table_facts_c (P : Params V) (L : Layout) (hL : L.Pos) (d0 d d' : Doc V) (chain0) (i : SaveInfo)
    (hb : BaseOK d0 chain0) (hi : Inv d0 d) (h : Committed P L d d'.st i) (htr : d'.tr = d.tr) :
    ∃ t, mergeAll (newTable (prep d).size) ([⟨0, i.rows⟩] :: chain0) = .ok t ∧ ReloadFacts P d0 d d' i t := by
  have pf := prep_facts d0 d chain0 hb hi
  have hi' := inv_committed P L hL d0 d d' chain0 i hb hi h htr
  obtain ⟨sh, rv⟩ := revision_facts P L hL d0 d d' chain0 i hb hi h
  obtain ⟨_, _, _, _, _, hxid, _, _, _, _⟩ := h.spec'
  have hn0 : d0.st.refs.length ≤ (prep d).xid := Nat.le_trans hi.refs_len pf.xid_ge
  -- the record behind the row of a number with a pending value
  have hrow_pending : ∀ (j : Nat) (v : V) (g : Nat), chLookup (prep d).st2.changes j = some (v, g) →
      ∃ off, d'.st.start ≤ off ∧ i.rows[j]? = some (.raw (off - d'.st.start) g) ∧
        objAt d'.st.objs off = some ⟨off, j, g, v, []⟩ := by
    intro j v g hc
    have hne : j ≠ (prep d).xid := fun heq => by rw [heq, pf.xid_free] at hc; cases hc
    have := rv.records j v g (by rw [h.changes, if_neg hne]; exact hc)
    rwa [if_neg (hxid ▸ hne)] at this
  -- the row of a number of the original table without a pending value
  have hrow_old : ∀ j : Nat, j < d0.st.refs.length → chLookup (prep d).st2.changes j = none →
      ∃ e r, d0.st.refs[j]? = some e ∧ rowOf e = some r ∧ i.rows[j]? = some r := by
    intro j hj hc
    have he : d0.st.refs[j]? = some d0.st.refs[j] := List.getElem?_eq_getElem hj
    obtain ⟨r, ra, rb⟩ := sh.rows_of_table j _
      ((hi'.refs_old j hj (by rw [h.changes, if_neg (by omega)]; exact hc)).trans he)
    exact ⟨_, r, he, ra, rb⟩
  -- older sections are dominated by the rows
  have hdom : ∀ p ∈ allPairs chain0, ∃ r, i.rows[p.1]? = some r ∧ gen p.2 ≤ gen r := by
    intro p hp
    obtain ⟨e, a, b, c⟩ := hb.pairs_dom p hp
    have hp1 : p.1 < d0.st.refs.length := (List.getElem?_eq_some_iff.mp a).1
    rcases Option.eq_none_or_eq_some (chLookup (prep d).st2.changes p.1) with hc | ⟨⟨v, g⟩, hc⟩
    · obtain ⟨e', r, a', ra, rb⟩ := hrow_old p.1 hp1 hc
      rw [a] at a'; cases a'
      rw [rowOf_entry e b] at ra; cases ra
      exact ⟨e, rb, c⟩
    · obtain ⟨off, _, rb, _⟩ := hrow_pending p.1 v g hc
      obtain ⟨e0, a0, _, c0, _⟩ := pf.inv.ch_old p.1 v g hc hp1
      rw [a] at a0; cases a0
      exact ⟨_, rb, c0 ▸ c⟩
  obtain ⟨t, ht, tlen, tget⟩ := reload_table (prep d).size i.rows chain0 rv.entries
    (by rw [sh.rows_len.1, hxid]; exact pf.size_ge) hb.pairs_entry hdom
  have hread_pending : ∀ (j : Nat) (v : V) (g : Nat), chLookup (prep d).st2.changes j = some (v, g) →
      ∀ c, resolve (reloaded d'.st t c) j = .val v := by
    intro j v g hc c
    obtain ⟨off, a, rb, oc⟩ := hrow_pending j v g hc
    exact resolve_reloaded_raw _ _ _ _ _ _ _ (tget j _ rb) a oc
  refine ⟨t, ht, tlen, hread_pending, ?_, ?_⟩
  · intro c
    obtain ⟨off, a, rb, oc⟩ := rv.records (prep d).xid _ 0 (by rw [h.changes, if_pos rfl])
    rw [if_pos hxid.symm] at oc
    exact resolve_reloaded_raw _ _ _ _ _ _ _ (tget _ _ rb) a oc
  · intro j hj hc hcont c
    obtain ⟨e, r, he, ra, rb⟩ := hrow_old j hj hc
    have h0 : ∀ k, chLookup d0.st.changes k = none := by intro k; rw [hb.changes_nil]; rfl
    simp only [resolve, reloaded, chLookup, tget j _ rb, h0, he]
    rcases rowOf_eq e r ra with rfl | ⟨rfl, rfl⟩
    · cases r with
      | raw pos g =>
        left
        simp only [readAt, hi'.start_eq]
        rw [objAt_base d0 d' hi' _ (hb.raw_lt j pos g he)]
      | stream sid idx =>
        obtain ⟨e2, r2, he2, ra2, rb2⟩ := hrow_old sid (hb.stream_lt j sid idx he) (hcont sid idx he)
        simp only [readCompressed, chLookup, tget sid _ rb2, h0, he2]
        rcases rowOf_eq e2 r2 ra2 with rfl | ⟨rfl, rfl⟩
        · cases r2 with
          | raw pos g =>
            left
            simp only [hi'.start_eq]
            rw [objAt_base d0 d' hi' _ (hb.raw_lt sid pos g he2)]
          | _ => exact Or.inl rfl
        · exact Or.inr ⟨rfl, rfl⟩
      | _ => exact Or.inl rfl
    · exact Or.inr ⟨rfl, rfl⟩

/-- **the saved bytes load again**, with the table of `reload_table_facts_c` and the same trailer -/
theorem reload_after_save (P : Params V) (L : Layout) (hL : L.Pos) (d0 d d' : Doc V) (chain0) (i : SaveInfo)
    (hb : BaseOK d0 chain0) (hi : Inv d0 d) (h : save P L d = (d', .ok i)) (c : Bool) :
    ∃ t, reload d'.st c = .ok ⟨reloaded d'.st t c, d.tr⟩ ∧ ReloadFacts P d0 d d' i t := by
  have pf := prep_facts d0 d chain0 hb hi
  have hi' := inv_save_ok P L hL d0 d d' chain0 i hb hi h
  obtain ⟨hcm, hl, _⟩ := save_ok_committed P L d d' i h
  obtain ⟨t, ht, facts⟩ := reload_table_facts_c P L hL d0 d d' chain0 i hb hi hcm (save_tr_eq P L d0 d d' chain0 i hb hi h)
  refine ⟨t, ?_, facts⟩
  have hlook := hcm.changes
  obtain ⟨_, rv⟩ := revision_facts P L hL d0 d d' chain0 i hb hi hcm
  obtain ⟨_, _, _, _, _, _, _, hsize, _, hmax⟩ := hcm.spec'
  -- the /Prev walk is the one of the original document
  have hchain : prevChain d'.st.secs d'.st.start (d'.st.secs.length + 1) d.tr.prev [] = .ok chain0 := by
    obtain ⟨e0, a, _⟩ := hi'.secs_ext
    rw [a, hi'.start_eq, hi.tr_eq]
    exact prevChain_mono _ _ _ _ _ _ _ _ hb.chain (by simp only [List.length_append]; omega)

  obtain ⟨_, _, ⟨vr, hroot⟩, _, _⟩ := loadTrailer_ok _ _ _ _ _ hl
  have hroot' : ∃ v, resolve (reloaded d'.st t c) d.tr.root.1 = .val v := by
    by_cases hx : d.tr.root.1 = (prep d).xid
    · exact ⟨_, by rw [hx]; exact facts.xref c⟩
    · rcases Option.eq_none_or_eq_some (chLookup (prep d).st2.changes d.tr.root.1) with hc | ⟨⟨v, g⟩, hc⟩
      · obtain ⟨hlt, hcont, h0⟩ := resolve_val_old d0 d' chain0 hb hi' _ vr (by rw [hlook, if_neg hx]; exact hc) hroot
        have h2 := facts.old _ hlt hc (fun sid idx he => by
          have := hcont sid idx he
          rw [hlook] at this
          split at this
          · cases this
          · exact this) c
        rw [h0] at h2
        exact ⟨vr, sameRd_val _ _ h2⟩
      · exact ⟨v, facts.pending _ v g hc c⟩
  obtain ⟨vr', hroot'⟩ := hroot'
  have htrailer : loadTrailer (reloaded d'.st t c) d.tr.root (prep d).infoRef d.tr.prev = .ok d.tr := by
    cases hir : (prep d).infoRef with
    | none =>
      simp only [loadTrailer, hroot']
      congr 1
      exact trailer_ext _ _ rfl (pf.info_none hir).1.symm rfl
    | some ii =>
      obtain ⟨v, a, b, _, _, _⟩ := pf.info_some ii hir
      simp only [loadTrailer, hroot', facts.pending ii v 0 b c]
      congr 1
      exact trailer_ext _ _ rfl a.symm rfl
  have hsz : ¬ ((prep d).size > MAX_ID) := by rw [pf.size_eq]; omega
  have hge : ¬ (d'.st.start + d'.st.startxref ≥ d'.st.len) := by rw [rv.sx, rv.len]; have := hL.2 i; omega
  have hsec := rv.sec
  rw [← rv.sx] at hsec
  unfold reload
  simp only [hge, if_false, hsec, hsz, hchain, hsize, ht]
  simp only [reloaded] at htrailer ⊢
  rw [htrailer]

end Storage
