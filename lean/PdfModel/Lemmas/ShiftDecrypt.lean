import PdfModel.Lemmas.ShiftIndirect

/-!
  The decryption context of the parser (`Model/Parser.lean`: `ctx : Option (id, gen)` + `env.decrypt`).
  With a decryptor that never fails, parsing with the decryptor is parsing without it and then decrypting
  every string of the value with the context's key; without a context (`parse(slice, …)`, the compressed
  branch of `resolve_ref`) the decryptor is not consulted at all.
-/

namespace PdfShift
open PdfLex

variable {R : Type}

mutual
/-- apply `f` to every string of a value -/
def mapStr (f : List UInt8 → List UInt8) : Prim R → Prim R
  | .str s => .str (f s)
  | .stream info inner => .stream (mapStrE f info) inner
  | .dict kvs => .dict (mapStrE f kvs)
  | .arr xs => .arr (mapStrL f xs)
  | .null => .null
  | .int i => .int i
  | .real r => .real r
  | .bool b => .bool b
  | .ref i g => .ref i g
  | .name n => .name n
def mapStrL (f : List UInt8 → List UInt8) : List (Prim R) → List (Prim R)
  | [] => []
  | x :: xs => mapStr f x :: mapStrL f xs
def mapStrE (f : List UInt8 → List UInt8) : List (List UInt8 × Prim R) → List (List UInt8 × Prim R)
  | [] => []
  | (k, v) :: rest => (k, mapStr f v) :: mapStrE f rest
end

/-- what a context does to the strings: nothing without one, `d id gen` with one -/
def ctxFn (d : Nat → Nat → List UInt8 → List UInt8) : Option (Nat × Nat) → List UInt8 → List UInt8
  | none => fun s => s
  | some (i, g) => d i g

/-- the environment with the (never failing) decryptor `d` -/
def withDec (env : Env R) (d : Nat → Nat → List UInt8 → List UInt8) : Env R :=
  { env with decrypt := some fun i g s => .ok (d i g s) }

/-- the environment without a decryptor -/
def noDec (env : Env R) : Env R := { env with decrypt := none }

def decV (d : Nat → Nat → List UInt8 → List UInt8) (ctx : Option (Nat × Nat)) (r : Prim R × Nat) : Prim R × Nat :=
  (mapStr (ctxFn d ctx) r.1, r.2)

mutual
theorem mapStr_eq (f : List UInt8 → List UInt8) : ∀ v : Prim R, mapStr f v = mapLeaves f (fun i => i) v
  | .str _ => rfl
  | .stream info _ => by simp only [mapStr, mapLeaves, mapStrE_eq f info]
  | .dict kvs => by simp only [mapStr, mapLeaves, mapStrE_eq f kvs]
  | .arr xs => by simp only [mapStr, mapLeaves, mapStrL_eq f xs]
  | .null => rfl
  | .int _ => rfl
  | .real _ => rfl
  | .bool _ => rfl
  | .ref _ _ => rfl
  | .name _ => rfl
theorem mapStrL_eq (f : List UInt8 → List UInt8) : ∀ xs : List (Prim R), mapStrL f xs = mapLeavesL f (fun i => i) xs
  | [] => rfl
  | x :: xs => by simp only [mapStrL, mapLeavesL, mapStr_eq f x, mapStrL_eq f xs]
theorem mapStrE_eq (f : List UInt8 → List UInt8) : ∀ kvs : List (List UInt8 × Prim R),
    mapStrE f kvs = mapLeavesE f (fun i => i) kvs
  | [] => rfl
  | (_, v) :: rest => by simp only [mapStrE, mapLeavesE, mapStr_eq f v, mapStrE_eq f rest]
end

theorem dictGet_mapStr (f : List UInt8 → List UInt8) (d : Dict R) (key : List UInt8) :
    dictGet (mapStrE f d) key = (dictGet d key).map (mapStr f) := by
  rw [mapStrE_eq, dictGet_mapLeaves, funext (mapStr_eq f)]

/-- the environments with and without the decryptor differ by `d`'s action on the strings -/
theorem envSim_dec (env : Env R) (d : Nat → Nat → List UInt8 → List UInt8) (ctx : Option (Nat × Nat)) :
    EnvSim (ctxFn d ctx) (fun i => i) (noDec env) (withDec env d) ctx := by
  refine ⟨rfl, rfl, fun s => ?_, fun _ _ _ _ => rfl⟩
  cases ctx with
  | none => rfl
  | some ig => obtain ⟨i, g⟩ := ig; rfl

/-- **The decryptor acts on the strings and on nothing else**, with the key of the context. -/
theorem parseCtx_dec (env : Env R) (d : Nat → Nat → List UInt8 → List UInt8) (buf : Buf) (fuel pos : Nat)
    (ctx : Option (Nat × Nat)) (flags depth : Nat) :
    parseCtx (withDec env d) buf fuel pos ctx flags depth
      = omap (decV d ctx) (parseCtx (noDec env) buf fuel pos ctx flags depth) := by
  rw [show decV (R := R) d ctx = mapLV (ctxFn d ctx) (fun i => i) from
    funext fun r => by simp only [decV, mapLV, mapStr_eq]]
  exact (sims (envSim_dec env d ctx) buf fuel).ctx pos flags depth

mutual
theorem mapStr_comp (f g : List UInt8 → List UInt8) : ∀ (v : Prim R), mapStr g (mapStr f v) = mapStr (fun s => g (f s)) v
  | .str s => rfl
  | .stream info inner => by simp only [mapStr, mapStrE_comp f g info]
  | .dict kvs => by simp only [mapStr, mapStrE_comp f g kvs]
  | .arr xs => by simp only [mapStr, mapStrL_comp f g xs]
  | .null => rfl
  | .int _ => rfl
  | .real _ => rfl
  | .bool _ => rfl
  | .ref _ _ => rfl
  | .name _ => rfl
theorem mapStrL_comp (f g : List UInt8 → List UInt8) : ∀ (xs : List (Prim R)), mapStrL g (mapStrL f xs) = mapStrL (fun s => g (f s)) xs
  | [] => rfl
  | x :: xs => by simp only [mapStrL, mapStr_comp f g x, mapStrL_comp f g xs]
theorem mapStrE_comp (f g : List UInt8 → List UInt8) : ∀ (kvs : List (List UInt8 × Prim R)),
    mapStrE g (mapStrE f kvs) = mapStrE (fun s => g (f s)) kvs
  | [] => rfl
  | (k, v) :: rest => by simp only [mapStrE, mapStr_comp f g v, mapStrE_comp f g rest]
end

mutual
theorem mapStr_id (f : List UInt8 → List UInt8) (hf : ∀ s, f s = s) : ∀ (v : Prim R), mapStr f v = v
  | .str s => by simp only [mapStr, hf]
  | .stream info inner => by simp only [mapStr, mapStrE_id f hf info]
  | .dict kvs => by simp only [mapStr, mapStrE_id f hf kvs]
  | .arr xs => by simp only [mapStr, mapStrL_id f hf xs]
  | .null => rfl
  | .int _ => rfl
  | .real _ => rfl
  | .bool _ => rfl
  | .ref _ _ => rfl
  | .name _ => rfl
theorem mapStrL_id (f : List UInt8 → List UInt8) (hf : ∀ s, f s = s) : ∀ (xs : List (Prim R)), mapStrL f xs = xs
  | [] => rfl
  | x :: xs => by simp only [mapStrL, mapStr_id f hf x, mapStrL_id f hf xs]
theorem mapStrE_id (f : List UInt8 → List UInt8) (hf : ∀ s, f s = s) : ∀ (kvs : List (List UInt8 × Prim R)), mapStrE f kvs = kvs
  | [] => rfl
  | (k, v) :: rest => by simp only [mapStrE, mapStr_id f hf v, mapStrE_id f hf rest]
end

/-- a decryptor that inverts the encryptor gives the plaintext value back -/
theorem mapStr_inverts (e d : List UInt8 → List UInt8) (h : ∀ s, d (e s) = s) (v : Prim R) :
    mapStr d (mapStr e v) = v := by
  rw [mapStr_comp]; exact mapStr_id _ h v

/-- `parse_indirect_object` with a decryptor: the strings of the object are decrypted with the key of the
    object's own number and generation (the header the parser has just read) -/
theorem parseIndirectObject_dec (env : Env R) (d : Nat → Nat → List UInt8 → List UInt8) (buf : Buf) (fuel pos flags : Nat) :
    parseIndirectObject (withDec env d) buf fuel pos flags
      = omap (fun r => ((r.1.1, mapStr (d r.1.1.1 r.1.1.2) r.1.2), r.2)) (parseIndirectObject (noDec env) buf fuel pos flags) := by
  simp only [mapStr_eq]
  exact parseIndirectObject_sim (fs := fun id => d id.1 id.2) (fun id => envSim_dec env d (some id)) rfl
    buf fuel pos flags

/-- without a context — `parse(slice, resolve, flags)`, the compressed branch — the decryptor is not consulted -/
theorem parse_ignores_decryptor (env : Env R) (d : Nat → Nat → List UInt8 → List UInt8) (buf : Buf) (flags : Nat) :
    parse (withDec env d) buf flags = parse (noDec env) buf flags := by
  unfold parse parseWithLexer
  rw [parseCtx_dec]
  cases parseCtx (noDec env) buf (defaultFuel buf) 0 none flags maxDepth with
  | ok r => obtain ⟨v, q⟩ := r; simp [omap, decV, ctxFn, mapStr_id (fun s => s) (fun _ => rfl) v]
  | _ => rfl

end PdfShift
