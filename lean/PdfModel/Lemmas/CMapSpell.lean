import PdfModel.Lemmas.CMapParse

/-! The CMap reader on every conformant spelling (`Sp`): separators, hexadecimal spellings, junk tokens, blocks. -/

namespace CMap

/-! ### the specification's lexical classes are the modelled lexer's -/

-- Table 1 lists the white-space bytes in another order than `is_whitespace`; the other tables agree literally

theorem isWhite_eq : ∀ b, isWhite b = isWs b := by
  intro b; simp only [isWhite, isWs]; ac_rfl

theorem isWhite_eq_hex : ∀ b, isWhite b = isHexWs b := by
  intro b; simp only [isWhite, isHexWs]; ac_rfl

theorem isDelimiter_eq : ∀ b, isDelimiter b = isDelim b := fun _ => rfl

theorem isRegularChar_fun : isRegularChar = isRegular :=
  funext fun b => by simp only [isRegularChar, isRegular, isWhite_eq, isDelimiter_eq]

theorem isEolChar_fun : isEolChar = isEol := rfl

theorem white_ne_60 {b : UInt8} (h : isWhite b = true) : (b == 60) = false := by
  simp only [isWhite, Bool.or_eq_true, beq_iff_eq] at h
  rcases h with ((((rfl | rfl) | rfl) | rfl) | rfl) | rfl <;> decide

theorem scan_comment (t : Bytes) (eol : UInt8) (he : isEol eol = true) : ∀ (body : Bytes),
    body.all (fun c => !isEol c) = true → scan true (body ++ eol :: t) = scan false t
  | [], _ => by simp [scan, he]
  | c :: r, h => by
    simp only [List.all_cons, Bool.and_eq_true, Bool.not_eq_true'] at h
    simp [scan, h.1, scan_comment t eol he r h.2]

theorem scan_skip {p : Bytes} (hp : Skip p) (t : Bytes) : scan false (p ++ t) = scan false t := by
  cases hp with
  | white b h =>
    rw [isWhite_eq] at h
    simp [scan, h]
  | comment body eol hb he =>
    rw [isEolChar_fun] at he hb
    have hany : (body ++ eol :: t).any isEol = true := by simp [he]
    have h37 : isWs 37 = false := by decide
    have e : 37 :: (body ++ [eol]) ++ t = 37 :: (body ++ eol :: t) := by simp
    rw [e]
    simp only [scan, h37, Bool.false_eq_true, if_false, beq_self_eq_true, if_true, hany]
    exact scan_comment t eol he body hb

theorem nextWord_skip {p : Bytes} (hp : Skip p) (t : Bytes) : nextWord (p ++ t) = nextWord t := by
  simp only [nextWord, scan_skip hp t]

theorem parseStr_skip {p : Bytes} (hp : Skip p) (t : Bytes) : parseStr (p ++ t) = parseStr t := by
  simp only [parseStr, nextWord_skip hp t]

theorem outer_skip {p : Bytes} (hp : Skip p) (t : Bytes) (f : Nat) (m : Map) : outer f (p ++ t) m = outer f t m := by
  cases f with
  | zero => rfl
  | succ f => simp only [outer, nextWord_skip hp t]

/-- a `beginbfchar` section from inside its loop (fuel `f`), then the outer loop (fuel `g`); the section loop
    alone would not do: where it breaks it hands back the position *before* the separators it looked through -/
def contChar (f g : Nat) (bs : Bytes) (m : Map) : R Map :=
  match bfchar f bs m with
  | .ok (r, m') => outer g r m'
  | .err => .err
  | .unmodelled => .unmodelled
  | .oof => .oof

def contRange (f g : Nat) (bs : Bytes) (m : Map) : R Map :=
  match bfrange f bs m with
  | .ok (r, m') => outer g r m'
  | .err => .err
  | .unmodelled => .unmodelled
  | .oof => .oof

theorem contChar_skip {p : Bytes} (hp : Skip p) (t : Bytes) (f g : Nat) (m : Map) :
    contChar f g (p ++ t) m = contChar f g t m := by
  cases f with
  | zero => rfl
  | succ f =>
    simp only [contChar, bfchar, parseStr_skip hp t]
    cases parseStr t with
    | err => simp only [outer_skip hp t g m]
    | ok v => rfl
    | unmodelled => rfl
    | oof => rfl

theorem contRange_skip {p : Bytes} (hp : Skip p) (t : Bytes) (f g : Nat) (m : Map) :
    contRange f g (p ++ t) m = contRange f g t m := by
  cases f with
  | zero => rfl
  | succ f =>
    simp only [contRange, bfrange, parseStr_skip hp t]
    cases parseStr t with
    | err => simp only [outer_skip hp t g m]
    | ok v => rfl
    | unmodelled => rfl
    | oof => rfl

theorem nextWord_seps {sp : Bytes} (h : Seps sp) (t : Bytes) : nextWord (sp ++ t) = nextWord t := by
  induction h with
  | nil => rfl
  | cons hp _ ih => rw [List.append_assoc, nextWord_skip hp, ih]

theorem parseStr_seps {sp : Bytes} (h : Seps sp) (t : Bytes) : parseStr (sp ++ t) = parseStr t := by
  simp only [parseStr, nextWord_seps h t]

theorem parseStrOrArr_seps {sp : Bytes} (h : Seps sp) (t : Bytes) : parseStrOrArr (sp ++ t) = parseStrOrArr t := by
  simp only [parseStrOrArr, nextWord_seps h t]

theorem parseArr_seps {sp : Bytes} (h : Seps sp) (t : Bytes) (f : Nat) (acc : List Bytes) :
    parseArr (f + 1) (sp ++ t) acc = parseArr (f + 1) t acc := by
  simp only [parseArr, nextWord_seps h t]

/-- any spelling of the digits reads like the canonical one (upper case, no white space) -/
theorem hexStr_spell {ns : List Nat} {body : Bytes} (h : HexNibs ns body) (X : Bytes) :
    ∀ (hi : Option Nat) (acc : List UInt8),
      hexStr hi acc (body ++ 62 :: X) = hexStr hi acc (ns.map hexDigit ++ 62 :: X) := by
  induction h with
  | nil => intro hi acc; rfl
  | white b hb _ ih =>
    intro hi acc
    rw [isWhite_eq_hex] at hb
    simp only [List.cons_append, hexStr, hb, if_true, ih]
  | digit n c hn hc _ ih =>
    intro hi acc
    obtain ⟨f1, f2, f3, _⟩ := digit_facts hn hc
    obtain ⟨g1, g2, g3, _⟩ := digit_facts hn (.inl rfl)
    cases hi <;>
      simp only [List.cons_append, List.map_cons, hexStr, f1, f2, f3, g1, g2, g3, Bool.false_eq_true, if_false, ih]

theorem hexNibs_head {ns : List Nat} {body : Bytes} (h : HexNibs ns body) (X : Bytes) :
    (body ++ 62 :: X).head? ≠ some 60 := by
  cases h with
  | nil => simp
  | white b hb _ => simpa using white_ne_60 hb
  | digit n c hn hc _ => simpa using (digit_facts hn hc).2.2.2

/-- `<` or `>` not followed by itself is a lexeme; doubled, the pair is -/
theorem nextWord_angle (b : UInt8) (hb : b = 60 ∨ b = 62) (t : Bytes) (h : t.head? ≠ some b) :
    nextWord (b :: t) = some ([b], t) := by
  cases t with
  | nil => rcases hb with rfl | rfl <;> simp [nextWord, scan, isWs, isDelim]
  | cons d r =>
    have hd : (d == b) = false := by simpa using h
    rcases hb with rfl | rfl <;> simp [nextWord, scan, isWs, isDelim, hd]

theorem nextWord_angle2 (b : UInt8) (hb : b = 60 ∨ b = 62) (t : Bytes) : nextWord (b :: b :: t) = some ([b, b], t) := by
  rcases hb with rfl | rfl <;> simp [nextWord, scan, isWs, isDelim]

theorem nextWord_hexStr {bs : List Nat} {t : Bytes} (h : HexStr bs t) (hb : ∀ b ∈ bs, b < 256) (X : Bytes) :
    ∃ Y, nextWord (t ++ X) = some ([60], Y) ∧ hexStr none [] Y = some (bs.map UInt8.ofNat, X) := by
  obtain ⟨body, hn, rfl⟩ := h
  refine ⟨body ++ 62 :: X, ?_, ?_⟩
  · simpa using nextWord_angle 60 (.inl rfl) _ (hexNibs_head hn X)
  · rw [hexStr_spell hn X none []]
    simpa using hexStr_nibbles bs hb [] X

theorem parseStr_hexStr {bs : List Nat} {t : Bytes} (h : HexStr bs t) (hb : ∀ b ∈ bs, b < 256) (X : Bytes) :
    parseStr (t ++ X) = .ok (bs.map UInt8.ofNat, X) := by
  obtain ⟨Y, nw, hx⟩ := nextWord_hexStr h hb X
  simp [parseStr, nw, hx]

theorem parseStrOrArr_hexStr {bs : List Nat} {t : Bytes} (h : HexStr bs t) (hb : ∀ b ∈ bs, b < 256) (X : Bytes) :
    parseStrOrArr (t ++ X) = .ok (.str (bs.map UInt8.ofNat), X) := by
  obtain ⟨Y, nw, hx⟩ := nextWord_hexStr h hb X
  simp [parseStrOrArr, nw, hx]

theorem hexStr_two_le_length {bs : List Nat} {t : Bytes} (h : HexStr bs t) : 2 ≤ t.length := by
  obtain ⟨body, _, rfl⟩ := h
  simp

/-- a code in either width: the bytes the reader sees denote it -/
theorem parseStr_code {c : Nat} {t : Bytes} (h : CodeSp c t) (hc : c < 65536) (X : Bytes) :
    ∃ bs, parseStr (t ++ X) = .ok (bs, X) ∧ parseCid bs = some c ∧ 2 ≤ t.length := by
  rcases h with h | ⟨hlt, h⟩
  · exact ⟨_, parseStr_hexStr h (by intro b hb; simp at hb; omega) X, parseCid_two c hc, hexStr_two_le_length h⟩
  · refine ⟨_, parseStr_hexStr h (by intro b hb; simp at hb; omega) X, ?_, hexStr_two_le_length h⟩
    simp [parseCid, UInt8.toNat_ofNat_of_lt' hlt]

theorem parseStr_dst {s : List Nat} {t : Bytes} (h : DstSp s t) (hs : s.all isScalar = true) (X : Bytes) :
    parseStr (t ++ X) = .ok (strBytes s, X) :=
  parseStr_hexStr h (unitBytes_lt _ (utf16Encode_lt s hs)) X

theorem parseStrOrArr_dst {s : List Nat} {t : Bytes} (h : DstSp s t) (hs : s.all isScalar = true) (X : Bytes) :
    parseStrOrArr (t ++ X) = .ok (.str (strBytes s), X) :=
  parseStrOrArr_hexStr h (unitBytes_lt _ (utf16Encode_lt s hs)) X

theorem takeWhile_boundary (w : Bytes) (hw : w.all isRegular = true) (t : Bytes) (hb : Boundary t) :
    (w ++ t).takeWhile isRegular = w ∧ (w ++ t).dropWhile isRegular = t := by
  induction w with
  | nil =>
    rcases hb with rfl | ⟨b, r, rfl, hbr⟩
    · exact ⟨rfl, rfl⟩
    · rw [isRegularChar_fun] at hbr
      simp [hbr]
  | cons a as ih =>
    simp only [List.all_cons, Bool.and_eq_true] at hw
    simp [hw.1, ih hw.2]

theorem nextWord_regword (w : Bytes) (hne : w ≠ []) (hw : w.all isRegularChar = true) (t : Bytes) (hb : Boundary t) :
    nextWord (w ++ t) = some (w, t) := by
  rw [isRegularChar_fun] at hw
  obtain ⟨a, w, rfl⟩ := List.exists_cons_of_ne_nil hne
  have ha : isRegular a = true := by simp only [List.all_cons, Bool.and_eq_true] at hw; exact hw.1
  obtain ⟨f1, f2, f3⟩ := regular_facts ha
  have tw := takeWhile_boundary (a :: w) hw t hb
  simp only [List.cons_append] at tw ⊢
  simp only [nextWord, scan_cons f1 f3, f2, Bool.false_eq_true, if_false, tw.1, tw.2]

theorem parseStr_regword (w : Bytes) (hne : w ≠ []) (hw : w.all isRegularChar = true) (t : Bytes) (hb : Boundary t) :
    parseStr (w ++ t) = .err := by
  have n60 : w ≠ [60] := by rintro rfl; revert hw; decide
  have n40 : w ≠ [40] := by rintro rfl; revert hw; decide
  simp [parseStr, nextWord_regword w hne hw t hb, n60, n40]

theorem nextWord_name (w : Bytes) (hw : w.all isRegularChar = true) (t : Bytes) (hb : Boundary t) :
    nextWord (47 :: (w ++ t)) = some (47 :: w, t) := by
  have hw' : w.all isRegular = true := by rw [← isRegularChar_fun]; exact hw
  have tw := takeWhile_boundary w hw' t hb
  have h1 : isWs 47 = false := by decide
  have h2 : isDelim 47 = true := by decide
  simp [nextWord, scan, h1, h2, tw.1, tw.2]

theorem nextWord_delim1 (b : UInt8) (hb : b = 40 ∨ b = 41 ∨ b = 91 ∨ b = 93 ∨ b = 123 ∨ b = 125) (t : Bytes) :
    nextWord (b :: t) = some ([b], t) := by
  have h : isWs b = false ∧ (b == 37) = false ∧ isDelim b = true ∧ (b == 47) = false ∧ (b == 60) = false ∧
      (b == 62) = false := by
    rcases hb with rfl | rfl | rfl | rfl | rfl | rfl <;> decide
  obtain ⟨h1, h2, h3, h4, h5, h6⟩ := h
  cases t <;> simp [nextWord, scan_cons h1 h2, h3, h4, h5, h6]

theorem outer_junk {bs w t : Bytes} (h : nextWord bs = some (w, t)) (n1 : w ≠ kwBfchar) (n2 : w ≠ kwBfrange)
    (n3 : w ≠ kwEndcmap) (f : Nat) (m : Map) : outer (f + 1) bs m = outer f t m := by
  simp [outer, h, n1, n2, n3]

theorem fuel_succ {n f : Nat} (h : n < f) : ∃ f', f = f' + 1 := ⟨f - 1, by omega⟩

theorem parseArr_body {ss : List (List Nat)} {body : Bytes} (h : ArrBody ss body) (hs : ∀ s ∈ ss, s.all isScalar = true)
    (X : Bytes) : ∀ (f : Nat) (acc : List Bytes), body.length < f →
    parseArr f (body ++ 93 :: X) acc = .ok (acc.reverse ++ ss.map strBytes, X) := by
  induction h with
  | nil hsp =>
    intro f acc hf
    obtain ⟨f', rfl⟩ := fuel_succ hf
    rw [parseArr_seps hsp]
    simp [parseArr, nextWord_delim1 93 (by simp) X]
  | @cons s ss sp d t hsp hd _ ih =>
    intro f acc hf
    obtain ⟨f', rfl⟩ := fuel_succ hf
    have h1 := hs s (List.mem_cons_self ..)
    obtain ⟨Y, nw, hx⟩ := nextWord_hexStr hd (unitBytes_lt _ (utf16Encode_lt s h1)) (t ++ 93 :: X)
    have hl := hexStr_two_le_length hd
    simp only [List.length_append] at hf
    have ih' := ih (fun x hx => hs x (List.mem_cons_of_mem _ hx)) f' (strBytes s :: acc) (by omega)
    have e2 : sp ++ (d ++ t) ++ 93 :: X = sp ++ (d ++ (t ++ 93 :: X)) := by simp
    have n1 : ([60] : Bytes) ≠ [93] := by decide
    rw [e2, parseArr_seps hsp]
    simp only [parseArr, nw, n1, if_false, if_true]
    rw [show hexStr none [] Y = some (strBytes s, t ++ 93 :: X) from hx]
    simp [ih']

theorem parseStrOrArr_body {ss : List (List Nat)} {body : Bytes} (h : ArrBody ss body)
    (hs : ∀ s ∈ ss, s.all isScalar = true) (X : Bytes) :
    parseStrOrArr (91 :: (body ++ 93 :: X)) = .ok (.arr (ss.map strBytes), X) := by
  have := parseArr_body h hs X ((body ++ 93 :: X).length + 1) [] (by simp; omega)
  simp only [List.reverse_nil, List.nil_append] at this
  have n1 : ([91] : Bytes) ≠ [60] := by decide
  have n2 : ([91] : Bytes) ≠ [40] := by decide
  simp only [parseStrOrArr, nextWord_delim1 91 (by simp) _, n1, n2, if_false, if_true, this]

/-- the reader, started in state `st` on the rest `t` of a spelling of `es` with more fuel than `t` has bytes, adds
    exactly the pairs of `es` to its map (inside a section: the section loop, then the outer loop) -/
def Good : St → List Ent → Bytes → Prop
  | .outer, es, t => ∀ f m, t.length < f → outer f t m = .ok ((pairs es).reverse ++ m)
  | .chars, es, t => ∀ f g m, t.length < f → t.length < g → contChar f g t m = .ok ((pairs es).reverse ++ m)
  | .ranges, es, t => ∀ f g m, t.length < f → t.length < g → contRange f g t m = .ok ((pairs es).reverse ++ m)

theorem good_skip {st : St} {es : List Ent} {p t : Bytes} (hp : Skip p) (ih : Good st es t) : Good st es (p ++ t) := by
  have hl {f : Nat} (hf : (p ++ t).length < f) : t.length < f :=
    Nat.lt_of_le_of_lt (by rw [List.length_append]; exact Nat.le_add_left _ _) hf
  cases st with
  | outer => exact fun f m hf => (outer_skip hp t f m).trans (ih f m (hl hf))
  | chars => exact fun f g m hf hg => (contChar_skip hp t f g m).trans (ih f g m (hl hf) (hl hg))
  | ranges => exact fun f g m hf hg => (contRange_skip hp t f g m).trans (ih f g m (hl hf) (hl hg))

theorem good_junk {es : List Ent} {bs w t : Bytes} (h : nextWord bs = some (w, t)) (n1 : w ≠ kwBfchar)
    (n2 : w ≠ kwBfrange) (n3 : w ≠ kwEndcmap) (hl : t.length < bs.length) (ih : Good .outer es t) :
    Good .outer es bs := by
  intro f m hf
  obtain ⟨f', rfl⟩ := fuel_succ hf
  rw [outer_junk h n1 n2 n3]
  exact ih f' m (by omega)

/-- one entry read: the section loop goes on behind it with the entry's pairs stored -/
theorem contChar_entry {f g : Nat} {bs a r1 b r2 : Bytes} {m : Map} {cid : Nat} (p1 : parseStr bs = .ok (a, r1))
    (p2 : parseStr r1 = .ok (b, r2)) (pc : parseCid a = some cid) :
    contChar (f + 1) g bs m = contChar f g r2 (insertDecoded m cid b) := by
  simp only [contChar, bfchar, p1, p2, pc]

theorem contRange_entry {f g : Nat} {bs a r1 b r2 r3 : Bytes} {v : Val} {m : Map} {lo hi : Nat}
    (p1 : parseStr bs = .ok (a, r1)) (p2 : parseStr r1 = .ok (b, r2)) (p3 : parseStrOrArr r2 = .ok (v, r3))
    (pc1 : parseCid a = some lo) (pc2 : parseCid b = some hi) (hv : ∀ s, v = .str s → s.length > 0) :
    contRange (f + 1) g bs m = contRange f g r3
      (match v with
       | .str s => rangeStr (hi + 1 - lo) lo s m
       | .arr xs => rangeArr (hi + 1 - lo) lo xs m) := by
  cases v with
  | str s => simp only [contRange, bfrange, p1, p2, p3, hv s rfl, if_true, pc1, pc2]
  | arr xs => simp only [contRange, bfrange, p1, p2, p3, pc1, pc2]

theorem pairs_cons (e : Ent) (es : List Ent) (m : Map) :
    (pairs (e :: es)).reverse ++ m = (pairs es).reverse ++ (e.pairs.reverse ++ m) := by
  simp [pairs]

/-- an entry of a section, for either section loop `k` (`contChar`, `contRange`): the step equation of the loop, then
    the rest of the text with one unit of fuel less -/
theorem good_entry (k : Nat → Nat → Bytes → Map → R Map) (e : Ent) {es : List Ent} {bs t : Bytes}
    (hlen : t.length < bs.length) (step : ∀ f g m, k (f + 1) g bs m = k f g t (e.pairs.reverse ++ m))
    (ih : ∀ f g m, t.length < f → t.length < g → k f g t m = .ok ((pairs es).reverse ++ m)) (f g : Nat) (m : Map)
    (hf : bs.length < f) (hg : bs.length < g) : k f g bs m = .ok ((pairs (e :: es)).reverse ++ m) := by
  obtain ⟨f', rfl⟩ := fuel_succ hf
  rw [step, pairs_cons]
  exact ih f' g _ (by omega) (by omega)

theorem good_char {es : List Ent} {t a sp b : Bytes} (c : Nat) (s : List Nat) (hwf : (Ent.char c s).wf = true)
    (ha : CodeSp c a) (hsp : Seps sp) (hb : DstSp s b) (ih : Good .chars es t) :
    Good .chars (.char c s :: es) (a ++ (sp ++ (b ++ t))) := by
  simp only [Ent.wf, Bool.and_eq_true, decide_eq_true_eq] at hwf
  obtain ⟨bs, p1, pc, hl⟩ := parseStr_code ha hwf.1 (sp ++ (b ++ t))
  have p2 : parseStr (sp ++ (b ++ t)) = .ok (strBytes s, t) := by
    rw [parseStr_seps hsp]; exact parseStr_dst hb hwf.2 t
  refine good_entry contChar _ (by simp only [List.length_append]; omega) (fun f g m => ?_) ih
  rw [contChar_entry p1 p2 pc, insertDecoded_strBytes m c s hwf.2]
  rfl

/-- a regular word other than the reader's three keywords ends a section: the strings of the next entry fail
    to parse, the section loop breaks, and the outer loop skips the word -/
theorem section_word (w : Bytes) (hne : w ≠ []) (hw : w.all isRegularChar = true) (t : Bytes) (hb : Boundary t)
    (n1 : w ≠ kwBfchar) (n2 : w ≠ kwBfrange) (n3 : w ≠ kwEndcmap) (f g : Nat) (m : Map) :
    contChar (f + 1) (g + 1) (w ++ t) m = outer g t m ∧ contRange (f + 1) (g + 1) (w ++ t) m = outer g t m := by
  have pe := parseStr_regword w hne hw t hb
  have oj := outer_junk (nextWord_regword w hne hw t hb) n1 n2 n3 g m
  exact ⟨by simp only [contChar, bfchar, pe]; exact oj, by simp only [contRange, bfrange, pe]; exact oj⟩

theorem good_end {es : List Ent} {t : Bytes} (w : Bytes) (hne : w ≠ []) (hw : w.all isRegularChar = true)
    (n1 : w ≠ kwBfchar) (n2 : w ≠ kwBfrange) (n3 : w ≠ kwEndcmap) (hb : Boundary t) (ih : Good .outer es t) :
    Good .chars es (w ++ t) ∧ Good .ranges es (w ++ t) := by
  have hl := List.length_pos_iff.mpr hne
  have key (k : Nat → Nat → Bytes → Map → R Map) (hk : ∀ f g m, k (f + 1) (g + 1) (w ++ t) m = outer g t m)
      (f g : Nat) (m : Map) (hf : (w ++ t).length < f) (hg : (w ++ t).length < g) :
      k f g (w ++ t) m = .ok ((pairs es).reverse ++ m) := by
    simp only [List.length_append] at hf hg
    obtain ⟨f', rfl⟩ := fuel_succ hf
    obtain ⟨g', rfl⟩ := fuel_succ hg
    rw [hk]
    exact ih g' m (by omega)
  exact ⟨key contChar fun f g m => (section_word w hne hw t hb n1 n2 n3 f g m).1,
    key contRange fun f g m => (section_word w hne hw t hb n1 n2 n3 f g m).2⟩

theorem good_beginChars {es : List Ent} {t : Bytes} (hb : Boundary t) (ih : Good .chars es t) :
    Good .outer es (kwBfchar ++ t) := by
  intro f m hf
  have hl : kwBfchar.length = 11 := rfl
  simp only [List.length_append] at hf
  obtain ⟨f', rfl⟩ := fuel_succ hf
  simp only [outer, nextWord_regword kwBfchar (by decide) (by decide +kernel) t hb, if_true]
  exact ih f' f' m (by omega) (by omega)

theorem good_beginRanges {es : List Ent} {t : Bytes} (hb : Boundary t) (ih : Good .ranges es t) :
    Good .outer es (kwBfrange ++ t) := by
  intro f m hf
  have hl : kwBfrange.length = 12 := rfl
  simp only [List.length_append] at hf
  obtain ⟨f', rfl⟩ := fuel_succ hf
  have n1 : kwBfrange ≠ kwBfchar := by decide
  simp only [outer, nextWord_regword kwBfrange (by decide) (by decide +kernel) t hb, n1, if_false, if_true]
  exact ih f' f' m (by omega) (by omega)

theorem good_endcmap (t : Bytes) (hb : Boundary t) : Good .outer [] (kwEndcmap ++ t) := by
  intro f m hf
  obtain ⟨f', rfl⟩ := fuel_succ hf
  have n1 : kwEndcmap ≠ kwBfchar := by decide
  have n2 : kwEndcmap ≠ kwBfrange := by decide
  simp only [outer, nextWord_regword kwEndcmap (by decide) (by decide +kernel) t hb, n1, n2, if_false, if_true, pairs,
    List.flatMap_nil, List.reverse_nil, List.nil_append]

/-- the number of codes `hi + 1 - lo` the reader computes for a range of `n + 1` destinations -/
theorem range_count (lo n : Nat) : lo + (n + 1) - 1 + 1 - lo = n + 1 := by
  rw [← Nat.add_assoc, Nat.add_sub_cancel, Nat.add_assoc, Nat.add_sub_cancel_left]

theorem good_rstr {es : List Ent} {t a s1 b s2 d : Bytes} (lo : Nat) (ss : List (List Nat))
    (hwf : (Ent.rstr lo ss).wf = true) (ha : CodeSp lo a) (h1 : Seps s1) (hb : CodeSp (lo + ss.length - 1) b)
    (h2 : Seps s2) (hd : DstSp (ss.headD []) d) (ih : Good .ranges es t) :
    Good .ranges (.rstr lo ss :: es) (a ++ (s1 ++ (b ++ (s2 ++ (d ++ t))))) := by
  simp only [Ent.wf, Bool.and_eq_true, Bool.not_eq_true', decide_eq_true_eq] at hwf
  obtain ⟨⟨⟨⟨hne, hhi⟩, hsc0⟩, hhd⟩, hch⟩ := hwf
  have hsc : ∀ x ∈ ss, x.all isScalar = true := fun x hx => (List.all_eq_true.mp hsc0) x hx
  cases ss with
  | nil => simp at hne
  | cons s0 r =>
    simp only [List.headD_cons, List.length_cons] at hhd hhi hd hb
    have hs0 : s0.all isScalar = true := hsc s0 (List.mem_cons_self ..)
    have hs0ne : s0 ≠ [] := by intro h; simp [h] at hhd
    obtain ⟨bs1, p1, pc1, hl1⟩ := parseStr_code ha (by omega) (s1 ++ (b ++ (s2 ++ (d ++ t))))
    obtain ⟨bs2, p2', pc2, hl2⟩ := parseStr_code hb (by omega) (s2 ++ (d ++ t))
    have p2 : parseStr (s1 ++ (b ++ (s2 ++ (d ++ t)))) = .ok (bs2, s2 ++ (d ++ t)) := by
      rw [parseStr_seps h1]; exact p2'
    have p3 : parseStrOrArr (s2 ++ (d ++ t)) = .ok (.str (strBytes s0), t) := by
      rw [parseStrOrArr_seps h2]; exact parseStrOrArr_dst hd hs0 t
    refine good_entry contRange _ (by simp only [List.length_append]; omega) (fun f g m => ?_) ih
    rw [contRange_entry p1 p2 p3 pc1 pc2 (fun s e => by cases e; exact strBytes_length_pos s0 hs0ne)]
    simp only [range_count, rangeStr_spec s0 r hsc hch lo m]
    rfl

theorem good_rarr {es : List Ent} {t a s1 b s2 body : Bytes} (lo : Nat) (ss : List (List Nat))
    (hwf : (Ent.rarr lo ss).wf = true) (ha : CodeSp lo a) (h1 : Seps s1) (hb : CodeSp (lo + ss.length - 1) b)
    (h2 : Seps s2) (hbody : ArrBody ss body) (ih : Good .ranges es t) :
    Good .ranges (.rarr lo ss :: es) (a ++ (s1 ++ (b ++ (s2 ++ (91 :: (body ++ 93 :: t)))))) := by
  simp only [Ent.wf, Bool.and_eq_true, Bool.not_eq_true', decide_eq_true_eq] at hwf
  obtain ⟨⟨hne, hhi⟩, hsc0⟩ := hwf
  have hsc : ∀ x ∈ ss, x.all isScalar = true := fun x hx => (List.all_eq_true.mp hsc0) x hx
  have hlen : 0 < ss.length := List.length_pos_iff.mpr (by simpa using hne)
  obtain ⟨bs1, p1, pc1, hl1⟩ := parseStr_code ha (by omega) (s1 ++ (b ++ (s2 ++ (91 :: (body ++ 93 :: t)))))
  obtain ⟨bs2, p2', pc2, hl2⟩ := parseStr_code hb (by omega) (s2 ++ (91 :: (body ++ 93 :: t)))
  have p2 : parseStr (s1 ++ (b ++ (s2 ++ (91 :: (body ++ 93 :: t))))) = .ok (bs2, s2 ++ (91 :: (body ++ 93 :: t))) := by
    rw [parseStr_seps h1]; exact p2'
  have p3 : parseStrOrArr (s2 ++ (91 :: (body ++ 93 :: t))) = .ok (.arr (ss.map strBytes), t) := by
    rw [parseStrOrArr_seps h2]; exact parseStrOrArr_body hbody hsc t
  refine good_entry contRange _ (by simp only [List.length_append, List.length_cons]; omega) (fun f g m => ?_) ih
  rw [contRange_entry p1 p2 p3 pc1 pc2 nofun]
  simp only [rangeArr_spec ss hsc (lo + ss.length - 1 + 1 - lo) lo m (by omega)]
  rfl

theorem sp_good {st : St} {es : List Ent} {t : Bytes} (h : Sp st es t) : Good st es t := by
  induction h with
  | skip hp _ ih => exact good_skip hp ih
  | eof =>
    intro f m hf
    obtain ⟨f', rfl⟩ := fuel_succ hf
    simp [outer, nextWord, scan, pairs]
  | endcmap t hb => exact good_endcmap t hb
  | word a w hw h1 h2 h3 hb _ ih =>
    exact good_junk (nextWord_regword (a :: w) (List.cons_ne_nil _ _) hw _ hb) h1 h2 h3
      (by simp only [List.length_cons, List.length_append]; omega) ih
  | name w hw hb _ ih =>
    have nk : ∀ k : Bytes, k.head? ≠ some 47 → 47 :: w ≠ k := by
      intro k hk h; rw [← h] at hk; simp at hk
    exact good_junk (nextWord_name w hw _ hb) (nk _ (by decide)) (nk _ (by decide)) (nk _ (by decide))
      (by simp only [List.length_cons, List.length_append]; omega) ih
  | delim b hb _ ih =>
    exact good_junk (nextWord_delim1 b hb _) (by simp [kwBfchar]) (by simp [kwBfrange]) (by simp [kwEndcmap])
      (Nat.lt_succ_self _) ih
  | lt h _ ih => exact good_junk (nextWord_angle 60 (.inl rfl) _ h) (by decide) (by decide) (by decide) (Nat.lt_succ_self _) ih
  | ltlt _ ih =>
    exact good_junk (nextWord_angle2 60 (.inl rfl) _) (by decide) (by decide) (by decide) (Nat.lt_succ_of_lt (Nat.lt_succ_self _)) ih
  | gt h _ ih => exact good_junk (nextWord_angle 62 (.inr rfl) _ h) (by decide) (by decide) (by decide) (Nat.lt_succ_self _) ih
  | gtgt _ ih =>
    exact good_junk (nextWord_angle2 62 (.inr rfl) _) (by decide) (by decide) (by decide) (Nat.lt_succ_of_lt (Nat.lt_succ_self _)) ih
  | beginChars hb _ ih => exact good_beginChars hb ih
  | beginRanges hb _ ih => exact good_beginRanges hb ih
  | char c s hwf ha hsp hb _ ih => exact good_char c s hwf ha hsp hb ih
  | endChars hb _ ih => exact (good_end _ (by decide) (by decide +kernel) (by decide) (by decide) (by decide) hb ih).1
  | rstr lo ss hwf ha h1 hb h2 hd _ ih => exact good_rstr lo ss hwf ha h1 hb h2 hd ih
  | rarr lo ss hwf ha h1 hb h2 hbody _ ih => exact good_rarr lo ss hwf ha h1 hb h2 hbody ih
  | endRanges hb _ ih => exact (good_end _ (by decide) (by decide +kernel) (by decide) (by decide) (by decide) hb ih).2

/-- the reader on every conformant spelling of a program: exactly the program's pairs, newest first -/
theorem parseCMap_spelling {es : List Ent} {text : Bytes} (h : CMapSpells es text) :
    parseCMap text = .ok (pairs es).reverse := by
  have := sp_good h (text.length + 1) [] (by omega)
  simpa [parseCMap] using this

end CMap
