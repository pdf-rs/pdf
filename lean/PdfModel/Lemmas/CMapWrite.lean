import PdfModel.Lemmas.CMapSpell
import PdfModel.Lemmas.FontEncoding

/-! The CMap writer: its layout of a program is a conformant spelling; maximal runs never overflow `u16` on a sorted
    map; the text written is the layout of a program with the map's pairs. -/

namespace CMap

/-! ### the writer's layout (`render`) is one of the spellings the reader is proved on -/

theorem hexNibs_nibbles : ∀ (bs : List Nat), (∀ b ∈ bs, b < 256) → HexNibs (nibbles bs) ((nibbles bs).map hexDigit)
  | [], _ => .nil
  | b :: r, h => by
    have hb := h b (List.mem_cons_self ..)
    exact .digit (b / 16) _ (by omega) (.inl rfl) (.digit (b % 16) _ (by omega) (.inl rfl)
      (hexNibs_nibbles r fun x hx => h x (List.mem_cons_of_mem _ hx)))

/-- code units in `{:04X}` between `<` and `>` spell the units' bytes -/
theorem hexStr_units (us : List Nat) (h : ∀ u ∈ us, u < 65536) :
    HexStr (unitBytes us) (60 :: (us.flatMap hex4 ++ [62])) :=
  ⟨_, nibbles_unitBytes us h ▸ hexNibs_nibbles _ (unitBytes_lt us h), rfl⟩

theorem dstSp_writeUnicode (s : List Nat) (hs : s.all isScalar = true) : DstSp s (writeUnicode s) :=
  hexStr_units _ (utf16Encode_lt s hs)

theorem codeSp_writeCid (c : Nat) (hc : c < 65536) : CodeSp c (writeCid c) :=
  .inl (by simpa [writeCid, unitBytes] using hexStr_units [c] (by simpa using hc))

theorem seps_space : Seps [32] := by
  simpa using Seps.cons (Skip.white 32 (by decide)) Seps.nil

theorem arrBody_joinSp : ∀ (ss : List (List Nat)), (∀ s ∈ ss, s.all isScalar = true) → ∀ sp, Seps sp →
    ArrBody ss (sp ++ joinSp (ss.map writeUnicode))
  | [], _, sp, hsp => by simpa [joinSp] using ArrBody.nil hsp
  | [s], h, sp, hsp => by
    simpa [joinSp] using ArrBody.cons hsp (dstSp_writeUnicode s (h s (List.mem_cons_self ..))) (ArrBody.nil Seps.nil)
  | s :: t :: r, h, sp, hsp => by
    have ih := arrBody_joinSp (t :: r) (fun x hx => h x (List.mem_cons_of_mem _ hx)) [32] seps_space
    simpa [joinSp] using ArrBody.cons hsp (dstSp_writeUnicode s (h s (List.mem_cons_self ..))) ih

/-- the reading state in which the text `render st _` starts -/
def stOf : Option Bool → St
  | none => .outer
  | some true => .chars
  | some false => .ranges

theorem boundary_nl (t : Bytes) : Boundary (10 :: t) := .inr ⟨10, t, rfl, by decide⟩

theorem sp_nl {st : St} {es : List Ent} {t : Bytes} (h : Sp st es t) : Sp st es (10 :: t) :=
  Sp.skip (Skip.white 10 (by decide)) h

theorem sp_enter (s : Bool) {es : List Ent} {t : Bytes} (h : Sp (stOf (some s)) es t) : Sp .outer es (header s ++ t) := by
  cases s with
  | true => exact Sp.beginChars (boundary_nl t) (sp_nl h)
  | false => exact Sp.beginRanges (boundary_nl t) (sp_nl h)

theorem sp_leave (s : Bool) {es : List Ent} {t : Bytes} (h : Sp .outer es t) : Sp (stOf (some s)) es (footer s ++ t) := by
  cases s with
  | true => exact Sp.endChars (boundary_nl t) (sp_nl h)
  | false => exact Sp.endRanges (boundary_nl t) (sp_nl h)

theorem sp_line (e : Ent) (hwf : e.wf = true) {es : List Ent} {t : Bytes} (ih : Sp (stOf (some e.isChar)) es t) :
    Sp (stOf (some e.isChar)) (e :: es) (e.line ++ t) := by
  cases e with
  | char c s =>
    have h := hwf
    simp only [Ent.wf, Bool.and_eq_true, decide_eq_true_eq] at h
    simpa [Ent.line, Ent.isChar, stOf] using Sp.char c s hwf (codeSp_writeCid c h.1) seps_space (dstSp_writeUnicode s h.2) (sp_nl ih)
  | rstr lo ss =>
    have h := hwf
    simp only [Ent.wf, Bool.and_eq_true, Bool.not_eq_true', decide_eq_true_eq, List.isEmpty_eq_false_iff] at h
    obtain ⟨⟨⟨⟨hne, hhi⟩, hsc⟩, _⟩, _⟩ := h
    have hl := List.length_pos_iff.mpr hne
    have hd : (ss.headD []).all isScalar = true := by
      cases ss with
      | nil => rfl
      | cons s0 r => simp only [List.all_cons, Bool.and_eq_true] at hsc; exact hsc.1
    simpa [Ent.line, Ent.isChar, stOf] using Sp.rstr lo ss hwf (codeSp_writeCid lo (by omega)) seps_space
      (codeSp_writeCid (lo + ss.length - 1) (by omega)) seps_space (dstSp_writeUnicode _ hd) (sp_nl ih)
  | rarr lo ss =>
    have h := hwf
    simp only [Ent.wf, Bool.and_eq_true, Bool.not_eq_true', decide_eq_true_eq, List.isEmpty_eq_false_iff] at h
    obtain ⟨⟨hne, hhi⟩, hsc⟩ := h
    have hl := List.length_pos_iff.mpr hne
    have hb := arrBody_joinSp ss (fun s hs => List.all_eq_true.mp hsc s hs) [] Seps.nil
    simpa [Ent.line, Ent.isChar, stOf] using Sp.rarr lo ss hwf (codeSp_writeCid lo (by omega)) seps_space
      (codeSp_writeCid (lo + ss.length - 1) (by omega)) seps_space hb (sp_nl ih)

theorem sp_render : ∀ (es : List Ent), (∀ e ∈ es, e.wf = true) → ∀ st, Sp (stOf st) es (render st es)
  | [], _, none => .eof
  | [], _, some s => by simpa [render] using sp_leave s Sp.eof
  | e :: es, h, st => by
    have ih := sp_line e (h e (List.mem_cons_self ..))
      (sp_render es (fun x hx => h x (List.mem_cons_of_mem _ hx)) (some e.isChar))
    cases st with
    | none => simpa [render, stOf] using sp_enter e.isChar ih
    | some s0 =>
      by_cases hs : s0 = e.isChar
      · subst hs
        simpa [render] using ih
      · simpa [render, hs] using sp_leave s0 (sp_enter e.isChar ih)

/-- the reader on the writer's layout of a program: exactly the pairs of the program, newest first -/
theorem parseCMap_render (es : List Ent) (h : ∀ e ∈ es, e.wf = true) :
    parseCMap (render none es) = .ok (pairs es).reverse :=
  parseCMap_spelling (sp_render es h none)

/-- keys strictly increasing, from `lo` on, below 65536 (what the sorted entry list of a `HashMap<u16, _>` is) -/
def strictFrom (lo : Nat) : List Entry → Prop
  | [] => True
  | e :: r => lo ≤ e.1 ∧ e.1 < 65536 ∧ strictFrom (e.1 + 1) r

/-- the entries carry the consecutive codes `f, f + 1, …`: what `take_while(cid == first_cid + i)` collects -/
def isRun (f : Nat) : List Entry → Prop
  | [] => True
  | e :: r => e.1 = f ∧ isRun (f + 1) r

theorem isRun_append : ∀ (b : List Entry) (f : Nat) (e : Entry), isRun f b → e.1 = f + b.length → isRun f (b ++ [e])
  | [], f, e, _, he => by simp [isRun] at *; exact he
  | x :: r, f, e, h, he => by
    simp only [isRun, List.cons_append, List.length_cons] at *
    exact ⟨h.1, isRun_append r (f + 1) e h.2 (by omega)⟩

/-- a block as `write_cmap` forms it: a non-empty run whose codes stay below 65536 -/
def GoodBlock (b : List Entry) : Prop := ∃ f, b ≠ [] ∧ isRun f b ∧ f + b.length ≤ 65536

/-- The run-overflow lemma: on keys strictly increasing below 65536 the checked `u16` sum `first_cid + i as u16`
    never overflows, and the blocks are the list cut into non-empty runs. -/
theorem blocksAux_spec : ∀ (rest cur : List Entry) (first : Nat), cur ≠ [] → isRun first cur.reverse →
    first + cur.length ≤ 65536 → strictFrom (first + cur.length) rest →
    ∃ bs, blocksAux cur first rest = .ok bs ∧ bs.flatten = cur.reverse ++ rest ∧ ∀ b ∈ bs, GoodBlock b
  | [], cur, first, hne, hrun, hb, _ => by
    refine ⟨[cur.reverse], rfl, by simp, ?_⟩
    intro b hb'
    simp at hb'
    subst hb'
    exact ⟨first, by simpa using hne, hrun, by simpa using hb⟩
  | e :: rest, cur, first, hne, hrun, hb, hs => by
    simp only [strictFrom] at hs
    -- `i as u16` does not truncate
    have hlen : cur.length % 65536 = cur.length := Nat.mod_eq_of_lt (by omega)
    have hnp : ¬ (first + cur.length ≥ 65536) := by omega
    by_cases he : e.1 = first + cur.length
    · obtain ⟨bs, h1, h2, h3⟩ := blocksAux_spec rest (e :: cur) first (by simp)
        (by simpa using isRun_append cur.reverse first e hrun (by simpa using he))
        (by simp only [List.length_cons]; omega)
        (by simp only [List.length_cons]; rw [← Nat.add_assoc, ← he]; exact hs.2.2)
      refine ⟨bs, ?_, by simp [h2], h3⟩
      simp only [blocksAux, hlen, hnp, if_false, he, if_true]
      exact h1
    · obtain ⟨bs, h1, h2, h3⟩ := blocksAux_spec rest [e] e.1 (by simp) (by simp [isRun]) (by simp; omega)
        (by simpa using hs.2.2)
      refine ⟨cur.reverse :: bs, ?_, by simp [h2], ?_⟩
      · simp only [blocksAux, hlen, hnp, if_false, he, h1]
      · intro b hb'
        rcases List.mem_cons.mp hb' with rfl | hb'
        · exact ⟨first, by simpa using hne, hrun, by simpa using hb⟩
        · exact h3 b hb'

theorem blocks_spec (list : List Entry) (hs : strictFrom 0 list) :
    ∃ bs, blocks list = .ok bs ∧ bs.flatten = list ∧ ∀ b ∈ bs, GoodBlock b := by
  cases list with
  | nil => exact ⟨[], rfl, rfl, by simp⟩
  | cons e rest =>
    simp only [strictFrom] at hs
    obtain ⟨bs, h1, h2, h3⟩ := blocksAux_spec rest [e] e.1 (by simp) (by simp [isRun]) (by simp; omega) (by simpa using hs.2.2)
    exact ⟨bs, h1, by simpa using h2, h3⟩

/-- the program entry a block is written as -/
def entOf : List Entry → Ent
  | [e] => .char e.1 e.2
  | b => .rarr ((b.head?.map (·.1)).getD 0) (b.map (·.2))

theorem isRun_getLast : ∀ (b : List Entry) (f : Nat), isRun f b → ∀ l, b.getLast? = some l → l.1 = f + b.length - 1
  | [], _, _, l, h => by simp at h
  | [x], f, hr, l, h => by
    simp at h
    subst h
    simp [isRun] at hr
    simp [hr]
  | x :: y :: r, f, hr, l, h => by
    simp only [isRun] at hr
    have := isRun_getLast (y :: r) (f + 1) hr.2 l (by simpa using h)
    simp only [List.length_cons] at this ⊢
    omega

theorem enumFrom_run : ∀ (b : List Entry) (f : Nat), isRun f b → enumFrom f (b.map (·.2)) = b
  | [], _, _ => rfl
  | x :: r, f, h => by
    simp only [isRun] at h
    obtain ⟨h1, h2⟩ := h
    subst h1
    simp only [List.map_cons, enumFrom]
    rw [enumFrom_run r (x.1 + 1) h2]

theorem entOf_facts (b : List Entry) (hg : GoodBlock b) (hsc : ∀ e ∈ b, e.2.all isScalar = true) :
    (entOf b).isChar = (b.length == 1) ∧ (entOf b).line = blockLines (b.length == 1) b ∧ (entOf b).pairs = b ∧
    (entOf b).wf = true := by
  obtain ⟨f, hne, hrun, hbd⟩ := hg
  match b, hne, hrun, hbd, hsc with
  | [e], _, hrun, hbd, hsc =>
    simp only [isRun] at hrun
    have h1 := hsc e (List.mem_cons_self ..)
    refine ⟨rfl, by simp [entOf, Ent.line, blockLines], by simp [entOf, Ent.pairs], ?_⟩
    simp only [List.length_cons, List.length_nil] at hbd
    simp [entOf, Ent.wf, h1]
    omega
  | x :: y :: r, _, hrun, hbd, hsc =>
    have hl := isRun_getLast (x :: y :: r) f hrun
    have hx : x.1 = f := by simp only [isRun] at hrun; exact hrun.1
    have hne1 : ((x :: y :: r).length == 1) = false := by simp
    obtain ⟨l, hlast⟩ : ∃ l, (x :: y :: r).getLast? = some l := by
      cases h : (x :: y :: r).getLast? with
      | none => simp at h
      | some l => exact ⟨l, rfl⟩
    have hl' := hl l hlast
    refine ⟨by simp [entOf, Ent.isChar], ?_, ?_, ?_⟩
    · rw [hne1]
      simp only [entOf, Ent.line, blockLines, hlast, List.head?_cons, Option.map_some, Option.getD_some, hl', hx,
        List.length_map, List.map_map, Bool.false_eq_true, if_false]
      rfl
    · simp only [entOf, Ent.pairs, List.head?_cons, Option.map_some, Option.getD_some, hx]
      exact enumFrom_run _ f hrun
    · simp only [entOf, Ent.wf, List.head?_cons, Option.map_some, Option.getD_some, hx, List.length_map,
        Bool.and_eq_true, Bool.not_eq_true', decide_eq_true_eq, List.all_eq_true, List.mem_map]
      refine ⟨⟨by simp, hbd⟩, ?_⟩
      rintro s ⟨e, he, rfl⟩
      exact List.all_eq_true.mp (hsc e he)

theorem emit_render : ∀ (bs : List (List Entry)) (st : Option Bool),
    (∀ b ∈ bs, (entOf b).isChar = (b.length == 1) ∧ (entOf b).line = blockLines (b.length == 1) b) →
    emit st bs = render st (bs.map entOf)
  | [], none, _ => rfl
  | [], some _, _ => rfl
  | b :: bs, st, h => by
    obtain ⟨h1, h2⟩ := h b (List.mem_cons_self ..)
    have ih := emit_render bs (some (b.length == 1)) (fun x hx => h x (List.mem_cons_of_mem _ hx))
    cases st <;> simp only [emit, List.map_cons, render, h1, h2, ih]

/-- `write_cmap` of a sorted map: no `u16` overflow, and the text is the conformant rendering of a program
    whose pairs are exactly the map's entries -/
theorem writeCMap_render (list : List Entry) (hs : strictFrom 0 list) (hsc : ∀ e ∈ list, e.2.all isScalar = true) :
    ∃ es, writeCMap list = .ok (render none es) ∧ (∀ e ∈ es, e.wf = true) ∧ pairs es = list := by
  obtain ⟨bs, h1, h2, h3⟩ := blocks_spec list hs
  have hmem : ∀ b ∈ bs, ∀ e ∈ b, e ∈ list := by
    intro b hb e he
    rw [← h2]
    exact List.mem_flatten.mpr ⟨b, hb, he⟩
  have hf : ∀ b ∈ bs, _ := fun b hb => entOf_facts b (h3 b hb) (fun e he => hsc e (hmem b hb e he))
  refine ⟨bs.map entOf, ?_, ?_, ?_⟩
  · simp only [writeCMap, h1]
    rw [emit_render bs none (fun b hb => ⟨(hf b hb).1, (hf b hb).2.1⟩)]
  · intro e he
    obtain ⟨b, hb, rfl⟩ := List.mem_map.mp he
    exact (hf b hb).2.2.2
  · rw [← h2]
    simp only [pairs]
    clear h1 h2 h3 hmem
    induction bs with
    | nil => rfl
    | cons b bs ih =>
      simp only [List.map_cons, List.flatMap_cons, List.flatten_cons]
      rw [(hf b (List.mem_cons_self ..)).2.2.1, ih (fun x hx => hf x (List.mem_cons_of_mem _ hx))]

theorem strictFrom_sorted : ∀ (l : List Entry) (lo : Nat), strictFrom lo l → FontEncoding.sortedFrom lo l
  | [], _, _ => trivial
  | e :: r, _, h => ⟨h.1, Nat.lt_trans (Nat.succ_lt_succ h.2.1) (by decide), strictFrom_sorted r _ h.2.2⟩

/-- with increasing keys nothing is shadowed: looking up newest-first or oldest-first finds the same entry -/
theorem find_reverse_sorted (cid : Nat) (l : List Entry) (lo : Nat) (h : strictFrom lo l) :
    l.reverse.find? (·.1 == cid) = l.find? (·.1 == cid) :=
  FontEncoding.find_reverse_sorted cid l lo (strictFrom_sorted l lo h)

end CMap
