import PdfModel.Model.XrefTable
import PdfModel.Model.XrefStreamRead
import PdfModel.Lemmas.TotalParser
import PdfModel.Lemmas.TotalXrefStream
import PdfModel.Lemmas.Xref

/-!
  Totality of the cross-reference section readers on arbitrary buffers (C01), over the ONE model of them,
  `Model/XrefTable` (the C02 package's, with which `Props/C02` reads conforming sections back) and its stream
  branch `Model/XrefStreamRead`: `Ok` or `Err` — never `panic`, never `oof` with the default fuels — the cursor inside
  the buffer, and only `Free` / `Raw` / `Stream` entries come out (what `Props/C02.merge_total` asks of a section).

  Resources: every round of the entry loop consumes three lexemes, every round of the subsection loop two, so a
  subsection header that claims more than `len / 3` entries cannot end in `Ok`
  (`entryLoop_total`: `n` entries returned have consumed at least `3 n` bytes).
-/

namespace PdfLex

/-- every entry is one a section reader can produce (`Free`, `Raw`, `Stream`) -/
def SubsOk (secs : List Xref.Sub) : Prop := ∀ s ∈ secs, ∀ e ∈ s.entries, Xref.isEntry e = true

theorem mem_pairsFrom (i : Nat) (es : List Xref.XRef) : ∀ p ∈ Xref.pairsFrom i es, p.2 ∈ es := by
  induction es generalizing i with
  | nil => intro p hp; simp [Xref.pairsFrom] at hp
  | cons e es ih =>
    intro p hp
    simp only [Xref.pairsFrom, List.mem_cons] at hp
    rcases hp with rfl | hp
    · simp
    · exact List.mem_cons_of_mem _ (ih (i + 1) p hp)

theorem subsOk_pairsOK (secs : List Xref.Sub) (h : SubsOk secs) : Xref.pairsOK (Xref.secPairs secs) := by
  intro p hp
  simp only [Xref.secPairs, List.mem_flatMap] at hp
  obtain ⟨s, hs, hps⟩ := hp
  exact h s hs p.2 (mem_pairsFrom s.first s.entries p hps)

end PdfLex

namespace XrefTable
open PdfLex Xref

variable {R : Type}

theorem nextAsU32_good (buf : Buf) (pos : Nat) (h : pos ≤ buf.size) : Good buf pos (nextAsU32 buf pos) := by
  unfold nextAsU32
  rcases next_spec buf pos h with he | ⟨w, hw, a1, a2, a3⟩
  · left; simp only [he]
  · simp only [hw]
    split
    · exact good_ok _ (by omega) a3
    · exact .inl rfl

theorem entryOfTokens_cases (a b c : List UInt8) :
    entryOfTokens a b c = .err ∨ ∃ e, entryOfTokens a b c = .ok e ∧ isEntry e = true := by
  unfold entryOfTokens
  split
  · split
    · exact Or.inr ⟨_, rfl, rfl⟩
    · exact Or.inl rfl
  · split
    · split
      · exact Or.inr ⟨_, rfl, rfl⟩
      · exact Or.inl rfl
    · exact Or.inl rfl

/-- one entry of a classic table (`XrefTable.readEntry`, not the row reader `Xref.readEntry` of streams): `Err`, or a
    `Free` / `Raw` entry behind at least three consumed bytes -/
theorem readEntry_total (buf : Buf) (pos : Nat) (h : pos ≤ buf.size) :
    XrefTable.readEntry buf pos = .err ∨
    ∃ e q, XrefTable.readEntry buf pos = .ok (e, q) ∧ pos + 3 ≤ q ∧ q ≤ buf.size ∧ isEntry e = true := by
  unfold readEntry
  rcases next_spec buf pos h with he | ⟨w1, hw1, a1, a2, a3⟩
  · left; simp only [he]
  · simp only [hw1]
    split
    · left; rfl
    · rcases next_spec buf w1.2 a3 with he | ⟨w2, hw2, b1, b2, b3⟩
      · left; simp only [he]
      · simp only [hw2]
        rcases next_spec buf w2.2 b3 with he | ⟨w3, hw3, c1, c2, c3⟩
        · left; simp only [he]
        · simp only [hw3]
          rcases entryOfTokens_cases (slice buf w1.1 w1.2) (slice buf w2.1 w2.2) (slice buf w3.1 w3.2)
            with he | ⟨e, hE, hi⟩
          · left; simp only [he]
          · right; simp only [hE]; exact ⟨e, w3.2, rfl, by omega, c3, hi⟩

/-- the entry loop, whatever count `num_ids` the header claims: `Err`, or `n` entries that fit three-to-one into
    the bytes consumed — so a count above `len / 3` ends in `Err` -/
theorem entryLoop_total (buf : Buf) : ∀ (n pos : Nat) (acc : List XRef), pos ≤ buf.size →
    (∀ e ∈ acc, isEntry e = true) →
    entryLoop buf n pos acc = .err ∨
    ∃ es q, entryLoop buf n pos acc = .ok (es, q) ∧ pos + 3 * n ≤ q ∧ q ≤ buf.size ∧
      (∀ e ∈ es, isEntry e = true) ∧ es.length = acc.length + n := by
  intro n
  induction n with
  | zero =>
    intro pos acc h hacc
    right; exact ⟨acc.reverse, pos, rfl, by omega, h, fun e he => hacc e (by simpa using he), by simp⟩
  | succ n ih =>
    intro pos acc h hacc
    simp only [entryLoop]
    rcases readEntry_total buf pos h with he | ⟨e, q, hq, q1, q2, q3⟩
    · left; simp only [he]
    · simp only [hq]
      exact (ih q (e :: acc) q2 (List.forall_mem_cons.2 ⟨q3, hacc⟩)).imp id
        fun ⟨es, r, hr, r1, r2, r3, r4⟩ => ⟨es, r, hr, by omega, r2, r3, by simp at r4; omega⟩

theorem readSub_total (buf : Buf) (pos : Nat) (h : pos ≤ buf.size) :
    readSub buf pos = .err ∨
    ∃ s q, readSub buf pos = .ok (s, q) ∧ pos + 2 ≤ q ∧ q ≤ buf.size ∧ (∀ e ∈ s.entries, isEntry e = true) := by
  unfold readSub
  rcases nextAsU32_good buf pos h with he | ⟨first, p1, hp1, a1, a2⟩
  · left; simp only [he]
  · simp only [hp1]
    rcases nextAsU32_good buf p1 a2 with he | ⟨num, p2, hp2, b1, b2⟩
    · left; simp only [he]
    · simp only [hp2]
      rcases entryLoop_total buf num p2 [] b2 nofun with he | ⟨es, q, hq, q1, q2, q3, _⟩
      · left; simp only [he]
      · right; simp only [hq]
        exact ⟨_, q, rfl, by omega, q2, q3⟩

/-- the subsection loop with fuel `buf.size - pos + 1` (`XrefTable.defaultFuel buf = buf.size + 1` from any cursor) -/
theorem tableLoop_total (buf : Buf) : ∀ (fuel pos : Nat) (acc : List Sub), pos ≤ buf.size → buf.size - pos < fuel →
    SubsOk acc →
    tableLoop buf fuel pos acc = .err ∨
    ∃ subs q, tableLoop buf fuel pos acc = .ok (subs, q) ∧ pos ≤ q ∧ q ≤ buf.size ∧ SubsOk subs := by
  intro fuel
  induction fuel with
  | zero => intro pos acc h hf; omega
  | succ fuel ih =>
    intro pos acc h hf hacc
    simp only [tableLoop]
    obtain ⟨pk, hpk, _, _, _⟩ := peek_spec buf pos h
    simp only [hpk]
    split
    · right; exact ⟨_, _, rfl, Nat.le_refl _, h, fun s hs => hacc s (by simpa using hs)⟩
    · rcases readSub_total buf pos h with he | ⟨s, q, hq, q1, q2, q3⟩
      · left; simp only [he]
      · simp only [hq]
        exact (ih q (s :: acc) q2 (by omega) (List.forall_mem_cons.2 ⟨q3, hacc⟩)).imp id
          fun ⟨subs, r, hr, r1, r2, r3⟩ => ⟨subs, r, hr, by omega, r2, r3⟩

theorem parseTable_total (buf : Buf) (pos : Nat) (h : pos ≤ buf.size) :
    parseTable buf (defaultFuel buf) pos = .err ∨
    ∃ subs q, parseTable buf (defaultFuel buf) pos = .ok (subs, q) ∧ pos < q ∧ q ≤ buf.size ∧ SubsOk subs := by
  unfold parseTable
  rcases tableLoop_total buf (defaultFuel buf) pos [] h (by unfold defaultFuel; omega) nofun
    with he | ⟨subs, q, hq, q1, q2, q3⟩
  · left; simp only [he]
  · simp only [hq]
    rcases nextExpect_spec buf q kwTrailer q2 with he | ⟨p, hp, p1, p2⟩
    · left; simp only [he]
    · right; simp only [hp]; exact ⟨subs, p, rfl, by omega, p2, q3⟩

theorem trailerDict_good (env : Env R) (henv : EnvOk env) (buf : Buf) (hs : RealSize buf) (pos : Nat)
    (h : pos ≤ buf.size) : Good buf pos (trailerDict env buf (PdfLex.defaultFuel buf) pos) := by
  unfold trailerDict
  rcases parseWithLexer_good env henv buf hs (PdfLex.defaultFuel buf) pos Flags.dict h
    (by have := defaultFuel_enough buf pos; omega) with he | ⟨v, p, hp, p1, p2⟩
  · left; simp only [he]
  · simp only [hp]
    cases v <;> first | exact good_ok _ p1 p2 | exact .inl rfl

/-- `parse_xref_table_and_trailer`; the first fuel is the subsection loop's (`XrefTable.defaultFuel`, `len + 1`), the
    second the object parser's for the trailer dictionary (`PdfLex.defaultFuel`, `3·len + 64`) -/
theorem parseXrefTableAndTrailer_total (env : Env R) (henv : EnvOk env) (buf : Buf) (hs : RealSize buf) (pos : Nat)
    (h : pos ≤ buf.size) :
    parseXrefTableAndTrailer env buf (defaultFuel buf) (PdfLex.defaultFuel buf) pos = .err ∨
    ∃ subs d q, parseXrefTableAndTrailer env buf (defaultFuel buf) (PdfLex.defaultFuel buf) pos = .ok ((subs, d), q) ∧
      pos < q ∧ q ≤ buf.size ∧ SubsOk subs := by
  unfold parseXrefTableAndTrailer
  rcases parseTable_total buf pos h with he | ⟨subs, q, hq, q1, q2, q3⟩
  · left; simp only [he]
  · simp only [hq]
    rcases trailerDict_good env henv buf hs q q2 with he | ⟨d, p, hp, p1, p2⟩
    · left; simp only [he]
    · right; simp only [hp]; exact ⟨subs, d, p, rfl, by omega, p2, q3⟩

/-- what the dispatcher asks of the stream reader it is handed -/
def StmOk (stm : Buf → Nat → Out (List Sub × Dict R)) : Prop :=
  ∀ buf pos, pos ≤ buf.size → RealSize buf →
    stm buf pos = .err ∨ ∃ subs d, stm buf pos = .ok (subs, d) ∧ SubsOk subs

/-- `read_xref_and_trailer_at`, both branches: `Ok` or `Err`, sections of `Free` / `Raw` / `Stream` entries -/
theorem readXrefAndTrailerAt_total (env : Env R) (henv : EnvOk env) (stm : Buf → Nat → Out (List Sub × Dict R))
    (hstm : StmOk stm) (buf : Buf) (hs : RealSize buf) (pos : Nat) (h : pos ≤ buf.size) :
    readXrefAndTrailerAt env stm buf (defaultFuel buf) (PdfLex.defaultFuel buf) pos = .err ∨
    ∃ subs d, readXrefAndTrailerAt env stm buf (defaultFuel buf) (PdfLex.defaultFuel buf) pos = .ok (subs, d) ∧
      SubsOk subs := by
  unfold readXrefAndTrailerAt
  rcases next_spec buf pos h with he | ⟨w, hw, a1, a2, a3⟩
  · left; simp only [he]
  · simp only [hw]
    split
    · rcases parseXrefTableAndTrailer_total env henv buf hs w.2 a3 with he | ⟨subs, d, q, hq, _, _, q3⟩
      · left; simp only [he]
      · right; simp only [hq]; exact ⟨subs, d, rfl, q3⟩
    · obtain ⟨b, hb, b1, b2⟩ := back_spec buf w.2 a3
      simp only [hb]
      exact hstm buf b.1 (by omega) hs

/-- `parse_xref_stream_and_trailer`, for a typed reader and a data reader that return `Ok` or `Err`:
    strict and tolerant (`allowErr`) -/
theorem parseXrefStreamAndTrailer_total (env : Env R) (henv : EnvOk env) (typed : Dict R → Out XInfo)
    (htyped : ∀ d, Ret (typed d)) (data : Dict R → StreamInner → Out (List UInt8)) (hdata : ∀ d i, Ret (data d i))
    (allowErr : Bool) : StmOk (fun b p => parseXrefStreamAndTrailer env typed data allowErr b (PdfLex.defaultFuel b) p) := by
  intro buf pos h hs
  simp only []
  unfold parseXrefStreamAndTrailer
  rcases parseIndirectStream_good env henv buf hs (PdfLex.defaultFuel buf) pos h (by unfold PdfLex.defaultFuel; omega)
    with he | ⟨v, p, hp, p1, p2⟩
  · left; simp only [he]
  · obtain ⟨id, v⟩ := v
    cases v with
    | stream info inner =>
      simp only [hp]
      rcases next_spec buf p p2 with he | ⟨w, hw, a1, a2, a3⟩
      · left; simp only [he]
      · simp only [hw]
        have htr : Ret (streamTrailer env buf (PdfLex.defaultFuel buf) w info) := by
          unfold streamTrailer
          split
          · rcases trailerDict_good env henv buf hs w.2 a3 with he | ⟨d, q, hq, _, _⟩
            · left; simp only [he]
            · right; simp only [hq]; exact ⟨d, rfl⟩
          · exact Or.inr ⟨_, rfl⟩
        rcases htr with he | ⟨tr, htr⟩
        · left; simp only [he]
        · simp only [htr]
          rcases htyped info with he | ⟨xi, hxi⟩
          · left; simp only [he]
          · simp only [hxi]
            rcases hdata info inner with he | ⟨bytes, hb⟩
            · left; simp only [he]
            · simp only [hb]
              split
              · left; rfl
              · rcases parseSections_spec xi.w allowErr (pairsOf xi.index) bytes [] nofun
                  with he | ⟨secs, hsec, hok⟩
                · left; simp only [he]
                · right; simp only [hsec]; exact ⟨secs, tr, rfl, hok⟩
    | _ => left; simp only [hp]

/-- `read_xref_and_trailer_at` with both section formats concrete -/
theorem readXrefAt_total (env : Env R) (henv : EnvOk env) (typed : Dict R → Out XInfo) (htyped : ∀ d, Ret (typed d))
    (data : Dict R → StreamInner → Out (List UInt8)) (hdata : ∀ d i, Ret (data d i)) (allowErr : Bool)
    (buf : Buf) (hs : RealSize buf) (pos : Nat) (h : pos ≤ buf.size) :
    readXrefAt env typed data allowErr buf pos = .err ∨
    ∃ subs d, readXrefAt env typed data allowErr buf pos = .ok (subs, d) ∧ SubsOk subs :=
  readXrefAndTrailerAt_total env henv _ (parseXrefStreamAndTrailer_total env henv typed htyped data hdata allowErr)
    buf hs pos h

end XrefTable
