import PdfModel.Lemmas.OpenBytes
import PdfModel.Lemmas.XrefWalk
import PdfModel.Lemmas.XrefTable
import PdfModel.Lemmas.Offsets
import PdfModel.Lemmas.TotalLexer
import PdfModel.Lemmas.ObjStm
import PdfModel.Lemmas.StorageRun
import PdfModel.Props.C04

/-!
  The bytes of a file *represent* an abstract storage state (`Rep`): every object record and every
  cross-reference section of the abstract backend is what the byte-level parsers read at its offset, whatever
  is appended behind.  Three facts discharge the abstraction of `Model/Storage.lean`:

  * `open_of_rep` / `resolve_of_rep`: on bytes that represent `st`, the open path over any parsers `P`
    (`Offsets.openFile P`: header, `startxref`, section reader, `/Prev` walk, merge) builds the table of the
    abstract `reload`, and `Offsets.resolveRef P` returns what the abstract `resolve` returns
    (`OpenBytes.openB` / `resolveB` are these two at `P = OpenBytes.parsers`);
  * `rep_saveB`: `SaveBytes.saveB` keeps the relation (a new direct record is read back by
    `C04.parse_serialize_indirect`, a stream record by `parseIndirectObject_stream_at`, the new section by
    `OpenBytes.stmC_saved`);
  * operations other than a save that wrote its revision do not touch the backend.
-/

namespace RepBytes
open OffLex

/-! ### the lexer of the offset code on digits; the backward search -/

theorem findLast_none_of_head (a : UInt8) (pt : Bytes) : ∀ l : Bytes, (∀ b ∈ l, b ≠ a) → findLast (a :: pt) l = none := by
  intro l
  induction l with
  | nil => intro _; rfl
  | cons b bs ih =>
    intro h
    have hb : b ≠ a := h b (by simp)
    have hne : (a == b) = false := by simpa using fun e => hb e.symm
    simp [findLast, ih (fun x hx => h x (by simp [hx])), List.isPrefixOf, hne]

theorem findLast_unique (a : UInt8) (pt pre tail : Bytes) (h : ∀ b ∈ pt ++ tail, b ≠ a) :
    findLast (a :: pt) (pre ++ (a :: pt) ++ tail) = some pre.length := by
  have h0 : findLast (a :: pt) ((a :: pt) ++ tail) = some 0 := by
    simp only [List.cons_append, findLast, findLast_none_of_head a pt _ h]
    have : (a :: pt).isPrefixOf (a :: (pt ++ tail)) = true := by
      rw [List.isPrefixOf_iff_prefix]; exact ⟨tail, by simp⟩
    simp [this]
  have := Offsets.findLast_append (a :: pt) pre _ 0 h0
  simpa [List.append_assoc] using this

theorem digitsVal_eq : ∀ (ds : Bytes) (acc : Nat), (∀ b ∈ ds, isDigit b = true) →
    OffLex.digitsVal ds acc = some (ds.foldl (fun a d => a * 10 + (d.toNat - 48)) acc) := by
  intro ds
  induction ds with
  | nil => intro acc _; rfl
  | cons d ds ih =>
    intro acc h
    have hd := h d (by simp)
    simp only [OffLex.digitsVal, hd, if_true, List.foldl_cons]
    exact ih _ (fun b hb => h b (by simp [hb]))

theorem parseUsize_natTok (t : Bytes) (n : Nat) (h : PdfSyntax.NatTok t n) (hn : n ≤ usizeMax) : parseUsize t = .ok n :=
  ObjStmSpec.parseUsize_digits t n h.1 ((digitsVal_eq t 0 h.2.1).trans (congrArg some h.2.2)) hn

end RepBytes

namespace RepBytes
open Storage PdfLex Xref OpenBytes SaveBytes
open PdfSyntax (Gap Bnd SpellsStream WF WFE keysOf vdepth vdepthE need needE)

variable {R : Type}

/-! ### the section reader on the section `save` wrote -/

theorem scanBack_stop (buf : Buf) (cond : UInt8 → Bool) (pos : Nat) (b : UInt8) (hb : buf[pos]? = some b)
    (hc : cond b = false) : scanBack buf cond (pos + 1) = pos + 1 := by
  simp [scanBack, hb, hc]

theorem scanBack_all (buf : Buf) (cond : UInt8 → Bool) : ∀ (pos : Nat),
    (∀ j, j < pos → ∃ b, buf[j]? = some b ∧ cond b = true) → scanBack buf cond pos = 0 := by
  intro pos
  induction pos with
  | zero => intro _; rfl
  | succ pos ih =>
    intro h
    obtain ⟨b, hb, hc⟩ := h pos (by omega)
    simp only [scanBack, hb, hc, if_true]
    exact ih (fun j hj => h j (by omega))

/-- `Lexer::back` right behind a lexeme that begins the buffer -/
theorem back_first_token {buf : Buf} (t rest : List UInt8) (h : Suffix buf 0 (t ++ rest)) (hne : t ≠ [])
    (hnw : ∀ b ∈ t, isWhitespace b = false) : back buf t.length = .ok (0, t.length) := by
  have hsz := h.size_eq
  simp only [List.length_append, Nat.zero_add] at hsz
  have hget : ∀ j, j < t.length → buf[j]? = t[j]? := by
    intro j hj
    have := h.get j
    simp only [Nat.zero_add] at this
    rw [this, List.getElem?_append_left hj]
  obtain ⟨n, hn⟩ : ∃ n, t.length = n + 1 := by
    cases t with
    | nil => exact absurd rfl hne
    | cons a t => exact ⟨t.length, by simp⟩
  have hlast : ∃ b, buf[n]? = some b ∧ isWhitespace b = false := by
    have hj : n < t.length := by omega
    refine ⟨t[n], ?_, hnw _ (List.getElem_mem hj)⟩
    rw [hget n hj]; simp [hj]
  obtain ⟨b, hb, hbw⟩ := hlast
  have e1 : scanBack buf isWhitespace t.length = t.length := by
    rw [hn]; exact scanBack_stop buf _ n b hb hbw
  have e2 : scanBack buf (fun b => !isWhitespace b) t.length = 0 := by
    apply scanBack_all
    intro j hj
    refine ⟨t[j], ?_, ?_⟩
    · rw [hget j hj]; simp [hj]
    · simp [hnw _ (List.getElem_mem hj)]
  have hle : ¬ t.length > buf.size := by omega
  simp only [back, boundaryRev, hle, if_false, Out.bind_ok, e1, e2]
  exact newSubstr_fwd (Nat.zero_le _) (by omega)

/-- **the dispatch of `read_xref_and_trailer_at`** on a buffer that begins with a number: the lexeme is not `xref`,
    `lexer.back()` returns to its start, and the stream reader takes over there -/
theorem readXrefAndTrailerAt_number (env : Env R) (stm : Buf → Nat → Out (List Sub × Dict R)) {buf : Buf}
    (a rest : List UInt8) (id : Nat) (ha : PdfSyntax.NatTok a id) (hid : id ≤ 18446744073709551615) (hb : Bnd rest)
    (h : Suffix buf 0 (a ++ rest)) (fuel pfuel : Nat) :
    XrefTable.readXrefAndTrailerAt env stm buf fuel pfuel 0 = stm buf 0 := by
  obtain ⟨_, _, a3, a4⟩ := natTok_spec a id ha hid
  obtain ⟨hn, hsl⟩ := next_regular [] a rest 0 Gap.nil h a3 a4 hb
  have hback := back_first_token a rest h a3 (fun c hc => regular_not_ws (a4 c hc))
  simp only [List.length_nil, Nat.zero_add, Nat.add_zero] at hn hsl
  simp only [XrefTable.readXrefAndTrailerAt, hn, hsl, XrefTable.natTok_ne_xref a id ha, Bool.false_eq_true, if_false, hback]

/-- **the section `save` wrote is read back by `read_xref_and_trailer_at`** (handed the file from the
    section's offset on, whatever follows the `%%EOF`) -/
theorem xrefAt_saved (fmt : R → List UInt8) (env : Env R) (hd : env.decrypt = none)
    (dec : Dict R → List UInt8 → Out (List UInt8)) (hdec : NoFilter dec)
    (tr : Trailer (Prim R)) (infoRef : Option Nat) (ids : List (List UInt8)) (i : SaveInfo)
    (hb : Bounds tr infoRef i) (hxid : i.xid ≤ 18446744073709551615)
    (hrows : ∀ r ∈ i.rows, IsRow r) (hfits : ∀ r ∈ i.rows, Xref.Fits 1 i.aw i.bw r)
    (body : List UInt8) (hbody : serialize fmt (.stream (xrefDict tr ids infoRef i) (.pending (rowsData i))) = .ok body)
    (ext : List UInt8)
    (hsz : ((fmtNat i.xid ++ [32, 48, 32] ++ kwObj ++ [10] ++ body ++ kwEndobj ++ [10]) ++ tailBytes i ++ ext).length ≤ 2147483647) :
    XrefTable.xrefAt env (stmC env dec)
      ((fmtNat i.xid ++ [32, 48, 32] ++ kwObj ++ [10] ++ body ++ kwEndobj ++ [10]) ++ tailBytes i ++ ext)
      = .ok ([⟨0, i.rows⟩], xrefDict tr ids infoRef i) := by
  generalize hS : (fmtNat i.xid ++ [32, 48, 32] ++ kwObj ++ [10] ++ body ++ kwEndobj ++ [10]) ++ tailBytes i ++ ext = S at hsz
  have h0 : Suffix S.toArray 0 S := suffix_zero S
  have hstm := stmC_saved fmt env hd dec hdec tr infoRef ids i hb hxid hrows hfits body hbody (buf := S.toArray)
    (by simpa using hsz) 0 ext (by rw [hS]; exact h0)
  rw [XrefTable.xrefAt, readXrefAndTrailerAt_number env _ (fmtNat i.xid)
    ([32, 48, 32] ++ kwObj ++ [10] ++ body ++ kwEndobj ++ [10] ++ tailBytes i ++ ext) i.xid (fmtNat_spec _) hxid
    (by simp [Bnd]; decide) (by rw [← hS] at h0 ⊢; simpa using h0)]
  exact hstm

/-! ### `locate_xref_offset` on a file that ends with the trailer `save` writes -/

/-- the number after the last `startxref` of `… startxref\n<xpos>\n%%EOF` is `xpos` -/
theorem locateXref_tail (pre : List UInt8) (i : SaveInfo) (hx : i.xpos ≤ 18446744073709551615) :
    Offsets.locateXref (pre ++ tailBytes i) = .ok i.xpos := by
  obtain ⟨hne, hdig, hv⟩ := fmtNat_spec i.xpos
  have hdig' : ∀ b ∈ fmtNat i.xpos, OffLex.isDigit b = true := hdig
  have hbuf : pre ++ tailBytes i = (pre ++ [10]) ++ Offsets.startxrefKw ++ ([10] ++ fmtNat i.xpos ++ [10] ++ kwEOF) := by
    simp [tailBytes, kwStartxref, Offsets.startxrefKw]
  have htake : (pre ++ tailBytes i).take ((pre ++ tailBytes i).length - 1)
      = (pre ++ [10]) ++ Offsets.startxrefKw ++ ([10] ++ fmtNat i.xpos ++ [10, 37, 37, 69, 79]) := by
    have e : pre ++ tailBytes i = ((pre ++ [10]) ++ Offsets.startxrefKw ++ ([10] ++ fmtNat i.xpos ++ [10, 37, 37, 69, 79])) ++ [70] := by
      simp [tailBytes, kwStartxref, Offsets.startxrefKw, kwEOF]
    have hl : ∀ (l : List UInt8) (x : UInt8), (l ++ [x]).take ((l ++ [x]).length - 1) = l := by intro l x; simp
    rw [e]; exact hl _ _
  have hfl : OffLex.findLast Offsets.startxrefKw ((pre ++ [10]) ++ Offsets.startxrefKw ++ ([10] ++ fmtNat i.xpos ++ [10, 37, 37, 69, 79]))
      = some (pre ++ [10]).length := by
    apply findLast_unique 115 [116, 97, 114, 116, 120, 114, 101, 102]
    intro b hb
    simp only [List.mem_append, List.mem_cons, List.not_mem_nil, or_false] at hb
    rcases hb with hb | hb
    · rcases hb with rfl | rfl | rfl | rfl | rfl | rfl | rfl | rfl <;> decide
    · rcases hb with (rfl | hb) | hb
      · decide
      · intro e; subst e; have := hdig' _ hb; simp [OffLex.isDigit] at this
      · rcases hb with rfl | rfl | rfl | rfl | rfl <;> decide
  have hdrop : (pre ++ tailBytes i).drop ((pre ++ [10]).length + Offsets.startxrefKw.length)
      = [10] ++ fmtNat i.xpos ++ 10 :: kwEOF := by
    rw [hbuf, ← List.length_append, List.drop_left']
    · simp
    · rfl
  unfold Offsets.locateXref
  rw [htake, hfl]
  simp only
  rw [hdrop, ObjStmSpec.nextWord_digits [10] (fmtNat i.xpos) kwEOF (by simp; decide) hne hdig' 10 (by decide)]
  simp only
  exact parseUsize_natTok _ _ (fmtNat_spec i.xpos) hx

/-! ### bytes that represent an abstract storage state -/

/-- what the byte-level resolver's answer denotes: a stream's data is read from the bytes through its
    `file_range` -/
inductive Denotes (bytes : List UInt8) : Offsets.Obj (Prim R) → Prim R → Prop
  | plain (v : Prim R) (h : ∀ info s, v ≠ .stream info s) : Denotes bytes (.plain v) v
  | stream (info : Dict R) (a : Nat) (data : List UInt8) (hle : a + data.length ≤ bytes.length)
      (hd : (bytes.drop a).take data.length = data) :
      Denotes bytes (.stream (.dict info) a (a + data.length)) (.stream info (.pending data))

theorem Denotes.mono {bytes : List UInt8} {o : Offsets.Obj (Prim R)} {v : Prim R} (h : Denotes bytes o v)
    (ext : List UInt8) : Denotes (bytes ++ ext) o v := by
  cases h with
  | plain v h => exact .plain v h
  | stream info a data hle hd =>
    refine .stream info a data (by simp; omega) ?_
    rw [List.drop_append_of_le_length (by omega), List.take_append_of_le_length (by simp; omega)]
    exact hd

/-- the lexer's positions are 31-bit: the theorems of the byte-level parsers hold for files up to this size -/
def fileMax : Nat := 2147483647

/-- an object record of the abstract backend is what `resolve_ref`'s direct branch reads at its offset,
    whatever is appended to the file; its members (if it is an object stream) are what the compressed branch
    reads out of it. `rl` is the resolver `resolve_ref` hands down for an indirect `/Length` (a different one in each
    of its branches): the records meant here carry a direct `/Length`, so the reading holds for every `rl`. The start
    offset is 0 and `o.off` absolute (`directBody_zero` moves the start into the position); `.any` are the flags of a
    top-level `resolve_ref`. -/
def ObjRep (P : Offsets.Parsers (Prim R) (Dict R)) (bytes : List UInt8) (o : Storage.Obj (Prim R)) : Prop :=
  ∀ (ext : List UInt8) (rl : Nat → Out (Offsets.Obj (Prim R))), (bytes ++ ext).length ≤ fileMax →
    (∃ r, Offsets.directBody P rl (bytes ++ ext) 0 .any o.off = .ok r ∧ Denotes (bytes ++ ext) r o.val) ∧
    (∀ idx v, o.members[idx]? = some v →
      Offsets.compressedBody P (Offsets.directBody P rl (bytes ++ ext) 0 .any o.off) (bytes ++ ext) .any idx = .ok (.plain v) ∧
      ∀ info s, v ≠ .stream info s)

/-- a cross-reference section of the abstract backend is what `read_xref_and_trailer_at` reads at its offset -/
def SecRep (P : Offsets.Parsers (Prim R) (Dict R)) (bytes : List UInt8) (s : Sec) : Prop :=
  s.off ≤ bytes.length ∧
  ∀ ext : List UInt8, (bytes ++ ext).length ≤ fileMax → ∃ T, P.xrefAt ((bytes ++ ext).drop s.off) = .ok (s.subs, T) ∧ P.sizeOf T = .ok s.size ∧
    P.prevOf T = s.prev.map Out.ok ∧ dictGet T SaveBytes.kRoot = some (.ref s.root.1 s.root.2)

structure Rep (P : Offsets.Parsers (Prim R) (Dict R)) (bytes : List UInt8) (st : St (Prim R)) : Prop where
  len : bytes.length = st.len
  small : bytes.length ≤ fileMax
  header : ∀ ext : List UInt8, (bytes ++ ext).length ≤ fileMax → Offsets.locateStart (bytes ++ ext) = .ok st.start
  /-- (a file that has no cross-reference section yet — the bare header a builder starts from — has no `startxref`) -/
  xref : st.secs ≠ [] → Offsets.locateXref bytes = .ok st.startxref
  objs : ∀ o ∈ st.objs, ObjRep P bytes o
  secs : ∀ s ∈ st.secs, SecRep P bytes s

theorem secAt_some {secs : List Sec} {off : Nat} {s : Sec} (h : secAt secs off = some s) : s ∈ secs ∧ s.off = off :=
  ⟨List.mem_of_find?_eq_some h, by simpa using List.find?_some h⟩

theorem prevChain_ok_some {secs : List Sec} {start fuel p : Nat} {seen : List Nat} {chain : List (List Sub)}
    (h : prevChain secs start fuel (some p) seen = .ok chain) :
    ∃ f s rest, fuel = f + 1 ∧ p ∉ seen ∧ secAt secs (start + p) = some s ∧
      prevChain secs start f s.prev (p :: seen) = .ok rest ∧ chain = s.subs :: rest := by
  cases fuel with
  | zero => cases h
  | succ f =>
    simp only [prevChain] at h
    split at h; · cases h
    rename_i hs
    split at h; · cases h
    rename_i s hsa
    split at h <;> cases h
    exact ⟨f, s, _, rfl, by simpa using hs, hsa, ‹_›, rfl⟩

theorem linked_cons {P : Offsets.Parsers (Prim R) (Dict R)} (r : Offsets.Rev (Dict R)) (older : List (Offsets.Rev (Dict R)))
    (h : P.prevOf r.trailer = (older.head?.map (·.off)).map Out.ok) (ho : Offsets.Linked P older) :
    Offsets.Linked P (r :: older) := by
  cases older with
  | nil => exact h
  | cons r' rest => exact ⟨h, ho⟩

/-- the abstract `/Prev` walk, as a chain of sections the byte-level walk reads -/
theorem prevChain_revs (P : Offsets.Parsers (Prim R) (Dict R)) (bytes : List UInt8) (st : St (Prim R))
    (hrep : Rep P bytes st) :
    ∀ (fuel : Nat) (prev : Option Nat) (seen : List Nat) (chain : List (List Sub)),
      prevChain st.secs st.start fuel prev seen = .ok chain →
      ∃ older : List (Offsets.Rev (Dict R)), older.map (·.subs) = chain ∧
        (∀ r ∈ older, Offsets.ReadsAt P bytes st.start r) ∧ Offsets.Linked P older ∧
        prev = older.head?.map (·.off) ∧ (older.map (·.off)).Nodup ∧ (∀ r ∈ older, r.off ∉ seen) ∧
        older.length ≤ fuel
  | fuel, none, _, _, h => by
    cases fuel <;> cases h <;> exact ⟨[], rfl, nofun, trivial, rfl, .nil, nofun, Nat.zero_le _⟩
  | 0, some p, _, _, h => by cases h
  | f + 1, some p, seen, chain, h => by
    obtain ⟨_, s, rest, ⟨rfl⟩, hs, hsa, hpc, rfl⟩ := prevChain_ok_some h
    obtain ⟨hmem, hoff⟩ := secAt_some hsa
    obtain ⟨older, h1, h2, h3, h4, h5, h6, h7⟩ := prevChain_revs P bytes st hrep f s.prev (p :: seen) rest hpc
    obtain ⟨hle, hx⟩ := hrep.secs s hmem
    obtain ⟨T, hT, _, hprev, _⟩ := hx [] (by simpa using hrep.small)
    rw [List.append_nil, hoff] at hT
    have hread : Offsets.ReadsAt P bytes st.start ⟨p, s.subs, T⟩ := by
      have := hrep.small
      exact ⟨by show st.start + p ≤ _; unfold fileMax at this; unfold OffLex.usizeMax; omega, by show st.start + p ≤ _; omega, hT⟩
    refine ⟨⟨p, s.subs, T⟩ :: older, by rw [List.map_cons, h1], List.forall_mem_cons.2 ⟨hread, h2⟩,
      linked_cons _ _ (by rw [hprev, h4]) h3, rfl, ?_, List.forall_mem_cons.2 ⟨hs, fun r hr hin => ?_⟩, Nat.succ_le_succ h7⟩
    · rw [List.map_cons, List.nodup_cons]
      refine ⟨fun hin => ?_, h5⟩
      obtain ⟨r, hr, hro⟩ := List.mem_map.mp hin
      exact h6 r hr (hro ▸ List.mem_cons_self ..)
    · exact h6 r hr (List.mem_cons_of_mem _ hin)

/-- `reloaded`'s table and trailer offsets: what a successful abstract `reload` did -/
theorem reload_ok_spec {V : Type} (st : St V) (c : Bool) (dr : Doc V) (h : reload st c = .ok dr) :
    ∃ s chain, st.start + st.startxref < st.len ∧ secAt st.secs (st.start + st.startxref) = some s ∧ s.size ≤ MAX_ID ∧
      prevChain st.secs st.start (st.secs.length + 1) s.prev [] = .ok chain ∧
      mergeAll (newTable s.size) (s.subs :: chain) = .ok dr.st.refs ∧
      dr.st = { st with refs := dr.st.refs, changes := [], cache := [], cached := c } ∧ dr.tr.root = s.root := by
  unfold reload at h
  simp only at h
  split at h; · cases h
  split at h; · cases h
  rename_i h1 s hs
  split at h; · cases h
  rename_i h2
  split at h
  case h_1 chain hc =>
    split at h
    case h_1 t hm =>
      split at h
      case h_1 tr hl =>
        cases h
        exact ⟨s, chain, by omega, hs, by omega, hc, hm, rfl, (loadTrailer_ok _ _ _ _ _ hl).1⟩
      all_goals cases h
    all_goals cases h
  all_goals cases h

/-- **the byte-level open path builds the table of the abstract `reload`** -/
theorem open_of_rep (P : Offsets.Parsers (Prim R) (Dict R)) (bytes : List UInt8) (st : St (Prim R))
    (hrep : Rep P bytes st) (c : Bool) (dr : Doc (Prim R)) (hr : reload st c = .ok dr) (fuel : Nat)
    (hfuel : st.secs.length + 1 ≤ fuel) :
    ∃ T, Offsets.openFile P fuel bytes = .ok (st.start, dr.st.refs, T) ∧
      dictGet T SaveBytes.kRoot = some (.ref dr.tr.root.1 dr.tr.root.2) := by
  obtain ⟨s, chain, hlt, hsa, hsz, hpc, hm, _, hroot⟩ := reload_ok_spec st c dr hr
  obtain ⟨hmem, hoff⟩ := secAt_some hsa
  obtain ⟨older, h1, h2, h3, h4, h5, _, h7⟩ := prevChain_revs P bytes st hrep _ _ _ _ hpc
  obtain ⟨hle, hx⟩ := hrep.secs s hmem
  obtain ⟨T, hT, hsize, hprev, hTroot⟩ := hx [] (by simpa using hrep.small)
  simp only [List.append_nil] at hT
  have hlen := hrep.len
  have hfits : bytes.length ≤ OffLex.usizeMax := by have := hrep.small; unfold fileMax at this; unfold OffLex.usizeMax; omega
  have hlink := linked_cons (P := P) ⟨st.startxref, s.subs, T⟩ older (by rw [hprev, h4]) h3
  have := Offsets.loadTable_chain P bytes st.start fuel ⟨st.startxref, s.subs, T⟩ older s.size (hrep.xref (List.ne_nil_of_mem hmem))
    (by simp only; omega) (by simp only; omega) (by simp only; rw [← hoff]; exact hT) hsize
    (by unfold Offsets.maxId; unfold MAX_ID at hsz; exact hsz) h2 hlink h5 (by omega)
  simp only [List.map_cons, h1, hm, Offsets.withTrailer] at this
  have hh := hrep.header [] (by simpa using hrep.small)
  simp only [List.append_nil] at hh
  exact ⟨T, by simp only [Offsets.openFile, hh, this], by rw [hroot]; exact hTroot⟩

theorem directBody_zero (P : Offsets.Parsers (Prim R) (Dict R)) (rl : Nat → Out (Offsets.Obj (Prim R))) (buf : List UInt8)
    (start pos : Nat) (fl : Offsets.Flags) :
    Offsets.directBody P rl buf start fl pos = Offsets.directBody P rl buf 0 fl (start + pos) := by
  simp [Offsets.directBody, Offsets.suffixAt, Offsets.checkedAdd]

/-- with nothing pending, a value is read out of a record of the backend: the record itself, or a member of an object stream -/
theorem resolve_val_clean {V : Type} (st : St V) (id : Nat) (v : V) (hch : st.changes = []) (h : resolve st id = .val v) :
    (∃ pos g o, st.refs[id]? = some (.raw pos g) ∧ objAt st.objs (st.start + pos) = some o ∧ o.val = v) ∨
    ∃ sid idx pos g o, st.refs[id]? = some (.stream sid idx) ∧ st.refs[sid]? = some (.raw pos g) ∧
      objAt st.objs (st.start + pos) = some o ∧ o.members[idx]? = some v := by
  simp only [resolve, readAt, readCompressed, hch, chLookup] at h
  split at h <;> try cases h
  · rename_i pos g ht
    split at h <;> cases h
    exact .inl ⟨pos, g, _, ht, ‹_›, rfl⟩
  · rename_i sid idx ht
    split at h <;> try cases h
    rename_i pos g hs
    split at h <;> try cases h
    rename_i o ho
    split at h <;> cases h
    exact .inr ⟨sid, idx, pos, g, o, ht, hs, ho, ‹_›⟩

/-- **the byte-level resolver returns what the abstract `resolve` returns** on a freshly loaded table
    (nothing pending): direct entries and members of object streams -/
theorem resolve_of_rep (P : Offsets.Parsers (Prim R) (Dict R)) (bytes : List UInt8) (st : St (Prim R))
    (hrep : Rep P bytes st) (t : List XRef) (c : Bool) (id : Nat) (v : Prim R)
    (h : resolve ({ st with refs := t, changes := [], cache := [], cached := c } : St (Prim R)) id = .val v) (fuel : Nat) :
    ∃ o, Offsets.resolveRef P bytes st.start t (fuel + 2) [] .any id = .ok o ∧ Denotes bytes o v := by
  rcases resolve_val_clean _ id v rfl h with ⟨pos, g, o, ht, ho, rfl⟩ | ⟨sid, idx, pos, g, o, ht, hs, ho, hm⟩ <;>
    obtain ⟨hmem, hoff⟩ := objAt_some ho
  · obtain ⟨⟨r, hr, hden⟩, _⟩ := hrep.objs o hmem []
      (fun lid => Offsets.resolveRef P bytes st.start t (fuel + 1) [] .integer lid) (by simpa using hrep.small)
    rw [List.append_nil] at hr hden
    refine ⟨r, ?_, hden⟩
    simp only [Offsets.resolveRef, Xref.lookup, show t[id]? = _ from ht]
    rw [directBody_zero, ← hoff]; exact hr
  · obtain ⟨_, hmemb⟩ := hrep.objs o hmem []
      (fun lid => Offsets.resolveRef P bytes st.start t fuel [sid] .integer lid) (by simpa using hrep.small)
    obtain ⟨hcb, hns⟩ := hmemb idx v hm
    rw [List.append_nil] at hcb
    refine ⟨.plain v, ?_, .plain v hns⟩
    have hnc : ([] : List Nat).contains sid = false := rfl
    simp only [Offsets.resolveRef, Xref.lookup, show t[id]? = _ from ht, show t[sid]? = _ from hs, hnc, Bool.false_eq_true, if_false]
    rw [directBody_zero, ← hoff]; exact hcb

/-! ### the records `save` writes are read back -/

/-- a value for which the byte-level round trip is proved: a direct object within the limits of
    `C04.parse_serialize_indirect`, or a stream with pending data whose `/Length` is the integer `data.length` -/
inductive OKVal (fmt : R → List UInt8) (pr : List UInt8 → Option R) : Prim R → Prop
  | direct (v : Prim R) (hs : Serialisable fmt pr v) (hw : WF v) (hd : vdepth v ≤ maxDepth) : OKVal fmt pr v
  | stream (info : Dict R) (data : List UInt8) (hs : SerialisableE fmt pr info) (hw : WFE info)
      (hn : (keysOf info).Nodup) (hl : dictGet info kwLength = some (.int (data.length : Int)))
      (hd : 1 + vdepthE info ≤ maxDepth) : OKVal fmt pr (.stream info (.pending data))

theorem suffixAt_zero (buf : List UInt8) (off : Nat) (h : off ≤ buf.length) (hm : buf.length ≤ fileMax) :
    Offsets.suffixAt buf 0 off = .ok (off, buf.drop off) := by
  have : ¬ off > OffLex.usizeMax := by unfold fileMax at hm; unfold OffLex.usizeMax; omega
  simp [Offsets.suffixAt, Offsets.checkedAdd, Offsets.readFrom, this, h]

theorem toObjParse_plain (v : Prim R) (id : Nat × Nat) (p : Nat) (h : ∀ info s, v ≠ .stream info s) :
    Offsets.toObjParse (.ok ((id, v), p)) = .ok (.plain v) := by
  cases v <;> first | rfl | exact absurd rfl (h _ _)

theorem lt_length_of_drop {l a : List UInt8} {off : Nat} (h : l.drop off = a) (ha : a ≠ []) : off < l.length :=
  Nat.lt_of_not_le fun hle => ha (h ▸ List.drop_eq_nil_of_le hle)

theorem mid_length_le {l a t b : List UInt8} {off : Nat} (h : l.drop off = a ++ t ++ b) : t.length ≤ l.length := by
  have := congrArg List.length h
  simp only [List.length_drop, List.length_append] at this; omega

/-- a direct object framed by `save` at `off` -/
theorem objRep_direct (fmt : R → List UInt8) (env : Env R) (hd : env.decrypt = none) (pfuel : Nat)
    (dec : Dict R → List UInt8 → Out (List UInt8)) (bytes : List UInt8) (o : Storage.Obj (Prim R))
    (hs : Serialisable fmt env.parseReal o.val) (hw : WF o.val) (hdep : vdepth o.val ≤ maxDepth)
    (hid : o.id ≤ 18446744073709551615) (hgen : o.gen ≤ 18446744073709551615) (hm : o.members = [])
    (body rest : List UInt8) (hser : serialize fmt o.val = .ok body)
    (hbytes : bytes.drop o.off = objFrame o.id o.gen body ++ rest) (hpf : 3 * bytes.length ≤ pfuel) :
    ObjRep (parsers env pfuel dec) bytes o := by
  intro ext rl hsmall
  have hns : ∀ info s, o.val ≠ .stream info s := by
    intro info s he; rw [he] at hs; exact hs
  have hoff : o.off ≤ bytes.length :=
    Nat.le_of_lt <| lt_length_of_drop hbytes (fun h => by have := objFrame_length_pos o.id o.gen body; simp [List.append_eq_nil_iff.mp h] at this)
  refine ⟨?_, by intro idx v hv; rw [hm] at hv; simp at hv⟩
  have hsfx : (bytes ++ ext).drop o.off = objFrame o.id o.gen body ++ (rest ++ ext) := by
    rw [List.drop_append_of_le_length hoff, hbytes, List.append_assoc]
  obtain ⟨txt, trail, h1, h2, _, _⟩ := serialize_spells fmt env.parseReal o.val hs
  have hnb := need_bound env.parseReal o.val txt h2
  obtain ⟨body', hb', hparse⟩ := C04.parse_serialize_indirect { env with fileOffset := 0 } hd fmt o.val hs hw hdep o.id o.gen hid hgen
  rw [hser] at hb' h1
  simp only [Out.ok.injEq] at hb' h1
  subst hb'
  have hbl : body.length ≤ bytes.length :=
    mid_length_le (a := fmtNat o.id ++ [32] ++ fmtNat o.gen ++ [32] ++ kwObj ++ [10]) (b := [10] ++ kwEndobj ++ [10] ++ rest)
      (by rw [hbytes, objFrame]; simp only [List.append_assoc])
  have hneed : need o.val ≤ pfuel := by
    have : txt.length ≤ body.length := by rw [h1]; simp
    omega
  have hp := hparse (buf := ((bytes ++ ext).drop o.off).toArray)
    (by have : ((bytes ++ ext).drop o.off).length ≤ (bytes ++ ext).length := by simp
        unfold fileMax at hsmall; simpa using Nat.le_trans this hsmall)
    [] (rest ++ ext) pfuel (by simp [hsfx]) hneed
  refine ⟨.plain o.val, ?_, .plain o.val hns⟩
  have hsa := suffixAt_zero (bytes ++ ext) o.off (by simp only [List.length_append]; omega) hsmall
  simp only [Offsets.directBody, hsa]
  simp only [List.length_nil] at hp
  have hobj : (parsers env pfuel dec).objAt .any ((bytes ++ ext).drop o.off) = .ok (.plain o.val) := by
    rw [parsers_objAt, show Offsets.flagsNat .any = Flags.any from rfl, hp, toObjParse_plain _ _ _ hns]
  rw [hobj]

/-- a stream object with pending data written at `off`: `id gen obj\n<stream>` `g4` `endobj\n` (two line feeds
    before `endobj` in an ordinary record, one in the cross-reference stream object) -/
theorem objRep_stream (env : Env R) (hd : env.decrypt = none) (pfuel : Nat)
    (dec : Dict R → List UInt8 → Out (List UInt8)) (bytes : List UInt8) (o : Storage.Obj (Prim R))
    (info : Dict R) (data : List UInt8) (hval : o.val = .stream info (.pending data))
    (hw : WFE info) (hn : (keysOf info).Nodup) (hl : dictGet info kwLength = some (.int (data.length : Int)))
    (hdep : 1 + vdepthE info ≤ maxDepth)
    (hid : o.id ≤ 18446744073709551615) (hgen : o.gen ≤ 18446744073709551615) (hm : o.members = [])
    (txt g4 rest : List UInt8) (hsp : SpellsStream env.parseReal info data txt) (hg4 : Gap g4) (hg4ne : g4 ≠ [])
    (hbytes : bytes.drop o.off =
      (fmtNat o.id ++ [32] ++ fmtNat o.gen ++ [32] ++ kwObj ++ [10] ++ txt ++ g4 ++ kwEndobj ++ [10]) ++ rest)
    (hpf : 3 * bytes.length ≤ pfuel) :
    ObjRep (parsers env pfuel dec) bytes o := by
  intro ext rl hsmall
  refine ⟨?_, by intro idx v hv; rw [hm] at hv; simp at hv⟩
  have hoff : o.off ≤ bytes.length := Nat.le_of_lt (lt_length_of_drop hbytes (by simp))
  have hsa := suffixAt_zero (bytes ++ ext) o.off (by simp only [List.length_append]; omega) hsmall
  have hsfx : (bytes ++ ext).drop o.off =
      [] ++ fmtNat o.id ++ [32] ++ fmtNat o.gen ++ [32] ++ kwObj ++ [10] ++ txt ++ g4 ++ kwEndobj ++ ([10] ++ rest ++ ext) := by
    rw [List.drop_append_of_le_length hoff, hbytes]; simp
  have hsl : ((bytes ++ ext).drop o.off).length = (bytes ++ ext).length - o.off := by simp
  have hsz : ((bytes ++ ext).drop o.off).toArray.size ≤ 2147483647 := by
    unfold fileMax at hsmall; simp only [List.size_toArray, hsl]; omega
  have hsuf := (congrArg (Suffix ((bytes ++ ext).drop o.off).toArray 0) hsfx).mp (suffix_zero _)
  have hfuel : 2 + needE info ≤ pfuel := by
    have h1 := needE_le_spellsStream hsp
    have h2 : txt.length ≤ bytes.length :=
      mid_length_le (a := fmtNat o.id ++ [32] ++ fmtNat o.gen ++ [32] ++ kwObj ++ [10]) (b := g4 ++ kwEndobj ++ [10] ++ rest)
        (by rw [hbytes]; simp only [List.append_assoc])
    omega
  have hsp1 : Gap [32] := Gap.ws 32 [] (by decide) Gap.nil
  have hnl : Gap [10] := Gap.ws 10 [] (by decide) Gap.nil
  obtain ⟨dataPos, more, hp, hdata, hmore⟩ := parseIndirectObject_stream_at { env with fileOffset := 0 } hd info data txt hsp hw hn
    (Or.inl hl) hsz [] (fmtNat o.id) [32] (fmtNat o.gen) [32] [10] g4 ([10] ++ rest ++ ext) o.id o.gen 0 pfuel Gap.nil
    (fmtNat_spec o.id) (fmtNat_spec o.gen) hsp1 (by simp) hsp1 (by simp) hid hgen hnl hg4 hg4ne hsuf (by simp [Bnd]; decide)
    hfuel hdep Flags.any (by decide)
  have hsize := hdata.size_eq
  simp only [List.size_toArray, hsl, List.length_append] at hsize
  have hmp : 0 < more.length := by cases more with | nil => exact absurd rfl hmore | cons => simp
  have hobj : (parsers env pfuel dec).objAt .any ((bytes ++ ext).drop o.off)
      = .ok (.stream (.dict info) dataPos (.direct data.length)) := by
    rw [parsers_objAt, show Offsets.flagsNat .any = Flags.any from rfl, hp]
    simp [Offsets.toObjParse, streamAt]
  have hfin : ¬ (dataPos + data.length ≥ ((bytes ++ ext).drop o.off).length) := by
    rw [hsl]; simp only [List.length_append]; omega
  refine ⟨.stream (.dict info) (o.off + dataPos) (o.off + dataPos + data.length), ?_, ?_⟩
  · simp only [Offsets.directBody, hsa, hobj, Offsets.streamWithLen, Offsets.finishStream, hfin, if_false]
    rfl
  · rw [hval]
    refine .stream info (o.off + dataPos) data (by simp only [List.length_append] at hsize ⊢; omega) ?_
    have h1 := hdata.1
    simp only [List.drop_drop] at h1
    rw [h1, List.take_left']
    rfl

/-! ### `saveB` keeps the representation -/

theorem ObjRep.extend {P : Offsets.Parsers (Prim R) (Dict R)} {bytes : List UInt8} {o : Storage.Obj (Prim R)}
    (h : ObjRep P bytes o) (more : List UInt8) : ObjRep P (bytes ++ more) o := by
  intro ext rl hx
  have := h (more ++ ext) rl (by simpa [List.append_assoc] using hx)
  simpa [List.append_assoc] using this

theorem SecRep.extend {P : Offsets.Parsers (Prim R) (Dict R)} {bytes : List UInt8} {s : Sec}
    (h : SecRep P bytes s) (more : List UInt8) : SecRep P (bytes ++ more) s := by
  refine ⟨by have := h.1; simp; omega, ?_⟩
  intro ext hx
  have := h.2 (more ++ ext) (by simpa [List.append_assoc] using hx)
  simpa [List.append_assoc] using this

theorem isRow_of_rowOf (e r : XRef) (h : rowOf e = some r) : IsRow r := by
  cases e <;> simp [rowOf] at h <;> subst h <;> trivial

/-- every row of a save that wrote its revision is a free, in-use or compressed entry whose fields fit the widths -/
theorem rows_fit (P : Params (Prim R)) (L : Layout) (hL : L.Pos) (d0 d d' : Doc (Prim R)) (chain0) (i : SaveInfo)
    (hb : BaseOK d0 chain0) (hi : Inv d0 d) (h : Committed P L d d'.st i) :
    (∀ r ∈ i.rows, IsRow r) ∧ (∀ r ∈ i.rows, Xref.Fits 1 i.aw i.bw r) := by
  have sh := save_shape_c P L hL d0 d d' chain0 i hb hi h
  obtain ⟨_, _, hw⟩ := width_fits_c P L hL d0 d d' chain0 i hb hi h
  have hrow : ∀ r ∈ i.rows, IsRow r := by
    intro r hr
    obtain ⟨j, hj⟩ := List.getElem?_of_mem hr
    have hjl : j < i.rows.length := (List.getElem?_eq_some_iff.mp hj).1
    have hjt : j < d'.st.refs.length := by rw [sh.table_len]; have := sh.rows_len.1; omega
    obtain ⟨r', a1, a2⟩ := sh.rows_of_table j d'.st.refs[j] (by simp [hjt])
    rw [hj] at a2; simp only [Option.some.injEq] at a2; subst a2
    exact isRow_of_rowOf _ _ a1
  refine ⟨hrow, fun r hr => fits_of_fields _ _ r (hrow r hr) (fun ty a b hf => ?_)⟩
  obtain ⟨h1, h2, _⟩ := hw r hr ty a b hf
  exact ⟨h1, h2⟩

/-- the cross-reference section `save` wrote is a section of the abstract backend, read at its offset -/
theorem secRep_saved (fmt : R → List UInt8) (env : Env R) (hd : env.decrypt = none) (pfuel : Nat)
    (dec : Dict R → List UInt8 → Out (List UInt8)) (hdec : NoFilter dec)
    (tr : Trailer (Prim R)) (infoRef : Option Nat) (ids : List (List UInt8)) (i : SaveInfo)
    (hb : Bounds tr infoRef i) (hxid : i.xid ≤ 18446744073709551615)
    (hrows : ∀ r ∈ i.rows, IsRow r) (hfits : ∀ r ∈ i.rows, Xref.Fits 1 i.aw i.bw r)
    (body : List UInt8) (hbody : serialize fmt (.stream (xrefDict tr ids infoRef i) (.pending (rowsData i))) = .ok body)
    (bytes : List UInt8) (off : Nat)
    (hdrop : bytes.drop off = (fmtNat i.xid ++ [32, 48, 32] ++ kwObj ++ [10] ++ body ++ kwEndobj ++ [10]) ++ tailBytes i) :
    SecRep (parsers env pfuel dec) bytes ⟨off, [⟨0, i.rows⟩], i.size, tr.prev, tr.root, infoRef⟩ := by
  have hf := xrefDict_facts fmt env.parseReal tr infoRef ids i hb
  have hoff : off ≤ bytes.length := Nat.le_of_lt (lt_length_of_drop hdrop (by simp [tailBytes]))
  refine ⟨hoff, fun ext hx => ⟨xrefDict tr ids infoRef i, ?_, ?_, ?_, hf.root⟩⟩
  · have hdrop' : (bytes ++ ext).drop off =
        (fmtNat i.xid ++ [32, 48, 32] ++ kwObj ++ [10] ++ body ++ kwEndobj ++ [10]) ++ tailBytes i ++ ext := by
      rw [List.drop_append_of_le_length hoff, hdrop]
    rw [parsers_xrefAt]
    simp only [hdrop']
    exact xrefAt_saved fmt { env with fileOffset := 0 } hd dec hdec tr infoRef ids i hb hxid hrows hfits body hbody ext
      (by rw [← hdrop']; unfold fileMax at hx; simp only [List.length_drop]; omega)
  · rw [parsers_sizeOf, show Offsets.kwSize = SaveBytes.kSize from rfl, hf.size]
    simp [Offsets.asNat]
  · rw [parsers_prevOf, show Offsets.kwPrev = kPrev from rfl, hf.prev]
    cases tr.prev <;> simp [Offsets.asNat]

theorem fmtNat_zero : fmtNat 0 = [48] := by decide

/-- **`saveB` keeps the bytes a representation of the abstract state**: every record and the new section are
    read back by the byte-level parsers at the offsets the abstract model says — as soon as the revision was written,
    whether the save then succeeds or fails in the typed reload of the trailer -/
theorem rep_saveB (fmt : R → List UInt8) (env : Env R) (hd : env.decrypt = none) (pfuel : Nat)
    (dec : Dict R → List UInt8 → Out (List UInt8)) (hdec : NoFilter dec) (d0 : Doc (Prim R)) (chain0)
    (b b' : BDoc R) (i : SaveInfo) (hb : BaseOK d0 chain0) (hi : Inv d0 b.doc)
    (hrep : Rep (parsers env pfuel dec) b.bytes b.doc.st) (typed : Bool) (h : CommittedB fmt typed b b' i)
    (hbd : Bounds b.doc.tr (prep b.doc).infoRef i)
    (hvals : ∀ c ∈ (prep b.doc).st2.changes, OKVal fmt env.parseReal c.2.1 ∧ c.1 ≤ 18446744073709551615 ∧
      c.2.2 ≤ 18446744073709551615)
    (hsmall : b'.bytes.length ≤ fileMax) (hpf : 3 * b'.bytes.length ≤ pfuel) :
    Rep (parsers env pfuel dec) b'.bytes b'.doc.st := by
  have hlen := hrep.len
  have sb := saveB_spec fmt env.parseReal d0 chain0 b b' i hb hi hlen typed h hbd
  have bk := saveB_backend fmt d0 chain0 b b' i hb hi hlen typed h
  have sh := save_shape_c _ _ (layoutOf_pos fmt typed b) d0 b.doc b'.doc chain0 i hb hi sb.doc
  obtain ⟨hrows, hfits⟩ := rows_fit _ _ (layoutOf_pos fmt typed b) d0 b.doc b'.doc chain0 i hb hi sb.doc
  have hxid : i.xid ≤ 18446744073709551615 := by have := sh.rows_len.2; have := hbd.size; omega
  have hf := xrefDict_facts fmt env.parseReal b.doc.tr (prep b.doc).infoRef b.ids i hbd
  obtain ⟨body, hbody, hxdrop⟩ := sb.xbody
  obtain ⟨txt, hser, hsp⟩ := serialize_stream_ok fmt env.parseReal (xrefDict b.doc.tr b.ids (prep b.doc).infoRef i) (rowsData i) hf.ser
  rw [hbody] at hser
  simp only [Out.ok.injEq] at hser
  have hxlt : b.doc.st.start + i.xpos < b'.bytes.length := lt_length_of_drop hxdrop (by simp [tailBytes])
  have hnl : Gap [10] := Gap.ws 10 [] (by decide) Gap.nil
  refine ⟨sb.len, hsmall, ?_, ?_, ?_, ?_⟩
  · intro ext hx
    rw [bk.start]
    have := hrep.header (revisionBytes fmt b i ++ ext) (by rw [← List.append_assoc, ← sb.bytes]; exact hx)
    rw [← List.append_assoc, ← sb.bytes] at this
    exact this
  · intro _
    rw [bk.startxref, sb.bytes]
    simp only [revisionBytes, ← List.append_assoc]
    exact locateXref_tail _ i (by unfold fileMax at hsmall; omega)
  · intro o ho
    obtain ⟨ext, e1, e2⟩ := bk.objs
    rw [e1] at ho
    simp only [List.mem_append, List.mem_singleton] at ho
    rcases ho with (ho | ho) | rfl
    · rw [sb.bytes]; exact (hrep.objs o ho).extend _
    · obtain ⟨hm, hmem, body', rest, hser', hdrop⟩ := e2 o ho
      obtain ⟨hv, hid, hgen⟩ := hvals _ hmem
      simp only at hv hid hgen
      generalize hov : o.val = ov at hv
      cases hv with
      | direct v hs hw hdp =>
        exact objRep_direct fmt env hd pfuel dec b'.bytes o (hov ▸ hs) (hov ▸ hw) (hov ▸ hdp) hid hgen hm body' rest hser' hdrop hpf
      | stream info data hs hw hn hl hdp =>
        obtain ⟨txt', hser2, hsp'⟩ := serialize_stream_ok fmt env.parseReal info data hs
        rw [hov, hser2] at hser'
        simp only [Out.ok.injEq] at hser'
        subst hser'
        exact objRep_stream env hd pfuel dec b'.bytes o info data hov hw hn hl hdp hid hgen hm txt' [10, 10] rest hsp'
          (Gap.ws 10 [10] (by decide) hnl) (by simp) (by rw [hdrop]; simp [objFrame]) hpf
    · subst hser
      refine objRep_stream env hd pfuel dec b'.bytes _ (xrefDict b.doc.tr b.ids (prep b.doc).infoRef i) (rowsData i) rfl hf.wf hf.nodup
        hf.length (by have := hf.depth; unfold maxDepth; omega) hxid (by show (0 : Nat) ≤ 18446744073709551615; omega) rfl txt [10] (tailBytes i) hsp hnl (by simp)
        ?_ hpf
      show b'.bytes.drop (b.doc.st.start + i.xpos) = _
      rw [hxdrop, fmtNat_zero]; simp
  · intro s hs
    rw [bk.secs] at hs
    simp only [List.mem_append, List.mem_singleton] at hs
    rcases hs with hs | rfl
    · rw [sb.bytes]; exact (hrep.secs s hs).extend _
    · exact secRep_saved fmt env hd pfuel dec hdec b.doc.tr (prep b.doc).infoRef b.ids i hbd hxid hrows hfits body hbody _ _ hxdrop

end RepBytes
