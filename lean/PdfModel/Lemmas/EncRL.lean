import PdfModel.Lemmas.Enc85

/-! RunLength: the decoder follows any conforming segmentation; fuel and panic freedom. -/

namespace Enc
open Codecs

theorem runLengthLoop_of_body {bs body : Bytes} (h : RLBody bs body) :
    ∀ (rest : Bytes) (fuel : Nat), body.length < fuel → runLengthLoop fuel (body ++ rest) = .ok bs := by
  induction h with
  | eod =>
    intro rest fuel hf
    cases fuel with
    | zero => simp at hf
    | succ f => simp [runLengthLoop]
  | @literal lit bs t h1 h2 _ ih =>
    intro rest fuel hf
    cases fuel with
    | zero => simp at hf
    | succ f =>
      have hl : (UInt8.ofNat (lit.length - 1)).toNat = lit.length - 1 := UInt8.toNat_ofNat_of_lt' (show _ < 256 by omega)
      have hlt : UInt8.ofNat (lit.length - 1) < 128 := by
        rw [UInt8.lt_iff_toNat_lt, hl]; show _ < 128; omega
      have hn : (UInt8.ofNat (lit.length - 1)).toNat + 1 = lit.length := by rw [hl]; omega
      simp only [List.cons_append, runLengthLoop, hlt, if_true, hn]
      rw [if_neg (by simp), List.append_assoc, List.take_left, List.drop_left, ih rest f (by simp at hf; omega)]
  | @«repeat» n b bs t h1 h2 _ ih =>
    intro rest fuel hf
    cases fuel with
    | zero => simp at hf
    | succ f =>
      have hl : (UInt8.ofNat (257 - n)).toNat = 257 - n := UInt8.toNat_ofNat_of_lt' (show _ < 256 by omega)
      have hnlt : ¬ (UInt8.ofNat (257 - n) < 128) := by
        rw [UInt8.lt_iff_toNat_lt, hl]; show ¬ _ < 128; omega
      have hge : UInt8.ofNat (257 - n) ≥ 129 := by
        rw [ge_iff_le, UInt8.le_iff_toNat_le, hl]; show 129 ≤ _; omega
      have hrep : 257 - (257 - n) = n := by omega
      have hfuel : t.length < f := by simp at hf; omega
      simp only [List.cons_append, runLengthLoop, hnlt, if_false, hge, if_true, hl, hrep]
      rw [ih rest f hfuel]

/-- `run_length_decode` never runs out of the fuel it is given, and never panics -/
theorem runLengthLoop_returns : ∀ (fuel : Nat) (d : Bytes), d.length < fuel → (runLengthLoop fuel d).Returns := by
  intro fuel
  induction fuel with
  | zero => intro d h; simp at h
  | succ f ih =>
    intro d hf
    cases d with
    | nil => exact .ok _
    | cons len rest =>
      simp only [runLengthLoop]
      split
      · split
        · exact .err
        · rcases (ih (rest.drop (len.toNat + 1)) (by simp at hf ⊢; omega)).cases with e | ⟨t, e⟩ <;> rw [e]
          · exact .err
          · exact .ok _
      · split
        · cases rest with
          | nil => exact .err
          | cons b rest' =>
            rcases (ih rest' (by simp at hf ⊢; omega)).cases with e | ⟨t, e⟩ <;> simp only [e]
            · exact .err
            · exact .ok _
        · exact .ok _
end Enc
