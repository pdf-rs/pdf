import PdfModel.Lemmas.EncRL

/-! PNG predictors: `unfilter` undoes every filter type of the PNG specification, for every pixel size. -/

namespace Enc
open Codecs

def tagOf : PredictorType → Nat
  | .noFilter => 0 | .sub => 1 | .up => 2 | .avg => 3 | .paeth => 4

theorem forFrom_inv (P : Nat → Bytes → Prop) (body : Nat → Bytes → Bytes) :
    ∀ (n lo : Nat) (out : Bytes), P lo out →
      (∀ i o, lo ≤ i → i < lo + n → P i o → P (i + 1) (body i o)) → P (lo + n) (forFrom body lo n out) := by
  intro n
  induction n with
  | zero => intro lo out h _; simpa [forFrom] using h
  | succ n ih =>
    intro lo out h step
    have h1 : P (lo + 1) (body lo out) := step lo out (Nat.le_refl _) (by omega) h
    have := ih (lo + 1) (body lo out) h1 (fun i o hi hlt hp => step i o (by omega) (by omega) hp)
    simpa [forFrom, Nat.add_assoc, Nat.add_comm 1 n] using this

theorem getD_set_self (r : Bytes) (i : Nat) (x : UInt8) (h : i < r.length) : (r.set i x).getD i 0 = x := by
  simp [List.getD, h]

theorem getD_set_ne (r : Bytes) (i j : Nat) (x : UInt8) (h : i ≠ j) : (r.set i x).getD j 0 = r.getD j 0 := by
  simp [List.getD, List.getElem?_set_ne h]

theorem length_filterRow (t bpp : Nat) (prev row : Bytes) : (pngFilterRow t bpp prev row).length = row.length := by
  simp [pngFilterRow]

theorem wrap16_id {x : Int} (h : -32768 ≤ x ∧ x < 32768) : wrap16 x = x := by
  unfold wrap16; omega

/-- no intermediate value of `filter_paeth` leaves the `i16` range (they lie within [−510, 510]) -/
theorem paeth_range {ia ib ic : Int} (ha : 0 ≤ ia ∧ ia < 256) (hb : 0 ≤ ib ∧ ib < 256) (hc : 0 ≤ ic ∧ ic < 256) :
    ∀ x ∈ [ia + ib, ia + ib - ic, ia + ib - ic - ia, ia + ib - ic - ib, ia + ib - ic - ic,
      ((ia + ib - ic - ia).natAbs : Int), ((ia + ib - ic - ib).natAbs : Int), ((ia + ib - ic - ic).natAbs : Int)],
      -32768 ≤ x ∧ x < 32768 := by
  simp only [List.forall_mem_cons, List.not_mem_nil, false_imp_iff, implies_true, and_true]
  omega

theorem toNat_range (a : UInt8) : 0 ≤ (a.toNat : Int) ∧ (a.toNat : Int) < 256 := by have := a.toNat_lt; omega

/-- the `i16` computation of `filter_paeth` never leaves the `i16` range (every `wrap16` is the identity),
    hence equals the PNG specification's Paeth function over the integers -/
theorem filterPaeth_eq_spec (a b c : UInt8) : filterPaeth a b c = paethSpec a b c := by
  have h := paeth_range (toNat_range a) (toNat_range b) (toNat_range c)
  simp only [List.forall_mem_cons, List.not_mem_nil, false_imp_iff, implies_true, and_true] at h
  obtain ⟨h1, h2, h3, h4, h5, h6, h7, h8⟩ := h
  unfold filterPaeth paethSpec
  simp only [wrap16_id h1, wrap16_id h2, wrap16_id h3, wrap16_id h4, wrap16_id h5, wrap16_id h6, wrap16_id h7, wrap16_id h8,
    Int.ofNat_le]

/-- choosing among three candidates the one with the least `d`, ties in the order first, second, third
    (the selection rule of the Paeth predictor, for any distance) -/
def nearest3 {α : Type} (d : α → Nat) (a b c : α) : α :=
  if d a ≤ d b ∧ d a ≤ d c then a else if d b ≤ d c then b else c

theorem nearest3_min {α : Type} (d : α → Nat) (a b c : α) :
    (nearest3 d a b c = a ∨ nearest3 d a b c = b ∨ nearest3 d a b c = c) ∧
    d (nearest3 d a b c) ≤ d a ∧ d (nearest3 d a b c) ≤ d b ∧ d (nearest3 d a b c) ≤ d c := by
  unfold nearest3
  split
  · exact ⟨.inl rfl, by omega⟩
  · split
    · exact ⟨.inr (.inl rfl), by omega⟩
    · exact ⟨.inr (.inr rfl), by omega⟩

theorem nearest3_ties {α : Type} (d : α → Nat) (a b c : α) :
    (d a ≤ d b ∧ d a ≤ d c → nearest3 d a b c = a) ∧ (d b < d a ∧ d b ≤ d c → nearest3 d a b c = b) ∧
    (d c < d a ∧ d c < d b → nearest3 d a b c = c) ∧
    ((d a ≤ d b ∧ d a ≤ d c) ∨ (d b < d a ∧ d b ≤ d c) ∨ (d c < d a ∧ d c < d b)) := by
  unfold nearest3
  refine ⟨fun h => if_pos h, fun h => ?_, fun h => ?_, by omega⟩
  · rw [if_neg (by omega), if_pos h.2]
  · rw [if_neg (by omega), if_neg (by omega)]

theorem paethSpec_eq_nearest3 (a b c : UInt8) :
    paethSpec a b c = nearest3 (fun x : UInt8 => ((a.toNat : Int) + b.toNat - c.toNat - x.toNat).natAbs) a b c := rfl

theorem half_eq : ∀ b : UInt8, b / 2 = UInt8.ofNat ((0 + b.toNat) / 2) := by decide +kernel

/-- the invariant of every `unfilter` loop: the part of the output row that is already written is the
    original row -/
def RowInv (row : Bytes) (i : Nat) (o : Bytes) : Prop := o.length = row.length ∧ ∀ j < i, o.getD j 0 = row.getD j 0

theorem rowInv_step {row o : Bytes} {i : Nat} {v : UInt8} (hi : i < row.length) (h : RowInv row i o)
    (hv : v = row.getD i 0) : RowInv row (i + 1) (o.set i v) := by
  refine ⟨List.length_set.trans h.1, fun j hj => ?_⟩
  by_cases e : i = j
  · rw [← e, getD_set_self o i v (h.1 ▸ hi), hv]
  · rw [getD_set_ne o i j v e, h.2 j (by omega)]

theorem rowInv_done {row o : Bytes} (h : RowInv row row.length o) : o = row :=
  List.ext_getElem h.1 fun j h1 h2 => by simpa [List.getD, h1, h2] using h.2 j h2

/-- one loop of `unfilter`: position `i` receives the filtered byte plus a prediction; if that sum is the original byte
    whenever the positions before `i` are restored, the loop restores the positions `lo`, …, `lo + n - 1` -/
theorem rowInv_loop {row inp o : Bytes} (pred : Nat → Bytes → UInt8) {lo n : Nat} (h : RowInv row lo o)
    (hn : lo + n ≤ row.length)
    (hp : ∀ i o, lo ≤ i → i < lo + n → RowInv row i o → inp.getD i 0 + pred i o = row.getD i 0) :
    RowInv row (lo + n) (forFrom (fun i o => o.set i (inp.getD i 0 + pred i o)) lo n o) :=
  forFrom_inv (RowInv row) _ n lo o h fun i o hlo hhi hinv => rowInv_step (by omega) hinv (hp i o hlo hhi hinv)

/-- the filtered byte plus the prediction from the original neighbours is the original byte -/
theorem filterRow_add (t bpp : Nat) (prev row : Bytes) {i : Nat} (h : i < row.length) :
    (pngFilterRow t bpp prev row).getD i 0 + pngPredict t (if i < bpp then 0 else row.getD (i - bpp) 0) (prev.getD i 0)
      (if i < bpp then 0 else prev.getD (i - bpp) 0) = row.getD i 0 := by
  simp [pngFilterRow, List.getD, h]

/-- **`unfilter` inverts the PNG filter of the same type**, for every pixel distance `bpp` between 1 and
    the row length, whatever the output buffer held before -/
theorem unfilter_filter (t : PredictorType) (bpp : Nat) (prev row out0 : Bytes)
    (hb1 : 1 ≤ bpp) (hbl : bpp ≤ row.length) (hp : prev.length = row.length) (ho : out0.length = row.length) :
    unfilter t bpp prev (pngFilterRow (tagOf t) bpp prev row) out0 = .ok row := by
  have hlen := length_filterRow (tagOf t) bpp prev row
  have hstart : RowInv row 0 out0 := ⟨ho, nofun⟩
  have hrest : bpp + (row.length - bpp) ≤ row.length := by omega
  -- left of column `bpp` the left and upper-left neighbours count as 0, from there on they are restored already
  have hleft : ∀ {t i}, i < 0 + bpp → (pngFilterRow t bpp prev row).getD i 0 + pngPredict t 0 (prev.getD i 0) 0 = row.getD i 0 := by
    intro t i hi
    have := filterRow_add t bpp prev row (i := i) (by omega)
    rwa [if_pos (by omega), if_pos (by omega)] at this
  have hright : ∀ {t i o}, bpp ≤ i → i < bpp + (row.length - bpp) → RowInv row i o →
      (pngFilterRow t bpp prev row).getD i 0 + pngPredict t (o.getD (i - bpp) 0) (prev.getD i 0) (prev.getD (i - bpp) 0)
        = row.getD i 0 := by
    intro t i o hlo hhi hinv
    have := filterRow_add t bpp prev row (i := i) (by omega)
    rwa [if_neg (by omega), if_neg (by omega), ← hinv.2 (i - bpp) (by omega)] at this
  unfold unfilter
  simp only [hlen, ho, hp, ne_eq, not_true_eq_false, if_false, show ¬ (bpp > row.length) by omega]
  cases t <;> refine congrArg Out.ok ?_
  case noFilter =>
    apply List.ext_getElem (length_filterRow ..)
    intro i h1 h2
    have := filterRow_add 0 bpp prev row h2
    simp only [tagOf] at h1 ⊢
    simpa [pngPredict, List.getD, h1, h2] using this
  case sub =>
    have hstart : RowInv row bpp ((pngFilterRow 1 bpp prev row).take bpp ++ out0.drop bpp) := by
      refine ⟨by rw [List.length_append, List.length_take, List.length_drop, length_filterRow]; omega, fun j hj => ?_⟩
      rw [List.getD_eq_getElem?_getD, List.getElem?_append_left (by rw [List.length_take, length_filterRow]; omega),
        List.getElem?_take_of_lt hj, ← List.getD_eq_getElem?_getD]
      simpa [pngPredict] using hleft (t := 1) (i := j) (by omega)
    have := rowInv_loop (inp := pngFilterRow 1 bpp prev row) (fun i o => o.getD (i - bpp) 0) hstart hrest
      (fun i o hlo hhi hinv => hright (t := 1) hlo hhi hinv)
    rw [Nat.add_sub_cancel' hbl] at this
    exact rowInv_done this
  case up =>
    have := rowInv_loop (inp := pngFilterRow 2 bpp prev row) (fun i _ => prev.getD i 0) hstart (Nat.le_of_eq (Nat.zero_add _))
      (fun i o _ hhi _ => filterRow_add 2 bpp prev row (by omega))
    rw [Nat.zero_add] at this
    exact rowInv_done this
  case avg =>
    have h1 := rowInv_loop (inp := pngFilterRow 3 bpp prev row) (fun i _ => prev.getD i 0 / 2) (n := bpp) hstart (by omega)
      (fun i o _ hhi _ => by rw [half_eq]; exact hleft (t := 3) hhi)
    rw [Nat.zero_add] at h1
    have := rowInv_loop (inp := pngFilterRow 3 bpp prev row) (fun i o => avg2 (o.getD (i - bpp) 0) (prev.getD i 0)) h1 hrest
      (fun i o hlo hhi hinv => hright (t := 3) hlo hhi hinv)
    rw [Nat.add_sub_cancel' hbl] at this
    exact rowInv_done this
  case paeth =>
    have h1 := rowInv_loop (inp := pngFilterRow 4 bpp prev row) (fun i _ => filterPaeth 0 (prev.getD i 0) 0) (n := bpp) hstart (by omega)
      (fun i o _ hhi _ => by rw [filterPaeth_eq_spec]; exact hleft (t := 4) hhi)
    rw [Nat.zero_add] at h1
    have := rowInv_loop (inp := pngFilterRow 4 bpp prev row)
      (fun i o => filterPaeth (o.getD (i - bpp) 0) (prev.getD i 0) (prev.getD (i - bpp) 0)) h1 hrest
      (fun i o hlo hhi hinv => by rw [filterPaeth_eq_spec]; exact hright (t := 4) hlo hhi hinv)
    rw [Nat.add_sub_cancel' hbl] at this
    exact rowInv_done this

end Enc
