import PdfModel.Model.XrefStream
import PdfModel.Lemmas.Xref

/-!
  Totality of the cross-reference *stream* row reader `Model/XrefStream` (`read_u64_from_stream`,
  `parse_xref_section_from_stream`, the `/Index` loop) on arbitrary widths, counts and data (C01):
  the two panic sites of `read_u64_from_stream` (`data[0]`, `result += …`) are unreachable behind its two
  guards (`width ≤ 8`, `width ≤ data.len()`), every row consumes its width, and only `Free` / `Raw` / `Stream`
  entries come out. The same facts over `List Nat` data are `C14.xref_section_total` (Model/Numeric); this file
  proves them for the byte-level model that `Props/C02` reads sections back with, so that the open path is
  composed over ONE row reader.
-/

namespace Xref

theorem pow8_succ (i : Nat) : 2 ^ (8 * (i + 1)) = 256 * 2 ^ (8 * i) := by
  rw [Nat.mul_add, Nat.pow_add]; simp [Nat.mul_comm]

/-- the byte loop never reaches its panics when the bytes are there; invariant: with `i` bytes to go the accumulator
    leaves room for them, `acc + 2^(8 i) ≤ 2^64` -/
theorem readLoop_ok : ∀ (i : Nat) (data : List UInt8) (acc : Nat), i ≤ data.length → acc + 2 ^ (8 * i) ≤ U64 →
    ∃ v rest, readLoop i data acc = .ok (v, rest) ∧ rest.length + i = data.length := by
  intro i
  induction i with
  | zero => intro data acc _ _; exact ⟨acc, data, rfl, by simp⟩
  | succ i ih =>
    intro data acc hlen hacc
    cases data with
    | nil => simp at hlen
    | cons c rest =>
      simp only [readLoop]
      have hc : c.toNat ≤ 255 := by have := c.toNat_lt; omega
      have hp := pow8_succ i
      have hpos : 0 < 2 ^ (8 * i) := Nat.pow_pos (by decide)
      have hmul : c.toNat * 2 ^ (8 * i) ≤ 255 * 2 ^ (8 * i) := Nat.mul_le_mul_right _ hc
      have hv : ¬ (acc + c.toNat * 2 ^ (8 * i) ≥ U64) := by omega
      simp only [hv, if_false]
      obtain ⟨v, r, hr, hl⟩ := ih rest (acc + c.toNat * 2 ^ (8 * i)) (by simp at hlen; omega) (by omega)
      exact ⟨v, r, hr, by simp; omega⟩

/-- `read_u64_from_stream`: `Err`, or the value and the data behind the `width` bytes read -/
theorem readU64_spec (width : Nat) (data : List UInt8) :
    readU64 width data = .err ∨ ∃ v rest, readU64 width data = .ok (v, rest) ∧ rest.length + width = data.length := by
  unfold readU64
  by_cases h1 : width > 8
  · left; simp [h1]
  · by_cases h2 : width > data.length
    · left; simp [h1, h2]
    · right
      simp only [h1, h2, if_false]
      apply readLoop_ok width data 0 (by omega)
      have : 2 ^ (8 * width) ≤ 2 ^ 64 := Nat.pow_le_pow_right (by decide) (by omega)
      simpa [U64] using this

theorem entryOfFields_spec (ty f1 f2 : Nat) :
    entryOfFields ty f1 f2 = .err ∨ ∃ e, entryOfFields ty f1 f2 = .ok e ∧ isEntry e = true := by
  unfold entryOfFields
  split
  · exact Or.inr ⟨_, rfl, rfl⟩
  · exact Or.inr ⟨_, rfl, rfl⟩
  · exact Or.inr ⟨_, rfl, rfl⟩
  · exact Or.inl rfl

/-- one row: `Err`, or an entry a section reader may produce and the data behind the row -/
theorem readEntry_spec (w0 w1 w2 : Nat) (data : List UInt8) :
    readEntry w0 w1 w2 data = .err ∨
    ∃ e rest, readEntry w0 w1 w2 data = .ok (e, rest) ∧ isEntry e = true ∧ rest.length + (w0 + w1 + w2) = data.length := by
  unfold readEntry
  have h0 : (if w0 = 0 then Out.ok (1, data) else readU64 w0 data) = .err ∨
      ∃ ty d1, (if w0 = 0 then Out.ok (1, data) else readU64 w0 data) = .ok (ty, d1) ∧ d1.length + w0 = data.length := by
    by_cases hz : w0 = 0
    · right; exact ⟨1, data, by simp [hz], by omega⟩
    · simp only [hz, if_false]; exact readU64_spec w0 data
  rcases h0 with he | ⟨ty, d1, h1, l1⟩
  · left; simp only [he]
  · simp only [h1]
    rcases readU64_spec w1 d1 with he | ⟨f1, d2, h2, l2⟩
    · left; simp only [he]
    · simp only [h2]
      rcases readU64_spec w2 d2 with he | ⟨f2, d3, h3, l3⟩
      · left; simp only [he]
      · simp only [h3]
        rcases entryOfFields_spec ty f1 f2 with he | ⟨e, hE, hi⟩
        · left; simp only [he]
        · right; simp only [hE]; exact ⟨e, d3, rfl, hi, by omega⟩

theorem readEntries_spec (w0 w1 w2 : Nat) : ∀ (n : Nat) (data : List UInt8) (acc : List XRef),
    (∀ e ∈ acc, isEntry e = true) →
    readEntries w0 w1 w2 n data acc = .err ∨
    ∃ es rest, readEntries w0 w1 w2 n data acc = .ok (es, rest) ∧ (∀ e ∈ es, isEntry e = true) ∧
      rest.length ≤ data.length ∧ es.length = acc.length + n := by
  intro n
  induction n with
  | zero =>
    intro data acc hacc
    right; exact ⟨acc.reverse, data, rfl, fun e he => hacc e (by simpa using he), Nat.le_refl _, by simp⟩
  | succ n ih =>
    intro data acc hacc
    simp only [readEntries]
    rcases readEntry_spec w0 w1 w2 data with he | ⟨e, rest, hr, hi, hl⟩
    · left; simp only [he]
    · simp only [hr]
      exact (ih rest (e :: acc) (List.forall_mem_cons.2 ⟨hi, hacc⟩)).imp id
        fun ⟨es, r2, h2, i2, l2, n2⟩ => ⟨es, r2, h2, i2, by omega, by simp at n2; omega⟩

/-- `parse_xref_section_from_stream` for every `/W`, every count, every amount of data, strict and tolerant:
    `Err`, or a subsection of at most `data.len()` entries (memory in proportion to the decoded data) -/
theorem parseSection_spec (first n : Nat) (width : List Nat) (data : List UInt8) (allowErr : Bool) :
    parseSection first n width data allowErr = .err ∨
    ∃ s rest, parseSection first n width data allowErr = .ok (s, rest) ∧ (∀ e ∈ s.entries, isEntry e = true) ∧
      rest.length ≤ data.length ∧ s.entries.length ≤ data.length := by
  unfold parseSection
  split
  · rename_i w0 w1 w2
    simp only []
    by_cases h1 : w0 + w1 + w2 ≥ U64
    · left; simp [h1]
    by_cases h2 : w0 + w1 + w2 = 0
    · left; simp [h2]
    simp only [h1, h2, if_false]
    -- the number of rows actually read is at most `data.length / row ≤ data.length`; stated of a variable `c` so that
    -- the `if` can be split in a hypothesis instead of inside the `match` of the goal
    have hcnt : ∀ c : Out Nat, c = (if n > data.length / (w0 + w1 + w2) then
          if allowErr = true then Out.ok (data.length / (w0 + w1 + w2)) else .err else .ok n) →
        c = .err ∨ ∃ m, c = .ok m ∧ m ≤ data.length := by
      intro c hc
      have := Nat.div_le_self data.length (w0 + w1 + w2)
      split at hc
      · split at hc
        · exact .inr ⟨_, hc, this⟩
        · exact .inl hc
      · exact .inr ⟨n, hc, by omega⟩
    rcases hcnt _ rfl with e | ⟨m, e, hm⟩ <;> rw [e]
    · left; rfl
    rcases readEntries_spec w0 w1 w2 m data [] nofun with e | ⟨es, rest, e, hi, hl, hn⟩ <;> simp only [e]
    · left; trivial
    · exact .inr ⟨_, _, rfl, hi, hl, by simp at hn ⊢; omega⟩
  · left; rfl

/-- the `/Index` loop: `Err` or sections whose entries are `Free` / `Raw` / `Stream` -/
theorem parseSections_spec (width : List Nat) (allowErr : Bool) :
    ∀ (pairs : List (Nat × Nat)) (data : List UInt8) (acc : List Sub),
      (∀ s ∈ acc, ∀ e ∈ s.entries, isEntry e = true) →
      parseSections width allowErr pairs data acc = .err ∨
      ∃ secs, parseSections width allowErr pairs data acc = .ok secs ∧ ∀ s ∈ secs, ∀ e ∈ s.entries, isEntry e = true := by
  intro pairs
  induction pairs with
  | nil =>
    intro data acc hacc
    right; exact ⟨acc.reverse, rfl, fun s hs => hacc s (by simpa using hs)⟩
  | cons p more ih =>
    intro data acc hacc
    obtain ⟨first, n⟩ := p
    simp only [parseSections]
    rcases parseSection_spec first n width data allowErr with he | ⟨s, rest, hr, hi, _, _⟩
    · left; simp only [he]
    · simp only [hr]
      exact ih rest (s :: acc) (List.forall_mem_cons.2 ⟨hi, hacc⟩)

end Xref
