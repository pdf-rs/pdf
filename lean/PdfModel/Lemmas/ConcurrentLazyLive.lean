import PdfModel.Lemmas.ConcurrentLazy
import PdfModel.Lemmas.ConcurrentLive

/-! Progress for the once-cell layer: on documents with well-founded typed loads a state in which some thread is
not finished always has an enabled thread. A thread that wants a cell under initialisation waits for the
initialising thread, which is running its initialiser; a running thread only ever waits (inside a nested `get`)
for an in-process cache slot, whose owner is running too and waits for a reference of smaller rank. -/

namespace Conc
open Cache
variable {V E : Type}

/-- only the step that takes up the next call changes the list of calls, only the step that finds it empty ends the thread:
    an inner thread that has been handed a program is neither idle nor `done` until the program returns -/
theorem Step.busy {d : Doc V E} {cfg : Cfg} {i : Nat} {sh : Shared V E} {t : Thread V E} {x : Shared V E × Thread V E}
    (hx : Step d cfg i sh t x) :
    (x.2.ctl = .done → t.ctl = .start ∧ t.todo = []) ∧ (t.ctl ≠ .start → x.2.todo = t.todo) ∧
      (t.ctl = .start → t.todo = [] ∨ ∃ p, t.todo = p :: x.2.todo) := by
  have same : ∀ {x : Shared V E × Thread V E} {c : Ctl V E}, t.ctl = c → c ≠ .start → x.2.todo = t.todo → x.2.ctl ≠ .done →
      (x.2.ctl = .done → t.ctl = .start ∧ t.todo = []) ∧ (t.ctl ≠ .start → x.2.todo = t.todo) ∧
        (t.ctl = .start → t.todo = [] ∨ ∃ p, t.todo = p :: x.2.todo) :=
    fun hc hne h1 h2 => ⟨fun e => absurd e h2, fun _ => h1, fun e => absurd (hc ▸ e) hne⟩
  have kept : ∀ {slots : List (Nat × Slot V E)} {stack : List (Frame V E)} {x : Shared V E × Thread V E} {c : Ctl V E},
      t.ctl = c → c ≠ .start → Kept slots stack t.todo x →
      (x.2.ctl = .done → t.ctl = .start ∧ t.todo = []) ∧ (t.ctl ≠ .start → x.2.todo = t.todo) ∧
        (t.ctl = .start → t.todo = [] ∨ ∃ p, t.todo = p :: x.2.todo) :=
    fun hc hne h => same hc hne h.todo h.notDone
  cases hx with
  | finished hc htd => exact ⟨fun _ => ⟨hc, htd⟩, fun h => absurd hc h, fun _ => .inl htd⟩
  | call p ps hc htd =>
    have h := runTo_kept d cfg sh { t with todo := ps } p
    exact ⟨fun e => absurd e h.notDone, fun h => absurd hc h, fun _ => .inr ⟨p, htd.trans (h.todo ▸ rfl)⟩⟩
  | push T r k _ hc => exact same hc nofun rfl nofun
  | pushShared T r k _ hc => exact same hc nofun rfl nofun
  | poisoned T r k _ _ hc =>
    rcases hc with hc | ⟨res, hc⟩
    · exact same hc nofun rfl nofun
    · exact same hc nofun rfl nofun
  | wait T r k o hc => exact same hc nofun rfl nofun
  | logged T r k hc => exact same hc nofun rfl nofun
  | store res f rest hc => exact same hc nofun rfl nofun
  | popFail T r k res _ _ hc => exact same hc nofun rfl nofun
  | popSharedFail T r k res _ _ hc => exact same hc nofun rfl nofun
  | refused T r k hc => exact kept hc nofun (runTo_kept d cfg sh t _)
  | loaded r p hc => exact kept hc nofun (runTo_kept d cfg sh t p)
  | pop T r k res cs _ hc => exact kept hc nofun (runTo_kept d cfg sh { t with chain := cs } _)
  | popShared T r k res cs _ hc => exact kept hc nofun (runTo_kept d cfg _ t _)
  | hit T r k T' res hc =>
    rcases hc with hc | hc
    · exact kept hc nofun (afterLookup_kept d cfg sh t T r k T' res)
    · exact kept hc nofun (afterLookup_kept d cfg sh t T r k T' res)
  | claim T r k hc => exact kept hc nofun (startLoad_kept d cfg _ { t with stack := ⟨T, r, true, k⟩ :: t.stack } r _)
  | uncached T r k hc => exact kept hc nofun (startLoad_kept d cfg sh { t with stack := ⟨T, r, false, k⟩ :: t.stack } r _)

/-- a step of an inner thread that is inside a call leaves its list of calls alone and does not end it -/
theorem step_thread {d : Doc V E} {cfg : Cfg} {s s' : State V E} {i : Nat} {t : Thread V E}
    (hs : step d cfg s i = some s') (ht : s.threads[i]? = some t) (hc : t.ctl ≠ .start) :
    ∃ t', s'.threads[i]? = some t' ∧ t'.todo = t.todo ∧ t'.ctl ≠ .done := by
  obtain ⟨t0, sh', t', ht0, hst, rfl⟩ := step_inv hs
  cases ht.symm.trans ht0
  obtain ⟨h1, h2, _⟩ := (stepT_sound hst).busy
  exact ⟨t', by simp [(List.getElem?_eq_some_iff.mp ht).1], h2 hc, fun e => hc (h1 e).1⟩

/-- after the step that takes up the one program handed over, nothing is left to do and the thread is not `done` -/
theorem launch_thread {d : Doc V E} {cfg : Cfg} {s s' : State V E} {i : Nat} {p : Prog V E}
    (hl : launch d cfg s i p = some s') (hidle : innerIdle s i = true) :
    ∃ t', s'.threads[i]? = some t' ∧ t'.todo = [] ∧ t'.ctl ≠ .done := by
  obtain ⟨t, ht, hctl, _⟩ := innerIdle_iff.mp hidle
  obtain ⟨t0, ht0, hl⟩ := launch_inv hl
  cases ht.symm.trans ht0
  have hlt : i < s.threads.length := (List.getElem?_eq_some_iff.mp ht).1
  obtain ⟨t1, sh', t', ht1, hst, rfl⟩ := step_inv hl
  cases (List.getElem?_set_self hlt).symm.trans ht1
  obtain ⟨h1, _, h3⟩ := (stepT_sound hst).busy
  refine ⟨t', by simp [hlt], ?_, fun e => nomatch (h1 e).2⟩
  rcases h3 hctl with h | ⟨q, h⟩
  · cases h
  · exact ((List.cons.inj h).2).symm

theorem notIdle_ctl {s : State V E} {i : Nat} {t : Thread V E} (h : innerIdle s i = false) (ht : s.threads[i]? = some t)
    (htodo : t.todo = []) : t.ctl ≠ .start := by
  intro hc
  have : innerIdle s i = true := innerIdle_iff.mpr ⟨t, ht, hc, htodo⟩
  rw [h] at this
  cases this

theorem launch_ownWait {d : Doc V E} {cfg : Cfg} {s s' : State V E} {i : Nat} {p : Prog V E}
    (h : OwnInv s ∧ WaitInv s) (hl : launch d cfg s i p = some s') : OwnInv s' ∧ WaitInv s' := by
  obtain ⟨ho, hw⟩ := h
  obtain ⟨t, ht, hl⟩ := launch_inv hl
  refine step_ownWait ⟨fun r j hj => ?_, fun j u T r k hu hc => ?_⟩ hl
  · obtain ⟨u, hu, hf⟩ := ho r j hj
    by_cases e : j = i
    · subst e
      cases ht.symm.trans hu
      exact ⟨_, List.getElem?_set_self (List.getElem?_eq_some_iff.mp ht).1, hf⟩
    · exact ⟨u, (List.getElem?_set_ne (Ne.symm e)).trans hu, hf⟩
  · rcases set_get hu with ⟨rfl, rfl⟩ | ⟨_, hu⟩
    · exact hw j t T r k ht hc
    · exact hw j u T r k hu hc

theorem launch_length {d : Doc V E} {cfg : Cfg} {s s' : State V E} {i : Nat} {p : Prog V E} (hl : launch d cfg s i p = some s') :
    s'.threads.length = s.threads.length := by
  obtain ⟨t, _, hl⟩ := launch_inv hl
  rw [step_length hl]
  exact List.length_set

theorem Ctl.isFinal_eq_false {c : Ctl V E} (h1 : c ≠ .done) (h2 : c.isPanicked = false) : c.isFinal = false := by
  cases c <;> first | rfl | exact absurd rfl h1 | cases h2

theorem Link.running {css : List (List (Prog V E))} {inner : State V E} {j : Nat} {c : LCtl V E} (h : Link css inner j c)
    (hid : ¬ innerIdle inner j = true) : ∃ c' p, c = .running c' p := by
  cases c with
  | running c' p => exact ⟨c', p, rfl⟩
  | _ => exact absurd h hid

/-- the part of the state the progress argument needs -/
structure LLive (s : LState V E) : Prop where
  len : s.lthreads.length = s.inner.threads.length
  own : OwnInv s.inner
  wait : WaitInv s.inner
  cell : ∀ (c j : Nat), cellOf s.cells c = .loading j → ∃ lt, s.lthreads[j]? = some lt ∧ Claims lt.lctl c
  busy : ∀ (i : Nat) (lt : LThread V E) (c : Option Nat) (p : Prog V E), s.lthreads[i]? = some lt → lt.lctl = .running c p →
    ∃ t, s.inner.threads[i]? = some t ∧ t.todo = [] ∧ t.ctl ≠ .start ∧ t.ctl ≠ .done

theorem LLive.update {s : LState V E} (hl : LLive s) {i : Nat} {lt lt' : LThread V E} (hlt : s.lthreads[i]? = some lt)
    {inner' : State V E} {cells' : List (Nat × Cell V)} (hlen : inner'.threads.length = s.inner.threads.length)
    (hown : OwnInv inner') (hwait : WaitInv inner')
    (hcell : ∀ (c j : Nat), cellOf cells' c = .loading j → (j = i ∧ Claims lt'.lctl c) ∨ (j ≠ i ∧ cellOf s.cells c = .loading j))
    (hbo : ∀ (j : Nat), j ≠ i → inner'.threads[j]? = s.inner.threads[j]?)
    (hbm : ∀ c p, lt'.lctl = .running c p → ∃ t, inner'.threads[i]? = some t ∧ t.todo = [] ∧ t.ctl ≠ .start ∧ t.ctl ≠ .done) :
    LLive ⟨inner', cells', s.lthreads.set i lt'⟩ := by
  have hi : i < s.lthreads.length := (List.getElem?_eq_some_iff.mp hlt).1
  refine ⟨by simp [hl.len, hlen], hown, hwait, ?_, ?_⟩
  · intro c j hc
    rcases hcell c j hc with ⟨rfl, hcl⟩ | ⟨hj, hold⟩
    · exact ⟨lt', by simp [hi], hcl⟩
    · obtain ⟨ltj, hltj, hcl⟩ := hl.cell c j hold
      exact ⟨ltj, by simp [Ne.symm hj, hltj], hcl⟩
  · intro j ltj c p hj hc
    rcases set_get hj with ⟨rfl, rfl⟩ | ⟨e, hj⟩
    · exact hbm c p hc
    · rw [hbo j e]
      exact hl.busy j ltj c p hj hc

theorem LLive.cell_same {s : LState V E} (hl : LLive s) {i : Nat} {lt : LThread V E} (hlt : s.lthreads[i]? = some lt)
    {c' : LCtl V E} (hcl : ∀ c, Claims lt.lctl c → Claims c' c) :
    ∀ (c j : Nat), cellOf s.cells c = .loading j → (j = i ∧ Claims c' c) ∨ (j ≠ i ∧ cellOf s.cells c = .loading j) := by
  intro c j hc
  by_cases e : j = i
  · subst e
    obtain ⟨lt0, h0, hc0⟩ := hl.cell c j hc
    cases hlt.symm.trans h0
    exact .inl ⟨rfl, hcl c hc0⟩
  · exact .inr ⟨e, hc⟩

section LiveStep
variable {d : Doc V E} {filt : Nat → List Nat} {rank : Nat → Nat} {N : Nat} {init : Nat → Prog V E}

theorem lstep_LLive {lc : LCfg} (hr : lc.racy = false) {items0 : List (List (Item V E))} {s s' : LState V E} {i : Nat}
    (h : LInv d filt rank N init items0 s) (hl : LLive s) (hs : lstep d init lc s i = some s') : LLive s' := by
  obtain ⟨lt, hlt, hstep⟩ := lstep_sound hr hs
  obtain ⟨css, _, _, hL⟩ := h.inner
  have hlink := hL i lt hlt
  have hown := h.own i lt hlt
  -- the cells as they were, thread `i` claiming at least what it claimed
  have same : ∀ {c0 c1 : LCtl V E}, lt.lctl = c0 → (∀ c, Claims c0 c → Claims c1 c) → ∀ (c j : Nat), cellOf s.cells c = .loading j →
      (j = i ∧ Claims c1 c) ∨ (j ≠ i ∧ cellOf s.cells c = .loading j) :=
    fun h0 hcl => hl.cell_same hlt fun c hc => hcl c (h0 ▸ hc)
  -- a new entry for a cell thread `i` does not claim
  have fresh : ∀ {c0 c1 : LCtl V E} {c : Nat} (x : Cell V), lt.lctl = c0 →
      (∀ j, x = .loading j → j = i ∧ Claims c1 c) → (∀ c', c' ≠ c → ¬ Claims c0 c') →
      ∀ (c' j : Nat), cellOf ((c, x) :: s.cells) c' = .loading j →
        (j = i ∧ Claims c1 c') ∨ (j ≠ i ∧ cellOf s.cells c' = .loading j) := by
    intro c0 c1 c x h0 hx hno c' j hc'
    rw [cellOf_cons] at hc'
    split at hc'
    · next e => subst e; exact .inl (hx j hc')
    · next e =>
      by_cases ej : j = i
      · subst ej
        obtain ⟨lt0, h1, hc0⟩ := hl.cell c' j hc'
        cases hlt.symm.trans h1
        exact absurd (h0 ▸ hc0) (hno c' e)
      · exact .inr ⟨ej, hc'⟩
  cases hstep with
  | finish hc => exact hl.update hlt rfl hl.own hl.wait (same hc nofun) (fun _ _ => rfl) nofun
  | enter c rest hc => exact hl.update hlt rfl hl.own hl.wait (same hc nofun) (fun _ _ => rfl) nofun
  | peek c rest hc => exact hl.update hlt rfl hl.own hl.wait (same hc nofun) (fun _ _ => rfl) nofun
  | found c v hc => exact hl.update hlt rfl hl.own hl.wait (same hc nofun) (fun _ _ => rfl) nofun
  | panic c res hc hne => exact absurd (hown c (hc ▸ rfl)) hne
  | store c res hc hcell =>
    refine hl.update hlt rfl hl.own hl.wait (fresh (c1 := .idle) _ hc ?_ fun c' hne hcl => hne hcl) (fun _ _ => rfl)
      (by intro c p e; cases e)
    intro j e; cases res <;> cases e
  | call p rest inner' hc _ hla =>
    obtain ⟨ho', hw'⟩ := launch_ownWait ⟨hl.own, hl.wait⟩ hla
    obtain ⟨t', ht', htodo', hdone'⟩ := launch_thread hla (by rw [hc] at hlink; exact hlink)
    cases hid : innerIdle inner' i with
    | true =>
      rw [settle_idle _ _ _ _ _ _ hid]
      exact hl.update hlt (launch_length hla) ho' hw' (same hc nofun) (fun j hj => launch_other hla j hj) nofun
    | false =>
      rw [settle_busy _ _ _ _ _ _ hid]
      exact hl.update hlt (launch_length hla) ho' hw' (same hc nofun) (fun j hj => launch_other hla j hj)
        fun _ _ _ => ⟨t', ht', htodo', notIdle_ctl hid ht' htodo', hdone'⟩
  | claim c inner' hc hcell hla =>
    obtain ⟨ho', hw'⟩ := launch_ownWait ⟨hl.own, hl.wait⟩ hla
    obtain ⟨t', ht', htodo', hdone'⟩ := launch_thread hla (by rw [hc] at hlink; exact hlink)
    cases hid : innerIdle inner' i with
    | true =>
      rw [settle_idle _ _ _ _ _ _ hid]
      exact hl.update hlt (launch_length hla) ho' hw' (fresh _ hc (fun j e => ⟨(Cell.loading.inj e).symm, rfl⟩) fun _ _ => id)
        (fun j hj => launch_other hla j hj) nofun
    | false =>
      rw [settle_busy _ _ _ _ _ _ hid]
      exact hl.update hlt (launch_length hla) ho' hw' (fresh _ hc (fun j e => ⟨(Cell.loading.inj e).symm, rfl⟩) fun _ _ => id)
        (fun j hj => launch_other hla j hj) fun _ _ _ => ⟨t', ht', htodo', notIdle_ctl hid ht' htodo', hdone'⟩
  | run c p inner' hc hst =>
    obtain ⟨ho', hw'⟩ := step_ownWait ⟨hl.own, hl.wait⟩ hst
    obtain ⟨t, ht, htodo, hstart, _⟩ := hl.busy i _ c p hlt hc
    obtain ⟨t', ht', htodo', hdone'⟩ := step_thread hst ht hstart
    rw [htodo] at htodo'
    cases hid : innerIdle inner' i with
    | true =>
      rw [settle_idle _ _ _ _ _ _ hid]
      cases c with
      | some c => exact hl.update hlt (step_length hst) ho' hw' (same hc fun _ => id) (fun j hj => step_other hst j hj) nofun
      | none => exact hl.update hlt (step_length hst) ho' hw' (same hc nofun) (fun j hj => step_other hst j hj) nofun
    | false =>
      rw [settle_busy _ _ _ _ _ _ hid]
      exact hl.update hlt (step_length hst) ho' hw' (same hc fun _ => id) (fun j hj => step_other hst j hj)
        fun _ _ _ => ⟨t', ht', htodo', notIdle_ctl hid ht' htodo', hdone'⟩

theorem init_LLive (stm : List (Nat × Res V E)) (items : List (List (Item V E))) :
    LLive (LState.init ([] : List (Nat × Slot V E)) stm items) := by
  obtain ⟨ho, hw⟩ := init_ownWait stm (items.map fun _ => ([] : List (Prog V E)))
  refine ⟨by simp [LState.init, State.init], ho, hw, ?_, ?_⟩
  · intro c j hc
    simp [LState.init, cellOf] at hc
  · intro i lt c p hlt hc
    simp only [LState.init, List.getElem?_map, Option.map_eq_some_iff] at hlt
    obtain ⟨its, _, rfl⟩ := hlt
    cases hc

end LiveStep
section Enabled
variable (d : Doc V E) (init : Nat → Prog V E) (lc : LCfg)

theorem lstep_running {s : LState V E} {i : Nat} {lt : LThread V E} {c : Option Nat} {p : Prog V E}
    (hlt : s.lthreads[i]? = some lt) (hc : lt.lctl = .running c p) :
    lstep d init lc s i = (step d lc.cfg s.inner i).map fun inner' => settle s i lt c p inner' := by
  obtain ⟨ctl, items, past, out⟩ := lt
  simp only at hc
  subst hc
  unfold lstep
  simp only [hlt]

/-- why a thread that is not running a program cannot move: it is through, or the cell it wants is being initialised -/
theorem lstep_blocked (hr : lc.racy = false) {s : LState V E} {i : Nat} {lt : LThread V E} (hlt : s.lthreads[i]? = some lt)
    (hidle : innerIdle s.inner i = true) (h : lstep d init lc s i = none) :
    lt.lctl = .finished ∨ lt.lctl = .panicked ∨ ∃ c j, lt.lctl = .entering c ∧ cellOf s.cells c = .loading j := by
  have launches : ∀ p, launch d lc.cfg s.inner i p ≠ none := by
    intro p e
    obtain ⟨t, ht, hctl, _⟩ := innerIdle_iff.mp hidle
    have hlt : i < s.inner.threads.length := (List.getElem?_eq_some_iff.mp ht).1
    simp only [launch, ht] at e
    rw [step_of (s := ⟨s.inner.sh, s.inner.threads.set i { t with todo := [p] }⟩) (List.getElem?_set_self hlt),
      Option.map_eq_none_iff] at e
    obtain ⟨ctl, stack, chain, todo, out⟩ := t
    cases hctl
    cases e
  obtain ⟨ctl, items, past, out⟩ := lt
  unfold lstep at h
  simp only [hlt] at h
  cases ctl with
  | finished => exact .inl rfl
  | panicked => exact .inr (.inl rfl)
  | running c p =>
    obtain ⟨t, ht, hc, _⟩ := innerIdle_iff.mp hidle
    rw [Option.map_eq_none_iff, step_of ht, Option.map_eq_none_iff] at h
    have := (stepT_isSome_iff d lc.cfg i s.inner.sh t).mpr ⟨by rw [hc]; rfl, by rw [hc]; nofun, by rw [hc]; nofun⟩
    rw [h] at this; cases this
  | idle =>
    cases items with
    | nil => cases h
    | cons it rest =>
      cases it with
      | call p => exact absurd (Option.map_eq_none_iff.mp h) (launches p)
      | lazy c => cases h
      | peek c => cases h
  | storing c res =>
    simp only [hr, Bool.false_eq_true, reduceIte] at h
    split at h
    · split at h
      · cases res <;> cases h
      · cases h
    · cases h
  | entering c =>
    simp only at h
    cases hcell : cellOf s.cells c with
    | loading j => exact .inr (.inr ⟨c, j, rfl, hcell⟩)
    | full v => simp [hcell] at h
    | empty =>
      simp only [hcell] at h
      exact absurd (Option.map_eq_none_iff.mp h) (launches _)

end Enabled

section Progress
variable {d : Doc V E} {filt : Nat → List Nat} {rank : Nat → Nat} {N : Nat} {init : Nat → Prog V E}

/-- **No deadlock in the once-cell layer** (from the invariants). -/
theorem LInv.not_deadlocked {lc : LCfg} (hr : lc.racy = false)
    {items0 : List (List (Item V E))} {s : LState V E}
    (h : LInv d filt rank N init items0 s) (hl : LLive s) : s.deadlocked d init lc = false := by
  obtain ⟨css, hG, _, hL⟩ := h.inner
  cases hdl : s.deadlocked d init lc with
  | false => rfl
  | true =>
    exfalso
    simp only [LState.deadlocked, Bool.and_eq_true, Bool.not_eq_true', List.all_eq_true, List.mem_range] at hdl
    obtain ⟨hnd, hnone⟩ := hdl
    have blocked : ∀ (i : Nat) (lt : LThread V E), s.lthreads[i]? = some lt → lstep d init lc s i = none := by
      intro i lt hlt
      simpa [LState.enabled] using hnone i (List.getElem?_eq_some_iff.mp hlt).1
    have runBlocked : ∀ (i : Nat) (lt : LThread V E) (c : Option Nat) (p : Prog V E), s.lthreads[i]? = some lt →
        lt.lctl = .running c p → step d lc.cfg s.inner i = none := by
      intro i lt c p hlt hc
      simpa [lstep_running d init lc hlt hc] using blocked i lt hlt
    -- an inner thread in the middle of a load belongs to a running thread, which is blocked: `GInv.not_stuck`
    have noRun : ∀ (i : Nat) (lt : LThread V E) (c : Option Nat) (p : Prog V E), s.lthreads[i]? = some lt →
        lt.lctl = .running c p → False := by
      intro i lt c p hlt hc
      obtain ⟨t, ht, _, _, hdone⟩ := hl.busy i lt c p hlt hc
      obtain ⟨_, _, hch, _⟩ := hG.thread ht
      refine hG.not_stuck hl.own hl.wait ?_ ht (Ctl.isFinal_eq_false hdone hch.2) (runBlocked i lt c p hlt hc)
      intro j u hu hne
      have hj : j < s.lthreads.length := hl.len ▸ (List.getElem?_eq_some_iff.mp hu).1
      obtain ⟨_, _, _, hT⟩ := hG.thread hu
      obtain ⟨c2, p2, hc2⟩ := (hL j _ (List.getElem?_eq_getElem hj)).running fun hid => by
        obtain ⟨u', hu', hcu', _⟩ := innerIdle_iff.mp hid
        cases hu.symm.trans hu'
        exact hne (hT.stack_nil (by rw [hcu']; rfl))
      exact runBlocked j _ c2 p2 (List.getElem?_eq_getElem hj) hc2
    -- an unfinished thread exists
    simp [LState.allDone] at hnd
    obtain ⟨lt, hmem, hnf⟩ := hnd
    obtain ⟨i, hi, rfl⟩ := List.getElem_of_mem hmem
    have hlt : s.lthreads[i]? = some s.lthreads[i] := List.getElem?_eq_getElem hi
    -- a thread that is not running a program: through, or kept out of a cell
    have why : ∀ (j : Nat) (lt : LThread V E), s.lthreads[j]? = some lt → (∀ c p, lt.lctl = .running c p → False) →
        lt.lctl = .finished ∨ lt.lctl = .panicked ∨ ∃ c j', lt.lctl = .entering c ∧ cellOf s.cells c = .loading j' :=
      fun j lt hltj hnr => lstep_blocked d init lc hr hltj
        (Classical.byContradiction fun hid => let ⟨c, p, hc⟩ := (hL j lt hltj).running hid; hnr c p hc) (blocked j lt hltj)
    rcases why i _ hlt (fun c p hc => noRun i _ c p hlt hc) with hc | hc | ⟨c, j, _, hcell⟩
    · rw [hc] at hnf; cases hnf
    · rw [hc] at hnf; cases hnf
    · obtain ⟨ltj, hltj, hclaim⟩ := hl.cell c j hcell
      -- the claimer `j` is not running, so it is through or entering: neither claims a cell
      rcases why j ltj hltj (fun c p hc => noRun j ltj c p hltj hc) with hc | hc | ⟨_, _, hc, _⟩
      · rw [hc] at hclaim; exact hclaim
      · rw [hc] at hclaim; exact hclaim
      · rw [hc] at hclaim; exact hclaim

theorem reachable_LInv_LLive (wf : WF d filt rank) (hD : N ≤ maxNestedGets) {lc : LCfg}
    (hg : lc.cfg.sharedGuard = false) (hr : lc.racy = false)
    (hinit : ∀ c, Fine filt (fun r' => rank r' < N) (init c))
    {items0 : List (List (Item V E))} {s0 s : LState V E}
    (h0 : LInv d filt rank N init items0 s0) (hl0 : LLive s0) (hreach : LReachable d init lc s0 s) :
    LInv d filt rank N init items0 s ∧ LLive s := by
  induction hreach with
  | init => exact ⟨h0, hl0⟩
  | step i _ hs ih => exact ⟨lstep_LInv wf hD hg hr hinit ih.1 hs, lstep_LLive hr ih.1 ih.2 hs⟩

end Progress
end Conc
