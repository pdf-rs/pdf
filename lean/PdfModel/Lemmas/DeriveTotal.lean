import PdfModel.Model.DeriveTower
import PdfModel.Lemmas.DeriveLaw

/-!
  Totality of the derived reader (`Model/Derive`: the interpreter of `#[derive(Object)]` over a `Schema`) — C01.

  The model has no panic outcome at all (none of the modelled Rust functions indexes, unwraps, asserts or
  computes); what it has is `Err.oof`, the answer "outside the model / out of budget". `Clean r` says that an
  outcome is a value or an error that does not contain `oof` (errors are wrapped on the way up: `Try`, `Shared`,
  `FromPrimitive`). This file proves that the container impls (`Option`, `Vec`, `HashMap`, pairs, `Box`, `MaybeRef`,
  `RcRef`, `Ref`, `Lazy`) and the derived struct / enum readers are `Clean` whenever the readers of the shapes they
  are built over are — "given leaf readers that do" — for EVERY schema, every input primitive and both option sets.

  About the environment (`EnvOk`): a HYPOTHESIS of every theorem here — `Resolve::resolve` returns a value or a clean
  error and never hands back a reference. (The repaired `resolve_flags` follows a stored reference itself; on the
  object-graph model `TypedLoad.resolve`, a different model from `Derive.Env`, that is `C14.resolve_total` and
  `C14.fromPrim_total`.) So the self-recursive readers (`Dictionary`, `Vec`, `HashMap`) recurse at most once. Input primitives come from the
  parser: they contain no `created` marker (that is the writer's notation for a fresh object).
-/

namespace Derive

/-- a value, or an error that is an answer of the implementation -/
def Clean {α : Type} (r : R α) : Prop := ∀ e, r = .error e → e.hasOof = false

theorem clean_ok {α : Type} (a : α) : Clean (Except.ok a : R α) := by
  intro e h; cases h

theorem clean_err {α : Type} (e : Err) (h : e.hasOof = false) : Clean (Except.error e : R α) := by
  intro e' h'; cases h'; exact h

theorem clean_ite {α : Type} {c : Prop} [Decidable c] {a b : R α} (ha : c → Clean a) (hb : ¬ c → Clean b) :
    Clean (if c then a else b) := by
  split
  · exact ha ‹_›
  · exact hb ‹_›

/-- every answer of `r`: an error with `E`, or a value with `Q` -/
def Sat {α : Type} (Q : α → Prop) (E : Err → Prop) (r : R α) : Prop :=
  (∀ e, r = .error e → E e) ∧ ∀ a, r = .ok a → Q a

/-- a value with `Q`, or an error that is an answer of the implementation -/
abbrev Reads {α : Type} (Q : α → Prop) (r : R α) : Prop := Sat Q (·.hasOof = false) r

theorem Sat.ok {α : Type} {Q : α → Prop} {E : Err → Prop} {a : α} (h : Q a) : Sat Q E (.ok a) :=
  ⟨nofun, fun _ h' => by cases h'; exact h⟩

theorem Sat.err {α : Type} {Q : α → Prop} {E : Err → Prop} {e : Err} (h : E e) : Sat Q E (.error e : R α) :=
  ⟨fun _ h' => by cases h'; exact h, nofun⟩

/-- reasoning by a specification: what holds of every value with `Q` and every error with `E` holds of `r` -/
@[elab_as_elim]
theorem Sat.elim {α : Type} {Q : α → Prop} {E : Err → Prop} {motive : R α → Prop} {r : R α} (h : Sat Q E r)
    (ok : ∀ a, Q a → motive (.ok a)) (err : ∀ e, E e → motive (.error e)) : motive r := by
  cases r with
  | ok a => exact ok a (h.2 a rfl)
  | error e => exact err e (h.1 e rfl)

@[elab_as_elim]
theorem Clean.elim {α : Type} {motive : R α → Prop} {r : R α} (h : Clean r)
    (ok : ∀ a, motive (.ok a)) (err : ∀ e, e.hasOof = false → motive (.error e)) : motive r :=
  Sat.elim (Q := fun _ => True) ⟨h, fun _ _ => trivial⟩ (fun a _ => ok a) err

theorem Sat.ite {α : Type} {Q : α → Prop} {E : Err → Prop} {c : Prop} [Decidable c] {a b : R α}
    (ha : c → Sat Q E a) (hb : ¬ c → Sat Q E b) : Sat Q E (if c then a else b) := by
  split
  · exact ha ‹_›
  · exact hb ‹_›

mutual
/-- no `created` marker anywhere: a primitive as the parser / resolver delivers it -/
def Prim.plain : Prim → Bool
  | .arr xs => plainList xs
  | .dict kvs => plainKV kvs
  | .created _ => false
  | .null => true
  | .int _ => true
  | .real _ => true
  | .bool _ => true
  | .str _ => true
  | .name _ => true
  | .ref _ _ => true
def plainList : List Prim → Bool
  | [] => true
  | x :: xs => x.plain && plainList xs
def plainKV : List (String × Prim) → Bool
  | [] => true
  | kv :: r => kv.2.plain && plainKV r
end

theorem plainList_mem {xs : List Prim} (h : plainList xs = true) : ∀ x ∈ xs, x.plain = true := by
  induction xs with
  | nil => intro x hx; cases hx
  | cons y ys ih =>
    simp only [plainList, Bool.and_eq_true] at h
    intro x hx
    rcases List.mem_cons.1 hx with rfl | hx
    · exact h.1
    · exact ih h.2 x hx

theorem plainKV_mem {kvs : List (String × Prim)} (h : plainKV kvs = true) : ∀ kv ∈ kvs, kv.2.plain = true := by
  induction kvs with
  | nil => intro x hx; cases hx
  | cons y ys ih =>
    simp only [plainKV, Bool.and_eq_true] at h
    intro x hx
    rcases List.mem_cons.1 hx with rfl | hx
    · exact h.1
    · exact ih h.2 x hx

theorem dget_plain {d : Dict} (h : plainKV d = true) (k : String) (v : Prim) (hv : dget k d = some v) : v.plain = true := by
  induction d with
  | nil => simp [dget] at hv
  | cons kv t ih =>
    obtain ⟨k', v'⟩ := kv
    simp only [plainKV, Bool.and_eq_true] at h
    simp only [dget] at hv
    split at hv
    · cases hv; exact h.1
    · exact ih h.2 hv

theorem derase_plain {d : Dict} (h : plainKV d = true) (k : String) : plainKV (derase k d) = true := by
  induction d with
  | nil => rfl
  | cons kv t ih =>
    obtain ⟨k', v'⟩ := kv
    simp only [plainKV, Bool.and_eq_true] at h
    simp only [derase]
    split
    · exact ih h.2
    · simp only [plainKV, Bool.and_eq_true]; exact ⟨h.1, ih h.2⟩

/-- the resolver: values or clean errors, never a reference, never a `created` marker; the bound on reference
    chains is at least one -/
structure EnvOk (env : Env) : Prop where
  clean : ∀ id, Clean (env.resolve id)
  value : ∀ id q, env.resolve id = .ok q → q.isRef = false ∧ q.plain = true
  depth : 1 ≤ env.depth

theorem EnvOk.resolve_spec {env : Env} (he : EnvOk env) (id : Nat) :
    Reads (fun q => q.isRef = false ∧ q.plain = true) (env.resolve id) :=
  ⟨he.clean id, he.value id⟩

theorem resolveP_spec {env : Env} (he : EnvOk env) (p : Prim) (hp : p.plain = true) :
    Reads (fun q => q.plain = true ∧ (p.isRef = true → q.isRef = false)) (resolveP env p) := by
  cases p with
  | ref id gen => exact ⟨he.clean id, fun q hq => ⟨(he.value id q hq).2, fun _ => (he.value id q hq).1⟩⟩
  | created q => simp [Prim.plain] at hp
  | _ => exact .ok ⟨hp, nofun⟩

theorem resolve1_spec {env : Env} (he : EnvOk env) (p : Prim) (hp : p.plain = true) :
    Reads (fun q => q.plain = true ∧ (p.isRef = true → q.isRef = false)) (resolve1 env p) :=
  resolveP_spec he p hp

/-- following references ends after one step -/
theorem chase_spec {env : Env} (he : EnvOk env) (p : Prim) (hp : p.plain = true) :
    Reads (fun q => q.plain = true ∧ q.isRef = false) (chase env env.depth p) := by
  obtain ⟨n, hn⟩ : ∃ n, env.depth = n + 1 := ⟨env.depth - 1, by have := he.depth; omega⟩
  rw [hn]
  by_cases hr : p.isRef = true
  · simp only [chase, hr, if_true]
    refine (resolveP_spec he p hp).elim (fun q hq => ?_) fun e he => .err he
    simp only []
    rw [chase_nonref env n (hq.2 hr)]
    exact .ok ⟨hq.1, hq.2 hr⟩
  · have hr' : p.isRef = false := by simpa using hr
    rw [chase_nonref env (n + 1) hr']
    exact .ok ⟨hp, hr'⟩

/-- `Vec` and `HashMap` follow references only when handed one -/
theorem chaseIfRef_spec {env : Env} (he : EnvOk env) (p : Prim) (hp : p.plain = true) :
    Reads (·.plain = true) (if p.isRef then chase env env.depth p else .ok p) :=
  .ite (fun _ => ⟨(chase_spec he p hp).1, fun q hq => ((chase_spec he p hp).2 q hq).1⟩) fun _ => .ok hp

theorem mapR_clean {α β : Type} (f : α → R β) (xs : List α) (h : ∀ x ∈ xs, Clean (f x)) : Clean (mapR f xs) := by
  fun_induction mapR f xs with
  | case1 => exact clean_ok _
  | case2 x xs e hx => exact clean_err e (h x (by simp) e hx)
  | case3 x xs y hx e hm ih => exact clean_err e (ih (fun z hz => h z (by simp [hz])) e hm)
  | case4 => exact clean_ok _

theorem mapKV_clean {α β : Type} (f : α → R β) (xs : List (String × α)) (h : ∀ x ∈ xs, Clean (f x.2)) :
    Clean (mapKV f xs) := by
  fun_induction mapKV f xs with
  | case1 => exact clean_ok _
  | case2 k x xs e hx => exact clean_err e (h (k, x) (by simp) e hx)
  | case3 k x xs y hx e hm ih => exact clean_err e (ih (fun z hz => h z (by simp [hz])) e hm)
  | case4 => exact clean_ok _

/-- the non-container shapes below the container impls all satisfy `P` -/
def ShapeAll (P : Shape → Prop) : Shape → Prop
  | .option a => ShapeAll P a
  | .vec a => ShapeAll P a
  | .hashMap a => ShapeAll P a
  | .box a => ShapeAll P a
  | .maybeRef a => ShapeAll P a
  | .rcRef a => ShapeAll P a
  | .ref _ => True
  | .lazy _ => True
  | .pair a b => ShapeAll P a ∧ ShapeAll P b
  | s => P s

theorem ShapeAll.of_forall {P : Shape → Prop} (h : ∀ s, P s) : ∀ s, ShapeAll P s := by
  intro s
  induction s with
  | pair a b iha ihb => exact ⟨iha, ihb⟩
  | option a ih | vec a ih | hashMap a ih | box a ih | maybeRef a ih | rcRef a ih => exact ih
  | ref a _ | lazy a _ => trivial
  | leaf n | leafApp n a _ | model n | modelApp n a _ | param n => exact h _

/-- the reader `sem` gives to a non-container shape is clean on plain input -/
def RdClean (sem : Sem) (env : Env) (s : Shape) : Prop := ∀ p, p.plain = true → Clean (sem.rd env s p)

theorem getTyped_clean {env : Env} (he : EnvOk env) (rdT : Prim → R Val) (hrd : ∀ q, q.plain = true → Clean (rdT q))
    (r : Prim) (hr : r.plain = true) : Clean (getTyped env rdT r) := by
  unfold getTyped
  refine (resolveP_spec he r hr).elim (fun q hq => ?_) fun e he => clean_err _ he
  simp only []
  exact (hrd q hq.1).elim (fun _ => clean_ok _) fun e he => clean_err _ he

/-- **the container impls of `object/mod.rs` add no partiality**: clean readers below, clean reader above —
    strict and tolerant, repaired and pinned `Option` reader alike -/
theorem readShape_clean (cfg : Cfg) (sem : Sem) {env : Env} (he : EnvOk env) :
    ∀ (s : Shape), ShapeAll (RdClean sem env) s → ∀ p, p.plain = true → Clean (readShape cfg sem env s p) := by
  intro s
  induction s with
  | option a ih =>
    intro hs p hp
    by_cases hnull : p = .null
    · subst hnull; exact clean_ok _
    rw [readShape]
    · refine (ih hs p hp).elim (fun _ => clean_ok _) fun e he => ?_
      exact clean_ite (fun _ => clean_ok _) fun _ => clean_ite (fun _ => clean_ok _) fun _ => clean_err e he
    · exact hnull
  | vec a ih =>
    intro hs p hp
    simp only [readShape]
    refine (chaseIfRef_spec he p hp).elim (fun q hq => ?_) clean_err
    cases q with
    | arr xs =>
      simp only []
      exact (mapR_clean (fun x => readShape cfg sem env a x) xs fun x hx =>
        ih hs x (plainList_mem (by simpa [Prim.plain] using hq) x hx)).elim (fun _ => clean_ok _) clean_err
    | null => exact clean_ok _
    | _ => simp only []; exact (ih hs _ hq).elim (fun _ => clean_ok _) clean_err
  | hashMap a ih =>
    intro hs p hp
    simp only [readShape]
    refine (chaseIfRef_spec he p hp).elim (fun q hq => ?_) clean_err
    cases q with
    | dict kvs =>
      simp only []
      exact (mapKV_clean (fun x => readShape cfg sem env a x) kvs fun x hx =>
        ih hs x.2 (plainKV_mem (by simpa [Prim.plain] using hq) x hx)).elim (fun _ => clean_ok _) clean_err
    | null => exact clean_ok _
    | _ => exact clean_err _ rfl
  | pair a b iha ihb =>
    intro hs p hp
    simp only [readShape, resolve1]
    refine (resolveP_spec he p hp).elim (fun q hq => ?_) clean_err
    split
    · rename_i heq; cases heq
    · rename_i x y heq
      cases heq
      have hxy : x.plain = true ∧ y.plain = true := by
        simpa only [Prim.plain, plainList, Bool.and_eq_true, Bool.and_true] using hq.1
      refine (iha hs.1 x hxy.1).elim (fun _ => ?_) clean_err
      exact (ihb hs.2 y hxy.2).elim (fun _ => clean_ok _) clean_err
    · exact clean_err _ rfl
  | box a ih => intro hs p hp; simp only [readShape]; exact ih hs p hp
  | maybeRef a ih =>
    intro hs p hp
    simp only [readShape]
    refine clean_ite (fun _ => ?_) fun _ => (ih hs p hp).elim (fun _ => clean_ok _) clean_err
    exact (getTyped_clean he _ (fun q hq => ih hs q hq) p hp).elim (fun _ => clean_ok _) clean_err
  | rcRef a ih =>
    intro hs p hp
    simp only [readShape]
    refine clean_ite (fun _ => ?_) fun _ => clean_err _ rfl
    exact (getTyped_clean he _ (fun q hq => ih hs q hq) p hp).elim (fun _ => clean_ok _) clean_err
  | ref a _ => intro _ p _; simp only [readShape]; exact clean_ite (fun _ => clean_ok _) fun _ => clean_err _ rfl
  | lazy a _ => intro _ p _; simp only [readShape]; exact clean_ok _
  | leaf n | leafApp n a _ | model n | modelApp n a _ | param n => intro hs p hp; simp only [readShape]; exact hs p hp

/-! ### the derived struct reader -/

theorem expect_clean (d : Dict) (k v : String) (req : Bool) : Clean (expect d k v req) := by
  unfold expect
  split
  · split
    · exact clean_ok _
    · exact clean_err _ rfl
  · exact clean_err _ rfl
  · split
    · exact clean_err _ rfl
    · exact clean_ok _

theorem expectAll_clean (d : Dict) (cs : List (String × String)) : Clean (expectAll d cs) := by
  induction cs with
  | nil => exact clean_ok _
  | cons c cs ih =>
    obtain ⟨k, v⟩ := c
    simp only [expectAll]
    exact (expect_clean d k v true).elim (fun _ => ih) clean_err

theorem asDict_spec {env : Env} (he : EnvOk env) (p : Prim) (hp : p.plain = true) :
    Reads (plainKV · = true) (asDict env p) := by
  unfold asDict
  refine (chase_spec he p hp).elim (fun q hq => ?_) fun e he => .err he
  cases q with
  | dict kvs => exact .ok (by simpa [Prim.plain] using hq.1)
  | _ => exact .err rfl

/-- what reading one field needs: its shape is covered and its default (if any) evaluates, on the values read so far -/
structure FieldOk (sem : Sem) (env : Env) (f : Field) (acc : List Val) : Prop where
  shape : ShapeAll (RdClean sem env) f.shape
  dflt : ∀ dx, f.default = some dx → Clean (sem.dflt dx acc)

theorem readField_clean (cfg : Cfg) (sem : Sem) {env : Env} (he : EnvOk env) (f : Field) (acc : List Val)
    (hf : FieldOk sem env f acc) (entry : Option Prim) (hent : ∀ p, entry = some p → p.plain = true) :
    Clean (readField cfg sem env f acc entry) := by
  have hsh := readShape_clean cfg sem he f.shape hf.shape
  have habs : Clean (readAbsent cfg sem env f) := by
    unfold readAbsent
    exact (hsh .null rfl).elim (fun _ => clean_ok _) fun _ _ => clean_err _ rfl
  unfold readField
  cases hd : f.default with
  | some dx =>
    have hdx := hf.dflt dx hd
    simp only []
    unfold readDefaulted
    cases entry with
    | none => exact hdx
    | some p =>
      refine clean_ite (fun _ => hdx) fun _ => (hsh p (hent p rfl)).elim (fun _ => clean_ok _) fun e he => ?_
      exact clean_ite (fun _ => hdx) fun _ => clean_err _ he
  | none =>
    simp only []
    unfold readPlain
    cases entry with
    | none => exact habs
    | some p =>
      simp only []
      refine (hsh p (hent p rfl)).elim (fun _ => clean_ok _) fun e he => ?_
      exact clean_ite (fun _ => habs) fun _ => clean_err _ he

/-- number of keyed fields in front of position `pre.length` -/
def keyedBefore (pre : List Field) : Nat := (pre.filter fun g => !g.skip && !g.other).length

theorem keyedBefore_cons (f : Field) (pre : List Field) :
    keyedBefore (f :: pre) = keyedBefore pre + if (!f.skip && !f.other) = true then 1 else 0 := by
  unfold keyedBefore
  rw [List.filter_cons]
  split <;> rfl

/-- the fields in declaration order; `acc` grows by one value per keyed field -/
theorem readFields_clean (cfg : Cfg) (sem : Sem) {env : Env} (he : EnvOk env) :
    ∀ (fs : List Field) (d : Dict) (acc : List Val) (oth : Option Dict), plainKV d = true →
      (∀ (pre post : List Field) (f : Field), fs = pre ++ f :: post → f.skip = false → f.other = false →
          ∀ acc', acc'.length = acc.length + keyedBefore pre → FieldOk sem env f acc') →
      Clean (readFields cfg sem env fs d acc oth) := by
  intro fs
  induction fs with
  | nil => intro d acc oth _ _; exact clean_ok _
  | cons f fs ih =>
    intro d acc oth hd hok
    -- past `f`, the fields that remain see one more value if `f` is keyed
    have tail : ∀ acc2 : List Val, acc2.length = acc.length + (if (!f.skip && !f.other) = true then 1 else 0) →
        ∀ (pre post : List Field) (g : Field), fs = pre ++ g :: post → g.skip = false → g.other = false →
          ∀ acc', acc'.length = acc2.length + keyedBefore pre → FieldOk sem env g acc' :=
      fun acc2 hl pre post g hfs hgs hgo acc' hacc' =>
        hok (f :: pre) post g (by rw [hfs]; rfl) hgs hgo acc' (by rw [keyedBefore_cons]; omega)
    simp only [readFields]
    by_cases hs : f.skip = true
    · rw [if_pos hs]; exact ih d acc oth hd (tail acc (by simp [hs]))
    rw [if_neg hs]
    by_cases ho : f.other = true
    · rw [if_pos ho]; exact ih d acc (some d) hd (tail acc (by simp [ho]))
    rw [if_neg ho]
    have hs' : f.skip = false := by simpa using hs
    have ho' : f.other = false := by simpa using ho
    refine (readField_clean cfg sem he f acc (hok [] fs f rfl hs' ho' acc rfl) _ fun p hp => dget_plain hd _ p hp).elim
      (fun v => ?_) clean_err
    exact ih _ (acc ++ [v]) oth (derase_plain hd _) (tail _ (by simp [hs', ho']))

/-- every keyed field of `S` is covered, with `acc` as long as the keyed fields in front of it -/
def SchemaOk (sem : Sem) (env : Env) (S : Schema) : Prop :=
  ∀ (pre post : List Field) (f : Field), S.fields = pre ++ f :: post → f.skip = false → f.other = false →
    ∀ acc, acc.length = keyedBefore pre → FieldOk sem env f acc

/-- **`derived_reader_total`, struct level** (`FromDict::from_dict` / `Object::from_primitive` as derived): for every
    schema whose field shapes have clean readers and whose defaults evaluate, every input, both option sets -/
theorem readStructD_clean (cfg : Cfg) (sem : Sem) {env : Env} (he : EnvOk env) (S : Schema) (hS : SchemaOk sem env S)
    (d : Dict) (hd : plainKV d = true) : Clean (readStructD cfg sem env S d) := by
  unfold readStructD
  split
  · rename_i e heq
    refine clean_err e ?_
    split at heq
    · exact expect_clean _ _ _ _ e heq
    · cases heq
  · refine (expectAll_clean d S.checks).elim (fun _ => ?_) clean_err
    exact (readFields_clean cfg sem he S.fields d [] none hd fun pre post f hf hs ho acc' hl =>
      hS pre post f hf hs ho acc' (by simpa using hl)).elim (fun _ => clean_ok _) clean_err

theorem readStruct_clean (cfg : Cfg) (sem : Sem) {env : Env} (he : EnvOk env) (S : Schema) (hS : SchemaOk sem env S)
    (p : Prim) (hp : p.plain = true) : Clean (readStruct cfg sem env S p) := by
  unfold readStruct
  exact (asDict_spec he p hp).elim (fun d hd => readStructD_clean cfg sem he S hS d hd) clean_err

theorem readEnum_clean {env : Env} (he : EnvOk env) (S : Schema) (p : Prim) (hp : p.plain = true) :
    Clean (readEnum env S p) := by
  unfold readEnum resolve1
  refine (resolveP_spec he p hp).elim (fun q _ => ?_) clean_err
  simp only []
  unfold readEnumPrim
  split
  · split
    · split
      · exact clean_ok _
      · exact clean_err _ rfl
    · exact clean_err _ rfl
  · split
    · split
      · exact clean_ok _
      · exact clean_ite (fun _ => clean_ok _) fun _ => clean_err _ rfl
    · exact clean_err _ rfl

end Derive
