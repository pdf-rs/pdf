import PdfModel.Lemmas.ParserBasics

/-! What the parser does on the first lexeme of a conformant spelling (`Spec/Syntax`), branch by branch, and what may follow
    a value; the induction over values that puts the branches together is in `Lemmas/ParserS`. -/

namespace PdfLex
open PdfSyntax (Gap Bnd NatTok IntTok RealTok NameBody LitBody HexBody Spells SpellsElems SpellsEntries needsBnd)

variable {R : Type}

/-- where a lexeme `t` sits: after the gap `g` at `pos`, followed by `rest` -/
theorem next_regular {buf : Buf} (g t rest : List UInt8) (pos : Nat) (hg : Gap g)
    (h : Suffix buf pos (g ++ t ++ rest)) (hne : t ≠ []) (ht : ∀ b ∈ t, isRegular b = true) (hb : Bnd rest) :
    next buf pos = .ok (pos + g.length, pos + g.length + t.length) ∧
      slice buf (pos + g.length) (pos + g.length + t.length) = t := by
  have h' : Suffix buf pos (g ++ (t ++ rest)) := by simpa using h
  have hst : StartsTok (t ++ rest) := by
    cases t with
    | nil => exact absurd rfl hne
    | cons b t' => exact startsTok_of_regular b _ (ht b (by simp))
  have h2 : Suffix buf (pos + g.length) (t ++ rest) := h'.drop
  rw [next_gap g _ hg hst pos h', lexemeAt_regular t rest _ h2 hne ht hb]
  exact ⟨rfl, h2.slice⟩

theorem next_name {buf : Buf} (g body rest : List UInt8) (pos : Nat) (hg : Gap g)
    (h : Suffix buf pos (g ++ (47 :: body) ++ rest)) (hreg : ∀ b ∈ body, isRegular b = true) (hb : Bnd rest) :
    next buf pos = .ok (pos + g.length, pos + g.length + (47 :: body).length) ∧
      slice buf (pos + g.length) (pos + g.length + (47 :: body).length) = 47 :: body := by
  have h' : Suffix buf pos (g ++ (47 :: body ++ rest)) := by simpa using h
  have h2 : Suffix buf (pos + g.length) (47 :: body ++ rest) := h'.drop
  refine ⟨?_, ?_⟩
  · rw [next_gap g _ hg ⟨47, _, rfl, by decide, by decide⟩ pos h', lexemeAt_name body rest _ h2 hreg hb]
    simp [Nat.add_assoc, Nat.add_comm 1]
  · exact Suffix.slice (a := 47 :: body) (s := rest) (by simpa using h2)

/-- a one-character delimiter lexeme (`[`, `]`, `(`, `<` not doubled) after a gap -/
theorem next_delim {buf : Buf} (g : List UInt8) (d : UInt8) (rest : List UInt8) (pos : Nat) (hg : Gap g)
    (h : Suffix buf pos (g ++ d :: rest)) (hd : isDelimiter d = true) (h47 : d ≠ 47) (h37 : d ≠ 37)
    (hdbl : ¬ ((d = 60 ∨ d = 62) ∧ rest.head? = some d)) :
    next buf pos = .ok (pos + g.length, pos + g.length + 1) ∧ slice buf (pos + g.length) (pos + g.length + 1) = [d] := by
  have h2 : Suffix buf (pos + g.length) (d :: rest) := h.drop
  have hws : isWhitespace d = false := delim_not_ws d hd
  refine ⟨?_, ?_⟩
  · rw [next_gap g _ hg ⟨d, _, rfl, hws, h37⟩ pos h]
    exact lexemeAt_delim d _ _ h2 hd h47 hdbl
  · have := Suffix.slice (a := [d]) (s := rest) (by simpa using h2)
    simpa using this

theorem next_double {buf : Buf} (g : List UInt8) (d : UInt8) (rest : List UInt8) (pos : Nat) (hg : Gap g)
    (h : Suffix buf pos (g ++ d :: d :: rest)) (hd : d = 60 ∨ d = 62) :
    next buf pos = .ok (pos + g.length, pos + g.length + 2) ∧ slice buf (pos + g.length) (pos + g.length + 2) = [d, d] := by
  have h2 : Suffix buf (pos + g.length) (d :: d :: rest) := h.drop
  have hws : isWhitespace d = false ∧ d ≠ 37 := by rcases hd with rfl | rfl <;> decide
  refine ⟨?_, ?_⟩
  · rw [next_gap g _ hg ⟨d, _, rfl, hws.1, hws.2⟩ pos h]
    exact lexemeAt_double d _ _ h2 hd
  · have := Suffix.slice (a := [d, d]) (s := rest) (by simpa using h2)
    simpa using this

theorem suffix_le_of {buf : Buf} {pos : Nat} {s : List UInt8} (h : Suffix buf pos s) : pos ≤ buf.size := h.le

theorem check_or {flags x y : Nat} (h : flags &&& x ≠ 0 ∨ flags &&& y ≠ 0) : check flags (x ||| y) = .ok () := by
  apply check_ok
  rw [Nat.and_or_distrib_left]
  exact fun e => h.elim (· (Nat.or_eq_zero_iff.mp e).1) (· (Nat.or_eq_zero_iff.mp e).2)

/-- a token of regular characters is not `<<` -/
theorem regular_ne_dictOpen {t : List UInt8} (ht : ∀ b ∈ t, isRegular b = true) : (t == [60, 60]) = false :=
  beq_false_of_ne fun e => absurd (ht 60 (by simp [e])) (by decide)

/-! ### atoms -/

theorem parseInner_null (env : Env R) {buf : Buf} (g rest : List UInt8) (pos f : Nat) (ctx : Option (Nat × Nat))
    (flags depth : Nat) (hfl : flags &&& Flags.null ≠ 0) (hg : Gap g) (h : Suffix buf pos (g ++ kwNull ++ rest)) (hb : Bnd rest) :
    parseInner env buf (f + 1) pos ctx flags depth = .ok (.null, pos + g.length + kwNull.length) := by
  obtain ⟨hn, hsl⟩ := next_regular g kwNull rest pos hg h (by decide) kw_null_spec.2.2 hb
  simp only [parseInner, remainingStart_ok h.le, hn, Out.bind_ok, hsl]
  have e := kw_null_spec; simp only [kwNull] at e
  simp [e.1, e.2.1, kwNull, kwTrue, kwFalse, check_ok hfl]

theorem parseInner_bool (env : Env R) {buf : Buf} (b : Bool) (g rest : List UInt8) (pos f : Nat) (ctx : Option (Nat × Nat))
    (flags depth : Nat) (hfl : flags &&& Flags.bool ≠ 0) (hg : Gap g) (h : Suffix buf pos (g ++ (if b then kwTrue else kwFalse) ++ rest)) (hb : Bnd rest) :
    parseInner env buf (f + 1) pos ctx flags depth =
      .ok (.bool b, pos + g.length + (if b then kwTrue else kwFalse).length) := by
  have e : isInteger (if b then kwTrue else kwFalse) = false ∧ realNumber (if b then kwTrue else kwFalse) = none ∧
      ∀ c ∈ if b then kwTrue else kwFalse, isRegular c = true := by
    cases b
    · exact kw_false_spec
    · exact kw_true_spec
  obtain ⟨hn, hsl⟩ := next_regular g _ rest pos hg h (by cases b <;> decide) e.2.2 hb
  simp only [parseInner, remainingStart_ok h.le, hn, Out.bind_ok, hsl, e.1, e.2.1]
  cases b <;> simp [kwFalse, kwTrue, check_ok hfl]

theorem parseInner_real (env : Env R) {buf : Buf} (t : List UInt8) (r : R) (g rest : List UInt8) (pos f : Nat)
    (ctx : Option (Nat × Nat)) (flags depth : Nat) (hfl : flags &&& Flags.number ≠ 0) (hg : Gap g) (ht : RealTok t)
    (hr : env.parseReal t = some r) (h : Suffix buf pos (g ++ t ++ rest)) (hb : Bnd rest) :
    parseInner env buf (f + 1) pos ctx flags depth = .ok (.real r, pos + g.length + t.length) := by
  obtain ⟨h1, h2, h3, h4⟩ := realTok_spec t ht
  obtain ⟨hn, hsl⟩ := next_regular g t rest pos hg h h3 h4 hb
  have hne2 := regular_ne_dictOpen h4
  simp only [parseInner, remainingStart_ok h.le, hn, Out.bind_ok, hsl]
  simp [hne2, h1, h2, hr, check_ok hfl]


theorem realNumber_none_of_head (b : UInt8) (t : List UInt8) (hd : isDigit b = false) (h45 : b ≠ 45) (h43 : b ≠ 43)
    (h46 : b ≠ 46) : realNumber (b :: t) = none := by
  have hs : (b == 45 || b == 43) = false := by simp [h45, h43]
  simp only [realNumber, hs, Bool.false_and, Bool.false_eq_true, if_false]
  simp only [splitDot, show (b == 46) = false by simp [h46], Bool.false_eq_true, if_false]
  cases hsd : splitDot t with
  | some ac => simp [allDigits, hd]
  | none => simp [nonDigitPos, hd]

theorem parseInner_name (env : Env R) {buf : Buf} (body s : List UInt8) (g rest : List UInt8) (pos f : Nat)
    (ctx : Option (Nat × Nat)) (flags depth : Nat) (hfl : flags &&& Flags.name ≠ 0) (hg : Gap g) (hnb : NameBody body s)
    (hu : utf8Valid s = true) (h : Suffix buf pos (g ++ (47 :: body) ++ rest)) (hb : Bnd rest) :
    parseInner env buf (f + 1) pos ctx flags depth = .ok (.name s, pos + g.length + (47 :: body).length) := by
  obtain ⟨hun, hreg⟩ := nameBody_spec body s hnb
  have h' : Suffix buf pos (g ++ (47 :: body ++ rest)) := by simpa using h
  have h2 : Suffix buf (pos + g.length) (47 :: body ++ rest) := h'.drop
  have hn : next buf pos = .ok (pos + g.length, pos + g.length + 1 + body.length) := by
    rw [next_gap g _ hg ⟨47, _, rfl, by decide, by decide⟩ pos h', lexemeAt_name body rest _ h2 hreg hb]
  have hsl : slice buf (pos + g.length) (pos + g.length + 1 + body.length) = 47 :: body := by
    have := Suffix.slice (a := 47 :: body) (s := rest) (by simpa using h2)
    simpa [Nat.add_assoc, Nat.add_comm 1] using this
  simp only [parseInner, remainingStart_ok h.le, hn, Out.bind_ok, hsl]
  have hint : isInteger (47 :: body) = false := by simp [isInteger, allDigits, isDigit]
  have hreal : realNumber (47 :: body) = none := realNumber_none_of_head 47 body (by decide) (by decide) (by decide) (by decide)
  simp [hint, hreal, check_ok hfl, decodeName, hun, hu]
  omega

/-- the integer look-ahead at `p` finds no `<int> R` (and the lexer stays inside the buffer).
    Of the four conditions on what follows a value, `Ahead` (below) is the one the theorems assume; it implies this
    one (`intFollowOK_of_ahead`), `NotR` (`Ahead.notR`) and `DictFollowOK` (`dictFollowOK_of_ahead`), which are what the
    integer branch, the look-ahead behind an integer and the dictionary branch test. -/
def IntFollowOK (buf : Buf) (p : Nat) : Prop :=
  ∃ la cur, refLookahead buf p = .ok (la, cur) ∧ cur ≤ buf.size ∧
    ∀ w2 w3, la = some (w2, w3) → slice buf w3.1 w3.2 ≠ [82]

theorem parseIntOrRef_int {buf : Buf} (t : List UInt8) (i : Int) (p flags : Nat) (hfl : flags &&& Flags.integer ≠ 0)
    (hp : p ≤ buf.size) (hi : parseI32 t = some i)
    (hf : IntFollowOK buf p) : parseIntOrRef (R := R) buf p t flags = .ok (.int i, p) := by
  obtain ⟨la, cur, h1, h2, h3⟩ := hf
  unfold parseIntOrRef
  have c1 : check flags (Flags.integer ||| Flags.ref) = .ok () := check_or (.inl hfl)
  have c2 : check flags Flags.integer = .ok () := check_ok hfl
  simp only [c1, Out.bind_ok, h1, c2, setPos_ok h2 hp, hi]
  cases la with
  | none => rfl
  | some ws =>
    obtain ⟨w2, w3⟩ := ws
    have := h3 w2 w3 rfl
    simp [this]

theorem parseInner_int (env : Env R) {buf : Buf} (t : List UInt8) (i : Int) (g rest : List UInt8) (pos f : Nat)
    (ctx : Option (Nat × Nat)) (flags depth : Nat) (hfl : flags &&& Flags.integer ≠ 0) (hg : Gap g) (ht : IntTok t i)
    (lo : -2147483648 ≤ i) (hi : i ≤ 2147483647)
    (h : Suffix buf pos (g ++ t ++ rest)) (hb : Bnd rest) (hf : IntFollowOK buf (pos + g.length + t.length)) :
    parseInner env buf (f + 1) pos ctx flags depth = .ok (.int i, pos + g.length + t.length) := by
  obtain ⟨h1, h2, h3, h4⟩ := intTok_spec t i ht lo hi
  obtain ⟨hn, hsl⟩ := next_regular g t rest pos hg h h3 h4 hb
  have hne2 := regular_ne_dictOpen h4
  have hle : pos + g.length + t.length ≤ buf.size := by
    have := h.size_eq; simp at this; omega
  simp only [parseInner, remainingStart_ok h.le, hn, Out.bind_ok, hsl]
  simp [hne2, h1, parseIntOrRef_int t i _ flags hfl hle h2 hf]


/-- the three lexemes of a reference `a g1 b g2 R` -/
theorem ref_lexemes {buf : Buf} (a g1 b g2 : List UInt8) (id gen : Nat) (g rest : List UInt8) (pos : Nat) (hg : Gap g)
    (ha : NatTok a id) (hb : NatTok b gen) (hg1 : Gap g1) (hg1ne : g1 ≠ []) (hg2 : Gap g2) (hg2ne : g2 ≠ [])
    (hid : id ≤ 18446744073709551615) (hgen : gen ≤ 18446744073709551615)
    (h : Suffix buf pos (g ++ (a ++ g1 ++ b ++ g2 ++ [82]) ++ rest)) (hbnd : Bnd rest) :
    ∃ w1 w2 w3, next buf pos = .ok w1 ∧ slice buf w1.1 w1.2 = a ∧ w1 = (pos + g.length, pos + g.length + a.length) ∧
      next buf w1.2 = .ok w2 ∧ slice buf w2.1 w2.2 = b ∧ next buf w2.2 = .ok w3 ∧ slice buf w3.1 w3.2 = [82] ∧
      w3.2 = pos + g.length + (a ++ g1 ++ b ++ g2 ++ [82]).length := by
  obtain ⟨_, _, a3, a4⟩ := natTok_spec a id ha hid
  obtain ⟨_, _, b3, b4⟩ := natTok_spec b gen hb hgen
  have h1 : Suffix buf pos (g ++ a ++ (g1 ++ b ++ (g2 ++ [82] ++ rest))) := by simpa using h
  obtain ⟨hn, hsl⟩ := next_regular g a _ pos hg h1 a3 a4 (by simpa using gap_bnd hg1 hg1ne _)
  obtain ⟨hn2, hsl2⟩ := next_regular g1 b _ _ hg1 h1.drop₂ b3 b4 (by simpa using gap_bnd hg2 hg2ne _)
  obtain ⟨hn3, hsl3⟩ := next_regular g2 [82] rest _ hg2 h1.drop₂.drop₂ (by simp) (List.all_eq_true.mp (by decide)) hbnd
  exact ⟨_, _, _, hn, hsl, rfl, hn2, hsl2, hn3, hsl3, by simp; omega⟩

theorem parseInner_ref (env : Env R) {buf : Buf} (a g1 b g2 : List UInt8) (id gen : Nat) (g rest : List UInt8) (pos f : Nat)
    (ctx : Option (Nat × Nat)) (flags depth : Nat) (hfl : flags &&& Flags.ref ≠ 0) (hg : Gap g) (ha : NatTok a id)
    (hb : NatTok b gen) (hg1 : Gap g1)
    (hg1ne : g1 ≠ []) (hg2 : Gap g2) (hg2ne : g2 ≠ []) (hid : id ≤ 18446744073709551615)
    (hgen : gen ≤ 18446744073709551615)
    (h : Suffix buf pos (g ++ (a ++ g1 ++ b ++ g2 ++ [82]) ++ rest)) (hbnd : Bnd rest) :
    parseInner env buf (f + 1) pos ctx flags depth =
      .ok (.ref id gen, pos + g.length + (a ++ g1 ++ b ++ g2 ++ [82]).length) := by
  obtain ⟨a1, a2, _, a4⟩ := natTok_spec a id ha hid
  obtain ⟨b1, b2, _, _⟩ := natTok_spec b gen hb hgen
  obtain ⟨w1, w2, w3, hn, hsl, _, hn2, hsl2, hn3, hsl3, hend⟩ :=
    ref_lexemes a g1 b g2 id gen g rest pos hg ha hb hg1 hg1ne hg2 hg2ne hid hgen h hbnd
  simp only [parseInner, remainingStart_ok h.le, hn, Out.bind_ok, hsl]
  simp only [regular_ne_dictOpen a4, a1, Bool.false_eq_true, if_false, if_true, parseIntOrRef, check_or (.inr hfl), Out.bind_ok,
    refLookahead, hn2, hsl2, b1, hn3, hsl3, check_ok hfl, a2, b2, beq_self_eq_true]
  rw [hend]

theorem hexBody_ne_nil {t s : List UInt8} (h : HexBody t s) : t ≠ [] := by
  induction h <;> simp

theorem hexBody_head {t s : List UInt8} (h : HexBody t s) : t.head? ≠ some 60 := by
  have key : ∀ (w : List UInt8) (c : UInt8) (r : List UInt8), PdfSyntax.HexWs w → c ≠ 60 → (w ++ c :: r).head? ≠ some 60 := by
    intro w c r hw hc
    cases w with
    | nil => simpa using hc
    | cons b w' =>
      have := hw b (by simp)
      simp; intro e; subst e; revert this; decide
  cases h with
  | close w hw => exact key w 62 [] hw (by decide)
  | byte w1 w2 h1 h2 v1 v2 r s hw1 hw2 hv1 hv2 hr =>
    exact key w1 h1 _ hw1 (hexVal_some hv1).2.2.2.1
  | odd w1 w2 h1 v1 hw1 hw2 hv1 =>
    exact key w1 h1 _ hw1 (hexVal_some hv1).2.2.2.1

theorem decryptStr_none (env : Env R) (hd : env.decrypt = none) (ctx : Option (Nat × Nat)) (s : List UInt8) :
    decryptStr env ctx s = .ok s := by
  unfold decryptStr; rw [hd]; cases ctx <;> rfl

/-! Containers and strings start with a delimiter lexeme; behind it the array loop, the dictionary loop or a
    string lexer takes over. -/

theorem parseInner_arr (env : Env R) {buf : Buf} (g rest : List UInt8) (pos f : Nat) (ctx : Option (Nat × Nat))
    (flags depth : Nat) (hfl : flags &&& Flags.array ≠ 0) (hdep : depth ≠ 0) (hg : Gap g)
    (h : Suffix buf pos (g ++ 91 :: rest)) :
    parseInner env buf (f + 1) pos ctx flags depth = parseArray env buf f (pos + g.length + 1) ctx (depth - 1) [] := by
  obtain ⟨hn, hsl⟩ := next_delim g 91 rest pos hg h rfl (by decide) (by decide) (by simp)
  simp only [parseInner, remainingStart_ok h.le, hn, Out.bind_ok, hsl]
  simp [show isInteger [91] = false from rfl, show realNumber [91] = none from rfl, check_ok hfl, hdep]

theorem parseInner_dict (env : Env R) {buf : Buf} (g rest : List UInt8) (pos f : Nat) (ctx : Option (Nat × Nat))
    (flags depth : Nat) (hfl : flags &&& Flags.dict ≠ 0) (hdep : depth ≠ 0) (hg : Gap g)
    (h : Suffix buf pos (g ++ 60 :: 60 :: rest)) :
    parseInner env buf (f + 1) pos ctx flags depth =
      (parseDict env buf f (pos + g.length + 2) ctx (depth - 1) []).bind fun (dict, pos) =>
      (peek buf pos).bind fun pk =>
      if slice buf pk.1 pk.2 == kwStream then
        match ctx with
        | none => .err
        | some id => parseStreamObject env buf pos dict id
      else .ok (.dict dict, pos) := by
  obtain ⟨hn, hsl⟩ := next_double g 60 rest pos hg h (Or.inl rfl)
  simp only [parseInner, remainingStart_ok h.le, hn, Out.bind_ok, hsl, beq_self_eq_true, if_true, check_ok hfl,
    beq_eq_false_iff_ne.2 hdep, Bool.false_eq_true, if_false]
  rfl

/-- what both string branches do with the collected bytes `s` once the lexer has stopped `k` bytes further on -/
theorem strTail_ok (env : Env R) {buf : Buf} (hsz : buf.size ≤ 2147483647) (ctx : Option (Nat × Nat)) (s : List UInt8)
    (p k q : Nat) (hq : q = p + k) (h : q ≤ buf.size) :
    ((offsetPos buf p (p + k - p)).bind fun pos => (decryptStr env ctx s).bind fun s => .ok ((.str s : Prim R), pos)) =
      (decryptStr env ctx s).bind fun s' => .ok (.str s', q) := by
  subst hq; rw [Nat.add_sub_cancel_left, offsetPos_ok h hsz]; rfl

theorem parseInner_litStr (env : Env R) {buf : Buf} (body s : List UInt8) (g rest : List UInt8)
    (pos f : Nat) (ctx : Option (Nat × Nat)) (flags depth : Nat) (hfl : flags &&& Flags.string ≠ 0) (hg : Gap g)
    (hl : LitBody body 0 s)
    (hsz : buf.size ≤ 2147483647) (h : Suffix buf pos (g ++ (40 :: body) ++ rest)) :
    parseInner env buf (f + 1) pos ctx flags depth =
      (decryptStr env ctx s).bind fun s' => .ok (.str s', pos + g.length + (40 :: body).length) := by
  have h' : Suffix buf pos (g ++ 40 :: (body ++ rest)) := by simpa using h
  obtain ⟨hn, hsl⟩ := next_delim g 40 _ pos hg h' rfl (by decide) (by decide) (by simp)
  have h3 : Suffix buf (pos + g.length + 1) (body ++ rest) := h'.drop.tail
  have hsize : buf.size = pos + g.length + 1 + (body.length + rest.length) := by simpa using h3.size_eq
  have hcs := collectString_lit s body 0 hl buf _ rest [] (buf.size - (pos + g.length + 1) + 2) h3 (by omega)
    (by simp; omega)
  simp only [parseInner, remainingStart_ok h.le, hn, Out.bind_ok, hsl]
  simp only [show isInteger [40] = false from rfl, show realNumber [40] = none from rfl, check_ok hfl,
    remainingStart_ok h3.le, Out.bind_ok, Int.natCast_zero, List.reverse_nil, List.nil_append] at hcs ⊢
  simp only [show (([40] : List UInt8) == [60, 60]) = false from rfl, show (([40] : List UInt8).head? == some 47) = false from rfl,
    show (([40] : List UInt8) == [91]) = false from rfl, beq_self_eq_true, Bool.false_eq_true, if_false, if_true, hcs,
    Out.bind_ok]
  exact strTail_ok env hsz ctx s _ body.length _ (by simp; omega) (by simp; omega)

theorem parseInner_hexStr (env : Env R) {buf : Buf} (body s : List UInt8) (g rest : List UInt8)
    (pos f : Nat) (ctx : Option (Nat × Nat)) (flags depth : Nat) (hfl : flags &&& Flags.string ≠ 0) (hg : Gap g)
    (hl : HexBody body s)
    (hsz : buf.size ≤ 2147483647) (h : Suffix buf pos (g ++ (60 :: body) ++ rest)) :
    parseInner env buf (f + 1) pos ctx flags depth =
      (decryptStr env ctx s).bind fun s' => .ok (.str s', pos + g.length + (60 :: body).length) := by
  have h' : Suffix buf pos (g ++ 60 :: (body ++ rest)) := by simpa using h
  have hhead : (body ++ rest).head? ≠ some 60 := by
    obtain ⟨c, b, rfl⟩ := List.exists_cons_of_ne_nil (hexBody_ne_nil hl)
    simpa using hexBody_head hl
  obtain ⟨hn, hsl⟩ := next_delim g 60 _ pos hg h' rfl (by decide) (by decide) (fun e => hhead e.2)
  have h3 : Suffix buf (pos + g.length + 1) (body ++ rest) := h'.drop.tail
  have hsize : buf.size = pos + g.length + 1 + (body.length + rest.length) := by simpa using h3.size_eq
  have hcs := collectHex_hex body s hl buf (pos + g.length + 1) _ rest [] (buf.size - (pos + g.length + 1) + 2) h3
    (Nat.le_refl _) (by omega)
  simp only [parseInner, remainingStart_ok h.le, hn, Out.bind_ok, hsl]
  simp only [show isInteger [60] = false from rfl, show realNumber [60] = none from rfl, check_ok hfl,
    remainingStart_ok h3.le, Out.bind_ok, List.reverse_nil, List.nil_append] at hcs ⊢
  simp only [show (([60] : List UInt8) == [60, 60]) = false from rfl, show (([60] : List UInt8).head? == some 47) = false from rfl,
    show (([60] : List UInt8) == [91]) = false from rfl, show (([60] : List UInt8) == [40]) = false from rfl,
    beq_self_eq_true, Bool.false_eq_true, if_false, if_true, hcs, Out.bind_ok]
  exact strTail_ok env hsz ctx s _ body.length _ (by simp; omega) (by simp; omega)


/-! ### what follows a value -/

/-- at `q` the input ends or the next lexeme is not `R` -/
def NotR (buf : Buf) (q : Nat) : Prop :=
  nextWord buf q = .err ∨ ∃ w, nextWord buf q = .ok w ∧ slice buf w.1 w.2 ≠ [82]

/-- at `q` the input ends, or the next lexeme is neither `R` nor `stream` and, when it is an integer, the
    lexeme after it is not `R`: what follows a value must not merge with it into another object -/
def Ahead (buf : Buf) (q : Nat) : Prop :=
  nextWord buf q = .err ∨ ∃ w, nextWord buf q = .ok w ∧ slice buf w.1 w.2 ≠ [82] ∧ slice buf w.1 w.2 ≠ kwStream ∧
    (isInteger (slice buf w.1 w.2) = true → NotR buf w.2)

theorem Ahead.notR {buf : Buf} {q : Nat} (h : Ahead buf q) : NotR buf q := by
  rcases h with h | ⟨w, h1, h2, _⟩
  · exact Or.inl h
  · exact Or.inr ⟨w, h1, h2⟩

theorem intFollowOK_of_ahead {buf : Buf} {q : Nat} (hq : q ≤ buf.size) (h : Ahead buf q) : IntFollowOK buf q := by
  rcases h with h | ⟨w, h1, _, _, h4⟩
  · exact ⟨none, q, by simp [refLookahead, next, h], hq, by simp⟩
  · have hb := nextWord_bounds h1
    by_cases hi : isInteger (slice buf w.1 w.2) = true
    · rcases h4 hi with h5 | ⟨w3, h5, h6⟩
      · exact ⟨none, w.2, by simp [refLookahead, next, h1, hi, h5], hb.2, by simp⟩
      · refine ⟨some (w, w3), w3.2, by simp [refLookahead, next, h1, hi, h5], (nextWord_bounds h5).2, ?_⟩
        intro w2 w3' e; simp at e; obtain ⟨_, rfl⟩ := e; exact h6
    · exact ⟨none, w.2, by simp [refLookahead, next, h1, hi], hb.2, by simp⟩

/-- after a dictionary: the next lexeme is not `stream` -/
def DictFollowOK (buf : Buf) (q : Nat) : Prop :=
  ∃ w, peek buf q = .ok w ∧ slice buf w.1 w.2 ≠ kwStream

theorem dictFollowOK_of_ahead {buf : Buf} {q : Nat} (hq : q ≤ buf.size) (h : Ahead buf q) : DictFollowOK buf q := by
  rcases h with h | ⟨w, h1, _, h3, _⟩
  · refine ⟨(q, q), by simp [peek, h, newSubstr_fwd (Nat.le_refl q) hq], ?_⟩
    simp [slice, kwStream]
  · exact ⟨w, peek_ok h1, h3⟩

/-- a lexeme of regular characters after a gap: `Ahead` when it is not an integer, `R` or `stream` -/
theorem ahead_of_lexeme {buf : Buf} {q : Nat} (w : Nat × Nat) (t : List UInt8) (h1 : nextWord buf q = .ok w)
    (h2 : slice buf w.1 w.2 = t) (hR : t ≠ [82]) (hS : t ≠ kwStream) (hI : isInteger t = true → NotR buf w.2) :
    Ahead buf q :=
  Or.inr ⟨w, h1, by rw [h2]; exact hR, by rw [h2]; exact hS, by rw [h2]; exact hI⟩

theorem bnd_append {s t : List UInt8} (h : Bnd s) (hne : s ≠ []) : Bnd (s ++ t) := by
  cases s with
  | nil => exact absurd rfl hne
  | cons b s' => simpa [Bnd] using h

/-- facts about a lexeme that the loops of the parser test -/
structure LexFacts (t : List UInt8) : Prop where
  neR : t ≠ [82]
  neClose : t ≠ [93]
  neStream : t ≠ kwStream

/-- a lexeme with a property that `R`, `]` and `stream` lack -/
theorem LexFacts.of_pred (p : List UInt8 → Bool) {t : List UInt8} (h : p t = true) (h1 : p [82] = false)
    (h2 : p [93] = false) (h3 : p kwStream = false) : LexFacts t :=
  ⟨fun e => (by rw [e, h1] at h; cases h), fun e => (by rw [e, h2] at h; cases h), fun e => by rw [e, h3] at h; cases h⟩

theorem lexFacts_of_int {t : List UInt8} (h : isInteger t = true) : LexFacts t :=
  .of_pred isInteger h rfl rfl rfl

theorem lexFacts_of_real {t : List UInt8} (h : realNumber t = some t) : LexFacts t :=
  .of_pred (fun t => realNumber t == some t) (by simp [h]) rfl rfl rfl

/-- the first lexeme `t` of a spelling `tx` of `x` (`k` bytes).  Last clause: when `t` is an integer the parser looks
    ahead for `<int> R`; either `t` is the whole spelling of an integer value, and the caller must say what follows `tx`,
    or `x` is a reference `t g R`, and then the lexeme behind `g` is not `R`. -/
theorem spells_first (pr : List UInt8 → Option R) (x : Prim R) (tx : List UInt8) (hx : Spells pr x tx) {buf : Buf}
    (g more : List UInt8) (q : Nat) (hg : Gap g) (h : Suffix buf q (g ++ tx ++ more))
    (hb : needsBnd x = true → Bnd more) :
    ∃ k t, 0 < k ∧ next buf q = .ok (q + g.length, q + g.length + k) ∧
      slice buf (q + g.length) (q + g.length + k) = t ∧ LexFacts t ∧
      (isInteger t = true → (k = tx.length ∧ ∃ i, x = .int i) ∨ NotR buf (q + g.length + k)) := by
  cases x with
  | null =>
    simp only [Spells] at hx; subst hx
    obtain ⟨hn, hsl⟩ := next_regular g PdfSyntax.kwNull more q hg h (by decide) kw_null_spec.2.2 (hb rfl)
    exact ⟨_, _, by decide, hn, hsl, ⟨by decide, by decide, by decide⟩, fun hi => absurd hi (by decide)⟩
  | bool b =>
    simp only [Spells] at hx; subst hx
    cases b with
    | true =>
      obtain ⟨hn, hsl⟩ := next_regular g PdfSyntax.kwTrue more q hg h (by decide) kw_true_spec.2.2 (hb rfl)
      exact ⟨_, _, by decide, hn, hsl, ⟨by decide, by decide, by decide⟩, fun hi => absurd hi (by decide)⟩
    | false =>
      obtain ⟨hn, hsl⟩ := next_regular g PdfSyntax.kwFalse more q hg h (by decide) kw_false_spec.2.2 (hb rfl)
      exact ⟨_, _, by decide, hn, hsl, ⟨by decide, by decide, by decide⟩, fun hi => absurd hi (by decide)⟩
  | int i =>
    simp only [Spells] at hx
    obtain ⟨h1, h2, h3, h4⟩ := intTok_spec tx i hx.1 hx.2.1 hx.2.2
    obtain ⟨hn, hsl⟩ := next_regular g tx more q hg h h3 h4 (hb rfl)
    refine ⟨tx.length, tx, ?_, hn, hsl, lexFacts_of_int h1, fun _ => Or.inl ⟨rfl, i, rfl⟩⟩
    cases tx with
    | nil => exact absurd rfl h3
    | cons => simp
  | real r =>
    simp only [Spells] at hx
    obtain ⟨h1, h2, h3, h4⟩ := realTok_spec tx hx.1
    obtain ⟨hn, hsl⟩ := next_regular g tx more q hg h h3 h4 (hb rfl)
    refine ⟨tx.length, tx, ?_, hn, hsl, lexFacts_of_real h2, fun hi => by rw [h1] at hi; simp at hi⟩
    cases tx with
    | nil => exact absurd rfl h3
    | cons => simp
  | str s =>
    simp only [Spells] at hx
    rcases hx with ⟨body, rfl, hl⟩ | ⟨body, rfl, hl⟩
    · obtain ⟨hn, hsl⟩ := next_delim g 40 (body ++ more) q hg (by simpa using h) (by decide) (by decide) (by decide) (by simp)
      exact ⟨1, [40], by decide, hn, hsl, ⟨by decide, by decide, by decide⟩, fun hi => absurd hi (by decide)⟩
    · have hhead : (body ++ more).head? ≠ some 60 := by
        have := hexBody_head hl
        cases body with
        | nil => exact absurd rfl (hexBody_ne_nil hl)
        | cons c b => simpa using this
      obtain ⟨hn, hsl⟩ := next_delim g 60 (body ++ more) q hg (by simpa using h) (by decide) (by decide) (by decide)
        (by simpa using hhead)
      exact ⟨1, [60], by decide, hn, hsl, ⟨by decide, by decide, by decide⟩, fun hi => absurd hi (by decide)⟩
  | name s =>
    simp only [Spells] at hx
    obtain ⟨body, rfl, hnb⟩ := hx
    obtain ⟨_, hreg⟩ := nameBody_spec body s hnb
    obtain ⟨hn, hsl⟩ := next_name g body more q hg h hreg (hb rfl)
    refine ⟨_, _, by simp, hn, hsl, ⟨by simp, by simp, by simp [kwStream]⟩, ?_⟩
    intro hi; simp [isInteger, allDigits, isDigit] at hi
  | ref id gen =>
    simp only [Spells] at hx
    obtain ⟨a, g1, b, g2, rfl, ha, hbt, hg1, hg1ne, hg2, hg2ne, hid, hgen⟩ := hx
    obtain ⟨a1, _, a3, _⟩ := natTok_spec a id ha hid
    obtain ⟨b1, _⟩ := natTok_spec b gen hbt hgen
    obtain ⟨w1, w2, w3, hn, hsl, rfl, hn2, hsl2, _⟩ :=
      ref_lexemes a g1 b g2 id gen g more q hg ha hbt hg1 hg1ne hg2 hg2ne hid hgen h (hb rfl)
    exact ⟨a.length, a, List.length_pos_iff.2 a3, hn, hsl, lexFacts_of_int a1,
      fun _ => Or.inr (Or.inr ⟨_, hn2, by rw [hsl2]; exact (lexFacts_of_int b1).neR⟩)⟩
  | arr xs =>
    simp only [Spells] at hx
    obtain ⟨g0, r, rfl, _, _⟩ := hx
    obtain ⟨hn, hsl⟩ := next_delim g 91 (g0 ++ r ++ more) q hg (by simpa using h) (by decide) (by decide) (by decide) (by simp)
    exact ⟨1, [91], by decide, hn, hsl, ⟨by decide, by decide, by decide⟩, fun hi => absurd hi (by decide)⟩
  | dict kvs =>
    simp only [Spells] at hx
    obtain ⟨g0, r, rfl, _, _⟩ := hx
    obtain ⟨hn, hsl⟩ := next_double g 60 (g0 ++ r ++ more) q hg (by simpa using h) (Or.inl rfl)
    exact ⟨2, [60, 60], by decide, hn, hsl, ⟨by decide, by decide, by decide⟩, fun hi => absurd hi (by decide)⟩
  | stream info inner => simp [Spells] at hx


theorem spells_ne_nil (pr : List UInt8 → Option R) (v : Prim R) (t : List UInt8) (h : Spells pr v t) : t ≠ [] := by
  cases v with
  | null => simp only [Spells] at h; subst h; decide
  | bool b => simp only [Spells] at h; subst h; cases b <;> decide
  | int i => simp only [Spells] at h; exact (intTok_spec t i h.1 h.2.1 h.2.2).2.2.1
  | real r => simp only [Spells] at h; exact (realTok_spec t h.1).2.2.1
  | str s => simp only [Spells] at h; rcases h with ⟨b, rfl, _⟩ | ⟨b, rfl, _⟩ <;> simp
  | name s => simp only [Spells] at h; obtain ⟨b, rfl, _⟩ := h; simp
  | ref id gen => simp only [Spells] at h; obtain ⟨a, g1, b, g2, rfl, _⟩ := h; simp
  | arr xs => simp only [Spells] at h; obtain ⟨g, r, rfl, _⟩ := h; simp
  | dict kvs => simp only [Spells] at h; obtain ⟨g, r, rfl, _⟩ := h; simp
  | stream info inner => simp [Spells] at h

/-! ### containers -/

open PdfSyntax (WF WFL WFE vdepth vdepthL vdepthE need needL needE keysOf)

theorem dictInsert_append (acc : Dict R) (k : List UInt8) (v : Prim R) (h : k ∉ keysOf acc) :
    dictInsert acc k v = acc ++ [(k, v)] := by
  induction acc with
  | nil => rfl
  | cons kv acc ih =>
    obtain ⟨k', v'⟩ := kv
    simp [keysOf] at h
    have hne : ¬ k' = k := fun e => h.1 e.symm
    simp only [dictInsert, hne, if_false, List.cons_append]
    rw [ih (by simpa [keysOf] using h.2)]

/-- the keys still to come stay new when one of them has been inserted -/
theorem keysOf_snoc_disjoint {acc kvs : Dict R} {k : List UInt8} {v : Prim R}
    (hdisj : ∀ k' ∈ keysOf ((k, v) :: kvs), k' ∉ keysOf acc) (hk : k ∉ keysOf kvs) :
    ∀ k' ∈ keysOf kvs, k' ∉ keysOf (acc ++ [(k, v)]) := by
  intro k' hk' hc
  rw [keysOf, List.map_append, List.mem_append] at hc
  rcases hc with hc | hc
  · exact hdisj k' (List.mem_cons_of_mem _ hk') hc
  · rw [List.map_singleton, List.mem_singleton] at hc
    subst hc; exact hk hk'

/-- the `ParseFlags` bit that admits a value of this kind (a stream needs `DICT`: the dictionary comes first) -/
def flagOf : Prim R → Nat
  | .null => Flags.null
  | .int _ => Flags.integer
  | .real _ => Flags.number
  | .bool _ => Flags.bool
  | .str _ => Flags.string
  | .stream _ _ => Flags.dict
  | .dict _ => Flags.dict
  | .arr _ => Flags.array
  | .ref _ _ => Flags.ref
  | .name _ => Flags.name

theorem two_le_need (v : Prim R) : 2 ≤ need v := by
  cases v <;> simp [need]

theorem any_allows (v : Prim R) : Flags.any &&& flagOf v ≠ 0 := by
  cases v <;> simp only [flagOf] <;> decide

end PdfLex
