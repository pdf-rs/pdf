import PdfModel.Lemmas.DeriveValue
import PdfModel.Lemmas.DerivePreserve

/-! `PagesNode` (C15): the hand-written reader takes `/Type` out of the dictionary before it calls the derived
    `from_dict` of the variant; the hand-written writer is the variant's derived writer. What the writer produces is
    read back — by the same values the derived reader alone gives, the catch-all minus `/Type`. -/

namespace Derive

/-- the field loop does not look at an entry whose key is not the key of a field: taking it out beforehand takes it
    out of what is left over (and of the catch-all), nothing else -/
theorem readFields_minus_key (cfg : Cfg) (sem : Sem) (env : Env) (k : String) :
    ∀ (fs : List Field) (d : Dict) (acc : List Val) (oth : Option Dict), k ∉ fkeys fs →
      readFields cfg sem env fs (derase k d) acc (oth.map (derase k)) =
        match readFields cfg sem env fs d acc oth with
        | .ok (vals, d', oth') => .ok (vals, derase k d', oth'.map (derase k))
        | .error e => .error e := by
  intro fs
  induction fs with
  | nil => intro d acc oth _; simp [readFields]
  | cons f fs ih =>
    intro d acc oth hk
    simp only [readFields]
    cases hs : f.skip with
    | true =>
      simp only [if_true]
      exact ih d acc oth (by simpa [fkeys, hs] using hk)
    | false =>
      cases ho : f.other with
      | true =>
        simp only [Bool.false_eq_true, if_false, if_true]
        have := ih d acc (some d) (by simpa [fkeys, hs, ho] using hk)
        simpa using this
      | false =>
        simp only [Bool.false_eq_true, if_false]
        have hk' : k ∉ keyOf f :: fkeys fs := by simpa [fkeys, hs, ho] using hk
        have hne : keyOf f ≠ k := fun h => hk' (by simp [h])
        have hkr : k ∉ fkeys fs := fun h => hk' (by simp [h])
        have hg : dget (f.key.getD "") (derase k d) = dget (f.key.getD "") d :=
          dget_derase_ne (k := f.key.getD "") (k' := k) (fun h => hne (by simp [keyOf, h])) d
        rw [hg]
        cases hr : readField cfg sem env f acc (dget (f.key.getD "") d) with
        | error e => simp
        | ok v =>
          simp only
          rw [derase_comm (f.key.getD "") k d]
          exact ih (derase (f.key.getD "") d) (acc ++ [v]) oth hkr

/-- `PagesNode::from_primitive` after the test of `/Type`: the derived `from_dict` on the dictionary without `/Type`
    gives what it gives on the whole dictionary, the catch-all minus `/Type` -/
theorem readStructD_derase_type (cfg : Cfg) (sem : Sem) (env : Env) (S : Schema)
    (hk : S.kind = .struct) (hrd : S.derivesRead = true) (wf : S.WF) (t : String)
    (ht : S.typeName = some t) (hreq : S.typeRequired = false)
    (d : Dict) (vals : List Val) (oth : Dict) (h : readStructD cfg sem env S d = .ok (.struct vals oth)) :
    readStructD cfg sem env S (derase "Type" d) =
      .ok (.struct vals (if S.hasOther then derase "Type" oth else [])) := by
  have F := structFacts hk hrd wf
  obtain ⟨_, hch, vals', dfin, oth', hrf, hx⟩ := readStructD_ok h
  cases hx
  have htag : "Type" ∈ S.tagKeys := by simp [Schema.tagKeys, ht]
  have hnf : "Type" ∉ fkeys S.fields := F.disjoint "Type" htag
  have hnc : "Type" ∉ S.checks.map (·.1) := by
    have hd := F.distinctTags
    simp only [Schema.tagKeys, ht] at hd
    exact ((distinct_cons "Type" _).1 (by simpa using hd)).1
  have hrf' := readFields_minus_key cfg sem env "Type" S.fields d [] none hnf
  simp only [Option.map_none, hrf] at hrf'
  have hoth := readFields_other cfg sem env S.fields d [] none vals dfin oth' F.noSkip F.last hrf
  have hany : (S.fields.any fun f => f.other) = S.hasOther := rfl
  simp only [readStructD, ht, expect, dget_derase_self, hreq, Bool.false_eq_true, if_false,
    expectAll_derase (d := d) S.checks hnc, hch, hrf']
  cases ho : S.hasOther with
  | false =>
    rw [hany, ho] at hoth
    simp at hoth
    subst hoth
    simp
  | true =>
    rw [hany, ho] at hoth
    simp at hoth
    subst hoth
    simp

/-- what `PagesNode::to_primitive` produces for a value of variant `t` is read back by `PagesNode::from_primitive`:
    as the same variant, with the field values the variant's derived reader gives on the written dictionary (they
    write to the identical dictionary again), the catch-all minus the `/Type` entry the hand-written reader took out -/
theorem readPagesNode_written (cfg : Cfg) (schemas : List Schema) (inner : Sem) (env : Env) (lok : Shape → Val → Prop)
    (law : inner.Law env lok) (t : String) (ht : t = "Page" ∨ t = "Pages") (S : Schema)
    (hfind : findSchema (if t = "Page" then "Page" else "PageTree") schemas = some S)
    (hk : S.kind = .struct) (hrd : S.derivesRead = true) (wf : S.WF)
    (htn : S.typeName = some t) (hreq : S.typeRequired = false)
    (v : Val) (hv : structOk cfg inner env lok S v) (p : Prim)
    (hw : writePagesNode schemas inner (.pair (.leaf (.name t)) v) = .ok p) :
    ∃ vals oth,
      readPagesNode cfg schemas inner env p
        = .ok (.pair (.leaf (.name t)) (.struct vals (if S.hasOther then derase "Type" oth else []))) ∧
      writeStruct inner S (.struct vals oth) = .ok p := by
  have hw' : writeStruct inner S v = .ok p := by simpa [writePagesNode, hfind] using hw
  obtain ⟨v', hr, hw2⟩ := structOk_roundTrips cfg inner env lok law S hk hrd wf v hv p hw'
  obtain ⟨vals0, other0, rfl, _, _⟩ := hv
  -- the written form is a dictionary that carries /Type
  obtain ⟨D, _, rfl⟩ := writeStruct_ok.1 hw'
  have htype : dget "Type" D = some (.name t) := (written_has_tags inner S hk hrd wf vals0 other0 D hw').2 t htn
  have hrD : readStructD cfg inner env S D = .ok v' := by
    simpa [readStruct, asDict, chase_nonref env env.depth (p := .dict D) rfl] using hr
  obtain ⟨_, _, vals, dfin, oth', _, hx⟩ := readStructD_ok hrD
  subst hx
  have hder := readStructD_derase_type cfg inner env S hk hrd wf t htn hreq D vals (oth'.getD []) hrD
  refine ⟨vals, oth'.getD [], ?_, hw2⟩
  simp only [readPagesNode, resolve1, resolveP, htype]
  rcases ht with rfl | rfl
  · simp only [if_true] at hfind ⊢
    simp [hfind, hder]
  · have hne : ¬ ("Pages" = "Page") := by decide
    simp only [hne, if_false] at hfind ⊢
    simp [hfind, hder]

end Derive
