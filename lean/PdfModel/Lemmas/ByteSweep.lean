/-! Evaluation by the kernel: per-byte facts are closed by `decide +kernel` through the instance below; byte
    lists of string literals are read through `ByteArray.toList_eq_data`. -/

theorem UInt8.forall_of_fin {P : UInt8 → Prop} (h : ∀ n : Fin 256, P (UInt8.ofFin n)) : ∀ b : UInt8, P b := by
  intro b
  have := h b.toFin
  simpa using this

theorem UInt8.forall_of_range {P : UInt8 → Prop} [DecidablePred P]
    (h : (List.range 256).all (fun n => decide (P (UInt8.ofNat n))) = true) : ∀ b : UInt8, P b := by
  intro b
  simpa using List.all_eq_true.mp h b.toNat (List.mem_range.mpr b.toNat_lt)

/-- The predicate is evaluated on the 256 numerals `UInt8.ofNat n`: the kernel's arithmetic on literals makes
    this about a hundred times cheaper than a recursion over `Fin 256`, whose elements it builds in unary. -/
instance UInt8.decidableForall (P : UInt8 → Prop) [DecidablePred P] : Decidable (∀ b : UInt8, P b) :=
  decidable_of_iff _ ⟨UInt8.forall_of_range, fun h => List.all_eq_true.mpr fun _ _ => decide_eq_true (h _)⟩

/-! `ByteArray.toList` is defined by well-founded recursion on an index, which the kernel evaluates slowly; the
    list inside the array is a projection. A text given as `"…".toUTF8.toList` is evaluated after
    `rw [ByteArray.toList_eq_data]`. -/

theorem ByteArray.toList_loop (data : Array UInt8) : ∀ (n i : Nat) (r : List UInt8), n = data.size - i →
    ByteArray.toList.loop ⟨data⟩ i r = r.reverse ++ data.toList.drop i := by
  have hs : (ByteArray.mk data).size = data.size := rfl
  intro n
  induction n with
  | zero =>
    intro i r h
    unfold ByteArray.toList.loop
    have hi : ¬ i < data.size := by omega
    rw [hs, if_neg hi, List.drop_eq_nil_of_le (Nat.le_of_not_lt hi), List.append_nil]
  | succ n ih =>
    intro i r h
    unfold ByteArray.toList.loop
    have hi : i < data.size := by omega
    rw [hs, if_pos hi, ih _ _ (by omega), List.drop_eq_getElem_cons hi, List.reverse_cons, List.append_assoc]
    exact congrArg (fun x => r.reverse ++ x :: _) (getElem!_pos data i hi)

theorem ByteArray.toList_eq_data (bs : ByteArray) : bs.toList = bs.data.toList :=
  ByteArray.toList_loop bs.data _ 0 [] rfl
