import PdfModel.Model.Lexer

/-!
  Totality of `Model/Lexer` on ARBITRARY buffers (C01): every cursor operation, started at a cursor
  `pos ≤ buf.size`, returns `ok` or `err` (never `panic`, never `oof`) and leaves a cursor `≤ buf.size`.
  Each lemma states the exact shape of the result (`… = .err ∨ ∃ …, … = .ok … ∧ bounds`), from which the
  `≠ .panic` / `≠ .oof` forms of `Props/C01` follow by `cases`.

  The progress facts the parser's fuel argument needs are here as well: a lexeme that `next_word` returns is
  never empty and lies at or behind the cursor (`nextWord_spec`).
-/

namespace PdfLex

theorem getElem?_lt {buf : Buf} {pos : Nat} {b : UInt8} (h : buf[pos]? = some b) : pos < buf.size := by
  rcases Nat.lt_or_ge pos buf.size with hc | hc
  · exact hc
  · have : buf[pos]? = none := by simp; omega
    simp [this] at h

theorem getElem?_of_lt {buf : Buf} {pos : Nat} (h : pos < buf.size) : ∃ b, buf[pos]? = some b :=
  ⟨buf[pos], by simp [h]⟩

theorem scanWhile_bounds (buf : Buf) (cond : UInt8 → Bool) (fuel pos : Nat) (h : pos ≤ buf.size) :
    pos ≤ scanWhile buf cond fuel pos ∧ scanWhile buf cond fuel pos ≤ buf.size := by
  fun_induction scanWhile buf cond fuel pos <;> grind [getElem?_lt]

/-- where the scan stops before the end, the byte does not satisfy the condition: the scan stops on such a byte or
    answers `buf.size` (no byte left, or no fuel left) -/
theorem scanWhile_stop_byte (buf : Buf) (cond : UInt8 → Bool) (fuel pos : Nat)
    (h : scanWhile buf cond fuel pos < buf.size) :
    ∃ b, buf[scanWhile buf cond fuel pos]? = some b ∧ cond b = false := by
  fun_induction scanWhile buf cond fuel pos <;> grind

/-- a first byte that satisfies the condition is consumed -/
theorem scanWhile_first (buf : Buf) (cond : UInt8 → Bool) (pos : Nat) (b : UInt8)
    (hb : buf[pos]? = some b) (hc : cond b = true) :
    pos + 1 ≤ scanWhile buf cond (buf.size - pos) pos := by
  have hlt := getElem?_lt hb
  obtain ⟨k, hk⟩ : ∃ k, buf.size - pos = k + 1 := ⟨buf.size - pos - 1, by omega⟩
  rw [hk]
  simp only [scanWhile, hb, hc, if_true]
  exact (scanWhile_bounds buf cond k (pos + 1) hlt).1

theorem boundary_spec (buf : Buf) (pos : Nat) (cond : UInt8 → Bool) (h : pos ≤ buf.size) :
    ∃ p, boundary buf pos cond = .ok p ∧ pos ≤ p ∧ p ≤ buf.size := by
  refine ⟨scanWhile buf cond (buf.size - pos) pos, ?_, scanWhile_bounds buf cond _ pos h⟩
  simp [boundary]; omega

theorem scanBack_le (buf : Buf) (cond : UInt8 → Bool) (pos : Nat) : scanBack buf cond pos ≤ pos := by
  fun_induction scanBack buf cond pos <;> grind

theorem boundaryRev_spec (buf : Buf) (pos : Nat) (cond : UInt8 → Bool) (h : pos ≤ buf.size) :
    ∃ p, boundaryRev buf pos cond = .ok p ∧ p ≤ pos :=
  ⟨scanBack buf cond pos, by simp [boundaryRev]; omega, scanBack_le buf cond pos⟩

/-- `skip_whitespace`: `Err(EOF)` or the position of a byte that is not white-space -/
theorem skipWhitespace_spec (buf : Buf) (pos : Nat) (h : pos ≤ buf.size) :
    skipWhitespace buf pos = .err ∨
    ∃ p, skipWhitespace buf pos = .ok p ∧ pos ≤ p ∧ p < buf.size ∧ isWsAt buf p = false := by
  have hb := scanWhile_bounds buf isWhitespace (buf.size - pos) pos h
  have hnp : ¬ pos > buf.size := by omega
  unfold skipWhitespace boundary
  simp only [hnp, if_false, Out.bind_ok]
  by_cases hge : scanWhile buf isWhitespace (buf.size - pos) pos ≥ buf.size
  · left; simp [hge]
  · right
    refine ⟨_, by simp [hge], hb.1, by omega, ?_⟩
    obtain ⟨b, hb1, hb2⟩ := scanWhile_stop_byte buf isWhitespace (buf.size - pos) pos (by omega)
    simp [isWsAt, hb1, hb2]

theorem findEol_bounds (buf : Buf) (fuel pos p : Nat) (h : findEol buf fuel pos = some p) :
    pos ≤ p ∧ p < buf.size := by
  fun_induction findEol buf fuel pos <;> grind [getElem?_lt]

/-- the comment loop: no `oof` when the fuel covers the rest of the buffer (every round consumes the `%`),
    no panic; the result is the position of a byte that is neither white-space nor `%` -/
theorem skipComments_spec (buf : Buf) (fuel pos : Nat) (h : pos < buf.size) (hw : isWsAt buf pos = false)
    (hf : buf.size ≤ fuel + pos) :
    skipComments buf fuel pos = .err ∨
    ∃ p, skipComments buf fuel pos = .ok p ∧ pos ≤ p ∧ p < buf.size ∧ isWsAt buf p = false ∧ buf[p]? ≠ some 37 := by
  induction fuel generalizing pos with
  | zero => omega
  | succ fuel ih =>
    unfold skipComments
    by_cases hc : buf[pos]? = some 37
    · simp only [hc, beq_self_eq_true, if_true]
      have h1 : ¬ pos + 1 > buf.size := by omega
      simp only [h1, if_false]
      -- whatever the position behind the comment is
      have key : ∀ pos2, pos + 1 ≤ pos2 → pos2 ≤ buf.size →
          ((skipWhitespace buf pos2).bind fun p => skipComments buf fuel p) = .err ∨
          ∃ p, ((skipWhitespace buf pos2).bind fun p => skipComments buf fuel p) = .ok p ∧
            pos ≤ p ∧ p < buf.size ∧ isWsAt buf p = false ∧ buf[p]? ≠ some 37 := by
        intro pos2 hlo hhi
        rcases skipWhitespace_spec buf pos2 hhi with he | ⟨p, hp, hp1, hp3, hp4⟩
        · left; rw [he]; rfl
        · rw [hp]; simp only [Out.bind_ok]
          rcases ih p hp3 hp4 (by omega) with he | ⟨q, hq, hq1, hq2, hq3, hq4⟩
          · left; exact he
          · right; exact ⟨q, hq, by omega, hq2, hq3, hq4⟩
      cases he : findEol buf (buf.size - (pos + 1)) (pos + 1) with
      | none => exact key (pos + 1) (Nat.le_refl _) (by omega)
      | some q =>
        have := findEol_bounds buf _ _ _ he
        exact key (q + 1) (by omega) (by omega)
    · right
      refine ⟨pos, ?_, Nat.le_refl _, h, hw, hc⟩
      have : (buf[pos]? == some 37) = false := by simpa using hc
      simp [this]

/-- `next_word`, first part: `Err(EOF)` or the position of a byte that starts a lexeme -/
theorem tokenStart_spec (buf : Buf) (pos : Nat) (h : pos ≤ buf.size) :
    tokenStart buf pos = .err ∨
    ∃ p, tokenStart buf pos = .ok p ∧ pos ≤ p ∧ p < buf.size ∧ isWsAt buf p = false := by
  unfold tokenStart
  rcases skipWhitespace_spec buf pos h with he | ⟨p, hp, hp1, hp2, hp3⟩
  · left; rw [he]; rfl
  · rw [hp]; simp only [Out.bind_ok]
    rcases skipComments_spec buf buf.size p hp2 hp3 (by omega) with he | ⟨q, hq, hq1, hq2, hq3, _⟩
    · left; exact he
    · right; exact ⟨q, hq, by omega, hq2, hq3⟩

theorem newSubstr_fwd {buf : Buf} {a b : Nat} (h1 : a ≤ b) (h2 : b ≤ buf.size) : newSubstr buf a b = .ok (a, b) := by
  unfold newSubstr
  have : ¬ a > b := by omega
  simp [this]; omega

theorem newSubstr_eq {buf : Buf} {a b : Nat} {w : Nat × Nat} (hab : a ≤ b) (h : newSubstr buf a b = .ok w) : w = (a, b) := by
  have h1 : ¬ a > b := by omega
  simp only [newSubstr, h1, if_false] at h
  split at h <;> cases h
  rfl

/-- a backward range is turned round; in range when the old start lies inside the buffer -/
theorem newSubstr_bwd {buf : Buf} {a b : Nat} (h1 : b < a) (h2 : a < buf.size) :
    newSubstr buf a b = .ok (b + 1, a + 1) := by
  unfold newSubstr
  simp [h1]; omega

theorem scanRegular_bounds (buf : Buf) (pos : Nat) (h : pos ≤ buf.size) :
    pos ≤ scanRegular buf pos ∧ scanRegular buf pos ≤ buf.size :=
  scanWhile_bounds buf isRegular _ pos h

theorem isDouble_next {buf : Buf} {pos : Nat} (h : isDouble buf pos = true) : pos + 1 < buf.size := by
  unfold isDouble at h
  split at h
  · rename_i a c h1 h2; exact getElem?_lt h2
  · simp at h

/-- `next_word`, second part: at the position of a byte that is not white-space a non-empty lexeme starts -/
theorem lexemeAt_spec (buf : Buf) (start : Nat) (h : start < buf.size) (hw : isWsAt buf start = false) :
    ∃ stop, lexemeAt buf start = .ok (start, stop) ∧ start < stop ∧ stop ≤ buf.size := by
  obtain ⟨b, hb⟩ := getElem?_of_lt h
  unfold lexemeAt
  by_cases hd : isDelimAt buf start = true
  · simp only [hd, if_true, hb]
    by_cases h47 : (b == 47) = true
    · simp only [h47, if_true, advancePos, h, Out.bind_ok]
      have := scanRegular_bounds buf (start + 1) (by omega)
      exact ⟨_, newSubstr_fwd (by omega) this.2, by omega, this.2⟩
    · simp only [h47, Bool.false_eq_true, if_false]
      by_cases hdd : isDouble buf start = true
      · have h2 := isDouble_next hdd
        have h2' : start + 1 < buf.size := h2
        simp only [hdd, if_true, advancePos, h, h2', Out.bind_ok]
        exact ⟨_, newSubstr_fwd (by omega) (by omega), by omega, by omega⟩
      · simp only [hdd, Bool.false_eq_true, if_false, advancePos, h, if_true, Out.bind_ok]
        exact ⟨_, newSubstr_fwd (by omega) (by omega), by omega, by omega⟩
  · simp only [hd, Bool.false_eq_true, if_false]
    have hreg : isRegular b = true := by
      simp only [isWsAt, hb] at hw
      simp only [isDelimAt, hb] at hd
      simp [isRegular, hw, hd]
    have h1 := scanWhile_first buf isRegular start b hb hreg
    have h2 := scanRegular_bounds buf start (by omega)
    exact ⟨_, newSubstr_fwd h2.1 h2.2, h1, h2.2⟩

/-- `Lexer::next_word` / `next`: `Err(EOF)`, or a non-empty lexeme at or behind the cursor, inside the buffer;
    the cursor moves behind it -/
theorem nextWord_spec (buf : Buf) (pos : Nat) (h : pos ≤ buf.size) :
    nextWord buf pos = .err ∨
    ∃ w, nextWord buf pos = .ok w ∧ pos ≤ w.1 ∧ w.1 < w.2 ∧ w.2 ≤ buf.size := by
  unfold nextWord
  by_cases he : (pos == buf.size) = true
  · left; rw [he]; rfl
  · simp only [he, Bool.false_eq_true, if_false]
    rcases tokenStart_spec buf pos h with he | ⟨p, hp, hp1, hp2, hp3⟩
    · left; rw [he]; rfl
    · right
      rw [hp]; simp only [Out.bind_ok]
      obtain ⟨stop, hs, hs1, hs2⟩ := lexemeAt_spec buf p hp2 hp3
      exact ⟨(p, stop), hs, hp1, hs1, hs2⟩

theorem next_spec (buf : Buf) (pos : Nat) (h : pos ≤ buf.size) :
    next buf pos = .err ∨ ∃ w, next buf pos = .ok w ∧ pos ≤ w.1 ∧ w.1 < w.2 ∧ w.2 ≤ buf.size :=
  nextWord_spec buf pos h

/-- `Lexer::peek` never fails: at the end of the data it returns the empty substring at the cursor -/
theorem peek_spec (buf : Buf) (pos : Nat) (h : pos ≤ buf.size) :
    ∃ w, peek buf pos = .ok w ∧ pos ≤ w.1 ∧ w.1 ≤ w.2 ∧ w.2 ≤ buf.size := by
  unfold peek
  rcases nextWord_spec buf pos h with he | ⟨w, hw, h1, h2, h3⟩
  · rw [he]; exact ⟨(pos, pos), newSubstr_fwd (Nat.le_refl _) h, Nat.le_refl _, Nat.le_refl _, h⟩
  · rw [hw]; exact ⟨w, rfl, h1, by omega, h3⟩

/-- `Lexer::back`: the previous lexeme; the cursor moves to its start, never forward -/
theorem back_spec (buf : Buf) (pos : Nat) (h : pos ≤ buf.size) :
    ∃ w, back buf pos = .ok w ∧ w.1 ≤ w.2 ∧ w.2 ≤ pos := by
  unfold back
  obtain ⟨e, he, he1⟩ := boundaryRev_spec buf pos isWhitespace h
  rw [he]; simp only [Out.bind_ok]
  obtain ⟨s, hs, hs1⟩ := boundaryRev_spec buf e (fun b => !isWhitespace b) (by omega)
  rw [hs]; simp only [Out.bind_ok]
  exact ⟨(s, e), newSubstr_fwd hs1 (by omega), hs1, he1⟩

theorem nextExpect_spec (buf : Buf) (pos : Nat) (expected : List UInt8) (h : pos ≤ buf.size) :
    nextExpect buf pos expected = .err ∨
    ∃ p, nextExpect buf pos expected = .ok p ∧ pos < p ∧ p ≤ buf.size := by
  unfold nextExpect
  rcases next_spec buf pos h with he | ⟨w, hw, h1, h2, h3⟩
  · left; rw [he]; rfl
  · rw [hw]; simp only [Out.bind_ok]
    by_cases hc : (slice buf w.1 w.2 == expected) = true
    · right; exact ⟨w.2, by simp [hc], by omega, h3⟩
    · left; simp [hc]

/-- `Lexer::next_stream`: the `end - word.len()` subtraction cannot underflow, the slice is in range -/
theorem nextStream_cases (buf : Buf) (pos : Nat) (h : pos ≤ buf.size) :
    nextStream buf pos = .err ∨ ∃ p, nextStream buf pos = .ok p ∧ pos < p ∧ p ≤ buf.size := by
  unfold nextStream
  rcases nextWord_spec buf pos h with he | ⟨w, hw, h1, h2, h3⟩
  · left; rw [he]; rfl
  · rw [hw]; simp only [Out.bind_ok]
    have e1 : ¬ (w.2 - w.1 > w.2) := by omega
    have e2 : w.2 - (w.2 - w.1) = w.1 := by omega
    have e3 : ¬ (w.1 > buf.size) := by omega
    simp only [e1, e2, e3, if_false]
    cases h6 : buf[w.1 + 6]? with
    | none => left; rfl
    | some b0 =>
      have := getElem?_lt h6
      simp only []
      by_cases c1 : (b0 == 10) = true
      · right; exact ⟨w.1 + 7, by simp [c1], by omega, by omega⟩
      · simp only [c1, Bool.false_eq_true, if_false]
        by_cases c2 : (b0 == 13) = true
        · simp only [c2, if_true]
          cases h7 : buf[w.1 + 7]? with
          | none => left; rfl
          | some b1 =>
            have := getElem?_lt h7
            simp only []
            by_cases c3 : (b1 != 10) = true
            · left; simp [c3]
            · right; exact ⟨w.1 + 8, by simp [c3], by omega, by omega⟩
        · left; simp [c2]

/-- `Lexer::set_pos` clamps to the end of the buffer -/
theorem setPos_spec (buf : Buf) (pos wanted : Nat) (h : pos ≤ buf.size) :
    setPos buf pos wanted = .ok (min wanted buf.size) := by
  unfold setPos
  simp only []
  by_cases hc : pos < min wanted buf.size
  · simp only [hc, if_true]; rw [newSubstr_fwd (by omega) (by omega)]; rfl
  · simp only [hc, if_false]; rw [newSubstr_fwd (by omega) h]; rfl

theorem offsetPos_spec (buf : Buf) (pos offset : Nat) (h : pos ≤ buf.size) :
    ∃ p, offsetPos buf pos offset = .ok p ∧ p ≤ buf.size :=
  ⟨_, setPos_spec buf pos _ h, by omega⟩

/-- without wrap-around (`pos + offset < 2^64`, true of every real buffer) `offset_pos` is `min (pos + offset) len` -/
theorem offsetPos_exact (buf : Buf) (pos offset : Nat) (h : pos ≤ buf.size) (hs : pos + offset ≤ usizeMax) :
    offsetPos buf pos offset = .ok (min (pos + offset) buf.size) := by
  unfold offsetPos
  rw [Nat.mod_eq_of_lt (by omega)]
  exact setPos_spec buf pos _ h

theorem setPosFromEnd_spec (buf : Buf) (pos n : Nat) (h : pos ≤ buf.size) :
    setPosFromEnd buf pos n = .ok (buf.size - n - 1) := by
  unfold setPosFromEnd
  rw [setPos_spec buf pos _ h]
  congr 1; omega

/-- `Lexer::read_n` (after the repair): total on every buffer; the cursor stays inside -/
theorem readN_total (buf : Buf) (pos n : Nat) (_h : pos ≤ buf.size) :
    ∃ s p, readN buf pos n = .ok (s, p) ∧ s.1 ≤ s.2 ∧ s.2 ≤ buf.size ∧ p ≤ buf.size := by
  unfold readN
  simp only []
  have hp' : (if min (pos + n) usizeMax ≥ buf.size then buf.size - 1 else min (pos + n) usizeMax) ≤ buf.size := by
    split <;> omega
  generalize (if min (pos + n) usizeMax ≥ buf.size then buf.size - 1 else min (pos + n) usizeMax) = p' at hp' ⊢
  by_cases hlt : pos < buf.size
  · simp only [hlt, if_true]
    by_cases hd : pos ≤ p'
    · rw [newSubstr_fwd hd hp']; exact ⟨_, _, rfl, hd, hp', hp'⟩
    · rw [newSubstr_bwd (by omega) hlt]; exact ⟨_, _, rfl, by simp; omega, by simp; omega, hp'⟩
  · simp only [hlt, if_false]
    rw [newSubstr_fwd (Nat.le_refl 0) (Nat.zero_le _)]
    exact ⟨_, _, rfl, Nat.le_refl _, Nat.zero_le _, hp'⟩

/-- `Lexer::read_n` on a buffer of a real size (`≤ usize::MAX`): the cursor may step back onto the last byte;
    a substring of the full length `n` means that the cursor moved by exactly `n` and is not at the end -/
theorem readN_spec (buf : Buf) (pos n : Nat) (h : pos ≤ buf.size) (hs : buf.size ≤ usizeMax) :
    ∃ s p, readN buf pos n = .ok (s, p) ∧ s.1 ≤ s.2 ∧ s.2 ≤ buf.size ∧ p ≤ buf.size ∧ pos ≤ p + 1 ∧
      (pos < buf.size → s.2 - s.1 = n → p = pos + n ∧ p < buf.size) := by
  unfold readN
  simp only []
  by_cases hlt : pos < buf.size
  · simp only [hlt, if_true]
    by_cases hc : min (pos + n) usizeMax ≥ buf.size
    · simp only [hc, if_true]
      rw [newSubstr_fwd (by omega) (by omega)]
      refine ⟨_, _, rfl, by simp; omega, by simp, by omega, by omega, ?_⟩
      intro _ hn; simp at hn; omega
    · simp only [hc, if_false]
      have hm : min (pos + n) usizeMax = pos + n := by omega
      rw [hm] at hc ⊢
      rw [newSubstr_fwd (by omega) (by omega)]
      exact ⟨_, _, rfl, by simp, by simp; omega, by omega, by omega, fun _ _ => ⟨rfl, by omega⟩⟩
  · simp only [hlt, if_false]
    rw [newSubstr_fwd (Nat.le_refl 0) (Nat.zero_le _)]
    have hc : min (pos + n) usizeMax ≥ buf.size := by omega
    simp only [hc, if_true]
    exact ⟨_, _, rfl, by simp, by simp, by omega, by omega, fun hh => False.elim hh⟩

/-- the code before the repair panics on the empty buffer (`self.buf.len() - 1`), whatever the count -/
theorem readNOld_panics_empty (n : Nat) : readNOld #[] 0 n = .panic := by
  unfold readNOld
  simp

theorem remainingStart_spec (buf : Buf) (pos : Nat) (h : pos ≤ buf.size) : remainingStart buf pos = .ok pos := by
  simp [remainingStart]; omega

theorem ctxRange_spec (buf : Buf) (pos : Nat) (h : pos ≤ buf.size) (hs : buf.size + 40 ≤ usizeMax) :
    ∃ r, ctxRange buf pos = .ok r ∧ r.1 ≤ r.2 ∧ r.2 ≤ buf.size := by
  unfold ctxRange
  have h1 : ¬ pos + 40 > usizeMax := by omega
  simp only [h1, if_false]
  have h2 : ¬ (pos - 40 > min buf.size (pos + 40)) := by omega
  have h3 : ¬ (min buf.size (pos + 40) > buf.size) := by omega
  simp only [h2, h3, decide_false, Bool.or_self, Bool.false_eq_true, if_false]
  exact ⟨_, rfl, by simp; omega, by simp; omega⟩

theorem findFwd_bounds (buf : Buf) (pat : List UInt8) (fuel i j : Nat) (h : findFwd buf pat fuel i = some j) :
    i ≤ j ∧ j + pat.length ≤ buf.size := by
  fun_induction findFwd buf pat fuel i <;> grind

/-- `Lexer::seek_substr` with a non-empty pattern: total, the cursor only moves forward and stays inside -/
theorem seekSubstr_spec (buf : Buf) (pos : Nat) (pat : List UInt8) (h : pos ≤ buf.size) (hp : pat ≠ []) :
    ∃ r p, seekSubstr buf pos pat = .ok (r, p) ∧ pos ≤ p ∧ p ≤ buf.size ∧
      (r = none → p = buf.size) ∧ (∀ s, r = some s → s = (pos, p - pat.length) ∧ pos + pat.length ≤ p) := by
  unfold seekSubstr
  have h1 : ¬ pos > buf.size := by omega
  have h2 : ¬ (pat.length == 0) = true := by cases pat <;> simp_all
  simp only [h1, h2, if_false, Bool.false_eq_true]
  cases hf : findFwd buf pat (buf.size - pos + 1) pos with
  | none =>
    refine ⟨none, max pos buf.size, rfl, by omega, by omega, (fun _ => by omega), fun s hs => by cases hs⟩
  | some i =>
    have := findFwd_bounds buf pat _ _ _ hf
    simp only []
    have e : i + pat.length - pat.length = i := by omega
    rw [e, newSubstr_fwd this.1 (by omega)]
    simp only [Out.bind_ok]
    refine ⟨some (pos, i), i + pat.length, rfl, by omega, this.2, (fun hn => by cases hn), fun s hs => ?_⟩
    cases hs; exact ⟨by rw [e], by omega⟩

/-- `windows(0)` panics: an empty pattern is the caller's error (the library only passes constants) -/
theorem seekSubstr_empty_panics (buf : Buf) (pos : Nat) (h : pos ≤ buf.size) : seekSubstr buf pos [] = .panic := by
  unfold seekSubstr
  have h1 : ¬ pos > buf.size := by omega
  simp [h1]

theorem findBack_bounds (buf : Buf) (pat : List UInt8) (k i : Nat) (h : findBack buf pat k = some i) : i < k := by
  fun_induction findBack buf pat k <;> grind

/-- `Lexer::seek_substr_back` with a non-empty pattern: `Err(NotFound)` or a position at or before the cursor -/
theorem seekSubstrBack_spec (buf : Buf) (pos : Nat) (pat : List UInt8) (h : pos ≤ buf.size) (hp : pat ≠ []) :
    seekSubstrBack buf pos pat = .err ∨
    ∃ s p, seekSubstrBack buf pos pat = .ok (s, p) ∧ s = (p, pos) ∧ pat.length ≤ p ∧ p ≤ pos := by
  unfold seekSubstrBack
  have h1 : ¬ pos > buf.size := by omega
  have h2 : ¬ (pat.length == 0) = true := by cases pat <;> simp_all
  simp only [h1, h2, if_false, Bool.false_eq_true]
  by_cases h3 : pat.length > pos
  · left; simp [h3]
  · simp only [h3, if_false]
    cases hf : findBack buf pat (pos - pat.length + 1) with
    | none => left; rfl
    | some i =>
      right
      have := findBack_bounds buf pat _ _ hf
      simp only []
      rw [newSubstr_fwd (by omega) h]
      exact ⟨_, _, rfl, rfl, by omega, by omega⟩

theorem seekNewlineLoop_bounds (buf : Buf) (fuel pos : Nat) (h : pos ≤ buf.size) :
    pos ≤ seekNewlineLoop buf fuel pos ∧ seekNewlineLoop buf fuel pos ≤ buf.size := by
  fun_induction seekNewlineLoop buf fuel pos <;> grind [getElem?_lt]

/-- `Lexer::seek_newline` (after the repair): total -/
theorem seekNewline_spec (buf : Buf) (pos : Nat) (h : pos ≤ buf.size) :
    ∃ s p, seekNewline buf pos = .ok (s, p) ∧ pos ≤ p ∧ p ≤ buf.size := by
  unfold seekNewline
  have hb := seekNewlineLoop_bounds buf (buf.size - pos) pos h
  simp only []
  have hi : seekNewlineLoop buf (buf.size - pos) pos ≤ (incrPos buf (seekNewlineLoop buf (buf.size - pos) pos)).2 ∧
      (incrPos buf (seekNewlineLoop buf (buf.size - pos) pos)).2 ≤ buf.size := by
    unfold incrPos
    split <;> simp <;> omega
  rw [newSubstr_fwd (by omega) hi.2]
  exact ⟨_, _, rfl, by omega, hi.2⟩

end PdfLex
