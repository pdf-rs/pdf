import PdfModel.Model.Lzw
import PdfModel.Spec.Lzw

/-! Bit-level facts shared by the LZW proofs: codes as `w` bits, most significant first. -/

namespace Lzw

theorem bitsOfNat_eq_spec : ∀ (w n : Nat), bitsOfNat w n = LzwSpec.bitsOfNat w n
  | 0, _ => rfl
  | w + 1, n => by simp [bitsOfNat, LzwSpec.bitsOfNat, bitsOfNat_eq_spec w n]

theorem bitsOfBytes_eq_spec (d : Bytes) : bitsOfBytes d = LzwSpec.bitsOfBytes d := by
  unfold bitsOfBytes LzwSpec.bitsOfBytes
  congr 1
  try (funext b; exact bitsOfNat_eq_spec 8 _)

theorem natOfBits_eq_spec (bs : List Bool) : natOfBits bs = LzwSpec.natOfBits bs := rfl

theorem bitsOfNat_length : ∀ (w n : Nat), (bitsOfNat w n).length = w
  | 0, _ => rfl
  | w + 1, n => by simp [bitsOfNat, bitsOfNat_length w n]

theorem foldl_bits (acc : Nat) : ∀ (bs : List Bool),
    bs.foldl (fun acc b => 2 * acc + (if b then 1 else 0)) acc = acc * 2 ^ bs.length + natOfBits bs
  | [] => by simp [natOfBits]
  | b :: bs => by
    simp only [List.foldl_cons, List.length_cons, natOfBits]
    rw [foldl_bits (2 * acc + (if b then 1 else 0)) bs, foldl_bits (2 * 0 + (if b then 1 else 0)) bs]
    simp only [Nat.mul_zero, Nat.zero_add, Nat.add_mul, Nat.pow_succ]
    rw [Nat.mul_comm 2 acc, Nat.mul_assoc, Nat.mul_comm 2 (2 ^ bs.length)]
    omega

theorem natOfBits_cons (b : Bool) (bs : List Bool) :
    natOfBits (b :: bs) = (if b then 1 else 0) * 2 ^ bs.length + natOfBits bs := by
  have := foldl_bits (2 * 0 + (if b then 1 else 0)) bs
  simpa [natOfBits] using this

theorem natOfBits_lt : ∀ (bs : List Bool), natOfBits bs < 2 ^ bs.length
  | [] => by simp [natOfBits]
  | b :: bs => by
    rw [natOfBits_cons, List.length_cons, Nat.pow_succ]
    have := natOfBits_lt bs
    cases b <;> simp <;> omega

theorem natOfBits_bitsOfNat : ∀ (w n : Nat), natOfBits (bitsOfNat w n) = n % 2 ^ w
  | 0, n => by simp [bitsOfNat, natOfBits, Nat.mod_one]
  | w + 1, n => by
    rw [bitsOfNat, natOfBits_cons, bitsOfNat_length, natOfBits_bitsOfNat w n]
    have h2 : n / 2 ^ w % 2 < 2 := Nat.mod_lt _ (by decide)
    have key : n % 2 ^ (w + 1) = (n / 2 ^ w % 2) * 2 ^ w + n % 2 ^ w := by
      rw [Nat.pow_succ, Nat.mod_mul, Nat.mul_comm (2 ^ w), Nat.add_comm]
    rw [key]
    have hbit : (if (n / 2 ^ w % 2 == 1) = true then 1 else 0) = n / 2 ^ w % 2 := by
      generalize n / 2 ^ w % 2 = x at h2
      have : x = 0 ∨ x = 1 := by omega
      rcases this with rfl | rfl <;> simp
    rw [hbit]

theorem natOfBits_bitsOfNat_of_lt {w n : Nat} (h : n < 2 ^ w) : natOfBits (bitsOfNat w n) = n := by
  rw [natOfBits_bitsOfNat, Nat.mod_eq_of_lt h]

/-- the `w` low bits do not see multiples of `2 ^ w` -/
theorem bitsOfNat_mul_add : ∀ (w m k : Nat), bitsOfNat w (k * 2 ^ w + m) = bitsOfNat w m
  | 0, _, _ => rfl
  | w + 1, m, k => by
    have e1 : k * 2 ^ (w + 1) = 2 ^ w * (k * 2) := by
      rw [Nat.pow_succ, Nat.mul_comm (2 ^ w) (k * 2), Nat.mul_assoc, Nat.mul_comm 2 (2 ^ w)]
    have h1 : (k * 2 ^ (w + 1) + m) / 2 ^ w % 2 = m / 2 ^ w % 2 := by
      rw [e1, Nat.mul_add_div (Nat.pow_pos (by decide)), Nat.mul_add_mod_self_right]
    have h2 : bitsOfNat w (k * 2 ^ (w + 1) + m) = bitsOfNat w m := by
      rw [e1, Nat.mul_comm]; exact bitsOfNat_mul_add w m (k * 2)
    simp only [bitsOfNat, h1, h2]

/-- a `w`-bit string is the `w`-bit code of its value -/
theorem bitsOfNat_natOfBits : ∀ (bs : List Bool), bitsOfNat bs.length (natOfBits bs) = bs
  | [] => rfl
  | b :: bs => by
    have hdiv : ((if b = true then 1 else 0) * 2 ^ bs.length + natOfBits bs) / 2 ^ bs.length = (if b = true then 1 else 0) := by
      rw [Nat.mul_comm, Nat.mul_add_div (Nat.pow_pos (by decide)), Nat.div_eq_of_lt (natOfBits_lt bs), Nat.add_zero]
    rw [List.length_cons, bitsOfNat, natOfBits_cons, hdiv, bitsOfNat_mul_add, bitsOfNat_natOfBits bs]
    cases b <;> simp

end Lzw
