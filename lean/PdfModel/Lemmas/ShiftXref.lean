import PdfModel.Model.XrefTable
import PdfModel.Lemmas.ShiftIndirect
import PdfModel.Lemmas.Parser
import PdfModel.Lemmas.XrefTableTotal

/-!
  Shift lemmas for the classic cross-reference table reader and the dispatch between the two section formats
  (`Model/XrefTable.lean`): reading `p ++ b` from `p.size + k` is reading `b` from `k`.

  The table branch only looks forward.  The stream branch begins with `lexer.back()`, which looks
  *backwards*: it is shift-invariant exactly when the scan back from the first lexeme cannot run into the
  prefix — the prefix is empty or ends in white-space — which is why the Rust code hands the reader
  `read(pos ..)`, a buffer that begins at the section (`Model/XrefFile.lean` does the same).
-/

namespace PdfShift
open PdfLex Xref XrefTable

variable {R : Type}

/-- subsections, trailer dictionary and the cursor, the cursor moved by `k` (`shV` at that type) -/
def shT (k : Nat) (r : (List Sub × Dict R) × Nat) : (List Sub × Dict R) × Nat := (r.1, k + r.2)

theorem nextAsU32_shift (p b : Buf) (pos : Nat) :
    nextAsU32 (p ++ b) (p.size + pos) = omap (shV p.size) (nextAsU32 b pos) := by
  unfold nextAsU32
  rw [next_shift]
  cases next b pos with
  | ok w =>
    simp only [omap, sh2, slice_shift]
    cases parseU32 (slice b w.1 w.2) <;> rfl
  | _ => rfl

theorem readEntry_shift (p b : Buf) (pos : Nat) :
    XrefTable.readEntry (p ++ b) (p.size + pos) = omap (shV p.size) (XrefTable.readEntry b pos) := by
  unfold XrefTable.readEntry
  rw [next_shift]
  cases next b pos with
  | ok w1 =>
    simp only [omap, sh2, slice_shift]
    split
    · rfl
    · rw [next_shift]
      cases next b w1.2 with
      | ok w2 =>
        simp only [omap, sh2, slice_shift]
        rw [next_shift]
        cases next b w2.2 with
        | ok w3 =>
          simp only [omap, sh2, slice_shift]
          cases entryOfTokens (slice b w1.1 w1.2) (slice b w2.1 w2.2) (slice b w3.1 w3.2) <;> rfl
        | _ => rfl
      | _ => rfl
  | _ => rfl

theorem entryLoop_shift (p b : Buf) : ∀ (n pos : Nat) (acc : List XRef),
    entryLoop (p ++ b) n (p.size + pos) acc = omap (shV p.size) (entryLoop b n pos acc) := by
  intro n
  induction n with
  | zero => intro pos acc; rfl
  | succ n ih =>
    intro pos acc
    simp only [entryLoop]
    rw [readEntry_shift]
    cases readEntry b pos with
    | ok r => obtain ⟨e, q⟩ := r; exact ih q (e :: acc)
    | _ => rfl

theorem readSub_shift (p b : Buf) (pos : Nat) :
    readSub (p ++ b) (p.size + pos) = omap (shV p.size) (readSub b pos) := by
  unfold readSub
  rw [nextAsU32_shift]
  cases nextAsU32 b pos with
  | ok r1 =>
    obtain ⟨first, p1⟩ := r1
    simp only [omap, shV]
    rw [nextAsU32_shift]
    cases nextAsU32 b p1 with
    | ok r2 =>
      obtain ⟨num, p2⟩ := r2
      simp only [omap, shV]
      rw [entryLoop_shift]
      cases entryLoop b num p2 [] with
      | ok r3 => obtain ⟨es, p3⟩ := r3; rfl
      | _ => rfl
    | _ => rfl
  | _ => rfl

theorem tableLoop_shift (p b : Buf) : ∀ (fuel pos : Nat) (acc : List Sub),
    tableLoop (p ++ b) fuel (p.size + pos) acc = omap (shV p.size) (tableLoop b fuel pos acc) := by
  intro fuel
  induction fuel with
  | zero => intro pos acc; rfl
  | succ fuel ih =>
    intro pos acc
    simp only [tableLoop]
    rw [peek_shift]
    cases peek b pos with
    | ok w =>
      simp only [omap, sh2, slice_shift]
      split
      · rfl
      · rw [readSub_shift]
        cases readSub b pos with
        | ok r => obtain ⟨s, q⟩ := r; exact ih q (s :: acc)
        | _ => rfl
    | _ => rfl

theorem parseTable_shift (p b : Buf) (fuel pos : Nat) :
    parseTable (p ++ b) fuel (p.size + pos) = omap (shV p.size) (parseTable b fuel pos) := by
  unfold parseTable
  rw [tableLoop_shift]
  cases tableLoop b fuel pos [] with
  | ok r =>
    obtain ⟨subs, q⟩ := r
    simp only [omap, shV]
    rw [nextExpect_shift]
    cases nextExpect b q kwTrailer <;> rfl
  | _ => rfl

theorem trailerDict_shift (env : Env R) (p b : Buf) (hsz : (p ++ b).size ≤ 2147483647) (hlen : LenBounded env)
    (pfuel pos : Nat) :
    trailerDict env (p ++ b) pfuel (p.size + pos) = omap (shV p.size) (trailerDict (env.shiftOffset p.size) b pfuel pos) := by
  unfold trailerDict parseWithLexer
  rw [parseCtx_shift env p b hsz hlen]
  cases parseCtx (env.shiftOffset p.size) b pfuel pos none Flags.dict maxDepth with
  | ok r =>
    obtain ⟨v, q⟩ := r
    cases v <;> rfl
  | _ => rfl

/-- **The classic table reader under a prefix**: subsections and trailer dictionary are the same, the cursor
    rests `p.size` further on (any content; the table loop's fuel and the parser's fuel as given). -/
theorem parseXrefTableAndTrailer_shift (env : Env R) (p b : Buf) (hsz : (p ++ b).size ≤ 2147483647)
    (hlen : LenBounded env) (fuel pfuel pos : Nat) :
    parseXrefTableAndTrailer env (p ++ b) fuel pfuel (p.size + pos)
      = omap (shT p.size) (parseXrefTableAndTrailer (env.shiftOffset p.size) b fuel pfuel pos) := by
  unfold parseXrefTableAndTrailer
  rw [parseTable_shift]
  cases parseTable b fuel pos with
  | ok r =>
    obtain ⟨subs, q⟩ := r
    simp only [omap, shV]
    rw [trailerDict_shift env p b hsz hlen]
    cases trailerDict (env.shiftOffset p.size) b pfuel q with
    | ok dq => obtain ⟨d, q2⟩ := dq; rfl
    | _ => rfl
  | _ => rfl

/-! ### `lexer.back()` -/

/-- the prefix cannot be run into from behind: it is empty or ends in white-space -/
def EndsWs (p : Buf) : Prop := p.size = 0 ∨ ∃ c, p[p.size - 1]? = some c ∧ isWhitespace c = true

theorem scanBack_shift_nonws (p b : Buf) (hp : EndsWs p) :
    ∀ (pos : Nat), pos ≤ b.size →
      scanBack (p ++ b) (fun c => !isWhitespace c) (p.size + pos) = p.size + scanBack b (fun c => !isWhitespace c) pos := by
  intro pos
  induction pos with
  | zero =>
    intro _
    simp only [Nat.add_zero, scanBack]
    rcases hp with h0 | ⟨c, hc, hw⟩
    · have : p = #[] := by apply Array.eq_empty_of_size_eq_zero; exact h0
      subst this; simp [scanBack]
    · have hpos : 0 < p.size := by have := getElem?_lt hc; omega
      obtain ⟨m, hm⟩ : ∃ m, p.size = m + 1 := ⟨p.size - 1, by omega⟩
      rw [hm]
      simp only [scanBack]
      have : (p ++ b)[m]? = some c := by
        rw [Array.getElem?_append_left (by omega)]
        have : p.size - 1 = m := by omega
        rw [this] at hc; exact hc
      simp [this, hw]
  | succ pos ih =>
    intro hle
    have e : p.size + (pos + 1) = (p.size + pos) + 1 := by omega
    rw [e]
    simp only [scanBack, get_shift]
    cases b[pos]? with
    | none => rfl
    | some c =>
      simp only
      split
      · exact ih (by omega)
      · rfl

/-- `back` from a position whose preceding byte (in `b`) is not white-space -/
theorem back_shift (p b : Buf) (hp : EndsWs p) (q : Nat) (hq : q ≤ b.size) (c : UInt8) (hq0 : 0 < q)
    (hc : b[q - 1]? = some c) (hcw : isWhitespace c = false) :
    back (p ++ b) (p.size + q) = omap (sh2 p.size) (back b q) := by
  obtain ⟨m, hm⟩ : ∃ m, q = m + 1 := ⟨q - 1, by omega⟩
  subst hm
  have hc' : b[m]? = some c := by simpa using hc
  unfold back boundaryRev
  simp only [size_shift]
  have h1 : ¬ p.size + (m + 1) > p.size + b.size := by omega
  have h2 : ¬ m + 1 > b.size := by omega
  simp only [h1, h2, if_false, Out.bind_ok]
  have e1 : scanBack (p ++ b) isWhitespace (p.size + (m + 1)) = p.size + (m + 1) := by
    have : p.size + (m + 1) = (p.size + m) + 1 := by omega
    rw [this]; simp [scanBack, get_shift, hc', hcw]
  have e2 : scanBack b isWhitespace (m + 1) = m + 1 := by simp [scanBack, hc', hcw]
  rw [e1, e2]
  simp only [h1, h2, if_false, Out.bind_ok]
  rw [scanBack_shift_nonws p b hp (m + 1) hq]
  exact newSubstr_shift p b _ _

/-! ### a lexeme is non-empty and ends in a byte that is not white-space -/

/-- every byte the scan passed over satisfies `cond` (induction along the scan: a step is taken only on such
    a byte, and the fuel `size - pos` lets the scan reach the end of the buffer) -/
theorem scanWhile_passed (b : Buf) (cond : UInt8 → Bool) (fuel pos : Nat) (hf : b.size - pos ≤ fuel) :
    ∀ i, pos ≤ i → i < scanWhile b cond fuel pos → ∃ c, b[i]? = some c ∧ cond c = true := by
  fun_induction scanWhile b cond fuel pos <;> grind [getElem?_lt]

def NonWsAt (b : Buf) (a : Nat) : Prop := ∃ c, b[a]? = some c ∧ isWhitespace c = false

theorem delim_not_ws' : ∀ d, isDelimiter d = true → isWhitespace d = false := PdfLex.delim_not_ws

/-- the run of regular bytes from `a`: its end, and that every byte in it is regular -/
theorem scanRegular_spec (b : Buf) (a : Nat) (ha : a ≤ b.size) :
    a ≤ scanRegular b a ∧ scanRegular b a ≤ b.size ∧
      (∀ i, a ≤ i → i < scanRegular b a → ∃ c, b[i]? = some c ∧ isRegular c = true) :=
  ⟨(scanRegular_bounds b a ha).1, (scanRegular_bounds b a ha).2, scanWhile_passed b isRegular _ a (Nat.le_refl _)⟩

theorem lexemeAt_last (b : Buf) (a : Nat) (w : Nat × Nat) (hn : NonWsAt b a) (h : lexemeAt b a = .ok w) :
    w.1 = a ∧ a < w.2 ∧ w.2 ≤ b.size ∧ NonWsAt b (w.2 - 1) := by
  obtain ⟨c0, hc0, hw0⟩ := hn
  have hlt : a < b.size := getElem?_lt hc0
  have hadv : advancePos b a = .ok (a + 1) := by simp [advancePos, hlt]
  unfold lexemeAt at h
  by_cases hd : isDelimAt b a = true
  · simp only [hd, if_true, hc0, hadv, Out.bind_ok] at h
    have hdel : isDelimiter c0 = true := by simpa [isDelimAt, hc0] using hd
    by_cases h47 : (c0 == 47) = true
    · simp only [h47, if_true] at h
      obtain ⟨h1, h2, h3⟩ := scanRegular_spec b (a + 1) (by omega)
      have := newSubstr_eq (by omega) h
      subst this
      refine ⟨rfl, by simp; omega, h2, ?_⟩
      simp only
      rcases Nat.eq_or_lt_of_le h1 with heq | hgt
      · rw [← heq]; simp; exact ⟨c0, hc0, hw0⟩
      · obtain ⟨c, hc, hr⟩ := h3 (scanRegular b (a + 1) - 1) (by omega) (by omega)
        exact ⟨c, hc, regular_not_ws hr⟩
    · simp only [h47, Bool.false_eq_true, if_false] at h
      by_cases hdb : isDouble b a = true
      · simp only [hdb, if_true, Out.bind_ok] at h
        -- `isDouble`: the byte at `a + 1` exists and is `<` or `>`
        unfold isDouble at hdb
        simp only [hc0] at hdb
        cases h1 : b[a + 1]? with
        | none => simp [h1] at hdb
        | some c1 =>
          have hlt1 := getElem?_lt h1
          have hadv1 : advancePos b (a + 1) = .ok (a + 2) := by simp [advancePos, hlt1]
          simp only [hadv1, Out.bind_ok] at h
          have := newSubstr_eq (by omega) h
          subst this
          refine ⟨rfl, by simp, by simp; omega, ?_⟩
          simp only [h1] at hdb
          have hc1 : isWhitespace c1 = false := by
            have : c1 = 60 ∨ c1 = 62 := by
              simp at hdb
              rcases hdb with ⟨_, h⟩ | ⟨_, h⟩ <;> simp [h]
            rcases this with rfl | rfl <;> decide
          exact ⟨c1, by simpa using h1, hc1⟩
      · simp only [hdb, Bool.false_eq_true, if_false, Out.bind_ok, hadv] at h
        have := newSubstr_eq (by omega) h
        subst this
        exact ⟨rfl, by simp, by simp; omega, ⟨c0, by simpa using hc0, hw0⟩⟩
  · simp only [hd, Bool.false_eq_true, if_false] at h
    have hnd : isDelimiter c0 = false := by
      have : isDelimAt b a = false := by simpa using hd
      simpa [isDelimAt, hc0] using this
    have hreg0 : isRegular c0 = true := isRegular_iff.2 ⟨hw0, hnd⟩
    obtain ⟨h1, h2, h3⟩ := scanRegular_spec b a (by omega)
    -- the run is not empty: the byte at `a` is regular
    have hgt : a < scanRegular b a := by
      rcases Nat.eq_or_lt_of_le h1 with heq | hgt
      · exfalso
        have hs : scanWhile b isRegular (b.size - a) a = a := by simpa [scanRegular] using heq.symm
        have hstop := scanWhile_stop_byte b isRegular (b.size - a) a (by omega)
        rw [hs] at hstop
        obtain ⟨c, hc, hcr⟩ := hstop
        rw [hc0] at hc; cases hc
        rw [hreg0] at hcr; cases hcr
      · exact hgt
    have := newSubstr_eq (by omega) h
    subst this
    obtain ⟨c, hc, hr⟩ := h3 (scanRegular b a - 1) (by omega) (by omega)
    exact ⟨rfl, hgt, h2, ⟨c, hc, regular_not_ws hr⟩⟩

theorem tokenStart_nonws {b : Buf} {pos a : Nat} (h : tokenStart b pos = .ok a) : NonWsAt b a := by
  by_cases hp : pos ≤ b.size
  · rcases tokenStart_spec b pos hp with e | ⟨p, e, _, hlt, hws⟩ <;> rw [e] at h <;> cases h
    exact ⟨b[a], by simp [hlt], by simpa [isWsAt, hlt] using hws⟩
  · unfold tokenStart skipWhitespace boundary at h
    simp [show pos > b.size by omega] at h

theorem nextWord_last (b : Buf) (pos : Nat) (w : Nat × Nat) (h : nextWord b pos = .ok w) :
    w.1 < w.2 ∧ w.2 ≤ b.size ∧ NonWsAt b (w.2 - 1) := by
  unfold nextWord at h
  split at h
  · cases h
  · obtain ⟨a, ha, h⟩ := Out.bind_eq_ok h
    obtain ⟨h1, h2, h3, h4⟩ := lexemeAt_last b a w (tokenStart_nonws ha) h
    exact ⟨by omega, h3, h4⟩

/-- **The section reader under a prefix.** The table branch unconditionally; the stream branch goes through
    `lexer.back()`, so the prefix must be empty or end in white-space (`EndsWs`), and the stream reader itself
    must be shift-compatible (`hstm`). -/
theorem readXrefAndTrailerAt_shift (env : Env R) (stm stm' : Buf → Nat → Out (List Sub × Dict R)) (p b : Buf)
    (hsz : (p ++ b).size ≤ 2147483647) (hlen : LenBounded env) (hp : EndsWs p)
    (hstm : ∀ q, stm (p ++ b) (p.size + q) = stm' b q) (fuel pfuel pos : Nat) :
    readXrefAndTrailerAt env stm (p ++ b) fuel pfuel (p.size + pos)
      = readXrefAndTrailerAt (env.shiftOffset p.size) stm' b fuel pfuel pos := by
  unfold readXrefAndTrailerAt
  rw [next_shift]
  cases hw : next b pos with
  | ok w =>
    simp only [omap, sh2, slice_shift]
    split
    · rw [parseXrefTableAndTrailer_shift env p b hsz hlen]
      cases parseXrefTableAndTrailer (env.shiftOffset p.size) b fuel pfuel w.2 with
      | ok r => rfl
      | _ => rfl
    · obtain ⟨h1, h2, ⟨c, hc, hcw⟩⟩ := nextWord_last b pos w hw
      rw [back_shift p b hp w.2 h2 c (by omega) hc hcw]
      cases back b w.2 with
      | ok bk => simp only [omap, sh2]; exact hstm bk.1
      | _ => rfl
  | _ => rfl

end PdfShift
