import PdfModel.Model.OpenBytes
import PdfModel.Lemmas.Indirect
import PdfModel.Lemmas.XrefStream
import PdfModel.Lemmas.Sequence
import PdfModel.Lemmas.SaveBytes
import PdfModel.Lemmas.XrefWidths

/-! The cross-reference stream reader of the byte-level open path on a conformant stream object. -/

namespace OpenBytes
open PdfLex Xref
open PdfSyntax (Gap Bnd SpellsStream WFE keysOf vdepthE needE)

variable {R : Type}

/-- `entries >> stream EOL data endstream` behind an opening `<<`: the dictionary loop returns `info`, the lexeme behind it
    is `stream`, `parse_stream_object` returns the stream, and the data stands at `dataPos` (followed by at least
    `endstream`) -/
theorem dictStream_spec (env : Env R) (hd : env.decrypt = none) (info : Dict R) (data : List UInt8)
    (hwf : WFE info) (hnd : (keysOf info).Nodup) (hlen : LengthIs env info data.length) {buf : Buf}
    (hsz : buf.size ≤ 2147483647) (g1 ents g2 eol g3 rest : List UInt8) (hg1 : Gap g1)
    (hents : PdfSyntax.SpellsEntries env.parseReal info ents) (hg2 : Gap g2) (heol : eol = [10] ∨ eol = [13, 10]) (hg3 : Gap g3)
    (p f d : Nat) (ctx : Option (Nat × Nat)) (id : Nat × Nat)
    (h : Suffix buf p (g1 ++ ents ++ (g2 ++ kwStream ++ eol ++ data ++ g3 ++ kwEndstream ++ rest))) (hb : Bnd rest)
    (hfuel : needE info ≤ f) (hdepth : vdepthE info ≤ d) :
    ∃ pk dataPos, parseDict env buf f p ctx d [] = .ok (info, p + g1.length + ents.length) ∧
      peek buf (p + g1.length + ents.length) = .ok pk ∧ slice buf pk.1 pk.2 = kwStream ∧
      parseStreamObject env buf (p + g1.length + ents.length) info id = .ok (streamAt env info id dataPos data.length,
        p + g1.length + ents.length + (g2 ++ kwStream ++ eol ++ data ++ g3 ++ kwEndstream).length) ∧
      Suffix buf dataPos (data ++ (g3 ++ kwEndstream ++ rest)) := by
  have hdict := parseDict_spells env hd info ents hents hwf hsz g1 _ p f ctx d [] hg1 h hnd (by simp [keysOf]) hfuel hdepth
  have hs3 : Suffix buf (p + g1.length + ents.length) (g2 ++ kwStream ++ eol ++ data ++ g3 ++ kwEndstream ++ rest) := by
    simpa [Nat.add_assoc] using Suffix.drop (a := g1 ++ ents) h
  have hbe : Bnd (eol ++ data ++ g3 ++ kwEndstream ++ rest) := by rcases heol with rfl | rfl <;> (simp [Bnd]; decide)
  obtain ⟨hn2, hsl2⟩ := next_regular g2 kwStream (eol ++ data ++ g3 ++ kwEndstream ++ rest) _ hg2 (by simpa using hs3)
    (by decide) kw_stream_regular hbe
  refine ⟨_, _, hdict, peek_ok hn2, hsl2, parseStreamObject_spec env hsz info g2 eol data g3 rest _ id hg2 heol hg3 hlen hs3 hb, ?_⟩
  have := Suffix.drop (a := g2 ++ kwStream ++ eol) (s := data ++ (g3 ++ kwEndstream ++ rest)) (by simpa using hs3)
  simpa [Nat.add_assoc] using this

/-! ### the fields of `parsers` -/

theorem parsers_xrefAt (env : Env R) (pfuel : Nat) (dec : Dict R → List UInt8 → Out (List UInt8)) (bs : List UInt8) :
    (parsers env pfuel dec).xrefAt bs =
      XrefTable.xrefAt { env with fileOffset := 0 } (stmC { env with fileOffset := 0 } dec) bs := rfl

theorem parsers_sizeOf (env : Env R) (pfuel : Nat) (dec : Dict R → List UInt8 → Out (List UInt8)) (T : Dict R) :
    (parsers env pfuel dec).sizeOf T = match dictGet T Offsets.kwSize with | some v => Offsets.asNat v | none => .err := rfl

theorem parsers_prevOf (env : Env R) (pfuel : Nat) (dec : Dict R → List UInt8 → Out (List UInt8)) (T : Dict R) :
    (parsers env pfuel dec).prevOf T = (dictGet T Offsets.kwPrev).map Offsets.asNat := rfl

theorem parsers_objAt (env : Env R) (pfuel : Nat) (dec : Dict R → List UInt8 → Out (List UInt8)) (fl : Offsets.Flags)
    (sfx : List UInt8) : (parsers env pfuel dec).objAt fl sfx =
      Offsets.toObjParse (parseIndirectObject { env with fileOffset := 0 } sfx.toArray pfuel 0 (Offsets.flagsNat fl)) := rfl

/-- the fuel the dictionary of a stream needs is below three times the length of any spelling of the stream object -/
theorem needE_le_spellsStream {pr : List UInt8 → Option R} {info : Dict R} {data txt : List UInt8}
    (h : SpellsStream pr info data txt) : needE info + 6 ≤ 3 * txt.length := by
  obtain ⟨g1, ents, g2, eol, g3, rfl, _, hents, _⟩ := h
  have := PdfLex.needE_bound pr _ ents hents
  simp only [List.length_cons, List.length_append]; omega

/-- `parse_stream_with_lexer` on a conformant stream object -/
theorem parseStream_spec (env : Env R) (hd : env.decrypt = none) (info : Dict R) (data txt : List UInt8)
    (hsp : SpellsStream env.parseReal info data txt) (hwf : WFE info) (hnd : (keysOf info).Nodup)
    (hlen : LengthIs env info data.length) {buf : Buf} (hsz : buf.size ≤ 2147483647)
    (g rest : List UInt8) (pos fuel : Nat) (id : Nat × Nat) (hg : Gap g)
    (h : Suffix buf pos (g ++ txt ++ rest)) (hb : Bnd rest) (hfuel : needE info ≤ fuel)
    (hdepth : vdepthE info ≤ maxDepth) :
    ∃ dataPos, parseStream env buf fuel pos id =
        .ok (streamAt env info id dataPos data.length, pos + g.length + txt.length) ∧
      slice buf dataPos (dataPos + data.length) = data := by
  obtain ⟨g1, ents, g2, eol, g3, rfl, hg1, hents, hg2, heol, hg3⟩ := hsp
  rw [kwStream_eq, kwEndstream_eq] at h ⊢
  have h' : Suffix buf pos (g ++ 60 :: 60 :: (g1 ++ ents ++ (g2 ++ kwStream ++ eol ++ data ++ g3 ++ kwEndstream ++ rest))) := by
    simpa using h
  obtain ⟨hn, hsl⟩ := next_double g 60 _ pos hg h' (Or.inl rfl)
  obtain ⟨pk, dataPos, hdict, hpk, hsl2, hso, hdata⟩ := dictStream_spec env hd info data hwf hnd hlen hsz g1 ents g2 eol g3 rest
    hg1 hents hg2 heol hg3 (pos + g.length + 2) fuel maxDepth none id h'.drop.tail.tail hb hfuel hdepth
  refine ⟨dataPos, ?_, hdata.slice⟩
  have e1 : (([60, 60] : List UInt8) == [60, 60]) = true := by decide
  simp only [parseStream, hn, Out.bind_ok, hsl, e1, if_true, hdict, hpk, hsl2, beq_self_eq_true, hso]
  congr 2
  simp only [List.length_cons, List.length_append]; omega

/-- `id gen obj <stream object> endobj` (any gaps) read by `parse_indirect_stream` -/
theorem parseIndirectStream_spec (env : Env R) (hd : env.decrypt = none) (info : Dict R) (data txt : List UInt8)
    (hsp : SpellsStream env.parseReal info data txt) (hwf : WFE info) (hnd : (keysOf info).Nodup)
    (hlen : LengthIs env info data.length) (hdepth : vdepthE info ≤ maxDepth) {buf : Buf} (hsz : buf.size ≤ 2147483647)
    (g0 a g1 b g2 g3 g4 rest : List UInt8) (id gen pos fuel : Nat) (hg0 : Gap g0)
    (ha : PdfSyntax.NatTok a id) (hb : PdfSyntax.NatTok b gen) (hg1 : Gap g1) (hg1ne : g1 ≠ []) (hg2 : Gap g2) (hg2ne : g2 ≠ [])
    (hid : id ≤ 18446744073709551615) (hgen : gen ≤ 18446744073709551615) (hg3 : Gap g3) (hg4 : Gap g4) (hg4ne : g4 ≠ [])
    (h : Suffix buf pos (g0 ++ a ++ g1 ++ b ++ g2 ++ kwObj ++ g3 ++ txt ++ g4 ++ kwEndobj ++ rest))
    (hbnd : Bnd rest) (hfuel : needE info ≤ fuel) :
    ∃ dataPos, parseIndirectStream env buf fuel pos =
        .ok (((id, gen), streamAt env info (id, gen) dataPos data.length),
          pos + (g0 ++ a ++ g1 ++ b ++ g2 ++ kwObj ++ g3 ++ txt ++ g4 ++ kwEndobj).length) ∧
      slice buf dataPos (dataPos + data.length) = data := by
  have hb3 : Bnd (g3 ++ txt ++ g4 ++ kwEndobj ++ rest) := by
    cases g3 with
    | nil => obtain ⟨_, _, _, _, _, rfl, _⟩ := hsp; exact (by decide : PdfSyntax.isReg 60 = false)
    | cons c g3' => simpa using gap_bnd hg3 (by simp) (txt ++ g4 ++ kwEndobj ++ rest)
  obtain ⟨p1, hh, h2, _, he⟩ := indirect_frame g0 a g1 b g2 g3 txt g4 rest id gen pos hg0 ha hb hg1 hg1ne hg2 hg2ne hid hgen
    hg4 h hb3 hbnd
  obtain ⟨dataPos, hps, hdata⟩ := parseStream_spec env hd info data txt hsp hwf hnd hlen hsz g3 _ p1 fuel (id, gen)
    hg3 h2 (by simpa using gap_bnd hg4 hg4ne (kwEndobj ++ rest)) hfuel hdepth
  exact ⟨dataPos, by simp only [parseIndirectStream, hh, Out.bind_ok, hps, he], hdata⟩

/-- `n 0 obj <stream object> endobj` as `save` writes its cross-reference stream, read by
    `parse_indirect_stream`, followed by a lexeme other than `trailer` (in a saved file: `startxref`): what `xrefStreamHead`
    returns -/
theorem xrefStreamHead_spec (env : Env R) (hd : env.decrypt = none) (info : Dict R) (data txt : List UInt8)
    (hsp : SpellsStream env.parseReal info data txt) (hwf : WFE info) (hnd : (keysOf info).Nodup)
    (hlen : LengthIs env info data.length) (hdepth : vdepthE info ≤ maxDepth) {buf : Buf} (hsz : buf.size ≤ 2147483647)
    (id pos : Nat) (hid : id ≤ 18446744073709551615) (tailw rest : List UInt8)
    (htw : tailw ≠ []) (htr : ∀ b ∈ tailw, isRegular b = true) (hnt : tailw ≠ kwTrailer) (hbr : Bnd rest)
    (h : Suffix buf pos (fmtNat id ++ [32, 48, 32] ++ kwObj ++ [10] ++ (txt ++ [10]) ++ kwEndobj ++ [10] ++ ([10] ++ tailw ++ rest)))
    (hfuel : needE info ≤ defaultFuel buf) :
    ∃ dataPos p, xrefStreamHead env buf pos = .ok ((streamAt env info (id, 0) dataPos data.length, info), p) ∧
      slice buf dataPos (dataPos + data.length) = data := by
  have hsp1 : Gap [32] := Gap.ws 32 [] (by decide) Gap.nil
  have hnl : Gap [10] := Gap.ws 10 [] (by decide) Gap.nil
  have h0 : PdfSyntax.NatTok ([48] : List UInt8) 0 := by have := fmtNat_spec 0; simpa [fmtNat, natDigitsAux, digitByte] using this
  have hs1 : Suffix buf pos ([] ++ fmtNat id ++ [32] ++ [48] ++ [32] ++ kwObj ++ [10] ++ txt ++ [10] ++ kwEndobj ++
      ([10, 10] ++ tailw ++ rest)) := by simpa using h
  obtain ⟨dataPos, hps, hdata⟩ := parseIndirectStream_spec env hd info data txt hsp hwf hnd hlen hdepth hsz [] (fmtNat id) [32]
    [48] [32] [10] [10] _ id 0 pos (defaultFuel buf) Gap.nil (fmtNat_spec id) h0 hsp1 (by simp) hsp1 (by simp) hid (by decide)
    hnl hnl (by simp) hs1 (by simp [Bnd]; decide) hfuel
  -- the lexeme behind `endobj` is not `trailer`
  obtain ⟨hn, hsl⟩ := next_regular [10, 10] tailw rest _ (Gap.ws 10 [10] (by decide) hnl) hs1.drop htw htr hbr
  have hne : (tailw == kwTrailer) = false := by simpa using hnt
  exact ⟨dataPos, _, by
    simp only [xrefStreamHead, hps, Out.bind_ok, hn, hsl, hne, Bool.false_eq_true, if_false, streamAt]
    rfl, hdata⟩

/-! ### the rows: `write_stream`'s bytes are the spec-side encoding, and the reader reads them back -/

theorem toBE_snoc : ∀ (w n : Nat), Xref.toBE (w + 1) n = Xref.toBE w (n / 256) ++ [UInt8.ofNat (n % 256)] := by
  intro w
  induction w with
  | zero => intro n; simp [Xref.toBE]
  | succ w ih =>
    intro n
    have e : n / 256 ^ (w + 1) = n / 256 / 256 ^ w := by
      rw [Nat.div_div_eq_div_mul, Nat.pow_succ, Nat.mul_comm]
    rw [Xref.toBE, ih n, Xref.toBE, e]; simp

theorem map_beBytes : ∀ (w n : Nat), (Storage.beBytes w n).map UInt8.ofNat = Xref.toBE w n := by
  intro w
  induction w with
  | zero => intro n; rfl
  | succ w ih => intro n; rw [Storage.beBytes, List.map_append, ih, toBE_snoc]; rfl

/-- a row as a reader sees it: free, in use, or compressed -/
def IsRow : Xref.XRef → Prop
  | .free _ _ => True
  | .raw _ _ => True
  | .stream _ _ => True
  | _ => False

theorem rowBytes_encode (aw bw : Nat) (r : Xref.XRef) (h : IsRow r) :
    (Storage.rowBytes aw bw r).map UInt8.ofNat = Xref.encodeEntry 1 aw bw r := by
  cases r <;> simp [IsRow] at h <;>
    simp [Storage.rowBytes, Storage.fieldsOf, Xref.encodeEntry, Xref.fieldsOf, map_beBytes, Xref.toBE]

theorem rowsData_encode (i : Storage.SaveInfo) (h : ∀ r ∈ i.rows, IsRow r) :
    SaveBytes.rowsData i = Xref.encodeRows 1 i.aw i.bw i.rows := by
  unfold SaveBytes.rowsData Xref.encodeRows
  generalize i.rows = rows at h
  induction rows with
  | nil => rfl
  | cons r rs ih =>
    simp only [List.flatMap_cons, List.map_append]
    rw [rowBytes_encode _ _ _ (h r (by simp)), ih (fun x hx => h x (by simp [hx]))]

theorem fits_of_fields (aw bw : Nat) (r : Xref.XRef) (h : IsRow r)
    (hf : ∀ ty a b, Storage.fieldsOf r = some (ty, a, b) → a < 256 ^ aw ∧ b < 256 ^ bw) : Xref.Fits 1 aw bw r := by
  cases r <;> simp [IsRow] at h <;> simp [Xref.Fits, Xref.fieldsOf] <;>
    (have := hf _ _ _ rfl; exact this)

/-- the one-section `/Index [0 n]` loop on the encoded rows -/
theorem parseSections_rows (aw bw : Nat) (rows : List Xref.XRef) (haw : aw ≤ 8) (hbw : bw ≤ 8)
    (hf : ∀ r ∈ rows, Xref.Fits 1 aw bw r) :
    Xref.parseSections [1, aw, bw] false [(0, rows.length)] (Xref.encodeRows 1 aw bw rows) [] = .ok [⟨0, rows⟩] := by
  have hlen := Xref.encodeRows_length 1 aw bw rows hf
  have hdiv : rows.length * (1 + aw + bw) / (1 + aw + bw) = rows.length := Nat.mul_div_cancel _ (by omega)
  have hre := Xref.readEntries_encode 1 aw bw rows [] [] (by decide) haw hbw hf
  simp only [List.append_nil, List.reverse_nil, List.nil_append] at hre
  have h1 : ¬ (1 + aw + bw ≥ Xref.U64) := by unfold Xref.U64; omega
  have h2 : ¬ (1 + aw + bw = 0) := by omega
  simp only [Xref.parseSections, Xref.parseSection, h1, h2, if_false, hlen, hdiv, Nat.lt_irrefl, gt_iff_lt, hre,
    List.reverse_cons, List.reverse_nil, List.nil_append]

/-! ### the cross-reference stream object `save` writes, read by `parse_xref_stream_and_trailer` -/

open SaveBytes in
theorem xrefDict_nofilter (tr : Storage.Trailer (Prim R)) (infoRef : Option Nat) (ids : List (List UInt8)) (i : Storage.SaveInfo) :
    dictGet (xrefDict tr ids infoRef i) kFilter = none :=
  (dictGet_xrefDict_own tr ids infoRef i kFilter (by decide)).trans rfl

open SaveBytes in
theorem xrefInfoOf_xrefDict (fmt : R → List UInt8) (pr : List UInt8 → Option R) (tr : Storage.Trailer (Prim R))
    (i : Storage.SaveInfo) (D : Dict R) (hf : XrefDictFacts fmt pr tr i D) (hsz : i.size ≤ 1000000) :
    xrefInfoOf D = .ok (i.size, [(0, i.rows.length)], [1, i.aw, i.bw]) := by
  have e1 : OpenBytes.kType = SaveBytes.kType := rfl
  have e2 : OpenBytes.kSize = SaveBytes.kSize := rfl
  have e3 : OpenBytes.kIndex = SaveBytes.kIndex := rfl
  have e4 : OpenBytes.kW = SaveBytes.kW := rfl
  have e5 : OpenBytes.kXRef = SaveBytes.kXRef := rfl
  have hs : (0 : Int) ≤ (i.size : Int) ∧ (i.size : Int) ≤ 4294967295 := by omega
  simp only [xrefInfoOf, e1, e2, e3, e4, e5, hf.type, hf.size, hf.w, hf.index, if_true, hs, and_self, natsOf, Out.bind,
    pairsOf, Int.toNat_natCast, ge_iff_le, Int.natCast_nonneg, (by decide : (0 : Int) ≤ 1), (by decide : (0 : Int) ≤ 0)]
  rfl

open SaveBytes in
/-- **the xref stream reads back**: `parse_xref_stream_and_trailer` on the object `save` wrote returns the one
    section `0 ..` with exactly the rows written, and the stream dictionary as trailer -/
theorem stmC_saved (fmt : R → List UInt8) (env : Env R) (hd : env.decrypt = none)
    (dec : Dict R → List UInt8 → Out (List UInt8)) (hdec : NoFilter dec)
    (tr : Storage.Trailer (Prim R)) (infoRef : Option Nat) (ids : List (List UInt8)) (i : Storage.SaveInfo)
    (hb : Bounds tr infoRef i) (hxid : i.xid ≤ 18446744073709551615)
    (hrows : ∀ r ∈ i.rows, IsRow r) (hfits : ∀ r ∈ i.rows, Xref.Fits 1 i.aw i.bw r)
    (body : List UInt8) (hbody : serialize fmt (.stream (xrefDict tr ids infoRef i) (.pending (rowsData i))) = .ok body)
    {buf : Buf} (hsz : buf.size ≤ 2147483647) (pos : Nat) (ext : List UInt8)
    (h : Suffix buf pos ((fmtNat i.xid ++ [32, 48, 32] ++ kwObj ++ [10] ++ body ++ kwEndobj ++ [10]) ++ tailBytes i ++ ext)) :
    stmC env dec buf pos = .ok ([⟨0, i.rows⟩], xrefDict tr ids infoRef i) := by
  have hf := xrefDict_facts fmt env.parseReal tr infoRef ids i hb
  obtain ⟨txt, hser, hsp⟩ := serialize_stream_ok fmt env.parseReal (xrefDict tr ids infoRef i) (rowsData i) hf.ser
  rw [hbody] at hser
  simp only [Out.ok.injEq] at hser
  subst hser
  have hs : Suffix buf pos (fmtNat i.xid ++ [32, 48, 32] ++ kwObj ++ [10] ++ (txt ++ [10]) ++ kwEndobj ++ [10] ++
      ([10] ++ kwStartxref ++ ([10] ++ fmtNat i.xpos ++ [10] ++ kwEOF ++ ext))) := by
    simpa [tailBytes] using h
  have hfuel : needE (xrefDict tr ids infoRef i) ≤ defaultFuel buf := by
    have h1 := needE_le_spellsStream hsp
    have h2 := hs.size_eq
    simp only [List.length_append] at h2
    unfold defaultFuel; omega
  obtain ⟨dataPos, p, hhead, hdata⟩ := xrefStreamHead_spec env hd _ (rowsData i) txt hsp hf.wf hf.nodup (Or.inl hf.length)
    (Nat.le_trans hf.depth (by decide)) hsz i.xid pos hxid kwStartxref _ (by decide)
    (List.all_eq_true.mp (by decide +kernel : kwStartxref.all isRegular = true)) (by decide)
    (by simp [Bnd]; decide) hs hfuel
  have hinfo := xrefInfoOf_xrefDict fmt env.parseReal tr i _ hf hb.size
  have hnf := hdec _ (rowsData i) (xrefDict_nofilter tr infoRef ids i)
  have hps := parseSections_rows i.aw i.bw i.rows hb.aw hb.bw hfits
  rw [← rowsData_encode i hrows] at hps
  have e : env.fileOffset + dataPos + (rowsData i).length - env.fileOffset = dataPos + (rowsData i).length := by omega
  simp only [stmC, hhead, streamAt, hinfo, Nat.add_sub_cancel_left, e, hdata, hnf, hps]

end OpenBytes
