import PdfModel.Lemmas.DeriveRegistry
import PdfModel.Model.Dangling

/-! Lemmas for Props/C18: a dictionary entry that refers to a missing object is read like no entry. -/

namespace Derive

/-! ## errors -/

theorem isMissing_shared {e : Err} (h : e.isMissing true = true) : (Err.shared e).isMissing true = true := by
  simp [Err.isMissing, h]

theorem isMissing_tryE {e : Err} (h : e.isMissing true = true) : (Err.tryE e).isMissing true = true := by
  simp [Err.isMissing, h]

theorem rootErr_isMissing (k : DKind) : (rootErr k).isMissing true = true := by
  cases k <;> simp [rootErr, Err.isMissing]

/-! ## one field -/

theorem readField_of_absentLike (cfg : Cfg) (hp : cfg.peel = true) (sem : Sem) (env : Env) (f : Field) (acc : List Val)
    (p : Prim) (h : AbsentLike cfg sem env f p) :
    readField cfg sem env f acc (some p) = readField cfg sem env f acc none := by
  rcases h with ⟨e, he, hm⟩ | ⟨hd, v, hv, hn⟩
  · cases hd : f.default with
    | none => simp [readField, hd, readPlain, he, hp, hm]
    | some dx =>
      simp only [readField, hd, readDefaulted, hp, Bool.true_and]
      cases p.isNull <;> simp [he, hm]
  · simp [readField, hd, readPlain, readAbsent, hv, hn]

/-! ## the field loop -/

/-- the entry of field `f`, if `f` reads it like no entry, can be taken out before the loop runs. The keys of the
    fields are distinct, so `f` is the only field that looks at it. -/
theorem readFields_without (cfg : Cfg) (sem : Sem) (env : Env) (f : Field) (hfo : f.other = false) (p : Prim)
    (habs : ∀ acc, readField cfg sem env f acc (some p) = readField cfg sem env f acc none) :
    ∀ (fs : List Field) (d : Dict) (acc : List Val) (oth : Option Dict),
      (∀ g ∈ fs, g.skip = false) → lastIsOther fs = true → distinct (fkeys fs) = true → f ∈ fs →
      dget (keyOf f) d = some p →
      readFields cfg sem env fs d acc oth = readFields cfg sem env fs (derase (keyOf f) d) acc oth := by
  intro fs
  induction fs with
  | nil => intro d acc oth _ _ _ hf; cases hf
  | cons x xs ih =>
    intro d acc oth hskip hlast hdist hf hget
    have hs : x.skip = false := hskip x (by simp)
    have hskip' : ∀ g ∈ xs, g.skip = false := fun g hg => hskip g (by simp [hg])
    cases ho : x.other with
    | true =>
      have hnil := lastIsOther_cons_other hlast ho
      subst hnil
      rw [List.mem_singleton.1 hf, ho] at hfo; cases hfo
    | false =>
      have hfk : fkeys (x :: xs) = keyOf x :: fkeys xs := by simp [fkeys, hs, ho]
      rw [hfk, distinct_cons] at hdist
      have hkx := keyOf_eq x
      simp only [readFields, hs, ho, hkx]
      by_cases hx : f = x
      · subst hx
        rw [hget, dget_derase_self, habs acc, derase_fresh (dget_derase_self ..)]
        simp
      · have hm : f ∈ xs := (List.mem_cons.1 hf).resolve_left hx
        have hne : keyOf x ≠ keyOf f := fun e => hdist.1 (e ▸ mem_fkeys xs f hm (hskip' f hm) hfo)
        rw [dget_derase_ne (k := keyOf x) (k' := keyOf f) (fun e => hne e.symm) d]
        cases hr : readField cfg sem env x acc (dget (keyOf x) d) with
        | error e => rfl
        | ok v =>
          simp only
          rw [derase_comm (keyOf x) (keyOf f) d]
          exact ih (derase (keyOf x) d) (acc ++ [v]) oth hskip' (lastIsOther_tail hlast) hdist.2 hm
            (by rw [dget_derase_ne (k := keyOf f) (k' := keyOf x) hne d]; exact hget)

/-- **an entry that is read like no entry can be removed from the dictionary**: the derived reader of a
    well-formed schema gives the same result (value or error) -/
theorem struct_without_entry (cfg : Cfg) (sem : Sem) (env : Env) (S : Schema)
    (hk : S.kind = .struct) (hrd : S.derivesRead = true) (wf : S.WF)
    (f : Field) (hf : f ∈ S.fields) (hfo : f.other = false) (d : Dict) (p : Prim)
    (hget : dget (keyOf f) d = some p)
    (habs : ∀ acc, readField cfg sem env f acc (some p) = readField cfg sem env f acc none) :
    readStructD cfg sem env S d = readStructD cfg sem env S (derase (keyOf f) d) := by
  have F := structFacts hk hrd wf
  have hkm : keyOf f ∈ fkeys S.fields := mem_fkeys S.fields f hf (F.noSkip f hf) hfo
  have hnt : keyOf f ∉ S.tagKeys := fun h => F.disjoint _ h hkm
  have hfields := readFields_without cfg sem env f hfo p habs S.fields d [] none F.noSkip F.last F.distinctKeys hf hget
  simp only [readStructD]
  have hchecks : expectAll (derase (keyOf f) d) S.checks = expectAll d S.checks :=
    expectAll_derase S.checks (fun h => hnt (by simp [Schema.tagKeys]; exact Or.inr (by simpa using h)))
  rw [hchecks, ← hfields]
  cases ht : S.typeName with
  | none => rfl
  | some t =>
    simp only
    rw [expect_derase (d := d) (key := "Type") (value := t) (req := S.typeRequired) (k := keyOf f)
      (fun e => hnt (by simp [Schema.tagKeys, ht, e]))]

/-! ## which readers resolve the reference they are given -/

theorem chase_missing {env : Env} {p : Prim} {e : Err} (hr : p.isRef = true) (he : resolveP env p = .error e)
    (hd : 1 ≤ env.depth) : chase env env.depth p = .error e := by
  obtain ⟨d, hd'⟩ : ∃ d, env.depth = d + 1 := ⟨env.depth - 1, by omega⟩
  simp [hd', chase, hr, he]

/-- `Option<T>` and `Box<T>` resolve only if `T` does, and then `T` is not itself an `Option` (read off the arms of
    `Shape.dclass`: `Option<Option<_>>`, `Option<Box<_>>`, `Box<Option<_>>` are `unmodelled`, any other wrapper passes
    its argument's class on) -/
theorem dclass_wrapper {schemas : List Schema} {a : Shape}
    (h : (Shape.option a).dclass schemas = .resolves ∨ (Shape.box a).dclass schemas = .resolves) :
    (∀ b, a ≠ .option b) ∧ a.dclass schemas = .resolves := by
  cases a <;> simp_all [Shape.dclass]

/-- an `Option` around a reader that fails with a missing-object error is `None`, in either mode (repaired reader) -/
theorem option_of_reads_missing (cfg : Cfg) (hp : cfg.peel = true) (sem : Sem) (env : Env) (a : Shape) (p : Prim)
    (hm : ReadsMissing cfg sem env a p) (hnn : p.isNull = false) :
    readShape cfg sem env (.option a) p = .ok .none := by
  obtain ⟨e, he, hmiss⟩ := hm
  cases p <;> simp [Prim.isNull] at hnn <;> simp [readShape, he, hp, hmiss]

/-- the container impls hand a reference they are given to `resolve` / `get`, or pass it on to a reader that does -/
theorem resolves_reads_missing (cfg : Cfg) (sem : Sem) (env : Env) (schemas : List Schema) (p : Prim)
    (hm : MissingAt env p) (hd : 1 ≤ env.depth) (hsem : sem.ResolvesMissing env schemas p) :
    ∀ s, (∀ a, s ≠ .option a) → s.dclass schemas = .resolves → ReadsMissing cfg sem env s p := by
  obtain ⟨hr, e, he, hmiss⟩ := hm
  intro s
  induction s with
  | leaf n | model n | param n => intro _ hc; exact hsem _ rfl hc
  | leafApp n a _ | modelApp n a _ => intro _ hc; exact hsem _ rfl hc
  | option a _ => intro h; exact absurd rfl (h a)
  | vec a _ | hashMap a _ =>
    intro _ _
    exact ⟨e, by simp [readShape, hr, chase_missing hr he hd], hmiss⟩
  | box a ih =>
    intro _ hc
    obtain ⟨hno, hc'⟩ := dclass_wrapper (.inr hc)
    obtain ⟨e', he', hm'⟩ := ih hno hc'
    exact ⟨e', by simpa [readShape] using he', hm'⟩
  | maybeRef a _ | rcRef a _ =>
    intro _ _
    exact ⟨.shared e, by simp [readShape, hr, getTyped, he], isMissing_shared hmiss⟩
  | ref a _ | lazy a _ => intro _ hc; simp [Shape.dclass] at hc
  | pair a b _ _ =>
    intro _ _
    exact ⟨e, by simp [readShape, resolve1, he], hmiss⟩

/-- a field whose type resolves references reads an entry that refers to a missing object like no entry -/
theorem absentLike_of_dangling (cfg : Cfg) (hp : cfg.peel = true) (sem : Sem) (env : Env) (schemas : List Schema)
    (p : Prim) (hm : MissingAt env p) (hd : 1 ≤ env.depth) (hsem : sem.ResolvesMissing env schemas p)
    (f : Field) (hdef : f.default.isNone = true ∨ f.shape.isOption = false)
    (hc : f.shape.dclass schemas = .resolves) : AbsentLike cfg sem env f p := by
  by_cases hopt : ∃ a, f.shape = .option a
  · obtain ⟨a, hs⟩ := hopt
    rw [hs] at hc
    obtain ⟨hno, hc'⟩ := dclass_wrapper (.inl hc)
    have hmiss := resolves_reads_missing cfg sem env schemas p hm hd hsem a hno hc'
    have hdn : f.default = none := by
      rcases hdef with h | h
      · simpa using h
      · simp [hs, Shape.isOption] at h
    refine Or.inr ⟨hdn, .none, ?_, ?_⟩ <;> rw [hs]
    · exact option_of_reads_missing cfg hp sem env a p hmiss (isRef_isNull hm.1)
    · rfl
  · exact Or.inl (resolves_reads_missing cfg sem env schemas p hm hd hsem f.shape (fun a h => hopt ⟨a, h⟩) hc)

/-- **the entry of a field whose reader resolves references, if it refers to a missing object, is read like no
    entry** (repaired reader): the statement the C18 theorems about single fields and whole structs instantiate -/
theorem readField_dangling (cfg : Cfg) (hp : cfg.peel = true) (sem : Sem) (env : Env) (schemas : List Schema)
    (hd : 1 ≤ env.depth) (f : Field) (hdef : f.default.isNone = true ∨ f.shape.isOption = false)
    (hc : f.shape.dclass schemas = .resolves) (p : Prim) (hm : MissingAt env p)
    (hsem : sem.ResolvesMissing env schemas p) (acc : List Val) :
    readField cfg sem env f acc (some p) = readField cfg sem env f acc none :=
  readField_of_absentLike cfg hp sem env f acc p (absentLike_of_dangling cfg hp sem env schemas p hm hd hsem f hdef hc)

/-! ## the registry semantics resolves -/

section
variable {env : Env} {p : Prim} {e : Err} (hr : p.isRef = true) (he : resolveP env p = .error e)
include hr he

theorem asDict_missing (hd : 1 ≤ env.depth) : asDict env p = .error e := by
  simp [asDict, chase_missing hr he hd]

/-- the hand-written leaves that look at the object behind a reference (one arm of `leafClass` at a time) -/
theorem base_leaf_missing (hd : 1 ≤ env.depth) {x : String} (hc : leafClass x = .resolves)
    (h1 : x ≠ "PagesRc") (h2 : x ≠ "PageRc") (h3 : x ≠ "PagesNode") :
    baseRdPrim env x p = .error e := by
  have hv : ∀ f, viaResolve env f p = .error e := fun f => by simp [viaResolve, hr, he]
  have hd' := asDict_missing hr he hd
  have h1' : resolve1 env p = .error e := he
  unfold leafClass at hc
  split at hc
  · rw [baseRdPrim, hv]  -- i32
  · rw [baseRdPrim, hv]  -- u32
  · rw [baseRdPrim, hv]  -- usize
  · rw [baseRdPrim, hv]  -- f32
  · rw [baseRdPrim, hv]  -- bool
  · rw [baseRdPrim, hv]  -- Name
  · rw [baseRdPrim, hv]  -- PdfString
  · rw [baseRdPrim, hd']  -- Dictionary
  · rw [baseRdPrim, h1']  -- Rectangle
  · rw [baseRdPrim, h1']  -- Matrix
  · exact absurd rfl h1  -- PagesRc
  · exact absurd rfl h2  -- PageRc
  · exact absurd rfl h3  -- PagesNode
  all_goals cases hc

end

theorem semN_resolves_missing (cfg : Cfg) (schemas : List Schema) (env : Env) (p : Prim)
    (hm : MissingAt env p) (hd : 1 ≤ env.depth) (n : Nat) :
    (semN cfg schemas (n + 1)).ResolvesMissing env schemas p := by
  obtain ⟨hr, e, he, hmiss⟩ := hm
  have hr1 : resolve1 env p = .error e := he
  have hrc : ∀ want, readPagesRc cfg schemas (semN cfg schemas n) env want p = .error (.tryE (.shared e)) := by
    intro want; simp [readPagesRc, hr, getTyped, he]
  have hstruct : ∀ S, readStruct cfg (semN cfg schemas n) env S p = .error e := by
    intro S; simp only [readStruct, asDict_missing hr he hd]
  intro s hnc hc
  cases s with
  | leaf x =>
    by_cases h1 : x = "PagesRc"
    · subst h1; exact ⟨_, hrc "Pages", isMissing_tryE (isMissing_shared hmiss)⟩
    by_cases h2 : x = "PageRc"
    · subst h2; exact ⟨_, hrc "Page", isMissing_tryE (isMissing_shared hmiss)⟩
    by_cases h3 : x = "PagesNode"
    · subst h3
      refine ⟨e, ?_, hmiss⟩
      show readPagesNode cfg schemas _ env p = _
      simp only [readPagesNode, hr1]
    refine ⟨e, ?_, hmiss⟩
    rw [semN_rd_leaf cfg schemas env h1 h2 h3]
    simp only [baseSem, base_leaf_missing hr he hd hc h1 h2 h3]
  | model m =>
    simp only [Shape.dclass] at hc
    cases hf : findSchema m schemas with
    | none => simp [hf] at hc
    | some S =>
      refine ⟨e, ?_, hmiss⟩
      simp only [hf] at hc
      cases hk : S.kind <;> simp [hk] at hc
      · rw [semN, (structSem_model_struct cfg schemas _ hf hk env).1, hstruct]
      · rw [semN, (structSem_model_enum cfg schemas _ hf (.inl hk) env).1, readEnum, hr1]
      · rw [semN, (structSem_model_enum cfg schemas _ hf (.inr hk) env).1, readEnum, hr1]
  | modelApp m a =>
    simp only [Shape.dclass] at hc
    cases hf : findSchema m schemas with
    | none => simp [hf] at hc
    | some S =>
      refine ⟨e, ?_, hmiss⟩
      show (match findSchema m schemas with
        | some S => readStruct cfg (semN cfg schemas n) env (S.inst a) p | none => .error .oof) = _
      rw [hf]; exact hstruct _
  | leafApp x a => simp [Shape.dclass] at hc
  | param x => simp [Shape.dclass] at hc
  | _ => simp [Shape.isContainer] at hnc

/-! ## array elements and dictionary values -/

theorem mapR_fails {α β : Type} (f : α → R β) (pre post : List α) (x : α) (e : Err)
    (hpre : ∀ y ∈ pre, ∃ v, f y = .ok v) (hx : f x = .error e) : mapR f (pre ++ x :: post) = .error e := by
  induction pre with
  | nil => simp [mapR, hx]
  | cons y ys ih =>
    obtain ⟨v, hv⟩ := hpre y (by simp)
    simp [mapR, hv, ih (fun z hz => hpre z (by simp [hz]))]

/-- `Vec<T>`: an element that refers to a missing object (the elements before it being readable) makes the whole
    array fail with that missing-object error -/
theorem vec_element_reads_missing (cfg : Cfg) (sem : Sem) (env : Env) (a : Shape) (pre post : List Prim) (p : Prim)
    (hpre : ∀ y ∈ pre, ∃ v, readShape cfg sem env a y = .ok v) (hm : ReadsMissing cfg sem env a p) :
    ReadsMissing cfg sem env (.vec a) (.arr (pre ++ p :: post)) := by
  obtain ⟨e, he, hmiss⟩ := hm
  refine ⟨e, ?_, hmiss⟩
  have := mapR_fails (fun x => readShape cfg sem env a x) pre post p e hpre he
  simp [readShape, Prim.isRef, this]

theorem mapKV_fails {α β : Type} (f : α → R β) (pre post : List (String × α)) (k : String) (x : α) (e : Err)
    (hpre : ∀ y ∈ pre, ∃ v, f y.2 = .ok v) (hx : f x = .error e) : mapKV f (pre ++ (k, x) :: post) = .error e := by
  induction pre with
  | nil => simp [mapKV, hx]
  | cons y ys ih =>
    obtain ⟨k', y'⟩ := y
    obtain ⟨v, hv⟩ := hpre (k', y') (by simp)
    simp [mapKV, hv, ih (fun z hz => hpre z (by simp [hz]))]

/-- `HashMap<Name, T>`: likewise for a dictionary value -/
theorem map_value_reads_missing (cfg : Cfg) (sem : Sem) (env : Env) (a : Shape) (pre post : List (String × Prim))
    (k : String) (p : Prim) (hpre : ∀ y ∈ pre, ∃ v, readShape cfg sem env a y.2 = .ok v)
    (hm : ReadsMissing cfg sem env a p) :
    ReadsMissing cfg sem env (.hashMap a) (.dict (pre ++ (k, p) :: post)) := by
  obtain ⟨e, he, hmiss⟩ := hm
  refine ⟨e, ?_, hmiss⟩
  have := mapKV_fails (fun x => readShape cfg sem env a x) pre post k p e hpre he
  simp [readShape, Prim.isRef, this]

end Derive
