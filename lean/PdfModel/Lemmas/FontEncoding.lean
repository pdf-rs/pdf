import PdfModel.Model.FontEncoding

/-! Lemmas for the /Differences array: groups, write/read round trip, look-up in a list sorted by code. -/

namespace FontEncoding
variable {ν : Type}

theorem ofI32_toI32 (g : Nat) (h : g < 4294967296) : ofI32 (toI32 g) = g := by
  unfold ofI32 toI32
  split
  · rename_i h1
    have h2 : ¬ ((g : Int) < 0) := by omega
    simp only [h2, if_false, Int.toNat_natCast]
  · rename_i h1
    have h2 : (g : Int) - 4294967296 < 0 := by omega
    simp only [h2, if_true]
    omega

/-- a well-formed /Differences array: groups `code name₀ name₁ …` -/
def renderGroups : List (Nat × List ν) → List (DP ν)
  | [] => []
  | (c, ns) :: r => .int (toI32 c) :: (ns.map .name ++ renderGroups r)

def enumNames (c : Nat) : List ν → List (Nat × ν)
  | [] => []
  | n :: r => (c, n) :: enumNames (c + 1) r

/-- the (code, name) pairs of the groups, in order -/
def groupPairs : List (Nat × List ν) → List (Nat × ν)
  | [] => []
  | (c, ns) :: r => enumNames c ns ++ groupPairs r

theorem readDiffs_names : ∀ (ns : List ν) (gid : Nat) (rest : List (DP ν)) (m : DMap ν), gid + ns.length < 4294967296 →
    readDiffs gid (ns.map .name ++ rest) m = readDiffs (gid + ns.length) rest ((enumNames gid ns).reverse ++ m)
  | [], gid, rest, m, _ => by simp [enumNames]
  | n :: r, gid, rest, m, h => by
    simp only [List.length_cons] at h
    have h1 : ¬ (gid + 1 ≥ 4294967296) := by omega
    simp only [List.map_cons, List.cons_append, readDiffs, h1, if_false]
    rw [readDiffs_names r (gid + 1) rest ((gid, n) :: m) (by omega)]
    simp only [enumNames, List.reverse_cons, List.append_assoc, List.singleton_append, List.length_cons]
    congr 1
    omega

theorem readDiffs_groups : ∀ (gs : List (Nat × List ν)) (gid : Nat) (m : DMap ν),
    (∀ g ∈ gs, g.1 + g.2.length < 4294967296) →
    readDiffs gid (renderGroups gs) m = .ok ((groupPairs gs).reverse ++ m)
  | [], gid, m, _ => by simp [renderGroups, readDiffs, groupPairs]
  | (c, ns) :: r, gid, m, h => by
    have hc := h (c, ns) (List.mem_cons_self ..)
    simp only at hc
    have ih := readDiffs_groups r (c + ns.length) ((enumNames c ns).reverse ++ m)
      (fun g hg => h g (List.mem_cons_of_mem _ hg))
    simp only [renderGroups, readDiffs, ofI32_toI32 c (by omega)]
    rw [readDiffs_names ns c _ m hc, ih]
    simp [groupPairs]

/-- keys strictly increasing from `lo` on, and small enough to be read back (`key + 1` fits `u32`) -/
def sortedFrom (lo : Nat) : List (Nat × ν) → Prop
  | [] => True
  | e :: r => lo ≤ e.1 ∧ e.1 + 1 < 4294967296 ∧ sortedFrom (e.1 + 1) r

theorem write_read : ∀ (l : List (Nat × ν)) (last : Option Nat) (gid : Nat) (m : DMap ν),
    sortedFrom (match last with | some p => p + 1 | none => 0) l → (∀ p, last = some p → gid = p + 1) →
    ∃ items, writeDiffs last l = .ok items ∧ readDiffs gid items m = .ok (l.reverse ++ m)
  | [], last, gid, m, _, _ => ⟨[], rfl, by simp [readDiffs]⟩
  | (g, n) :: r, last, gid, m, hs, hg => by
    simp only [sortedFrom] at hs
    obtain ⟨hlo, hg32, hr⟩ := hs
    have h1 : ¬ (g + 1 ≥ 4294967296) := by omega
    obtain ⟨rest, hw, hrd⟩ := write_read r (some g) (g + 1) ((g, n) :: m) hr (fun p hp => by cases hp; rfl)
    cases last with
    | none =>
      refine ⟨.int (toI32 g) :: .name n :: rest, by simp [writeDiffs, hw], ?_⟩
      simp only [readDiffs, ofI32_toI32 g (by omega), h1, if_false, hrd]
      simp
    | some p =>
      have hgid := hg p rfl
      simp only at hlo
      have hnp : ¬ (p + 1 ≥ 4294967296) := by omega
      by_cases he : p + 1 = g
      · refine ⟨.name n :: rest, by simp [writeDiffs, hw, he]; omega, ?_⟩
        rw [hgid, he]
        simp only [readDiffs, h1, if_false, hrd]
        simp
      · refine ⟨.int (toI32 g) :: .name n :: rest, by simp [writeDiffs, hw, hnp, he], ?_⟩
        simp only [readDiffs, ofI32_toI32 g (by omega), h1, if_false, hrd]
        simp

theorem find_none_of_lt (code : Nat) : ∀ (l : List (Nat × ν)) (lo : Nat), sortedFrom lo l → code < lo →
    l.find? (·.1 == code) = none
  | [], _, _, _ => rfl
  | e :: r, lo, h, hc => by
    simp only [sortedFrom] at h
    have hne : (e.1 == code) = false := by
      simp only [beq_eq_false_iff_ne, ne_eq]
      omega
    simp only [List.find?_cons, hne]
    exact find_none_of_lt code r (e.1 + 1) h.2.2 (by omega)

/-- the reader builds its map in reverse, so a look-up finds the LAST assignment of a code; in a list sorted by code
    that is the only one -/
theorem find_reverse_sorted (code : Nat) : ∀ (l : List (Nat × ν)) (lo : Nat), sortedFrom lo l →
    l.reverse.find? (·.1 == code) = l.find? (·.1 == code)
  | [], _, _ => rfl
  | e :: r, lo, h => by
    simp only [sortedFrom] at h
    have ih := find_reverse_sorted code r (e.1 + 1) h.2.2
    simp only [List.reverse_cons, List.find?_append, ih, List.find?_cons, List.find?_nil]
    cases he : e.1 == code with
    | true =>
      have : code = e.1 := by simpa using (beq_iff_eq.mp he).symm
      rw [find_none_of_lt code r (e.1 + 1) h.2.2 (by omega)]
      rfl
    | false => cases r.find? (·.1 == code) <;> rfl

end FontEncoding
