import PdfModel.Spec.PageTreeBytes
import PdfModel.Model.PageTreeDerived
import PdfModel.Lemmas.PageTreeBytes
import PdfModel.Lemmas.DeriveRegistry

/-! The generated readers of `PageTree` and `Page` agree with `nodeOf` on every object of a written tree whose nodes carry
    media and crop boxes (markers below 2²⁴, so that the `i32 → f32` conversion of `Rectangle` is exact; no /Resources).
    A written body is described by its look-ups, which the translation `toD` preserves; the struct reader then sees, field
    by field, the entry under the field's key. -/

namespace PageTreeB
open PageTree PdfLex OpenBytes Derive

variable {R : Type}

/-! ### dictionaries through `toD` -/

theorem strOf_injective {a b : List UInt8} (h : strOf a = strOf b) : a = b := by
  have hv : ∀ z : UInt8, (Char.ofNat z.toNat).toNat = z.toNat := fun z => by
    have : z.toNat.isValidChar := Or.inl (Nat.lt_trans z.toNat_lt (by decide))
    simp [Char.ofNat, this, Char.ofNatAux, Char.toNat]
  exact (List.map_inj_right fun x y e => UInt8.toNat_inj.mp (by rw [← hv x, ← hv y, e])).mp (String.ofList_injective h)

theorem dget_toDE (bitsOf : R → Nat) (k : List UInt8) : ∀ d : PdfLex.Dict R,
    dget (strOf k) (toDE bitsOf d) = (dictGet d k).map (toD bitsOf)
  | [] => rfl
  | (k', v) :: d => by
    by_cases h : k' = k
    · simp [toDE, dget, dictGet, h]
    · have : strOf k' ≠ strOf k := fun e => h (strOf_injective e)
      simp [toDE, dget, dictGet, h, this, dget_toDE bitsOf k d]

theorem dget_toDE_none (bitsOf : R → Nat) (k : String) : ∀ d : PdfLex.Dict R,
    (∀ key ∈ PdfSyntax.keysOf d, strOf key ≠ k) → dget k (toDE bitsOf d) = none
  | [], _ => rfl
  | (k', v) :: d, h => by
    simp only [PdfSyntax.keysOf, List.map_cons, List.mem_cons, forall_eq_or_imp] at h
    simp [toDE, dget, h.1, dget_toDE_none bitsOf k d h.2]

theorem strOf_kType : strOf SaveBytes.kType = "Type" := by decide
theorem strOf_kPages : strOf BuildBytes.kPagesT = "Pages" := by decide
theorem strOf_kPage : strOf BuildBytes.kPage = "Page" := by decide
theorem strOf_kParent : strOf BuildBytes.kParent = "Parent" := by decide
theorem strOf_kKids : strOf BuildBytes.kKids = "Kids" := by decide
theorem strOf_kCount : strOf BuildBytes.kCount = "Count" := by decide
theorem strOf_kMediaBox : strOf kMediaBox = "MediaBox" := by decide
theorem strOf_kCropBox : strOf kCropBox = "CropBox" := by decide
theorem strOf_kResources : strOf BuildBytes.kResources = "Resources" := by decide

/-! ### the derived struct reader, field by field -/

theorem readPlain_ok {cfg : Cfg} {sem : Sem} {env : Derive.Env} {f : Field} {e : Option Derive.Prim} {v : Val}
    (h : readShape cfg sem env f.shape (e.getD .null) = .ok v) : readPlain cfg sem env f e = .ok v := by
  cases e <;> simp_all [readPlain, readAbsent]

/-- the keyed field `f` reads `v` from the entry that `d` holds under its key, the fields before it having read `acc` -/
def FieldReads (cfg : Cfg) (sem : Sem) (env : Derive.Env) (d : Derive.Dict) (acc : List Val) (f : Field) (v : Val) : Prop :=
  f.skip = false ∧ f.other = false ∧ readField cfg sem env f acc (dget (f.key.getD "") d) = .ok v

/-- a field without default reads its entry, or `null` when there is none -/
theorem FieldReads.plain {cfg : Cfg} {sem : Sem} {env : Derive.Env} {d : Derive.Dict} {acc : List Val} {ident key : String}
    {ind : Bool} {shape : Shape} {v : Val} (h : readShape cfg sem env shape ((dget key d).getD .null) = .ok v) :
    FieldReads cfg sem env d acc ⟨ident, some key, none, false, false, ind, shape⟩ v :=
  ⟨rfl, rfl, readPlain_ok h⟩

/-- an absent entry with a default: the default expression is evaluated on the fields read so far -/
theorem FieldReads.default {cfg : Cfg} {sem : Sem} {env : Derive.Env} {d : Derive.Dict} {acc : List Val}
    {ident key dx : String} {ind : Bool} {shape : Shape} {v : Val} (he : dget key d = none) (hv : sem.dflt dx acc = .ok v) :
    FieldReads cfg sem env d acc ⟨ident, some key, some dx, false, false, ind, shape⟩ v :=
  ⟨rfl, rfl, by simp [readField, readDefaulted, he, hv]⟩

/-- a field of a written body, as the struct readers see the body: translated, /Type removed -/
theorem FieldReads.written {cfg : Cfg} {sem : Sem} {env : Derive.Env} {bitsOf : R → Nat} {d : PdfLex.Dict R} {acc : List Val}
    {ident s : String} {ind : Bool} {shape : Shape} {v : Val} {key : List UInt8} {e : Option (PdfLex.Prim R)}
    (hk : strOf key = s) (hs : "Type" ≠ s) (he : dictGet d key = e)
    (h : readShape cfg sem env shape ((e.map (toD bitsOf)).getD .null) = .ok v) :
    FieldReads cfg sem env (derase "Type" (toDE bitsOf d)) acc ⟨ident, some s, none, false, false, ind, shape⟩ v :=
  .plain (by rw [dget_derase_ne hs, ← hk, dget_toDE, he]; exact h)

inductive KeyedReads (cfg : Cfg) (sem : Sem) (env : Derive.Env) (d : Derive.Dict) : List Val → List Field → List Val → Prop
  | nil {acc} : KeyedReads cfg sem env d acc [] []
  | cons {acc f fs v vs} : FieldReads cfg sem env d acc f v → KeyedReads cfg sem env d (acc ++ [v]) fs vs →
      KeyedReads cfg sem env d acc (f :: fs) (v :: vs)

/-- keyed fields with pairwise distinct keys each read the entry that the dictionary `d₀` they started from holds under
    their key: the entries removed before a field's turn are other entries -/
theorem readFields_keyed {cfg : Cfg} {sem : Sem} {env : Derive.Env} (d₀ : Derive.Dict) (rest : List Field)
    (oth : Option Derive.Dict) : ∀ {fs : List Field} {vs : List Val} (d : Derive.Dict) (acc : List Val),
    KeyedReads cfg sem env d₀ acc fs vs → (fs.map (·.key.getD "")).Nodup →
    (∀ k ∈ fs.map (·.key.getD ""), dget k d = dget k d₀) →
    ∃ d', readFields cfg sem env (fs ++ rest) d acc oth = readFields cfg sem env rest d' (acc ++ vs) oth
  | [], _, d, acc, .nil, _, _ => ⟨d, by simp⟩
  | f :: fs, v :: vs, d, acc, .cons ⟨hs, ho, hv⟩ htl, hn, hd₀ => by
    simp only [List.map_cons, List.nodup_cons, List.mem_cons, forall_eq_or_imp] at hn hd₀
    obtain ⟨d', h⟩ := readFields_keyed d₀ rest oth (derase (f.key.getD "") d) (acc ++ [v]) htl hn.2
      (fun k hk => by rw [dget_derase_ne (fun e => hn.1 (by rw [e]; exact hk)), hd₀.2 k hk])
    rw [← hd₀.1] at hv
    exact ⟨d', by simp [readFields, hs, ho, hv, h]⟩

/-! ### the leaves of the two structs -/

abbrev cfgD : Cfg := ⟨true⟩

/-- the tower of the derived readers at level `k` -/
abbrev towerD (k : Nat) : Sem := semN cfgD Generated.generatedSchemas k

theorem mapR_refs (bitsOf : R → Nat) (g : Derive.Prim → Derive.R Val)
    (hg : ∀ k, g (Derive.Prim.ref k 0) = .ok (Val.leaf (.ref k 0))) : ∀ (ks : List Nat),
    mapR g (toDL bitsOf (ks.map fun k => (PdfLex.Prim.ref k 0 : PdfLex.Prim R))) = .ok (ks.map fun k => Val.leaf (.ref k 0))
  | [] => by simp [toDL, mapR]
  | k :: ks => by simp [toDL, toD, mapR, hg, mapR_refs bitsOf g hg ks]

theorem read_kids (bitsOf : R → Nat) (sem : Sem) (env : Derive.Env) (s : Shape) (kids : List Nat) :
    readShape cfgD sem env (.vec (.ref s)) (toD bitsOf (.arr (kids.map fun k => .ref k 0) : PdfLex.Prim R)) =
      .ok (.list (kids.map fun k => .leaf (.ref k 0))) := by
  simp only [toD, readShape, Derive.Prim.isRef, Bool.false_eq_true, if_false]
  rw [mapR_refs bitsOf _ (fun k => by simp only [if_true])]

theorem kidsD_refs : ∀ (ks : List Nat), kidsD (ks.map fun k => Val.leaf (.ref k 0)) = some ks
  | [] => rfl
  | k :: ks => by simp [kidsD, kidsD_refs ks]

theorem read_count (env : Derive.Env) (count k : Nat) :
    readShape cfgD (towerD k) env (.leaf "u32") (.int count) = .ok (.leaf (.int count)) := by
  simp only [readShape]
  rw [semN_rd_leaf cfgD _ env (x := "u32") (by decide) (by decide) (by decide) k]
  have : baseRdPrim env "u32" (.int count) = viaResolve env asU32 (.int count) := rfl
  simp [baseSem, this, viaResolve, Derive.Prim.isRef, asU32]

/-- decoding a normal bit pattern with exponent `e ≤ 23`: sign 0, biased exponent `e + 127`, fraction `r` -/
theorem natOfF32Bits_normal (e r : Nat) (he : e ≤ 23) (hr : r < 8388608) :
    natOfF32Bits ((e + 127) * 8388608 + r) =
      if (8388608 + r) % 2 ^ (23 - e) = 0 then some ((8388608 + r) / 2 ^ (23 - e)) else none := by
  have h0 : (e + 127) * 8388608 + r ≠ 0 := by omega
  have h1 : ¬ (e + 127) * 8388608 + r ≥ 2147483648 := by omega
  have hE : ((e + 127) * 8388608 + r) / 8388608 = e + 127 := by omega
  have hM : ((e + 127) * 8388608 + r) % 8388608 = r := by omega
  simp only [natOfF32Bits, h0, h1, hE, hM, if_false, show ¬ e + 127 < 127 by omega, show e + 127 - 127 = e by omega, he,
    if_true]

/-- an integer below 2²⁴ survives `i32 as f32` (`Derive.f32OfNat`) and the decoding `natOfF32Bits` of `projectNode` -/
theorem f32_roundtrip (m : Nat) (hm : m < 16777216) : natOfF32Bits (f32OfNat m) = some m := by
  by_cases h0 : m = 0
  · subst h0; rfl
  have hlo : 2 ^ m.log2 ≤ m := Nat.log2_self_le h0
  have hhi : m < 2 ^ (m.log2 + 1) := Nat.lt_log2_self
  have he : m.log2 ≤ 23 := by
    rcases Nat.lt_or_ge 23 m.log2 with hc | hc
    · have : 2 ^ 24 ≤ 2 ^ m.log2 := Nat.pow_le_pow_right (by omega) (by omega)
      omega
    · exact hc
  have hb : f32OfNat m = (m.log2 + 127) * 8388608 + (m * 2 ^ (23 - m.log2) - 8388608) := by
    simp only [f32OfNat, h0, if_false, he, if_true]
  rw [hb]
  generalize m.log2 = e at *
  -- the significand `m * 2 ^ (23 - e)` lies in `[2 ^ 23, 2 ^ 24)`
  have hs : ∀ j, j + (23 - e) = 23 + (j - e) → e ≤ j → 2 ^ j * 2 ^ (23 - e) = 8388608 * 2 ^ (j - e) := fun j h _ => by
    rw [← Nat.pow_add, h, Nat.pow_add]
  have h1 : 8388608 ≤ m * 2 ^ (23 - e) := by
    have := Nat.mul_le_mul_right (2 ^ (23 - e)) hlo
    rw [hs e (by omega) (Nat.le_refl _), Nat.sub_self] at this
    exact this
  have h2 : m * 2 ^ (23 - e) < 16777216 := by
    have := Nat.mul_lt_mul_of_pos_right hhi (Nat.two_pow_pos (23 - e))
    rw [hs (e + 1) (by omega) (Nat.le_succ _), Nat.add_sub_cancel_left] at this
    exact this
  rw [natOfF32Bits_normal e _ he (by omega), show 8388608 + (m * 2 ^ (23 - e) - 8388608) = m * 2 ^ (23 - e) by omega,
    Nat.mul_mod_left, if_pos rfl, Nat.mul_div_cancel _ (Nat.two_pow_pos _)]

/-- a written box `[0 0 m 7]` read as a `Rectangle` at any tower level: four `f32` bit patterns -/
theorem rect_read (env : Derive.Env) (m : Nat) (k : Nat) :
    (towerD k).rd env (.leaf "Rectangle") (.arr [.int 0, .int 0, .int m, .int 7]) =
      .ok (.leaf (.arr [.real 0, .real 0, .real (f32OfNat m), .real (f32OfNat 7)])) := by
  rw [semN_rd_leaf ⟨true⟩ Generated.generatedSchemas env (x := "Rectangle") (by decide) (by decide) (by decide) k]
  have e : baseSem.rd env (.leaf "Rectangle") (.arr [.int 0, .int 0, .int m, .int 7]) =
      .ok (.leaf (.arr [.real (f32OfInt 0), .real (f32OfInt 0), .real (f32OfInt m), .real (f32OfInt 7)])) := rfl
  have hm : f32OfInt (m : Int) = f32OfNat m := by
    have hnn : ¬ ((m : Int) < 0) := by omega
    simp [f32OfInt, hnn]
  rw [e, hm]
  rfl

/-- an optional box entry read as `Option<Rectangle>`: the marker is recovered from the typed value -/
theorem read_box (bitsOf : R → Nat) (env : Derive.Env) (k : Nat) (mb : Option Nat) (h : mb.getD 0 < 16777216) :
    ∃ v, readShape cfgD (towerD k) env (.option (.leaf "Rectangle"))
        (((mb.map boxVal).map (toD bitsOf (R := R))).getD .null) = .ok v ∧ boxMarkerD v = mb := by
  cases mb with
  | none => exact ⟨.none, by simp [readShape], rfl⟩
  | some m =>
    exact ⟨.some (.leaf (.arr [.real 0, .real 0, .real (f32OfNat m), .real (f32OfNat 7)])),
      by simp [readShape, boxVal, toD, toDL, rect_read], by simp [boxMarkerD, f32_roundtrip m h]⟩

theorem find_PageTree : findSchema "PageTree" Generated.generatedSchemas = some Generated.s_PageTree := by rfl
theorem find_Page : findSchema "Page" Generated.generatedSchemas = some Generated.s_Page := by rfl

theorem readPagesRc_ok (cfg : Cfg) (schemas : List Schema) (inner : Sem) (env : Derive.Env) (p : Nat) (dp : Derive.Prim) (v : Val)
    (hr : env.resolve p = .ok dp)
    (hn : readPagesNode cfg schemas inner env dp = .ok (.pair (.leaf (.name "Pages")) v)) :
    readPagesRc cfg schemas inner env "Pages" (.ref p 0) = .ok (.indirect (.ref p 0) (.pair (.leaf (.name "Pages")) v)) := by
  simp [readPagesRc, getTyped, resolveP, Derive.Prim.isRef, hr, hn]

/-! ### the two structs on a written body -/

/-- boxes only, markers exactly representable as `f32` -/
def boxAttrs (a : Attrs) : Bool :=
  a.resources == none && decide (a.mediaBox.getD 0 < 16777216) && decide (a.cropBox.getD 0 < 16777216)

theorem boxAttrs_spec (a : Attrs) (h : boxAttrs a = true) :
    a.resources = none ∧ a.mediaBox.getD 0 < 16777216 ∧ a.cropBox.getD 0 < 16777216 := by
  simpa [boxAttrs, and_assoc] using h

theorem attrsOK_of_boxAttrs (a : Attrs) (h : boxAttrs a = true) : attrsOK a = true := by
  obtain ⟨h0, h1, h2⟩ := boxAttrs_spec a h
  simp only [attrsOK, h0, Option.getD_none, Bool.and_eq_true, decide_eq_true_eq]
  omega

/-- a /Pages node with boxes (markers below 2²⁴) and no /Resources, read at level `k + 1` when its parent (if any) is
    readable at level `k` -/
theorem read_tree_node_boxes (bitsOf : R → Nat) (env : Derive.Env) (parent : Option Nat) (kids : List Nat) (count : Nat)
    (a : Attrs) (ha : boxAttrs a = true) (k : Nat)
    (hp : ∀ p, parent = some p → ∃ pv, readPagesRc cfgD Generated.generatedSchemas (towerD k) env "Pages" (.ref p 0)
        = .ok (.indirect (.ref p 0) pv)) :
    ∃ val, readPagesNode cfgD Generated.generatedSchemas (towerD (k + 1)) env
        (toD bitsOf (nodeVal parent kids count a : PdfLex.Prim R)) = .ok (.pair (.leaf (.name "Pages")) val) ∧
      projectNode (.pair (.leaf (.name "Pages")) val) = nodeOf (nodeVal parent kids count a : PdfLex.Prim R) := by
  rw [nodeOf_nodeVal _ _ _ a (attrsOK_of_boxAttrs a ha), nodeVal_eq]
  obtain ⟨hT, hP, hK, hC, hA⟩ := nodeDict_lookups (R := R) parent kids count a
  generalize (nodeDict parent kids count a : PdfLex.Dict R) = d at *
  obtain ⟨mb, cb, rs⟩ := a
  obtain ⟨rfl, hb1, hb2⟩ : rs = none ∧ _ := boxAttrs_spec _ ha
  obtain ⟨vmb, h5, e5⟩ := read_box bitsOf env (k + 1) mb hb1
  obtain ⟨vcb, h6, e6⟩ := read_box bitsOf env (k + 1) cb hb2
  obtain ⟨vpar, h1, e1⟩ : ∃ v, readShape cfgD (towerD (k + 1)) env (.option (.leaf "PagesRc"))
      (((parent.map (PdfLex.Prim.ref · 0)).map (toD bitsOf (R := R))).getD .null) = .ok v ∧
      (match parent with | none => v = .none | some p => ∃ pv, v = .some (.indirect (.ref p 0) pv)) := by
    cases parent with
    | none => exact ⟨.none, by simp [readShape], rfl⟩
    | some p =>
      obtain ⟨pv, hpv⟩ := hp p rfl
      have : (towerD (k + 1)).rd env (.leaf "PagesRc") (.ref p 0) = .ok (.indirect (.ref p 0) pv) := hpv
      exact ⟨_, by simp [readShape, toD, this], pv, rfl⟩
  obtain ⟨d', h⟩ := readFields_keyed (cfg := cfgD) (sem := towerD (k + 1)) (env := env) (fs := Generated.s_PageTree.fields)
    _ [] none _ []
    (.cons (.written strOf_kParent (by decide) hP h1)
      (.cons (.written strOf_kKids (by decide) hK (read_kids ..))
      (.cons (.written strOf_kCount (by decide) hC (read_count ..))
      (.cons (.written strOf_kResources (by decide) hA.2.2 rfl)
      (.cons (.written strOf_kMediaBox (by decide) hA.1 h5)
      (.cons (.written strOf_kCropBox (by decide) hA.2.1 h6) .nil))))))
    (by decide) (fun _ _ => rfl)
  have e0 := dget_toDE bitsOf SaveBytes.kType d
  rw [strOf_kType, hT] at e0
  refine ⟨.struct [vpar, .list (kids.map fun k => .leaf (.ref k 0)), .leaf (.int count), .none, vmb, vcb] [], ?_, ?_⟩
  · simp only [List.append_nil] at h
    simp only [toD, readPagesNode, resolve1, resolveP, e0, Option.map_some, strOf_kPages, find_PageTree, readStructD]
    rw [h]
    simp [Generated.s_PageTree, expect, expectAll, readFields]
  · cases parent with
    | none => subst e1; simp [projectNode, kidsD_refs, e5, e6, resMarkerD]
    | some p => obtain ⟨pv, rfl⟩ := e1; simp [projectNode, kidsD_refs, e5, e6, resMarkerD]

theorem leafDict_keys (p : Nat) (a : Attrs) : ∀ key ∈ PdfSyntax.keysOf (leafDict p a : PdfLex.Dict R),
    key ∈ [SaveBytes.kType, BuildBytes.kParent, kMediaBox, kCropBox, BuildBytes.kResources] := by
  intro key hk
  simp only [leafDict, PdfSyntax.keysOf, List.map_append, List.map_cons, List.map_nil, List.mem_append, List.mem_cons,
    List.not_mem_nil, or_false] at hk ⊢
  rcases hk with (h | h) | h
  · exact .inl h
  · exact .inr (.inl h)
  · have := (attrKeys_sublist (R := R) a).subset h
    simp only [List.mem_cons, List.not_mem_nil, or_false] at this
    exact .inr (.inr this)

/-- a /Page leaf with boxes and no /Resources, read at level `k + 1` when its parent is readable at level `k`; `hdf`: the
    literal default `"0"` of `/Rotate` evaluates (string functions of the model of defaults do not reduce in the kernel) -/
theorem read_leaf_node_boxes (bitsOf : R → Nat) (env : Derive.Env) (p : Nat) (a : Attrs) (ha : boxAttrs a = true) (k : Nat)
    (hdf : ∀ acc, ∃ v, (towerD (k + 1)).dflt "0" acc = .ok v)
    (hp : ∃ pv, readPagesRc cfgD Generated.generatedSchemas (towerD k) env "Pages" (.ref p 0) = .ok (.indirect (.ref p 0) pv)) :
    ∃ val, readPagesNode cfgD Generated.generatedSchemas (towerD (k + 1)) env
        (toD bitsOf (leafVal p a : PdfLex.Prim R)) = .ok (.pair (.leaf (.name "Page")) val) ∧
      projectNode (.pair (.leaf (.name "Page")) val) = nodeOf (leafVal p a : PdfLex.Prim R) := by
  rw [nodeOf_leafVal p a (attrsOK_of_boxAttrs a ha), leafVal_eq]
  obtain ⟨hT, hP, hA⟩ := leafDict_lookups (R := R) p a
  have hkeys := leafDict_keys (R := R) p a
  generalize (leafDict p a : PdfLex.Dict R) = d at *
  obtain ⟨mb, cb, rs⟩ := a
  obtain ⟨rfl, hb1, hb2⟩ : rs = none ∧ _ := boxAttrs_spec _ ha
  -- the other keys of `Page` have no entry
  have A : ∀ s, s ∉ ["Type", "Parent", "MediaBox", "CropBox", "Resources"] →
      dget s (derase "Type" (toDE bitsOf d)) = none := fun s hs => by
    by_cases e : "Type" = s
    · rw [← e]; exact dget_derase_self ..
    · rw [dget_derase_ne e]
      refine dget_toDE_none bitsOf s d fun key hk e' => hs ?_
      have := hkeys key hk
      simp only [List.mem_cons, List.not_mem_nil, or_false] at this
      rcases this with rfl | rfl | rfl | rfl | rfl <;> rw [← e'] <;>
        simp [strOf_kType, strOf_kParent, strOf_kMediaBox, strOf_kCropBox, strOf_kResources]
  have hnone : ∀ a, readShape cfgD (towerD (k + 1)) env (.option a) ((none : Option Derive.Prim).getD .null) = .ok .none :=
    fun a => by simp [readShape]
  obtain ⟨vmb, h3, e3⟩ := read_box bitsOf env (k + 1) mb hb1
  obtain ⟨vcb, h4, e4⟩ := read_box bitsOf env (k + 1) cb hb2
  obtain ⟨pv, hpv⟩ := hp
  have h1 : readShape cfgD (towerD (k + 1)) env (.leaf "PagesRc") (.ref p 0) = .ok (.indirect (.ref p 0) pv) := by
    simp only [readShape]; exact hpv
  obtain ⟨dv, hdv⟩ := hdf ([] ++ [.indirect (.ref p 0) pv] ++ [.none] ++ [vmb] ++ [vcb] ++ [.none] ++ [.none])
  obtain ⟨d', h⟩ := readFields_keyed (cfg := cfgD) (sem := towerD (k + 1)) (env := env) (fs := Generated.s_Page.fields.take 11)
    _ (Generated.s_Page.fields.drop 11) none _ []
    (.cons (.written strOf_kParent (by decide) hP h1)
      (.cons (.written strOf_kResources (by decide) hA.2.2 (hnone _))
      (.cons (.written strOf_kMediaBox (by decide) hA.1 h3)
      (.cons (.written strOf_kCropBox (by decide) hA.2.1 h4)
      (.cons (.plain (by rw [A _ (by decide)]; exact hnone _))
      (.cons (.plain (by rw [A _ (by decide)]; exact hnone _))
      (.cons (.default (A _ (by decide)) hdv)
      (.cons (.plain (by rw [A _ (by decide)]; exact hnone _))
      (.cons (.plain (by rw [A _ (by decide)]; exact hnone _))
      (.cons (.plain (by rw [A _ (by decide)]; exact hnone _))
      (.cons (.plain (v := .lazy .null) (by rw [A _ (by decide)]; simp [readShape])) .nil)))))))))))
    (by decide) (fun _ _ => rfl)
  have e0 := dget_toDE bitsOf SaveBytes.kType d
  rw [strOf_kType, hT] at e0
  refine ⟨.struct [.indirect (.ref p 0) pv, .none, vmb, vcb, .none, .none, dv, .none, .none, .none, .lazy .null] d', ?_, ?_⟩
  · simp only [toD, readPagesNode, resolve1, resolveP, e0, Option.map_some, strOf_kPage, find_Page, if_true, readStructD]
    rw [show Generated.s_Page.fields = Generated.s_Page.fields.take 11 ++ Generated.s_Page.fields.drop 11 from rfl, h]
    simp [Generated.s_Page, expect, expectAll, readFields]
  · simp [projectNode, e3, e4, resMarkerD]

/-! ### every node of a tree, through its /Parent chain -/

def noAttrs : Attrs := ⟨none, none, none⟩

mutual
def attrFree : PTree → Bool
  | .leaf _ a => a == noAttrs
  | .node _ a ks => a == noAttrs && attrFreeL ks
def attrFreeL : List PTree → Bool
  | [] => true
  | k :: ks => attrFree k && attrFreeL ks
end

mutual
def boxOnly : PTree → Bool
  | .leaf _ a => boxAttrs a
  | .node _ a ks => boxAttrs a && boxOnlyL ks
def boxOnlyL : List PTree → Bool
  | [] => true
  | k :: ks => boxOnly k && boxOnlyL ks
end

mutual
theorem markersOK_of_boxOnly : ∀ (t : PTree), boxOnly t = true → markersOK t = true
  | .leaf _ a, h => by
    simp only [boxOnly] at h
    simp only [markersOK]
    exact attrsOK_of_boxAttrs a h
  | .node _ a ks, h => by
    simp only [boxOnly, Bool.and_eq_true] at h
    simp only [markersOK, Bool.and_eq_true]
    exact ⟨attrsOK_of_boxAttrs a h.1, markersOKL_of_boxOnly ks h.2⟩
theorem markersOKL_of_boxOnly : ∀ (ks : List PTree), boxOnlyL ks = true → markersOKL ks = true
  | [], _ => rfl
  | k :: ks, h => by
    simp only [boxOnlyL, Bool.and_eq_true] at h
    simp only [markersOKL, Bool.and_eq_true]
    exact ⟨markersOK_of_boxOnly k h.1, markersOKL_of_boxOnly ks h.2⟩
end

/-- the literal default `"0"` (the field `rotate` of `Page`) evaluates at every level of the tower. True of the model
    (`literalDefault "0" = .ok (.leaf (.int 0))`, checked by evaluation), but `String.toInt?` / `String.splitOn`, through which
    the model of defaults goes, do not reduce in the kernel — hence a hypothesis. -/
def DefaultZeroEvaluates : Prop :=
  ∀ k acc, ∃ v, (semN cfgD Generated.generatedSchemas (k + 1)).dflt "0" acc = .ok v

mutual
/-- Every object of the sub-tree `t` below `parent` is read as `nodeOf` reads it, at every tower level `k + 1` with
    `k0 + height t ≤ k`, when its parent is readable from level `k0` on: a node needs its parent one level below itself,
    so a node at depth `j` below `parent` becomes readable from level `k0 + j + 1`, and a tower of `lvl` levels serves
    trees of height `lvl - 1`. -/
theorem tree_reads_boxes (bitsOf : R → Nat) (env : Derive.Env) (hdf : DefaultZeroEvaluates) :
    ∀ (t : PTree) (parent : Option Nat) (k0 : Nat), boxOnly t = true → (parent = none → isNode t = true) →
    (∀ q ∈ (objsOf parent t : List (Nat × PdfLex.Prim R)), env.resolve q.1 = .ok (toD bitsOf q.2)) →
    (∀ p, parent = some p → ∀ k, k0 ≤ k → ∃ pv,
      readPagesRc cfgD Generated.generatedSchemas (towerD k) env "Pages" (.ref p 0) = .ok (.indirect (.ref p 0) pv)) →
    ∀ q ∈ (objsOf parent t : List (Nat × PdfLex.Prim R)), ∀ k, k0 + height t ≤ k →
      ∃ val, readPagesNode cfgD Generated.generatedSchemas (towerD (k + 1)) env (toD bitsOf q.2) = .ok val ∧
        projectNode val = nodeOf q.2
  | .leaf id a, parent, k0, hf, hroot, _, hpar, q, hq, k, hk => by
    cases parent with
    | none => simp [isNode] at hroot
    | some p =>
      simp only [objsOf, List.mem_singleton, Option.getD_some] at hq
      subst hq
      obtain ⟨val, h⟩ := read_leaf_node_boxes bitsOf env p a hf k (hdf k) (hpar p rfl k (by omega))
      exact ⟨_, h⟩
  | .node id a ks, parent, k0, hf, _, hres, hpar, q, hq, k, hk => by
    simp only [boxOnly, Bool.and_eq_true] at hf
    simp only [height] at hk
    have hhead := fun k (hk' : k0 ≤ k) =>
      read_tree_node_boxes bitsOf env parent (ks.map PTree.id) (nLeavesL ks) a hf.1 k (fun p hp => hpar p hp k hk')
    simp only [objsOf, List.mem_cons] at hq
    rcases hq with rfl | hq
    · obtain ⟨val, h⟩ := hhead k (by omega)
      exact ⟨_, h⟩
    · have hidres := hres (id, nodeVal parent (ks.map PTree.id) (nLeavesL ks) a) (by simp [objsOf])
      refine treeL_reads_boxes bitsOf env hdf ks id (k0 + 1) hf.2 (fun q hq => hres q (by simp [objsOf, hq])) ?_ q hq k (by omega)
      intro p hp k hk'
      cases hp
      obtain ⟨k', rfl⟩ : ∃ k', k = k' + 1 := ⟨k - 1, by omega⟩
      obtain ⟨val, h1, -⟩ := hhead k' (by omega)
      exact ⟨_, readPagesRc_ok _ _ _ env id _ val hidres h1⟩
/-- the same for the kids `ks` of the node `pid` -/
theorem treeL_reads_boxes (bitsOf : R → Nat) (env : Derive.Env) (hdf : DefaultZeroEvaluates) :
    ∀ (ks : List PTree) (pid : Nat) (k0 : Nat), boxOnlyL ks = true →
    (∀ q ∈ (objsOfL pid ks : List (Nat × PdfLex.Prim R)), env.resolve q.1 = .ok (toD bitsOf q.2)) →
    (∀ p, some pid = some p → ∀ k, k0 ≤ k → ∃ pv,
      readPagesRc cfgD Generated.generatedSchemas (semN cfgD Generated.generatedSchemas k) env "Pages" (.ref p 0) = .ok (.indirect (.ref p 0) pv)) →
    ∀ q ∈ (objsOfL pid ks : List (Nat × PdfLex.Prim R)), ∀ k, k0 + heightL ks ≤ k →
      ∃ val, readPagesNode cfgD Generated.generatedSchemas (semN cfgD Generated.generatedSchemas (k + 1)) env (toD bitsOf q.2) = .ok val ∧
        projectNode val = nodeOf q.2
  | [], _, _, _, _, _, q, hq, _, _ => by simp [objsOfL] at hq
  | c :: ks, pid, k0, hf, hres, hpar, q, hq, k, hk => by
    simp only [boxOnlyL, Bool.and_eq_true] at hf
    simp only [heightL] at hk
    simp only [objsOfL, List.mem_append] at hq
    rcases hq with hq | hq
    · exact tree_reads_boxes bitsOf env hdf c (some pid) k0 hf.1 (by intro h; cases h) (fun q hq => hres q (by simp [objsOfL, hq])) hpar q hq k (by omega)
    · exact treeL_reads_boxes bitsOf env hdf ks pid k0 hf.2 (fun q hq => hres q (by simp [objsOfL, hq])) hpar q hq k (by omega)
end

/-- **the generated readers of `PageTree` and `Page` agree with `nodeOf` on every object of a written tree whose nodes
    carry media and crop boxes** (no /Resources; markers below 2²⁴); `23` is `lvl - 1`: `derivedNode` reads at level `lvl` -/
theorem derived_agrees_boxes (bitsOf : R → Nat) (resolve : Nat → Out (Offsets.Obj (PdfLex.Prim R))) (hdf : DefaultZeroEvaluates)
    (t : PTree) (hn : isNode t = true) (hf : boxOnly t = true) (hh : height t ≤ 23)
    (hres : ∀ q ∈ (objsOf none t : List (Nat × PdfLex.Prim R)), resolve q.1 = .ok (.plain q.2)) :
    ∀ q ∈ (objsOf none t : List (Nat × PdfLex.Prim R)), derivedNode bitsOf resolve q.2 = nodeOf q.2 := by
  intro q hq
  obtain ⟨val, h1, h2⟩ := tree_reads_boxes bitsOf (envD bitsOf resolve) hdf t none 0 hf (fun _ => hn)
    (fun q hq => by simp [envD, hres q hq]) (fun p hp => by cases hp) q hq 23 (by omega)
  simp only [derivedNode, lvl, cfgD] at h1 ⊢
  rw [h1]
  exact h2

/-! ### attribute-free trees -/

mutual
theorem boxOnly_of_attrFree : ∀ (t : PTree), attrFree t = true → boxOnly t = true
  | .leaf _ a, h => by
    simp only [attrFree, beq_iff_eq] at h
    subst h
    rfl
  | .node _ a ks, h => by
    simp only [attrFree, Bool.and_eq_true, beq_iff_eq] at h
    obtain ⟨rfl, h2⟩ := h
    simp only [boxOnly, Bool.and_eq_true]
    exact ⟨rfl, boxOnlyL_of_attrFree ks h2⟩
theorem boxOnlyL_of_attrFree : ∀ (ks : List PTree), attrFreeL ks = true → boxOnlyL ks = true
  | [], _ => rfl
  | k :: ks, h => by
    simp only [attrFreeL, Bool.and_eq_true] at h
    simp only [boxOnlyL, Bool.and_eq_true]
    exact ⟨boxOnly_of_attrFree k h.1, boxOnlyL_of_attrFree ks h.2⟩
end

theorem markersOK_of_attrFree (t : PTree) (h : attrFree t = true) : markersOK t = true :=
  markersOK_of_boxOnly t (boxOnly_of_attrFree t h)

theorem markersOKL_of_attrFree : ∀ (ks : List PTree), attrFreeL ks = true → markersOKL ks = true :=
  fun ks h => markersOKL_of_boxOnly ks (boxOnlyL_of_attrFree ks h)

theorem treeL_reads (bitsOf : R → Nat) (env : Derive.Env) (hdf : DefaultZeroEvaluates) :
    ∀ (ks : List PTree) (pid : Nat) (k0 : Nat), attrFreeL ks = true →
    (∀ q ∈ (objsOfL pid ks : List (Nat × PdfLex.Prim R)), env.resolve q.1 = .ok (toD bitsOf q.2)) →
    (∀ p, some pid = some p → ∀ k, k0 ≤ k → ∃ pv,
      readPagesRc cfgD Generated.generatedSchemas (semN cfgD Generated.generatedSchemas k) env "Pages" (.ref p 0) = .ok (.indirect (.ref p 0) pv)) →
    ∀ q ∈ (objsOfL pid ks : List (Nat × PdfLex.Prim R)), ∀ k, k0 + heightL ks ≤ k →
      ∃ val, readPagesNode cfgD Generated.generatedSchemas (semN cfgD Generated.generatedSchemas (k + 1)) env (toD bitsOf q.2) = .ok val ∧
        projectNode val = nodeOf q.2 :=
  fun ks pid k0 hf => treeL_reads_boxes bitsOf env hdf ks pid k0 (boxOnlyL_of_attrFree ks hf)

/-- a /Pages node without /Parent and without attributes needs neither a resolver nor the default of `/Rotate` -/
theorem derived_bare_root (bitsOf : R → Nat) (resolve : Nat → Out (Offsets.Obj (PdfLex.Prim R))) (kids : List Nat)
    (count : Nat) :
    derivedNode bitsOf resolve (nodeVal none kids count noAttrs : PdfLex.Prim R) =
      nodeOf (nodeVal none kids count noAttrs : PdfLex.Prim R) := by
  obtain ⟨val, h1, h2⟩ := read_tree_node_boxes bitsOf (envD bitsOf resolve) none kids count noAttrs rfl 23
    (fun p hp => by cases hp)
  simp only [derivedNode, lvl]
  rw [h1]
  exact h2

end PageTreeB
