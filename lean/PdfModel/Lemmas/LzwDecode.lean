import PdfModel.Lemmas.LzwBits

/-! The LZW decoder inverts every conforming encoding: simulation between the encoder's table (which is one
    entry ahead while `fresh`) and the decoder's table. -/

namespace Lzw
open LzwSpec (EncSt encInit widthFor codeWidth IsCodeOf advance Codes bitsOfCodes EncodesToLzw)

/-- the four ranges of `widthFor`: with `m = n + [early]` the width `w` has `2 ^ (w - 1) ≤ m < 2 ^ w`, cut off at 9 and 12 -/
theorem widthFor_spec (early : Bool) (n : Nat) :
    (n + (if early then 1 else 0) < 512 ∧ widthFor early n = 9) ∨
    (512 ≤ n + (if early then 1 else 0) ∧ n + (if early then 1 else 0) < 1024 ∧ widthFor early n = 10) ∨
    (1024 ≤ n + (if early then 1 else 0) ∧ n + (if early then 1 else 0) < 2048 ∧ widthFor early n = 11) ∨
    (2048 ≤ n + (if early then 1 else 0) ∧ widthFor early n = 12) := by
  unfold widthFor; dsimp only
  generalize n + (if early then 1 else 0) = m
  split
  · exact .inl ⟨‹_›, rfl⟩
  · split
    · exact .inr (.inl ⟨by omega, ‹_›, rfl⟩)
    · split
      · exact .inr (.inr (.inl ⟨by omega, ‹_›, rfl⟩))
      · exact .inr (.inr (.inr ⟨by omega, rfl⟩))

theorem widthFor_ge (early : Bool) (n : Nat) : 9 ≤ widthFor early n ∧ widthFor early n ≤ 12 := by
  have := widthFor_spec early n; omega

/-- a code up to `n` fits into the width used while the next free code is `n` -/
theorem lt_pow_widthFor (early : Bool) {c n : Nat} (hc : c ≤ n) (hn : n ≤ 4095) : c < 2 ^ widthFor early n := by
  rcases widthFor_spec early n with ⟨h, e⟩ | ⟨_, h, e⟩ | ⟨_, h, e⟩ | ⟨_, e⟩ <;> rw [e] <;> omega

theorem widthFor_full (early : Bool) : widthFor early 4096 = 12 := by cases early <;> decide

/-- weezl's stateful `bump_code_size` rule computes the closed form -/
theorem bump_eq (early : Bool) (n : Nat) :
    (if n ≥ 2 ^ widthFor early n - 1 - (if early then 1 else 0) ∧ widthFor early n < 12 then widthFor early n + 1
      else widthFor early n) = widthFor early (n + 1) := by
  have h := widthFor_spec early n
  have h' := widthFor_spec early (n + 1)
  have he : (if early then 1 else 0) ≤ 1 := by split <;> omega
  generalize (if early then 1 else 0) = e at *
  rcases h with ⟨_, hw⟩ | ⟨_, _, hw⟩ | ⟨_, _, hw⟩ | ⟨_, hw⟩ <;> rw [hw] <;> split <;> omega
/-- the simulation invariant between the encoder state `e`, the decoder state `d` and the bytes `bs`
    that are still to be encoded -/
structure Sim (early : Bool) (e : EncSt) (d : St) (bs : Bytes) : Prop where
  width : d.width = widthFor early (nextCode d)
  /-- 3838 = 4096 − 258: the table is full when the next free code is 4096 -/
  size : d.table.length ≤ 3838
  nonempty : ∀ p, d.prev = some p → p ≠ []
  rel : (e.fresh = true ∧ ∃ p c bs', d.prev = some p ∧ bs = c :: bs' ∧ e.table = d.table ++ [p ++ [c]] ∧
            d.table.length < 3838)
        ∨ (e.fresh = false ∧ e.table = d.table ∧ (d.prev = none ∨ d.table.length = 3838 ∨ bs = []))

theorem sim_init (early : Bool) (bs : Bytes) : Sim early encInit initSt bs := by
  refine ⟨?_, by simp [initSt], by simp [initSt], Or.inr ⟨rfl, rfl, Or.inl rfl⟩⟩
  cases early <;> decide

theorem sim_codeWidth {early : Bool} {e : EncSt} {d : St} {bs : Bytes} (h : Sim early e d bs) :
    codeWidth early e = d.width := by
  rw [h.width]
  unfold codeWidth nextCode
  rcases h.rel with ⟨hf, p, c, bs', _, _, he, _⟩ | ⟨hf, he, _⟩
  · simp [hf, he]
  · simp [hf, he]

theorem entry_single (T : List Bytes) (b : UInt8) : entry T b.toNat = some [b] := by
  have : b.toNat < 256 := by have := b.toNat_lt_size; simpa [UInt8.size] using this
  simp [entry, this]

theorem entry_index (T : List Bytes) (i : Nat) : entry T (258 + i) = T[i]? := by
  unfold entry
  rw [if_neg (by omega), if_neg (by omega)]
  have : 258 + i - 258 = i := by omega
  rw [this]

theorem bitsOfCodes_cons (w c : Nat) (cs : List (Nat × Nat)) :
    bitsOfCodes ((w, c) :: cs) = bitsOfNat w c ++ bitsOfCodes cs := by
  simp [bitsOfCodes, bitsOfNat_eq_spec]

theorem headD_append_ne {p : Bytes} (hp : p ≠ []) (x : Bytes) : (p ++ x).headD 0 = p.headD 0 := by
  cases p with
  | nil => exact absurd rfl hp
  | cons a t => rfl

theorem headD_of_append_eq {s rest bs' : Bytes} {c0 : UInt8} (hne : s ≠ []) (h : s ++ rest = c0 :: bs') : s.headD 0 = c0 := by
  cases s with
  | nil => exact absurd rfl hne
  | cons a t => simp at h; simp [h.1]

/-- what the decoder needs to know of the code `c` the encoder emits for the phrase `s`: it is no control code; it is
    at most the decoder's next free code and, unless it is an old code, the table still has room (these two make `c`
    fit the current width, `code_lt_pow`); an old code is in the decoder's table; the next free code itself (the
    encoder's fresh entry, KwKwK) stands for the previous string extended by its own first byte -/
def CodeFacts (d : St) (s : Bytes) (c : Nat) : Prop :=
  c ≠ 256 ∧ c ≠ 257 ∧ c ≤ nextCode d ∧ (c < nextCode d ∨ nextCode d ≤ 4095) ∧
  (c < nextCode d → entry d.table c = some s) ∧
  (c = nextCode d → ∃ p, d.prev = some p ∧ s = p ++ [p.headD 0] ∧ d.table.length < 3838)

theorem code_facts {early : Bool} {e : EncSt} {d : St} {s rest : Bytes} {c : Nat}
    (hs : Sim early e d (s ++ rest)) (hne : s ≠ []) (hcode : IsCodeOf e.table s c) : CodeFacts d s c := by
  have known : ∀ {c}, c ≠ 256 → c ≠ 257 → c < nextCode d → entry d.table c = some s → CodeFacts d s c :=
    fun h1 h2 hlt he => ⟨h1, h2, Nat.le_of_lt hlt, .inl hlt, fun _ => he, fun h => absurd h (Nat.ne_of_lt hlt)⟩
  have inTable : ∀ {i}, d.table[i]? = some s → i < d.table.length := fun h => (List.getElem?_eq_some_iff.mp h).1
  rcases hcode with ⟨b, rfl, rfl⟩ | ⟨i, hi, rfl⟩
  · have hb := b.toNat_lt
    exact known (by omega) (by omega) (by unfold nextCode; omega) (entry_single _ b)
  · rcases hs.rel with ⟨_, p, c0, bs', hprev, hbs, hE, hlt⟩ | ⟨_, hE, _⟩ <;> rw [hE] at hi
    · by_cases hlt' : i < d.table.length
      · rw [List.getElem?_append_left hlt'] at hi
        exact known (by omega) (by omega) (by unfold nextCode; omega) (by rw [entry_index]; exact hi)
      · have hi' : i = d.table.length := by
          have := (List.getElem?_eq_some_iff.mp hi).1
          rw [List.length_append, List.length_singleton] at this; omega
        subst hi'
        rw [List.getElem?_append_right (Nat.le_refl _), Nat.sub_self] at hi
        cases hi
        have hc0 : c0 = p.headD 0 :=
          (headD_of_append_eq hne hbs).symm.trans (headD_append_ne (hs.nonempty p hprev) _)
        exact ⟨by omega, by omega, Nat.le_refl _, .inr (by unfold nextCode; omega), fun h => absurd h (Nat.lt_irrefl _),
          fun _ => ⟨p, hprev, by rw [hc0], hlt⟩⟩
    · have := inTable hi
      exact known (by omega) (by omega) (by unfold nextCode; omega) (by rw [entry_index]; exact hi)

theorem code_lt_pow {early : Bool} {d : St} {c : Nat} (hw : d.width = widthFor early (nextCode d))
    (hsz : d.table.length ≤ 3838) (h1 : c ≤ nextCode d) (h2 : c < nextCode d ∨ nextCode d ≤ 4095) : c < 2 ^ d.width := by
  rw [hw]
  by_cases h : nextCode d ≤ 4095
  · exact lt_pow_widthFor early h1 h
  · have : nextCode d = 4096 := by unfold nextCode at *; omega
    rw [this, widthFor_full]
    rcases h2 with h2 | h2
    · rw [this] at h2; simpa using h2
    · omega

/-- one iteration of the loop on the next code of a conforming stream -/
theorem loop_code {early : Bool} {e : EncSt} {d : St} {bs : Bytes} (hs : Sim early e d bs) {c : Nat}
    (h1 : c ≤ nextCode d) (h2 : c < nextCode d ∨ nextCode d ≤ 4095) (fuel : Nat) (cs : List (Nat × Nat)) (tail : List Bool) :
    loop early (fuel + 1) d (bitsOfCodes ((codeWidth early e, c) :: cs) ++ tail) =
      match stepCode early d c with
      | .done => .ok []
      | .invalid => .err
      | .cont st' out =>
        match loop early fuel st' (bitsOfCodes cs ++ tail) with
        | .ok rest => .ok (out ++ rest)
        | o => o := by
  rw [sim_codeWidth hs, bitsOfCodes_cons, List.append_assoc, loop]
  simp only [List.take_left' (bitsOfNat_length ..), List.drop_left' (bitsOfNat_length ..), bitsOfNat_length, Nat.lt_irrefl,
    if_false, natOfBits_bitsOfNat_of_lt (code_lt_pow hs.width hs.size h1 h2)]
  rfl

theorem stepCode_clear (early : Bool) (d : St) : stepCode early d 256 = .cont initSt [] := by
  unfold stepCode
  cases d.prev with
  | none => simp [nextCode]; omega
  | some p => simp

theorem stepCode_eod (early : Bool) (d : St) : stepCode early d 257 = .done := by
  unfold stepCode
  cases d.prev with
  | none => simp [nextCode, show ¬ (258 + d.table.length ≤ 257) by omega]
  | some p => simp

/-- the simulation invariant is re-established after the phrase `s`, once the decoder has caught up with the
    encoder's table and remembers `s` -/
theorem sim_advance {early : Bool} {e : EncSt} {d : St} {s rest : Bytes} (hne : s ≠ [])
    (hw : d.width = widthFor early (nextCode d)) (hsz : d.table.length ≤ 3838) (hE : e.table = d.table)
    (hp : d.prev = some s) : Sim early (advance e s rest) d rest := by
  refine ⟨hw, hsz, fun p h => Option.some.inj (hp.symm.trans h) ▸ hne, ?_⟩
  cases rest with
  | nil => exact Or.inr ⟨rfl, hE, Or.inr (Or.inr rfl)⟩
  | cons c1 rest' =>
    unfold advance
    by_cases hroom : 258 + e.table.length < 4096
    · simp only [hroom, if_true]
      exact Or.inl ⟨by simp, s, c1, rest', hp, rfl, by simp [hE], by rw [hE] at hroom; omega⟩
    · simp only [hroom, if_false]
      exact Or.inr ⟨by simp, hE, Or.inr (Or.inl (by rw [hE] at hroom; omega))⟩

/-- `sim_advance` when the decoder has just added the entry the encoder created one code earlier -/
theorem sim_advance_added {early : Bool} {e : EncSt} {d : St} {s rest p : Bytes} {c0 : UInt8} (hne : s ≠ [])
    (hw : d.width = widthFor early (nextCode d)) (hlt : d.table.length < 3838) (hE : e.table = d.table ++ [p ++ [c0]]) :
    Sim early (advance e s rest)
      { table := d.table ++ [p ++ [c0]],
        width := if nextCode d ≥ 2 ^ d.width - 1 - (if early then 1 else 0) ∧ d.width < 12 then d.width + 1 else d.width,
        prev := some s } rest := by
  refine sim_advance hne ?_ (by simp; omega) hE rfl
  have := bump_eq early (nextCode d)
  rw [← hw] at this
  simp only [nextCode] at this ⊢
  rw [this]; simp [Nat.add_assoc]

/-- **simulation**: from related states the decoder loop returns exactly the bytes the encoder consumed -/
theorem loop_of_codes (early : Bool) {e : EncSt} {bs : Bytes} {cs : List (Nat × Nat)} (h : Codes early e bs cs) :
    ∀ (d : St) (fuel : Nat) (tail : List Bool), Sim early e d bs → cs.length ≤ fuel →
      loop early fuel d (bitsOfCodes cs ++ tail) = .ok bs := by
  induction h with
  | @eod e =>
    intro d fuel tail hs hf
    cases fuel with
    | zero => simp at hf
    | succ f =>
      rw [loop_code hs (by unfold nextCode; omega) (.inl (by unfold nextCode; omega)), stepCode_eod]
  | @clear e bs cs hcs ih =>
    intro d fuel tail hs hf
    cases fuel with
    | zero => simp at hf
    | succ f =>
      rw [loop_code hs (by unfold nextCode; omega) (.inl (by unfold nextCode; omega)), stepCode_clear]
      simp only
      rw [ih initSt f tail (sim_init early bs) (by simp at hf; omega)]
      rfl
  | @phrase e s rest c cs hne hcode hcs ih =>
    intro d fuel tail hs hf
    cases fuel with
    | zero => simp at hf
    | succ f =>
      obtain ⟨hn256, hn257, hle, hlt4095, hentry, hkw⟩ := code_facts hs hne hcode
      rw [loop_code hs hle hlt4095]
      have hstep : ∃ d', stepCode early d c = .cont d' s ∧ Sim early (advance e s rest) d' rest := by
        rcases hs.rel with ⟨hf1, p, c0, bs', hprev, hbs, hE, hlt⟩ | ⟨hf0, hE, hcase⟩
        · -- the encoder is one entry ahead
          have hpne := hs.nonempty p hprev
          have hs0 := headD_of_append_eq hne hbs
          have hword : (if c = nextCode d then some (p ++ [p.headD 0]) else entry d.table c) = some s := by
            by_cases hcn : c = nextCode d
            · obtain ⟨p', hp', hs', _⟩ := hkw hcn
              rw [hprev] at hp'; cases hp'
              simp [hcn, hs']
            · simp only [hcn, if_false]
              exact hentry (by omega)
          refine ⟨_, ?_, sim_advance_added (s := s) (rest := rest) hne hs.width hlt hE⟩
          unfold stepCode
          simp only [hprev, hn256, hn257, if_false, show ¬ c > nextCode d by omega, hword,
            show nextCode d < 4096 by unfold nextCode; omega, if_true, hs0]
        · -- both tables agree: the code is an old one, since a KwKwK code needs the encoder to be ahead
          have hlt : c < nextCode d := by
            rcases Nat.lt_or_ge c (nextCode d) with h | h
            · exact h
            · obtain ⟨p', hp', _, hl⟩ := hkw (by omega)
              rcases hcase with h | h | h
              · rw [hp'] at h; cases h
              · omega
              · exact absurd h (by simp [hne])
          refine ⟨_, ?_, sim_advance (d := { d with prev := some s }) (rest := rest) hne hs.width hs.size hE rfl⟩
          unfold stepCode
          cases hp : d.prev with
          | none => simp only [show ¬ c ≥ nextCode d by omega, hn256, hn257, if_false, hentry hlt]
          | some p =>
            have hfull : d.table.length = 3838 := by
              rcases hcase with h | h | h
              · rw [hp] at h; cases h
              · exact h
              · exact absurd h (by simp [hne])
            simp only [hn256, hn257, if_false, show ¬ c > nextCode d by omega, show ¬ c = nextCode d by omega,
              hentry hlt, show ¬ nextCode d < 4096 by unfold nextCode; omega]
      obtain ⟨d', hst, hsim'⟩ := hstep
      rw [hst]
      simp only
      rw [ih d' f tail hsim' (by simp at hf; omega)]

theorem codes_bits_length {early : Bool} {e : EncSt} {bs : Bytes} {cs : List (Nat × Nat)} (h : Codes early e bs cs) :
    cs.length ≤ (bitsOfCodes cs).length := by
  induction h with
  | @eod e | @clear e _ _ _ ih | @phrase e _ _ _ _ _ _ _ ih =>
    rw [bitsOfCodes_cons, List.length_append, bitsOfNat_length]
    have := (widthFor_ge early (258 + e.table.length - (if e.fresh then 1 else 0))).1
    simp only [codeWidth, List.length_cons, List.length_nil] at *
    omega

theorem bitsOfBytes_length (d : Bytes) : (bitsOfBytes d).length = 8 * d.length := by
  induction d with
  | nil => rfl
  | cons b t ih =>
    simp only [bitsOfBytes, List.flatMap_cons, List.length_append, bitsOfNat_length, List.length_cons] at *
    omega

/-- **the decoder inverts every conforming LZW encoding**, for both EarlyChange values, any choice of
    phrases and of clear-table codes, whatever follows the EOD code -/
theorem decode_of_encodesToLzw (early : Bool) {bs text : Bytes} (h : EncodesToLzw early bs text) :
    decode early text = .ok bs := by
  obtain ⟨cs, tail, hc, hb⟩ := h
  unfold decode
  rw [bitsOfBytes_eq_spec, hb]
  apply loop_of_codes early hc initSt _ tail (sim_init early bs)
  have h1 := codes_bits_length hc
  have h2 : (bitsOfCodes cs ++ tail).length = 8 * text.length := by
    rw [← hb, ← bitsOfBytes_eq_spec, bitsOfBytes_length]
  rw [List.length_append] at h2
  omega

theorem stepCode_width {early : Bool} {st st' : St} {c : Nat} {out : Bytes} (h : stepCode early st c = .cont st' out)
    (hw : 1 ≤ st.width) : 1 ≤ st'.width := by
  have bump : ∀ (P : Prop) [Decidable P], 1 ≤ (if P then st.width + 1 else st.width) := by
    intro P _; split <;> omega
  revert h
  -- along the branches of `stepCode`: the next state keeps the width, is `initSt` (width 9), or has bumped the width
  fun_cases stepCode early st c <;> intro h <;> cases h <;> first
    | exact hw | exact Nat.le_add_left 1 8 | exact bump _

/-- the code loop never panics and never runs out of the fuel `decode` hands it -/
theorem loop_returns (early : Bool) : ∀ (fuel : Nat) (st : St) (bits : List Bool), bits.length < fuel → 1 ≤ st.width →
    (loop early fuel st bits).Returns := by
  intro fuel
  induction fuel with
  | zero => intro st bits h; omega
  | succ f ih =>
    intro st bits hf hw
    rw [loop]
    split
    · exact .err
    · rename_i hlen
      cases hstep : stepCode early st (natOfBits (bits.take st.width)) with
      | done => exact .ok _
      | invalid => exact .err
      | cont st' out =>
        rw [List.length_take] at hlen
        rcases (ih st' (bits.drop st.width) (by rw [List.length_drop]; omega) (stepCode_width hstep hw)).cases
          with e | ⟨t, e⟩ <;> simp only [e]
        · exact .err
        · exact .ok _

theorem decode_returns (early : Bool) (data : Bytes) : (decode early data).Returns :=
  loop_returns early _ initSt _ (by rw [bitsOfBytes_length]; omega) (Nat.le_add_left 1 8)

end Lzw
