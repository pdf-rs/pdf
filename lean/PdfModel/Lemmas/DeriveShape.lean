import PdfModel.Lemmas.Derive

/-! The container law (C15): `Option`, `Vec`, `HashMap`, pairs, `Box`, `MaybeRef`, `RcRef`, `Ref`, `Lazy` round-trip
    whenever their leaves do. -/

namespace Derive

theorem isRef_not_null {p : Prim} (h : p.isRef = true) : p ≠ .null := by
  intro hp; subst hp; simp [Prim.isRef] at h

theorem isRef_isNull {p : Prim} (h : p.isRef = true) : p.isNull = false := by
  cases p <;> simp [Prim.isRef] at h <;> rfl

/-- reading an `Option<T>` from a primitive that `T` reads: `None` for `null`, `Some` of what `T` reads otherwise -/
theorem readShape_option_ok {cfg : Cfg} {sem : Sem} {env : Env} {a : Shape} {p : Prim} {v : Val}
    (h : readShape cfg sem env a p = .ok v) :
    readShape cfg sem env (.option a) p = .ok (if p.isNull then .none else .some v) := by
  cases p <;> simp [readShape, h, Prim.isNull]

/-! ## what the container writers accept -/

section
variable {sem : Sem} {a b : Shape} {v : Val} {p : Prim}

theorem writeShape_option_ok (h : writeShape sem (.option a) v = .ok p) :
    (v = .none ∧ p = .null) ∨ ∃ w, v = .some w ∧ writeShape sem a w = .ok p := by
  cases v <;> simp_all [writeShape]

theorem writeShape_vec_ok (h : writeShape sem (.vec a) v = .ok p) :
    ∃ vs ps, v = .list vs ∧ mapR (fun v => writeShape sem a v) vs = .ok ps ∧ p = .arr ps := by
  cases v <;> simp only [writeShape, reduceCtorEq] at h
  split at h <;> cases h
  exact ⟨_, _, rfl, ‹_›, rfl⟩

theorem writeShape_hashMap_ok (h : writeShape sem (.hashMap a) v = .ok p) :
    (v = .map [] ∧ p = .null) ∨
      ∃ kvs d, kvs ≠ [] ∧ v = .map kvs ∧ mapKV (fun v => writeShape sem a v) kvs = .ok d ∧ p = .dict d := by
  cases v <;> simp only [writeShape, reduceCtorEq] at h
  split at h
  · cases h; exact .inl ⟨rfl, rfl⟩
  · split at h <;> cases h
    exact .inr ⟨_, _, by simpa using ‹_›, rfl, ‹_›, rfl⟩

theorem writeShape_pair_ok (h : writeShape sem (.pair a b) v = .ok p) :
    ∃ x y px py, v = .pair x y ∧ writeShape sem a x = .ok px ∧ writeShape sem b y = .ok py ∧ p = .arr [px, py] := by
  cases v <;> simp only [writeShape, reduceCtorEq] at h
  split at h
  · cases h
  · split at h <;> cases h
    exact ⟨_, _, _, _, rfl, ‹_›, ‹_›, rfl⟩

theorem writeShape_maybeRef_ok (h : writeShape sem (.maybeRef a) v = .ok p) :
    (∃ w, v = .direct w ∧ writeShape sem a w = .ok p) ∨ ∃ w, v = .indirect p w := by
  cases v <;> simp_all [writeShape]

theorem writeShape_rcRef_ok (h : writeShape sem (.rcRef a) v = .ok p) : ∃ w, v = .indirect p w := by
  cases v <;> simp_all [writeShape]

theorem writeShape_ref_ok (h : writeShape sem (.ref a) v = .ok p) : v = .leaf p := by
  cases v <;> simp_all [writeShape]

theorem writeShape_lazy_ok (h : writeShape sem (.lazy a) v = .ok p) : v = .lazy p := by
  cases v <;> simp_all [writeShape]
end

theorem shape_law (cfg : Cfg) (sem : Sem) (env : Env) (lok : Shape → Val → Prop) (law : sem.Law env lok) :
    ∀ (s : Shape) (v : Val), ValOk cfg sem env lok s v →
      RoundTrips (readShape cfg sem env s) (writeShape sem s) v := by
  intro s
  induction s with
  | leaf n | model n | param n => intro v hv; exact law _ v rfl hv
  | leafApp n a _ | modelApp n a _ => intro v hv; exact law _ v rfl hv
  | option a ih =>
    intro v hv p hw
    rcases writeShape_option_ok hw with ⟨rfl, rfl⟩ | ⟨w, rfl, hw⟩
    · exact ⟨.none, rfl, rfl⟩
    · obtain ⟨w', hr, hw'⟩ := ih w hv p hw
      refine ⟨if p.isNull then .none else .some w', readShape_option_ok hr, ?_⟩
      cases hp : p.isNull
      · simp [writeShape, hw']
      · cases p <;> simp [Prim.isNull] at hp
        simp [writeShape]
  | vec a ih =>
    intro v hv p hw
    obtain ⟨vs, ps, rfl, hm, rfl⟩ := writeShape_vec_ok hw
    obtain ⟨vs', hr, hw'⟩ := mapR_law (fun v => writeShape sem a v) (fun x => readShape cfg sem env a x)
      (fun v => ValOk cfg sem env lok a v) (fun x hx y hy => ih x hx y hy) vs hv ps hm
    exact ⟨.list vs', by simp [readShape, Prim.isRef, hr], by simp [writeShape, hw']⟩
  | hashMap a ih =>
    intro v hv p hw
    rcases writeShape_hashMap_ok hw with ⟨rfl, rfl⟩ | ⟨kvs, d, hne, rfl, hm, rfl⟩
    · exact ⟨.map [], rfl, rfl⟩
    · obtain ⟨kvs', hr, hw', hnil⟩ := mapKV_law (fun v => writeShape sem a v) (fun x => readShape cfg sem env a x)
        (fun v => ValOk cfg sem env lok a v) (fun x hx y hy => ih x hx y hy) kvs hv d hm
      refine ⟨.map kvs', by simp [readShape, Prim.isRef, hr], ?_⟩
      cases kvs' with
      | nil => exact absurd (hnil.2 rfl) hne
      | cons x xs => simp [writeShape, hw']
  | box a ih => intro v hv p hw; exact ih v hv p hw
  | maybeRef a ih =>
    intro v hv p hw
    rcases writeShape_maybeRef_ok hw with ⟨w, rfl, hw⟩ | ⟨w, rfl⟩
    · have hv' : ValOk cfg sem env lok a w ∧ ∀ p, writeShape sem a w = .ok p → p.isRef = true →
          ∃ v', getTyped env (fun q => readShape cfg sem env a q) p = .ok v' := hv
      cases hp : p.isRef
      · obtain ⟨w', hr, hw'⟩ := ih w hv'.1 p hw
        exact ⟨.direct w', by simp [readShape, hp, hr], by simp [writeShape, hw']⟩
      · obtain ⟨w', hg⟩ := hv'.2 p hw hp
        exact ⟨.indirect p w', by simp [readShape, hp, hg], rfl⟩
    · obtain ⟨hr, w', hg⟩ : p.isRef = true ∧ ∃ v', getTyped env (fun q => readShape cfg sem env a q) p = .ok v' := hv
      exact ⟨.indirect p w', by simp [readShape, hr, hg], rfl⟩
  | rcRef a _ =>
    intro v hv p hw
    obtain ⟨w, rfl⟩ := writeShape_rcRef_ok hw
    obtain ⟨hr, w', hg⟩ : p.isRef = true ∧ ∃ v', getTyped env (fun q => readShape cfg sem env a q) p = .ok v' := hv
    exact ⟨.indirect p w', by simp [readShape, hr, hg], rfl⟩
  | ref a _ =>
    intro v hv p hw
    cases writeShape_ref_ok hw
    have hr : p.isRef = true := hv
    exact ⟨.leaf p, by simp [readShape, hr], rfl⟩
  | lazy a _ =>
    intro v hv p hw
    cases writeShape_lazy_ok hw
    exact ⟨.lazy p, rfl, rfl⟩
  | pair a b iha ihb =>
    intro v hv p hw
    obtain ⟨x, y, px, py, rfl, hx, hy, rfl⟩ := writeShape_pair_ok hw
    have hv' : ValOk cfg sem env lok a x ∧ ValOk cfg sem env lok b y := hv
    obtain ⟨x', hrx, hwx⟩ := iha x hv'.1 px hx
    obtain ⟨y', hry, hwy⟩ := ihb y hv'.2 py hy
    exact ⟨.pair x' y', by simp [readShape, resolve1, resolveP, hrx, hry], by simp [writeShape, hwx, hwy]⟩

end Derive
