import PdfModel.Model.ColorSpaceLoad
import PdfModel.Lemmas.TotalTyped

/-!
  `ColorSpace::from_primitive_depth` is total and respects its budget (C01): for EVERY budget, every plain primitive
  and every object table the model answers with a value or an error of the implementation; a value never nests
  base / alternate spaces deeper than the budget. The lookup stream of an `/Indexed` space that has filters is not
  decoded here: `readLookup` records it (`Lookup.deferred`), which is why `readLookup_clean` meets no `oof` there.
-/

namespace CSLoad
open Derive

theorem resolveO_spec {se : SEnv} (he : EnvOk se.env) (p : Prim) (hp : p.plain = true) :
    Reads (fun o => ∀ q, o = .prim q → q.plain = true) (resolveO se p) := by
  cases p with
  | ref id g =>
    simp only [resolveO]
    cases hs : se.streams id with
    | some x => exact .ok nofun
    | none =>
      simp only []
      exact (he.resolve_spec id).elim (fun q hq => .ok fun _ h => by cases h; exact hq.2) fun e he => .err he
  | created q => simp [Prim.plain] at hp
  | _ => exact .ok fun _ h => by cases h; exact hp

theorem asU8_clean (p : Prim) : Clean (asU8 p) := by
  unfold asU8; split <;> (try split) <;> simp [Clean, Err.hasOof]

theorem asU8_range (p : Prim) (n : Nat) (h : asU8 p = .ok n) : n < 256 := by
  unfold asU8 at h
  split at h
  · split at h
    · cases h; omega
    · cases h
  · cases h

theorem unitStreamData_err (i : Dict) (d : List UInt8) (e : Err) (h : unitStreamData i d = .error e) :
    e = .oof ∨ e.hasOof = false := by
  unfold unitStreamData at h
  repeat' split at h
  all_goals cases h
  all_goals first | exact Or.inl rfl | exact Or.inr rfl

theorem readLookup_clean {se : SEnv} (he : EnvOk se.env) (p : Prim) (hp : p.plain = true) : Clean (readLookup se p) := by
  have h1 : Clean (lookupObj se p) := by
    cases p <;> first | exact clean_ok _ | exact (resolveO_spec he _ hp).1
  unfold readLookup
  refine h1.elim (fun o => ?_) clean_err
  cases o with
  | prim q => cases q <;> first | exact clean_ok _ | exact clean_err _ rfl
  | stream i d =>
    refine clean_ite (fun _ => clean_ok _) fun _ => ?_
    cases hu : unitStreamData i d with
    | ok x => exact clean_ok _
    | error e =>
      rcases unitStreamData_err i d e hu with rfl | h
      · exact clean_ok _
      · cases e <;> first | exact clean_ok _ | exact clean_err _ h

theorem dictOf_clean {se : SEnv} (he : EnvOk se.env) (p : Prim) (hp : p.plain = true) : Clean (dictOf se p) := by
  have := (asDict_spec he p hp).1
  unfold dictOf
  split
  · split
    · exact clean_err _ rfl
    · exact this
  · exact this

theorem calDict_clean {se : SEnv} (he : EnvOk se.env) (arr : List Prim) (hp : plainList arr = true) :
    Clean (calDict se arr) := by
  unfold calDict
  cases h : arr[1]? with
  | none => exact clean_err _ rfl
  | some p => exact dictOf_clean he p (plainList_mem hp p (List.mem_of_getElem? h))

theorem csHead_spec {se : SEnv} (he : EnvOk se.env) (p : Prim) (hp : p.plain = true) :
    Reads (fun x => ∀ typ arr, x = .inr (typ, arr) → plainList arr = true) (csHead se p) := by
  unfold csHead
  refine (resolveO_spec he p hp).elim (fun o ho => ?_) fun e he => .err he
  cases o with
  | stream i d => exact .err rfl
  | prim q =>
    cases q with
    | name n => exact .ok nofun
    | arr arr =>
      have ha : plainList arr = true := by simpa [Prim.plain] using ho _ rfl
      simp only []
      cases h0 : arr[0]? with
      | none => exact .err rfl
      | some t0 =>
        simp only []
        refine (resolveO_spec he t0 (plainList_mem ha t0 (List.mem_of_getElem? h0))).elim (fun o0 _ => ?_)
          fun e he => .err he
        cases o0 with
        | stream i d => exact .err rfl
        | prim q0 => cases q0 <;> first | exact .err rfl | exact .ok fun _ _ h => by cases h; exact ha
    | _ => exact .err rfl

theorem ofName_nesting (n : String) : (ofName n).nesting = 0 := by
  unfold ofName; repeat' split
  all_goals rfl

theorem csHead_nesting (se : SEnv) (p : Prim) (cs : CS) (h : csHead se p = .ok (.inl cs)) : cs.nesting = 0 := by
  unfold csHead at h
  repeat' split at h
  all_goals cases h
  exact ofName_nesting _

/-- One pass through the `match typ`: a value nests one deeper than what `rec` returns; an error is one of the
    implementation when the resolver is well-behaved and the array plain. -/
theorem csFamily_spec (se : SEnv) (rec : Prim → R CS) (d : Nat)
    (hrec : ∀ q, Sat (·.nesting ≤ d) (fun e => EnvOk se.env → q.plain = true → e.hasOof = false) (rec q))
    (typ : String) (arr : List Prim) :
    Sat (·.nesting ≤ d + 1) (fun e => EnvOk se.env → plainList arr = true → e.hasOof = false)
      (csFamily se rec typ arr) := by
  have hm : plainList arr = true → ∀ {i : Nat} {q : Prim}, arr[i]? = some q → q.plain = true :=
    fun ha _ q h => plainList_mem ha q (List.mem_of_getElem? h)
  have hcal : ∀ f : Dict → CS, (∀ dd, (f dd).nesting = 0) → Sat (·.nesting ≤ d + 1)
      (fun e => EnvOk se.env → plainList arr = true → e.hasOof = false) ((calDict se arr).map f) := by
    intro f hf
    cases hc : calDict se arr with
    | ok dd => exact .ok (by rw [hf]; omega)
    | error e => exact .err fun he ha => calDict_clean he arr ha e hc
  unfold csFamily
  refine .ite (fun _ => ?_) fun _ => .ite (fun _ => ?_) fun _ => .ite (fun _ => ?_) fun _ => .ite (fun _ => ?_) fun _ =>
    .ite (fun _ => hcal _ fun _ => rfl) fun _ => .ite (fun _ => hcal _ fun _ => rfl) fun _ =>
    .ite (fun _ => hcal _ fun _ => rfl) fun _ => .ite (fun _ => .ok (Nat.zero_le _)) fun _ => .ok (Nat.zero_le _)
  · -- Indexed
    cases h1 : arr[1]? with
    | none => exact .err fun _ _ => rfl
    | some b =>
      simp only []
      refine (hrec b).elim (fun base hb => ?_) fun e h => .err fun he ha => h he (hm ha h1)
      simp only []
      cases h2 : arr[2]? with
      | none => exact .err fun _ _ => rfl
      | some h =>
        simp only []
        refine (asU8_clean h).elim (fun hival => ?_) fun e h => .err fun _ _ => h
        simp only []
        cases h3 : arr[3]? with
        | none => exact .err fun _ _ => rfl
        | some l =>
          simp only []
          cases hlk : readLookup se l with
          | error e => exact .err fun he ha => readLookup_clean he l (hm ha h3) e hlk
          | ok lk => exact .ok (Nat.succ_le_succ hb)
  · -- Separation
    split
    · cases h2 : arr[2]? with
      | none => exact .err fun _ _ => rfl
      | some a =>
        simp only []
        refine (hrec a).elim (fun alt hb => ?_) fun e h => .err fun he ha => h he (hm ha h2)
        simp only []
        cases h3 : arr[3]? with
        | none => exact .err fun _ _ => rfl
        | some f => exact .ok (Nat.succ_le_succ hb)
    · exact .err fun _ _ => rfl
  · -- ICCBased
    cases h1 : arr[1]? with
    | none => exact .err fun _ _ => rfl
    | some s => exact .ok (Nat.zero_le _)
  · -- DeviceN
    cases h1 : arr[1]? with
    | none => exact .err fun _ _ => rfl
    | some names =>
      simp only []
      cases h2 : arr[2]? with
      | none => exact .err fun _ _ => rfl
      | some a =>
        simp only []
        refine (hrec a).elim (fun alt hb => ?_) fun e h => .err fun he ha => h he (hm ha h2)
        simp only []
        cases h3 : arr[3]? with
        | none => exact .err fun _ _ => rfl
        | some f =>
          simp only []
          cases h4 : arr[4]? with
          | none => exact .ok (Nat.succ_le_succ hb)
          | some a4 =>
            simp only []
            cases hdd : dictOf se a4 with
            | ok dd => exact .ok (Nat.succ_le_succ hb)
            | error e => exact .err fun he ha => dictOf_clean he a4 (hm ha h4) e hdd

theorem csRead_spec (se : SEnv) : ∀ (depth : Nat) (p : Prim),
    Sat (·.nesting ≤ depth) (fun e => EnvOk se.env → p.plain = true → e.hasOof = false) (csRead se depth p) := by
  intro depth
  induction depth with
  | zero =>
    intro p
    unfold csRead
    cases hh : csHead se p with
    | error e => exact .err fun he hp => (csHead_spec he p hp).1 e hh
    | ok x =>
      cases x with
      | inl cs => exact .ok (Nat.le_of_eq (csHead_nesting se p cs hh))
      | inr ta => exact .err fun _ _ => rfl
  | succ d ih =>
    intro p
    unfold csRead
    cases hh : csHead se p with
    | error e => exact .err fun he hp => (csHead_spec he p hp).1 e hh
    | ok x =>
      cases x with
      | inl cs => exact .ok (by rw [csHead_nesting se p cs hh]; exact Nat.zero_le _)
      | inr ta =>
        have := csFamily_spec se _ d ih ta.1 ta.2
        exact ⟨fun e h he hp => this.1 e h he ((csHead_spec he p hp).2 _ hh _ _ rfl), this.2⟩

/-- **Total for every budget.** -/
theorem csRead_clean {se : SEnv} (he : EnvOk se.env) (depth : Nat) (p : Prim) (hp : p.plain = true) :
    Clean (csRead se depth p) :=
  fun e h => (csRead_spec se depth p).1 e h he hp

/-- **The budget bounds the value**: what `from_primitive_depth(.., depth)` returns nests base and alternate spaces at
    most `depth` deep (`ColorSpace::from_primitive`: 5) -/
theorem csRead_nesting (se : SEnv) (depth : Nat) (p : Prim) (cs : CS) (h : csRead se depth p = .ok cs) :
    cs.nesting ≤ depth :=
  (csRead_spec se depth p).2 cs h

end CSLoad
