import PdfModel.Lemmas.EncPng

/-! Whole images: the row loop of `unpredict` (offsets, slices, fuel) decodes every PNG-predicted image. -/

namespace Enc
open Codecs

/-- one round of the row loop, when the slices it takes exist -/
theorem pngLoop_step {bpp S : Nat} {inp nullVec out prevRow row : Bytes} {tag : UInt8} {t : PredictorType}
    (fuel : Nat) {inOff outOff lastOff : Nat}
    (hin : inOff + 1 + S ≤ inp.length) (htag : inp[inOff]? = some tag) (ht : predictorOfU8 tag = some t)
    (hout : outOff + S ≤ out.length) (hlast : outOff ≠ 0 → lastOff ≤ outOff)
    (hprev : (if outOff = 0 then nullVec else (out.take outOff).drop lastOff) = prevRow)
    (hrow : unfilter t bpp prevRow ((inp.drop (inOff + 1)).take S) ((out.drop outOff).take S) = .ok row) :
    pngLoop bpp S inp nullVec (fuel + 1) inOff outOff lastOff out =
      pngLoop bpp S inp nullVec fuel (inOff + 1 + S) (outOff + S) outOff (out.take outOff ++ row ++ out.drop (outOff + S)) := by
  have hoo : outOff ≤ out.length := Nat.le_trans (Nat.le_add_right _ _) hout
  rw [pngLoop, if_neg (by omega), htag]
  dsimp only
  rw [ht]
  dsimp only
  rw [if_neg (Nat.not_lt.mpr hin)]
  by_cases h0 : outOff = 0
  · rw [if_pos h0] at hprev
    rw [if_pos h0, if_neg (Nat.not_lt.mpr hout), hprev]
    dsimp only
    rw [hrow]
  · rw [if_neg h0] at hprev
    rw [if_neg h0, if_neg (Nat.not_lt.mpr hoo), if_neg (Nat.not_lt.mpr (hlast h0)), if_neg (Nat.not_lt.mpr (Nat.le_sub_of_add_le' hout)), hprev]
    dsimp only
    rw [hrow]

theorem predictorOfU8_tag (t : PredictorType) : predictorOfU8 (UInt8.ofNat (tagOf t)) = some t := by
  cases t <;> decide

/-- rows still to be decoded: (type, original row) -/
abbrev Rows := List (PredictorType × Bytes)

def encRows (bpp : Nat) (prev : Bytes) (rs : Rows) : Bytes :=
  pngPredictRows bpp prev (rs.map fun r => (tagOf r.1, r.2))

def flat (rs : Rows) : Bytes := (rs.map (·.2)).flatten

theorem encRows_cons (bpp : Nat) (prev : Bytes) (t : PredictorType) (row : Bytes) (rs : Rows) :
    encRows bpp prev ((t, row) :: rs) = UInt8.ofNat (tagOf t) :: (pngFilterRow (tagOf t) bpp prev row ++ encRows bpp row rs) := by
  simp [encRows, pngPredictRows]

/-- the row loop in the middle of an image: `pre` is the input already consumed, `done` the output already written,
    `prevRow` the last row written (`nullVec` before the first one, else `done` from `lastOff` on), `rs` the rows still
    to come and `trailing` what follows them in the input — less than a full row with its tag, so that the loop stops
    there; one unit of fuel per row and one for the final test -/
theorem pngLoop_rows (bpp S : Nat) (hb1 : 1 ≤ bpp) (hbs : bpp ≤ S) (nullVec : Bytes) :
    ∀ (rs : Rows) (pre done prevRow trailing : Bytes) (fuel lastOff : Nat),
      (∀ r ∈ rs, r.2.length = S) → trailing.length ≤ S → rs.length < fuel → prevRow.length = S →
      (done = [] → prevRow = nullVec) →
      (done ≠ [] → lastOff ≤ done.length ∧ done.drop lastOff = prevRow) →
      pngLoop bpp S (pre ++ encRows bpp prevRow rs ++ trailing) nullVec fuel pre.length done.length lastOff
        (done ++ List.replicate (rs.length * S) 0) = .ok (done ++ flat rs) := by
  intro rs
  induction rs with
  | nil =>
    intro pre done prevRow trailing fuel lastOff _ htr hf _ _ _
    cases fuel with
    | zero => simp at hf
    | succ f =>
      have : ¬ (pre.length + S < (pre ++ encRows bpp prevRow [] ++ trailing).length) := by
        simp [encRows, pngPredictRows]; omega
      rw [pngLoop]
      simp only [this, not_false_eq_true, if_true]
      simp [flat]
  | cons r rs ih =>
    intro pre done prevRow trailing fuel lastOff hrows htr hf hprev hnil hlast
    obtain ⟨t, row⟩ := r
    have hrow : row.length = S := hrows (t, row) (by simp)
    cases fuel with
    | zero => simp at hf
    | succ f =>
      rw [encRows_cons]
      generalize hfr : pngFilterRow (tagOf t) bpp prevRow row = frow
      have hfl : frow.length = S := by rw [← hfr, length_filterRow, hrow]
      generalize hrest : encRows bpp row rs = rest
      have hzero : List.replicate (((t, row) :: rs).length * S) (0 : UInt8) = List.replicate S 0 ++ List.replicate (rs.length * S) 0 := by
        rw [List.length_cons, Nat.succ_mul, Nat.add_comm, List.replicate_append_replicate]
      have hrowIn : ((pre ++ UInt8.ofNat (tagOf t) :: (frow ++ rest) ++ trailing).drop (pre.length + 1)).take S = frow := by
        have : (pre ++ UInt8.ofNat (tagOf t) :: (frow ++ rest) ++ trailing).drop (pre.length + 1) = frow ++ (rest ++ trailing) := by
          simp [List.drop_append]
        rw [this, List.take_left' hfl]
      have hrowOut : ((done ++ (List.replicate S 0 ++ List.replicate (rs.length * S) (0 : UInt8))).drop done.length).take S
          = List.replicate S 0 := by
        rw [List.drop_left, List.take_left' List.length_replicate]
      have hprevRow : (if done.length = 0 then nullVec
          else ((done ++ (List.replicate S 0 ++ List.replicate (rs.length * S) (0 : UInt8))).take done.length).drop lastOff) = prevRow := by
        by_cases hd : done = []
        · rw [if_pos (by rw [hd]; rfl), hnil hd]
        · rw [if_neg (mt List.length_eq_zero_iff.mp hd), List.take_left, (hlast hd).2]
      rw [hzero, pngLoop_step (t := t) (row := row) f (by simp; omega) (by simp) (predictorOfU8_tag t) (by simp)
        (fun h => (hlast (mt (congrArg List.length) h)).1) hprevRow
        (by rw [hrowIn, hrowOut, ← hfr]
            exact unfilter_filter t bpp prevRow row _ hb1 (hrow ▸ hbs) (hprev.trans hrow.symm) (List.length_replicate.trans hrow.symm))]
      have := ih (pre ++ UInt8.ofNat (tagOf t) :: frow) (done ++ row) row trailing f done.length
        (fun r hr => hrows r (List.mem_cons_of_mem _ hr)) htr (by simp at hf; omega) hrow
        (by intro h; rw [List.append_eq_nil_iff] at h; rw [h.2] at hrow; simp at hrow; omega)
        (fun _ => ⟨by simp, List.drop_left⟩)
      rw [hrest] at this
      simp only [List.length_append, List.length_cons, hfl, hrow, List.append_assoc, List.cons_append] at this
      rw [List.take_left, ← List.append_assoc done, List.drop_left' (by simp), List.append_assoc,
        show pre.length + 1 + S = pre.length + (S + 1) by omega]
      simpa [flat] using this
theorem encRows_length (bpp S : Nat) : ∀ (rs : Rows) (prev : Bytes), (∀ r ∈ rs, r.2.length = S) →
    (encRows bpp prev rs).length = rs.length * (S + 1) := by
  intro rs
  induction rs with
  | nil => intro prev _; simp [encRows, pngPredictRows]
  | cons r rs ih =>
    intro prev h
    obtain ⟨t, row⟩ := r
    rw [encRows_cons]
    have hrow : row.length = S := h (t, row) (by simp)
    simp only [List.length_cons, List.length_append, length_filterRow, hrow, ih row (fun r hr => h r (by simp [hr]))]
    rw [Nat.add_mul]; omega

def ValidBpc (bpc : Nat) : Prop := bpc = 1 ∨ bpc = 2 ∨ bpc = 4 ∨ bpc = 8 ∨ bpc = 16

/-- what `predictor_geometry` has checked when it returns: at least one colour and one column, a bit depth of the PDF
    specification, and a pixel distance between 1 and the row length -/
theorem geometry_spec {p : Params} {bpp S : Nat} (h : predictorGeometry p = .ok (bpp, S)) :
    (1 ≤ p.colors.toNat ∧ 1 ≤ p.columns.toNat ∧ ValidBpc p.bpc.toNat) ∧ 1 ≤ bpp ∧ bpp ≤ S := by
  revert h
  fun_cases predictorGeometry p
  · nofun
  · rename_i hv pixelBits rowBits _ _ _
    intro h
    obtain ⟨rfl, rfl⟩ := Prod.mk.inj (Out.ok.inj h)
    have hc : 1 ≤ p.colors.toNat := by omega
    have hcol : 1 ≤ p.columns.toNat := by omega
    have hb : ValidBpc p.bpc.toNat := by unfold ValidBpc; omega
    have hb1 : 1 ≤ p.bpc.toNat := by unfold ValidBpc at hb; omega
    have hpb : 1 * 1 ≤ pixelBits := Nat.mul_le_mul hc hb1
    have hmono : pixelBits ≤ rowBits := Nat.le_mul_of_pos_right _ hcol
    clear hv
    exact ⟨⟨hc, hcol, hb⟩, by omega, by omega⟩
  · nofun

/-- **whole image**: every image made of complete rows, PNG-predicted with any per-row choice of filter
    types, is restored by `unpredict` (no panic, no fuel exhaustion, the original bytes) -/
theorem unpredict_png (p : Params) (bpp S : Nat) (hp : p.predictor ≥ 10)
    (hg : predictorGeometry p = .ok (bpp, S)) (rs : Rows) (hrows : ∀ r ∈ rs, r.2.length = S) :
    unpredict (encRows bpp (List.replicate S 0) rs) p = .ok (flat rs) := by
  obtain ⟨hb1, hbs⟩ := (geometry_spec hg).2
  unfold unpredict
  simp only [hp, if_true, hg]
  have hlen := encRows_length bpp S rs (List.replicate S 0) hrows
  have hdiv : (encRows bpp (List.replicate S 0) rs).length / (S + 1) = rs.length := by
    rw [hlen]; exact Nat.mul_div_cancel _ (by omega)
  rw [hdiv]
  by_cases h0 : rs.length = 0
  · have : rs = [] := List.eq_nil_of_length_eq_zero h0
    subst this
    simp [flat]
  · simp only [h0, if_false]
    have := pngLoop_rows bpp S hb1 hbs (List.replicate S 0) rs [] [] (List.replicate S 0) []
      ((encRows bpp (List.replicate S 0) rs).length + 1) 0 hrows (by simp) (by rw [hlen, Nat.mul_add]; omega) (by simp)
      (fun _ => rfl) (fun h => absurd rfl h)
    simpa using this

end Enc
