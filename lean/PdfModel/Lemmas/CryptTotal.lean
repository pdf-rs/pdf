import PdfModel.Lemmas.Crypt

/-! `from_password` of revisions 2–4 returns for every key length (used by `Props/C14.lean`): the model of
    the C06 package, their lemmas, no restriction on `keyBits`.
    (`Lemmas/TotalCrypt.lean` is about the other end: `Decoder::decrypt` on arbitrary ciphertext, C01.) -/

namespace Crypt
open StdSec

theorem keyDerivUser_ok {P : Prims} {H : Hashes} (hp : PrimsAgree P H) (hw : H.WF) (r n : Nat) (d : CryptDict) (id pw : Bytes) :
    ∃ key, keyDerivUser P r n d id pw = .ok key ∧ key.length = max n 16 := by
  unfold keyDerivUser
  simp only [hp.md5, Out.bind_ok]
  by_cases h3 : r ≥ 3
  · simp only [if_pos h3, md5Iter_eq hp, Out.bind_ok]
    refine ⟨_, rfl, ?_⟩
    rw [List.length_append, List.length_replicate,
      iter_length (f := fun h => H.md5 (h.take (min n 16))) (m := 16) (fun x => hw.md5_len _) 50 _ (hw.md5_len _)]
    omega
  · simp only [if_neg h3, Out.bind_ok]
    refine ⟨_, rfl, ?_⟩
    rw [List.length_append, List.length_replicate, hw.md5_len]
    omega

theorem alg3Key_length {H : Hashes} (hw : H.WF) (r n : Nat) (hn : n ≤ 16) (pw : Bytes) : (alg3Key H r n pw).length = n := by
  unfold alg3Key
  have : ((if r ≥ 3 then iter H.md5 50 (H.md5 (pad32 pw)) else H.md5 (pad32 pw))).length = 16 := by
    by_cases h3 : r ≥ 3
    · rw [if_pos h3]; exact iter_length hw.md5_len _ _ (hw.md5_len _)
    · rw [if_neg h3]; exact hw.md5_len _
  simp only []
  rw [List.length_take, this]
  omega

theorem fromPasswordRc4_returns {P : Prims} {H : Hashes} (hp : PrimsAgree P H) (hw : H.WF)
    (d : CryptDict) (id pass : Bytes) (level keyBits : Nat) (m : Method) :
    (fromPasswordRc4 P d id pass level keyBits m).Returns := by
  simp only [Out.Returns]
  unfold fromPasswordRc4
  simp only []
  by_cases h0 : keyBits / 8 = 0
  · rw [if_pos h0]; simp
  · rw [if_neg h0]
    by_cases h32 : keyBits / 8 > 32
    · rw [if_pos h32]; simp
    rw [if_neg h32]
    have hks : 1 ≤ keyBits / 8 := Nat.pos_of_ne_zero h0
    obtain ⟨key, hkey, hlen⟩ := keyDerivUser_ok hp hw level (keyBits / 8) d id pass
    have hv1 : validKey (key.take (min (keyBits / 8) 16)) := by
      unfold validKey; rw [List.length_take, hlen]; omega
    rw [hkey, Out.bind_ok, checkPasswordRc4_eq hp hw level d.u id _ hv1, Out.bind_ok]
    generalize decide (if level = 2 then makeU H 2 (key.take (min (keyBits / 8) 16)) id [] = d.u
      else makeU H level (key.take (min (keyBits / 8) 16)) id [] = d.u.take 16) = b1
    cases b1
    · simp only [Bool.false_eq_true, if_false]
      by_cases hbig : keyBits / 8 > 16
      · have : keyDerivOwner P level (keyBits / 8) pass = .err := by unfold keyDerivOwner; rw [if_pos hbig]
        rw [this]; simp
      · have hle : keyBits / 8 ≤ 16 := by omega
        have hwk : validKey (alg3Key H level (keyBits / 8) pass) := by
          unfold validKey; rw [alg3Key_length hw _ _ hle]; omega
        rw [keyDerivOwner_eq hp hw level (keyBits / 8) hle pass, Out.bind_ok, roundList_eq, rc4Rounds_eq hwk, Out.bind_ok]
        obtain ⟨key2, hkey2, hlen2⟩ := keyDerivUser_ok hp hw level (keyBits / 8) d id
          (rc4Chain (alg3Key H level (keyBits / 8) pass) ((List.range ((if level = 2 then 1 else 20) - 0)).map (0 + ·)) d.o)
        have hv2 : validKey (key2.take (keyBits / 8)) := by
          unfold validKey; rw [List.length_take, hlen2]; omega
        rw [hkey2, Out.bind_ok, checkPasswordRc4_eq hp hw level d.u id _ hv2, Out.bind_ok]
        generalize decide (if level = 2 then makeU H 2 (key2.take (keyBits / 8)) id [] = d.u
          else makeU H level (key2.take (keyBits / 8)) id [] = d.u.take 16) = b2
        cases b2 <;> simp
    · simp

end Crypt
