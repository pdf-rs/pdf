import PdfModel.Lemmas.StorageReload

/-! `byte_len`, big-endian fields and the `/W` widths of the cross-reference stream. -/

namespace Storage
open Xref

theorem byteLen_pos (n : Nat) : 1 ≤ byteLen n := by
  rw [byteLen]; split <;> omega

/-- `byteLen` is the exact number of base-256 digits: `n` fits into `byteLen n` bytes and (for `n ≥ 256`) into no
    fewer -/
theorem byteLen_bounds (n : Nat) : n < 256 ^ byteLen n ∧ (256 ≤ n → 256 ^ (byteLen n - 1) ≤ n) := by
  induction n using byteLen.induct with
  | case1 n h => rw [byteLen, if_pos h]; exact ⟨by simpa using h, fun h' => absurd h (Nat.not_lt_of_le h')⟩
  | case2 n h ih =>
    obtain ⟨ih1, ih2⟩ := ih
    rw [byteLen, if_neg h, Nat.add_sub_cancel_left, Nat.add_comm, Nat.pow_succ]
    refine ⟨Nat.lt_of_lt_of_le (show n < (n / 256 + 1) * 256 by omega) (Nat.mul_le_mul_right 256 ih1), fun _ => ?_⟩
    by_cases h2 : 256 ≤ n / 256
    · rw [show byteLen (n / 256) = byteLen (n / 256) - 1 + 1 by have := byteLen_pos (n / 256); omega, Nat.pow_succ]
      exact Nat.le_trans (Nat.mul_le_mul_right 256 (ih2 h2)) (Nat.div_mul_le_self n 256)
    · rw [byteLen, if_pos (by omega)]; omega

theorem lt_pow_byteLen (n : Nat) : n < 256 ^ byteLen n := (byteLen_bounds n).1

theorem pow_byteLen_le (n : Nat) (h : 256 ≤ n) : 256 ^ (byteLen n - 1) ≤ n := (byteLen_bounds n).2 h

/-- `byteLen` is determined by the two bounds: `n` has exactly `k + 1` base-256 digits -/
theorem byteLen_unique (n k : Nat) (hlo : 256 ^ k ≤ n) (hhi : n < 256 ^ (k + 1)) : byteLen n = k + 1 := by
  have h1 := lt_pow_byteLen n
  have hp := byteLen_pos n
  apply Nat.le_antisymm
  · refine Nat.le_of_not_lt fun hgt => ?_
    have h256 : 256 ≤ n := Nat.le_of_not_lt fun h => by rw [byteLen, if_pos h] at hgt; omega
    have := Nat.le_trans (Nat.pow_le_pow_right (by decide) (show k + 1 ≤ byteLen n - 1 by omega)) (pow_byteLen_le n h256)
    omega
  · refine Nat.le_of_not_lt fun hlt => ?_
    have : 256 ^ byteLen n ≤ 256 ^ k := Nat.pow_le_pow_right (by decide) (by omega)
    omega

def decodeBE (l : List Nat) : Nat := l.foldl (fun acc b => acc * 256 + b) 0

theorem beBytes_length : ∀ (w n : Nat), (beBytes w n).length = w := by
  intro w
  induction w with
  | zero => intro n; rfl
  | succ w ih => intro n; simp [beBytes, ih]

theorem beBytes_lt : ∀ (w n : Nat), ∀ b ∈ beBytes w n, b < 256 := by
  intro w
  induction w with
  | zero => intro n b hb; simp [beBytes] at hb
  | succ w ih =>
    intro n b hb
    simp only [beBytes, List.mem_append, List.mem_singleton] at hb
    rcases hb with hb | rfl
    · exact ih _ b hb
    · omega

/-- a field written with enough bytes is read back as it was -/
theorem decode_beBytes : ∀ (w n : Nat), n < 256 ^ w → decodeBE (beBytes w n) = n := by
  intro w
  induction w with
  | zero => intro n h; simp at h; subst h; rfl
  | succ w ih =>
    intro n h
    have h1 : n / 256 < 256 ^ w := by
      rw [Nat.pow_succ] at h
      exact Nat.div_lt_of_lt_mul (by rw [Nat.mul_comm]; exact h)
    simp only [beBytes, decodeBE, List.foldl_append, List.foldl_cons, List.foldl_nil]
    have := ih (n / 256) h1
    simp only [decodeBE] at this
    rw [this]; omega

theorem maxFields_cons (e : XRef) (es : List XRef) :
    maxFields (e :: es) = match fieldsOf e with
      | some (_, x, y) => (max (maxFields es).1 x, max (maxFields es).2 y)
      | none => maxFields es := by
  cases e <;> rfl

theorem maxFields_ge : ∀ (t : List XRef) (e : XRef) (ty a b : Nat), e ∈ t →
    fieldsOf e = some (ty, a, b) → a ≤ (maxFields t).1 ∧ b ≤ (maxFields t).2 := by
  intro t
  induction t with
  | nil => intro e ty a b he; cases he
  | cons x xs ih =>
    intro e ty a b he hf
    rw [maxFields_cons]
    rcases List.mem_cons.mp he with rfl | he
    · rw [hf]; exact ⟨Nat.le_max_right _ _, Nat.le_max_right _ _⟩
    · obtain ⟨h1, h2⟩ := ih e ty a b he hf
      cases fieldsOf x with
      | none => exact ⟨h1, h2⟩
      | some q => exact ⟨Nat.le_trans h1 (Nat.le_max_left _ _), Nat.le_trans h2 (Nat.le_max_left _ _)⟩

theorem fieldsOf_rowOf (e r : XRef) (h : rowOf e = some r) : fieldsOf r = fieldsOf e := by
  cases e <;> simp [rowOf] at h <;> subst h <;> rfl

variable {V : Type}

/-- **/W**: every field of every row written fits the width announced for its column, so the big-endian bytes of
    each field fold back (`decodeBE`) to the field -/
theorem width_fits_c (P : Params V) (L : Layout) (hL : L.Pos) (d0 d d' : Doc V) (chain0) (i : SaveInfo)
    (hb : BaseOK d0 chain0) (hi : Inv d0 d) (h : Committed P L d d'.st i) :
    1 ≤ i.aw ∧ 1 ≤ i.bw ∧
    ∀ r ∈ i.rows, ∀ ty a b, fieldsOf r = some (ty, a, b) →
      a < 256 ^ i.aw ∧ b < 256 ^ i.bw ∧
      rowBytes i.aw i.bw r = ty :: (beBytes i.aw a ++ beBytes i.bw b) ∧
      decodeBE (beBytes i.aw a) = a ∧ decodeBE (beBytes i.bw b) = b := by
  have sh := save_shape_c P L hL d0 d d' chain0 i hb hi h
  have hw := save_ok_widths_c P L d d' i h
  simp only [widths] at hw
  have haw : i.aw = byteLen (maxFields d'.st.refs).1 := by
    have := congrArg Prod.fst hw; simpa using this
  have hbw : i.bw = byteLen (maxFields d'.st.refs).2 := by
    have := congrArg Prod.snd hw; simpa using this
  refine ⟨by rw [haw]; exact byteLen_pos _, by rw [hbw]; exact byteLen_pos _, ?_⟩
  intro r hr ty a b hf
  obtain ⟨j, hj⟩ := List.getElem?_of_mem hr
  have hjt : j < d'.st.refs.length := by
    rw [sh.table_len, ← sh.rows_len.1]; exact (List.getElem?_eq_some_iff.mp hj).1
  obtain ⟨r', a1, a2⟩ := sh.rows_of_table j d'.st.refs[j] (List.getElem?_eq_getElem hjt)
  cases hj.symm.trans a2
  have hf2 : fieldsOf d'.st.refs[j] = some (ty, a, b) := by rw [← fieldsOf_rowOf _ _ a1]; exact hf
  obtain ⟨m1, m2⟩ := maxFields_ge d'.st.refs _ ty a b (List.getElem_mem hjt) hf2
  have ha : a < 256 ^ i.aw := by rw [haw]; exact Nat.lt_of_le_of_lt m1 (lt_pow_byteLen _)
  have hb' : b < 256 ^ i.bw := by rw [hbw]; exact Nat.lt_of_le_of_lt m2 (lt_pow_byteLen _)
  exact ⟨ha, hb', by simp [rowBytes, hf], decode_beBytes _ _ ha, decode_beBytes _ _ hb'⟩

theorem width_fits (P : Params V) (L : Layout) (hL : L.Pos) (d0 d d' : Doc V) (chain0) (i : SaveInfo)
    (hb : BaseOK d0 chain0) (hi : Inv d0 d) (h : save P L d = (d', .ok i)) :
    1 ≤ i.aw ∧ 1 ≤ i.bw ∧
    ∀ r ∈ i.rows, ∀ ty a b, fieldsOf r = some (ty, a, b) →
      a < 256 ^ i.aw ∧ b < 256 ^ i.bw ∧
      rowBytes i.aw i.bw r = ty :: (beBytes i.aw a ++ beBytes i.bw b) ∧
      decodeBE (beBytes i.aw a) = a ∧ decodeBE (beBytes i.bw b) = b :=
  width_fits_c P L hL d0 d d' chain0 i hb hi (committed_of_ok P L d d' i h)

end Storage
