import PdfModel.Model.FontLoad
import PdfModel.Lemmas.TotalTyped

/-!
  `Font::from_primitive` is total (C01): the plan — dispatch on `/Subtype`, the `/BaseFont` rule, `/Encoding`, the cut of
  `/DescendantFonts` — answers on every plain primitive; run through the derived readers (`readFont`) it answers
  whenever the leaf readers below do.
-/

namespace FontLoad
open Derive

theorem dinsert_plain {d : Dict} (h : plainKV d = true) (k : String) (v : Prim) (hv : v.plain = true) :
    plainKV (dinsert k v d) = true := by
  induction d with
  | nil => simp [dinsert, plainKV, hv]
  | cons kv t ih =>
    obtain ⟨k', v'⟩ := kv
    simp only [plainKV, Bool.and_eq_true] at h
    simp only [dinsert]
    split
    · simp [plainKV, hv, h.2]
    · simp [plainKV, h.1, ih h.2]

theorem plainList_take {xs : List Prim} (h : plainList xs = true) (n : Nat) : plainList (xs.take n) = true := by
  induction xs generalizing n with
  | nil => simp [plainList]
  | cons x t ih =>
    simp only [plainList, Bool.and_eq_true] at h
    cases n with
    | zero => simp [plainList]
    | succ n => simp [List.take, plainList, h.1, ih h.2 n]

theorem readSubtype_clean {env : Env} (he : EnvOk env) (S : Schema) (p : Prim) (hp : p.plain = true) :
    Clean (readSubtype env S p) := by
  unfold readSubtype
  refine (readEnum_clean he S p hp).elim (fun v => ?_) fun e he => clean_err _ he
  split <;> first | exact clean_ok _ | exact clean_err _ rfl | (rename_i h; cases h)

theorem baseFont_clean {env : Env} (he : EnvOk env) (d : Dict) (hd : plainKV d = true) (st : String) :
    Clean (baseFont env d st) := by
  unfold baseFont
  cases hg : dget "BaseFont" d with
  | none => exact clean_ite (fun _ => clean_ok _) fun _ => clean_err _ rfl
  | some q =>
    simp only []
    refine (resolve1_spec he q (dget_plain hd _ _ hg)).elim (fun r _ => ?_) fun e he => clean_err _ he
    cases r <;> first | exact clean_ok _ | exact clean_err _ rfl

theorem truncDescendants_spec {env : Env} (he : EnvOk env) (d : Dict) (hd : plainKV d = true) :
    Reads (plainKV · = true) (truncDescendants env d) := by
  unfold truncDescendants
  cases hg : dget "DescendantFonts" d with
  | none => exact .ok hd
  | some q =>
    simp only []
    refine (resolve1_spec he q (dget_plain hd _ _ hg)).elim (fun r hr => ?_) fun e he => .err he
    have he' := derase_plain hd "DescendantFonts"
    cases r with
    | arr xs =>
      exact .ok (dinsert_plain he' _ _
        (by simpa [Prim.plain] using plainList_take (by simpa [Prim.plain] using hr.1) 1))
    | _ => exact .ok (dinsert_plain he' _ _ hr.1)

theorem readEncodingOpt_clean {env : Env} (he : EnvOk env) (d : Dict) : Clean (readEncodingOpt env d) := by
  unfold readEncodingOpt
  cases hg : dget "Encoding" d with
  | none => exact clean_ok _
  | some q =>
    simp only []
    obtain ⟨n, hn⟩ : ∃ n, env.depth = n + 1 := ⟨env.depth - 1, by have := he.depth; omega⟩
    rw [hn]
    exact (readEncoding_clean he n q).elim (fun _ => clean_ok _) clean_err

/-- the plan answers on every plain primitive, and what it hands on is plain -/
theorem fontPlan_spec {env : Env} (he : EnvOk env) (S : Schema) (p : Prim) (hp : p.plain = true) :
    Reads (fun pl => plainKV pl.dict = true ∧ ∀ q, pl.toUnicode = some q → q.plain = true) (fontPlan env S p) := by
  unfold fontPlan
  refine (resolve1_spec he p hp).elim (fun q hq => ?_) fun e he => .err he
  cases q with
  | dict d0 =>
    have hd0 : plainKV d0 = true := by simpa [Prim.plain] using hq.1
    simp only []
    cases hs : dget "Subtype" d0 with
    | none => exact .err rfl
    | some st =>
      simp only []
      have hd1 := derase_plain hd0 "Subtype"
      refine (readSubtype_clean he S st (dget_plain hd0 _ _ hs)).elim (fun subtype => ?_) fun e he => .err he
      simp only []
      refine (expect_clean (derase "Subtype" d0) "Type" "Font" true).elim (fun _ => ?_) fun e he => .err he
      simp only []
      refine (baseFont_clean he _ hd1 subtype).elim (fun name => ?_) fun e he => .err he
      simp only []
      refine (readEncodingOpt_clean he (derase "Subtype" d0)).elim (fun enc => ?_) fun e he => .err he
      simp only []
      have hd2 := derase_plain hd1 "Encoding"
      have hd3 := derase_plain hd2 "ToUnicode"
      refine Sat.elim (Q := (plainKV · = true)) (.ite (fun _ => truncDescendants_spec he _ hd3) fun _ => .ok hd3)
        (fun d4 h4 => .ok ⟨h4, fun q h => dget_plain hd2 _ _ h⟩) fun e he => .err he
  | _ => exact .err rfl

/-- what running the recorded calls needs from the readers below: the three derived models are covered, and so is
    the reader of `Stream<()>` -/
structure SemOk (sem : Sem) (S : Schemas) (env : Env) : Prop where
  type0 : SchemaOk sem env S.type0
  tfont : SchemaOk sem env S.tfont
  cid : SchemaOk sem env S.cid
  stream : RdClean sem env (.leafApp "Stream" (.leaf "()"))

theorem runPlan_clean (cfg : Cfg) (sem : Sem) (S : Schemas) {env : Env} (he : EnvOk env) (hs : SemOk sem S env)
    (pl : Plan) (hd : plainKV pl.dict = true) (htu : ∀ q, pl.toUnicode = some q → q.plain = true) :
    Clean (runPlan cfg sem S env pl) := by
  unfold runPlan
  have c1 : Clean (readToUnicode cfg sem env pl.toUnicode) := by
    unfold readToUnicode
    cases h : pl.toUnicode with
    | none => exact clean_ok _
    | some q =>
      simp only []
      exact (readShape_clean cfg sem he toUnicodeShape hs.stream q (htu q h)).elim (fun _ => clean_ok _)
        clean_err
  refine c1.elim (fun tu => ?_) clean_err
  have c2 := fun T hT => readStructD_clean cfg sem he T hT pl.dict hd
  cases pl.loader with
  | type0 => exact (c2 _ hs.type0).elim (fun _ => clean_ok _) clean_err
  | tfont => exact (c2 _ hs.tfont).elim (fun _ => clean_ok _) clean_err
  | cid => exact (c2 _ hs.cid).elim (fun _ => clean_ok _) clean_err
  | other => exact clean_ok _

/-- **`Font::from_primitive` answers on every plain primitive**, given leaf readers that do -/
theorem readFont_clean (cfg : Cfg) (sem : Sem) (S : Schemas) {env : Env} (he : EnvOk env) (hs : SemOk sem S env)
    (p : Prim) (hp : p.plain = true) : Clean (readFont cfg sem S env p) := by
  unfold readFont
  exact (fontPlan_spec he S.fontType p hp).elim (fun pl h => runPlan_clean cfg sem S he hs pl h.1 h.2)
    clean_err

end FontLoad
