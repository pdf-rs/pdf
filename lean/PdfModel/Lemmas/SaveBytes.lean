import PdfModel.Model.SaveBytes
import PdfModel.Lemmas.SaveShape
import PdfModel.Lemmas.Serialize
import PdfModel.Lemmas.Indirect
import PdfModel.Lemmas.XrefWidths

/-! Where the records of a save lie in the bytes `SaveBytes.saveB` produces. -/

namespace SaveBytes
open Storage PdfLex Xref

variable {R : Type}

theorem chLookup_mem {V : Type} : ∀ (ch : List (Nat × V × Nat)) (j : Nat) (x : V × Nat), chLookup ch j = some x → (j, x) ∈ ch
  | [], _, _, h => by cases h
  | (i, y) :: rest, j, x, h => by
    rw [chLookup_cons] at h
    split at h
    · cases h; subst i; exact List.mem_cons_self ..
    · exact List.mem_cons_of_mem _ (chLookup_mem rest j x h)

theorem chLookup_of_mem_sorted {V : Type} : ∀ (ch : List (Nat × V × Nat)), Sorted ch → ∀ c ∈ ch, chLookup ch c.1 = some c.2
  | (i, y) :: rest, hs, c, hc => by
    rcases List.mem_cons.mp hc with rfl | hc
    · exact if_pos rfl
    · have := hs.1 c.1 (List.mem_map_of_mem hc)
      rw [chLookup_cons, if_neg (by omega)]
      exact chLookup_of_mem_sorted rest hs.2 c hc

theorem objAt_some {V : Type} {objs : List (Storage.Obj V)} {off : Nat} {o : Storage.Obj V} (h : objAt objs off = some o) :
    o ∈ objs ∧ o.off = off :=
  ⟨List.mem_of_find?_eq_some h, by simpa using List.find?_some h⟩

theorem objFrame_length_pos (id gen : Nat) (body : List UInt8) : 0 < (objFrame id gen body).length := by
  simp [objFrame, kwObj, kwEndobj]; omega

theorem frameOf_of_ok (fmt : R → List UInt8) (ids : List (List UInt8)) (id g : Nat) (v : Prim R) (h : (params fmt ids).ok v = true) :
    ∃ body, serialize fmt v = .ok body ∧ frameOf fmt (id, v, g) = objFrame id g body := by
  simp only [params, Out.isOk] at h
  cases hs : serialize fmt v with
  | ok body => exact ⟨body, rfl, by simp [frameOf, hs]⟩
  | _ => rw [hs] at h; cases h

/-- a record found in the file is found there whatever is appended to the file -/
theorem drop_append_of_frame {l f rest : List UInt8} {off : Nat} (m : List UInt8) (h : l.drop off = f ++ rest)
    (hf : 0 < f.length) : (l ++ m).drop off = f ++ (rest ++ m) := by
  rcases Nat.le_total off l.length with hoff | hoff
  · rw [List.drop_append_of_le_length hoff, h, List.append_assoc]
  · rw [List.drop_eq_nil_of_le hoff] at h
    have := congrArg List.length h
    simp at this; omega

/-- the loop over the changes, with the bytes it writes: the backend grows by the frames, and every record the loop
    appends to the abstract backend is the frame of a change and stands at its offset -/
theorem writeChanges_frames (fmt : R → List UInt8) (ids : List (List UInt8)) (L : Layout) (start : Nat) :
    ∀ (ch : List (Nat × Prim R × Nat)) (w w' : Written (Prim R)),
      writeChanges (params fmt ids) L start ch w = (w', .ok ()) →
      (∀ c ∈ ch, L.recLen c.1 = (frameOf fmt c).length) →
      ∀ pre : List UInt8, pre.length = w.len →
        (pre ++ framesOf fmt ch).length = w'.len ∧
        ∃ ext, w'.objs = w.objs ++ ext ∧
          ∀ o ∈ ext, o.members = [] ∧ (params fmt ids).ok o.val = true ∧ (o.id, o.val, o.gen) ∈ ch ∧
            ∃ rest, (pre ++ framesOf fmt ch).drop o.off = frameOf fmt (o.id, o.val, o.gen) ++ rest := by
  intro ch
  induction ch with
  | nil =>
    intro w w' h _ pre hpre
    cases h
    exact ⟨by simpa [framesOf] using hpre, [], by simp, by simp⟩
  | cons hd rest ih =>
    obtain ⟨i, v0, g0⟩ := hd
    intro w w' h hL pre hpre
    simp only [writeChanges] at h
    split at h
    · split at h
      · rename_i hok
        have hl0 : L.recLen i = (frameOf fmt (i, v0, g0)).length := hL _ (List.mem_cons_self ..)
        obtain ⟨e0, ext, e1, e2⟩ := ih _ _ h (fun c hc => hL c (List.mem_cons_of_mem _ hc)) (pre ++ frameOf fmt (i, v0, g0))
          (by simp [hpre, hl0])
        have hfr : pre ++ framesOf fmt ((i, v0, g0) :: rest) = pre ++ frameOf fmt (i, v0, g0) ++ framesOf fmt rest := by
          simp [framesOf]
        rw [hfr]
        refine ⟨e0, ⟨w.len, i, g0, v0, []⟩ :: ext, by rw [e1]; simp, fun o ho => ?_⟩
        rcases List.mem_cons.mp ho with rfl | ho
        · exact ⟨rfl, hok, List.mem_cons_self .., framesOf fmt rest,
            by rw [List.append_assoc, ← hpre, List.drop_left]⟩
        · obtain ⟨a1, a3, a4, a5⟩ := e2 o ho
          exact ⟨a1, a3, List.mem_cons_of_mem _ a4, a5⟩
      · simp at h
    · simp at h

/-! ### dictionaries built by `dictInsert` -/

open PdfSyntax (WF WFE WFL keysOf vdepth vdepthE vdepthL need needE needL)

theorem keysOf_dictInsert (d : Dict R) (k : List UInt8) (v : Prim R) :
    keysOf (dictInsert d k v) = if k ∈ keysOf d then keysOf d else keysOf d ++ [k] := by
  induction d with
  | nil => simp [dictInsert, keysOf]
  | cons hd t ih =>
    obtain ⟨a, b⟩ := hd
    simp only [dictInsert]
    split
    · rename_i h; subst h; simp [keysOf]
    · rename_i h
      simp only [keysOf, List.map_cons, List.mem_cons] at ih ⊢
      rw [ih]
      simp only [or_iff_right (Ne.symm h)]
      split <;> simp [*]

theorem nodup_dictInsert (d : Dict R) (k : List UInt8) (v : Prim R) (h : (keysOf d).Nodup) :
    (keysOf (dictInsert d k v)).Nodup := by
  rw [keysOf_dictInsert]
  split
  · exact h
  · rename_i hk
    exact List.nodup_append.mpr ⟨h, by simp, fun a ha b hb e => hk (by simp at hb; rw [← hb, ← e]; exact ha)⟩

/-! Serialisable, well formed, of bounded depth: each says something of every entry, so it passes to whatever is made of
    the entries of dictionaries that have it. -/

theorem serialisableE_iff (fmt : R → List UInt8) (pr : List UInt8 → Option R) :
    ∀ d : Dict R, SerialisableE fmt pr d ↔ ∀ kv ∈ d, Serialisable fmt pr kv.2
  | [] => by simp [SerialisableE]
  | (k, v) :: d => by simp [SerialisableE, serialisableE_iff fmt pr d]

theorem wfe_iff : ∀ d : Dict R, WFE d ↔ ∀ kv ∈ d, utf8Valid kv.1 = true ∧ WF kv.2
  | [] => by simp [WFE]
  | (k, v) :: d => by simp [WFE, wfe_iff d, and_assoc]

theorem vdepthE_le_iff (n : Nat) : ∀ d : Dict R, vdepthE d ≤ n ↔ ∀ kv ∈ d, vdepth kv.2 ≤ n
  | [] => by simp [vdepthE]
  | (k, v) :: d => by simp [vdepthE, vdepthE_le_iff n d, Nat.max_le]

/-- what holds of every entry of both dictionaries holds of every entry of `mergeDict` -/
theorem forall_mem_mergeDict {q : List UInt8 × Prim R → Prop} : ∀ (extra d : Dict R), (∀ kv ∈ d, q kv) → (∀ kv ∈ extra, q kv) →
    ∀ kv ∈ mergeDict d extra, q kv
  | [], _, hd, _ => hd
  | (k, v) :: rest, d, hd, he =>
    forall_mem_mergeDict rest (dictInsert d k v)
      (fun kv h => (mem_dictInsert h).elim (hd kv) (fun e => e ▸ he _ (List.mem_cons_self ..)))
      (fun kv h => he kv (List.mem_cons_of_mem _ h))

theorem nodup_mergeDict : ∀ (extra d : Dict R), (keysOf d).Nodup → (keysOf (mergeDict d extra)).Nodup
  | [], _, h => h
  | (k, v) :: rest, d, h => nodup_mergeDict rest (dictInsert d k v) (nodup_dictInsert d k v h)

theorem mergeDict_props (fmt : R → List UInt8) (pr : List UInt8 → Option R) (n : Nat) (extra d : Dict R)
    (h1 : SerialisableE fmt pr d) (h2 : WFE d) (h3 : (keysOf d).Nodup) (h4 : vdepthE d ≤ n)
    (e1 : SerialisableE fmt pr extra) (e2 : WFE extra) (e3 : vdepthE extra ≤ n) :
    SerialisableE fmt pr (mergeDict d extra) ∧ WFE (mergeDict d extra) ∧ (keysOf (mergeDict d extra)).Nodup ∧
      vdepthE (mergeDict d extra) ≤ n :=
  ⟨(serialisableE_iff ..).2 (forall_mem_mergeDict extra d ((serialisableE_iff ..).1 h1) ((serialisableE_iff ..).1 e1)),
   (wfe_iff _).2 (forall_mem_mergeDict extra d ((wfe_iff _).1 h2) ((wfe_iff _).1 e2)), nodup_mergeDict extra d h3,
   (vdepthE_le_iff n _).2 (forall_mem_mergeDict extra d ((vdepthE_le_iff n _).1 h4) ((vdepthE_le_iff n _).1 e3))⟩

theorem serialisableE_append (fmt : R → List UInt8) (pr : List UInt8 → Option R) (a b : Dict R)
    (ha : SerialisableE fmt pr a) (hb : SerialisableE fmt pr b) : SerialisableE fmt pr (a ++ b) :=
  (serialisableE_iff ..).2 (List.forall_mem_append.2 ⟨(serialisableE_iff ..).1 ha, (serialisableE_iff ..).1 hb⟩)

theorem wfe_append (a b : Dict R) (ha : WFE a) (hb : WFE b) : WFE (a ++ b) :=
  (wfe_iff _).2 (List.forall_mem_append.2 ⟨(wfe_iff _).1 ha, (wfe_iff _).1 hb⟩)

theorem vdepthE_append (n : Nat) (a b : Dict R) (ha : vdepthE a ≤ n) (hb : vdepthE b ≤ n) : vdepthE (a ++ b) ≤ n :=
  (vdepthE_le_iff n _).2 (List.forall_mem_append.2 ⟨(vdepthE_le_iff n _).1 ha, (vdepthE_le_iff n _).1 hb⟩)

theorem dictGet_eq_none_iff : ∀ (d : Dict R) (k : List UInt8), dictGet d k = none ↔ k ∉ keysOf d
  | [], k => by simp [dictGet, keysOf]
  | (k0, v0) :: rest, k => by
    have ih := dictGet_eq_none_iff rest k
    simp only [dictGet, keysOf, List.map_cons, List.mem_cons, not_or] at ih ⊢
    split
    · simp [*]
    · rename_i h; simp [ih, Ne.symm h]

/-- `mergeDict`: the entries of `extra` override those of `d` -/
theorem dictGet_mergeDict (k : List UInt8) : ∀ (extra d : Dict R), (keysOf extra).Nodup →
    dictGet (mergeDict d extra) k = match dictGet extra k with | some v => some v | none => dictGet d k
  | [], _, _ => rfl
  | (k', v) :: rest, d, hnd => by
    simp only [keysOf, List.map_cons, List.nodup_cons] at hnd
    rw [show mergeDict d ((k', v) :: rest) = mergeDict (dictInsert d k' v) rest from rfl,
      dictGet_mergeDict k rest _ hnd.2, dictGet_dictInsert]
    simp only [dictGet]
    by_cases h : k' = k
    · subst k'; rw [(dictGet_eq_none_iff rest k).mpr hnd.1, if_pos rfl, if_pos rfl]
    · rw [if_neg h, if_neg (Ne.symm h)]

/-! ### the dictionary of the cross-reference stream object -/

/-- machine-integer bounds under which the numbers of a revision are 32-bit integers / 64-bit object numbers:
    8 bytes is the widest field `write_stream` emits (a `u64`), 1000000 is `MAX_ID` (no table is longer), `/Prev` is
    written as an integer primitive (`i32`: at most 2147483647), object numbers are `u64` -/
structure Bounds (tr : Trailer (Prim R)) (infoRef : Option Nat) (i : SaveInfo) : Prop where
  aw : i.aw ≤ 8
  bw : i.bw ≤ 8
  rows : i.rows.length ≤ 1000000
  size : i.size ≤ 1000000
  prev : ∀ p, tr.prev = some p → p ≤ 2147483647
  root : tr.root.1 ≤ 18446744073709551615 ∧ tr.root.2 ≤ 18446744073709551615
  info : ∀ j, infoRef = some j → j ≤ 18446744073709551615

theorem rowsData_length_le (i : SaveInfo) : (rowsData i).length ≤ i.rows.length * (1 + i.aw + i.bw) := by
  have key : ∀ rows : List XRef, (rows.flatMap (rowBytes i.aw i.bw)).length ≤ rows.length * (1 + i.aw + i.bw) := by
    intro rows
    induction rows with
    | nil => simp
    | cons e es ih =>
      have h1 : (rowBytes i.aw i.bw e).length ≤ 1 + i.aw + i.bw := by
        unfold rowBytes
        split
        · simp [beBytes_length]; omega
        · simp
      rw [List.flatMap_cons, List.length_append, List.length_cons, Nat.succ_mul]
      omega
  simpa [rowsData] using key i.rows

/-- an array of values without nesting, each of which can be written -/
theorem flat_props (fmt : R → List UInt8) (pr : List UInt8 → Option R) :
    ∀ xs : List (Prim R), (∀ x ∈ xs, Serialisable fmt pr x ∧ WF x ∧ vdepth x = 0) →
      SerialisableL fmt pr xs ∧ WFL xs ∧ vdepthL xs = 0
  | [], _ => ⟨trivial, trivial, rfl⟩
  | x :: xs, h => by
    obtain ⟨a, b, c⟩ := flat_props fmt pr xs fun y hy => h y (List.mem_cons_of_mem _ hy)
    obtain ⟨a0, b0, c0⟩ := h x (List.mem_cons_self ..)
    exact ⟨⟨a0, a⟩, ⟨b0, b⟩, by simp [vdepthL, c0, c]⟩

theorem strs_props (fmt : R → List UInt8) (pr : List UInt8 → Option R) (ids : List (List UInt8)) :
    SerialisableL fmt pr (ids.map Prim.str) ∧ WFL (ids.map (Prim.str (R := R))) ∧ vdepthL (ids.map (Prim.str (R := R))) = 0 :=
  flat_props fmt pr _ fun x hx => by obtain ⟨s, _, rfl⟩ := List.mem_map.mp hx; exact ⟨trivial, trivial, rfl⟩

/-- the trailer dictionary has some of these five keys, in this order -/
theorem keysOf_trailerDict (size : Nat) (tr : Trailer (Prim R)) (infoRef : Option Nat) (ids : List (List UInt8)) :
    (keysOf (trailerDict size tr infoRef ids)).Sublist [kSize, kPrev, kRoot, kInfo, kID] := by
  rcases tr with ⟨root, info, _ | p⟩ <;> rcases infoRef with _ | j <;>
    (simp only [trailerDict, keysOf, List.cons_append, List.nil_append, List.map_cons, List.map_nil]; decide)

theorem trailerDict_props (fmt : R → List UInt8) (pr : List UInt8 → Option R) (tr : Trailer (Prim R)) (infoRef : Option Nat)
    (ids : List (List UInt8)) (i : SaveInfo) (hb : Bounds tr infoRef i) :
    SerialisableE fmt pr (trailerDict i.size tr infoRef ids) ∧ WFE (trailerDict i.size tr infoRef ids) ∧
    vdepthE (trailerDict i.size tr infoRef ids) ≤ 1 := by
  obtain ⟨s1, s2, s3⟩ := strs_props fmt pr ids
  have hsz := hb.size
  have hr := hb.root
  have hp := hb.prev
  have hj := hb.info
  have hu : utf8Valid kSize = true ∧ utf8Valid kPrev = true ∧ utf8Valid kRoot = true ∧ utf8Valid kInfo = true ∧
      utf8Valid kID = true := by decide
  -- with or without `/Prev`, with or without `/Info`: `hsz` serves `/Size`, `hp` `/Prev`, `hr` `/Root`, `hj` `/Info`, `s1 s2 s3` `/ID`
  rcases tr with ⟨⟨r1, r2⟩, info, _ | p⟩ <;> rcases infoRef with _ | j <;>
    simp_all [trailerDict, SerialisableE, Serialisable, WFE, WF, vdepthE, vdepth] <;> omega

theorem dictGet_trailerDict (size : Nat) (tr : Trailer (Prim R)) (infoRef : Option Nat) (ids : List (List UInt8)) :
    dictGet (trailerDict size tr infoRef ids) kSize = some (.int size) ∧
    dictGet (trailerDict size tr infoRef ids) kPrev = tr.prev.map (fun p => Prim.int p) ∧
    dictGet (trailerDict size tr infoRef ids) kRoot = some (.ref tr.root.1 tr.root.2) := by
  rcases tr with ⟨root, info, _ | p⟩ <;> rcases infoRef with _ | j <;>
    simp [trailerDict, dictGet, kSize, kPrev, kRoot, kInfo, kID]

theorem xrefInfoDict_props (fmt : R → List UInt8) (pr : List UInt8 → Option R) (tr : Trailer (Prim R)) (infoRef : Option Nat)
    (i : SaveInfo) (hb : Bounds tr infoRef i) :
    SerialisableE fmt pr (xrefInfoDict (R := R) i) ∧ WFE (xrefInfoDict (R := R) i) ∧ (keysOf (xrefInfoDict (R := R) i)).Nodup ∧
    vdepthE (xrefInfoDict (R := R) i) ≤ 1 := by
  have h1 := hb.aw
  have h2 := hb.bw
  have h3 := hb.rows
  have h4 := rowsData_length_le i
  have h5 : i.rows.length * (1 + i.aw + i.bw) ≤ 1000000 * 17 := Nat.mul_le_mul h3 (by omega)
  refine ⟨?_, ?_, ?_, ?_⟩
  · simp [xrefInfoDict, SerialisableE, Serialisable, SerialisableL]; omega
  · simp [xrefInfoDict, WFE, WF, WFL]; decide
  · simp only [xrefInfoDict, keysOf, List.map_cons, List.map_nil]; decide
  · simp [xrefInfoDict, vdepthE, vdepth, vdepthL]

/-- the dictionary of the cross-reference stream object keeps the entries of the stream's own dictionary under the keys
    the trailer does not use -/
theorem dictGet_xrefDict_own (tr : Trailer (Prim R)) (ids : List (List UInt8)) (infoRef : Option Nat) (i : SaveInfo)
    (k : List UInt8) (h : k ∉ [kSize, kPrev, kRoot, kInfo, kID]) :
    dictGet (xrefDict tr ids infoRef i) k = dictGet (xrefInfoDict i) k := by
  have hk := keysOf_trailerDict (R := R) i.size tr infoRef ids
  rw [xrefDict, dictGet_mergeDict k _ _ (hk.nodup (by decide)), (dictGet_eq_none_iff _ k).mpr (fun hk' => h (hk.subset hk'))]

structure XrefDictFacts (fmt : R → List UInt8) (pr : List UInt8 → Option R) (tr : Trailer (Prim R)) (i : SaveInfo)
    (D : Dict R) : Prop where
  ser : SerialisableE fmt pr D
  wf : WFE D
  nodup : (keysOf D).Nodup
  depth : vdepthE D ≤ 1
  length : dictGet D kwLength = some (.int (rowsData i).length)
  size : dictGet D kSize = some (.int i.size)
  prev : dictGet D kPrev = tr.prev.map (fun p => Prim.int p)
  type : dictGet D kType = some (.name kXRef)
  w : dictGet D kW = some (.arr [.int 1, .int i.aw, .int i.bw])
  index : dictGet D kIndex = some (.arr [.int 0, .int i.rows.length])
  root : dictGet D kRoot = some (.ref tr.root.1 tr.root.2)

theorem xrefDict_facts (fmt : R → List UInt8) (pr : List UInt8 → Option R) (tr : Trailer (Prim R)) (infoRef : Option Nat)
    (ids : List (List UInt8)) (i : SaveInfo) (hb : Bounds tr infoRef i) :
    XrefDictFacts fmt pr tr i (xrefDict tr ids infoRef i) := by
  obtain ⟨a1, a2, a3, a4⟩ := xrefInfoDict_props fmt pr tr infoRef i hb
  obtain ⟨t1, t2, t4⟩ := trailerDict_props fmt pr tr infoRef ids i hb
  obtain ⟨t5, t6, t7⟩ := dictGet_trailerDict i.size tr infoRef ids
  have t3 := (keysOf_trailerDict (R := R) i.size tr infoRef ids).nodup (by decide)
  obtain ⟨m1, m2, m3, m4⟩ := mergeDict_props fmt pr 1 _ (xrefInfoDict i) a1 a2 a3 a4 t1 t2 t4
  have get := fun k => dictGet_mergeDict k (trailerDict i.size tr infoRef ids) (xrefInfoDict i) t3
  have own := dictGet_xrefDict_own tr ids infoRef i
  refine ⟨m1, m2, m3, m4, (own _ (by decide)).trans rfl, by rw [xrefDict, get, t5], ?_, (own _ (by decide)).trans rfl,
    (own _ (by decide)).trans rfl, (own _ (by decide)).trans rfl, by rw [xrefDict, get, t7]⟩
  rw [xrefDict, get, t6]; cases tr.prev <;> rfl

/-! ### the revision in the bytes -/

theorem layoutOf_pos (fmt : R → List UInt8) (typed : Bool) (b : BDoc R) : (layoutOf fmt typed b).Pos := by
  refine ⟨?_, ?_⟩
  · intro id; simp only [layoutOf]; split <;> omega
  · intro i; simp only [layoutOf]; omega

/-- `saveB` appended the revision `i` (its `write_revision` part succeeded; the save as a whole may still have failed in
    the typed reload of the trailer) -/
structure CommittedB (fmt : R → List UInt8) (typed : Bool) (b b' : BDoc R) (i : SaveInfo) : Prop where
  doc : Committed (params fmt b.ids) (layoutOf fmt typed b) b.doc b'.doc.st i
  ids : b'.ids = b.ids
  bytes : b'.bytes = b.bytes ++ revisionBytes fmt b i

/-- what a `saveB` that appended its revision did, in terms of the bytes -/
structure SavedBytes (fmt : R → List UInt8) (typed : Bool) (b b' : BDoc R) (i : SaveInfo) : Prop where
  doc : Committed (params fmt b.ids) (layoutOf fmt typed b) b.doc b'.doc.st i
  ids : b'.ids = b.ids
  bytes : b'.bytes = b.bytes ++ revisionBytes fmt b i
  len : b'.bytes.length = b'.doc.st.len
  /-- every pending value (the info dictionary included) lies framed at the offset its row names -/
  frames : ∀ id v g, chLookup (prep b.doc).st2.changes id = some (v, g) →
      ∃ off rest body, b.doc.st.len ≤ off ∧ i.rows[id]? = some (.raw (off - b.doc.st.start) g) ∧
        serialize fmt v = .ok body ∧ b'.bytes.drop off = objFrame id g body ++ rest
  /-- the cross-reference stream object starts where `startxref` says, its row says so too, and the file ends
      behind the `startxref` trailer -/
  xrow : i.rows[i.xid]? = some (.raw i.xpos 0)
  xbody : ∃ body, serialize fmt (.stream (xrefDict b.doc.tr b.ids (prep b.doc).infoRef i) (.pending (rowsData i))) = .ok body ∧
      b'.bytes.drop (b.doc.st.start + i.xpos) =
        (fmtNat i.xid ++ [32, 48, 32] ++ kwObj ++ [10] ++ body ++ kwEndobj ++ [10]) ++ tailBytes i

theorem commitInfo_of_committed {V : Type} (P : Params V) (L : Layout) (d : Doc V) (st' : St V) (i : SaveInfo)
    (h : Committed P L d st' i) : commitInfo P L d = some i := by
  obtain ⟨w, rows, hw, hr, _, hi, hmax⟩ := h
  have hnb : ¬ (d.st.refs.length + 2 > MAX_ID) := by omega
  unfold commitInfo
  simp only [hnb, if_false, hw, hr, hi]

theorem saveB_fst (fmt : R → List UInt8) (typed : Bool) (b : BDoc R) :
    (saveB fmt typed b).1 = ⟨(save (params fmt b.ids) (layoutOf fmt typed b) b.doc).1, b.ids,
      match commitInfo (params fmt b.ids) (layoutOf fmt typed b) b.doc with
      | some i => b.bytes ++ revisionBytes fmt b i
      | none => b.bytes⟩ := by
  unfold saveB; split <;> simp only [*]

theorem committedB_of_committed (fmt : R → List UInt8) (typed : Bool) (b : BDoc R) (i : SaveInfo)
    (h : Committed (params fmt b.ids) (layoutOf fmt typed b) b.doc (save (params fmt b.ids) (layoutOf fmt typed b) b.doc).1.st i) :
    CommittedB fmt typed b (saveB fmt typed b).1 i := by
  rw [saveB_fst]
  exact ⟨h, rfl, by simp only [commitInfo_of_committed _ _ _ _ _ h]⟩

/-- `saveB` is `save` on the document; the bytes grow by the revision exactly when the revision was written -/
theorem saveB_cases (fmt : R → List UInt8) (typed : Bool) (b b' : BDoc R) (o : Out SaveInfo) (h : saveB fmt typed b = (b', o)) :
    save (params fmt b.ids) (layoutOf fmt typed b) b.doc = (b'.doc, o) ∧ b'.ids = b.ids ∧
      ((∃ i, commitInfo (params fmt b.ids) (layoutOf fmt typed b) b.doc = some i ∧ b'.bytes = b.bytes ++ revisionBytes fmt b i) ∨
       (commitInfo (params fmt b.ids) (layoutOf fmt typed b) b.doc = none ∧ b'.bytes = b.bytes)) := by
  unfold saveB at h
  cases hc : commitInfo (params fmt b.ids) (layoutOf fmt typed b) b.doc with
  | none => simp only [hc] at h; cases h; exact ⟨rfl, rfl, Or.inr ⟨rfl, rfl⟩⟩
  | some i => simp only [hc] at h; cases h; exact ⟨rfl, rfl, Or.inl ⟨i, rfl, rfl⟩⟩

theorem saveB_ok_iff (fmt : R → List UInt8) (typed : Bool) (b b' : BDoc R) (i : SaveInfo) (h : saveB fmt typed b = (b', .ok i)) :
    save (params fmt b.ids) (layoutOf fmt typed b) b.doc = (b'.doc, .ok i) ∧ b'.ids = b.ids ∧
      b'.bytes = b.bytes ++ revisionBytes fmt b i := by
  obtain ⟨h1, h2, h3⟩ := saveB_cases fmt typed b b' _ h
  have hc := commitInfo_of_committed _ _ _ _ _ (committed_of_ok _ _ _ _ _ h1)
  rcases h3 with ⟨i', hi', hb⟩ | ⟨hn, _⟩
  · rw [hc] at hi'; cases hi'; exact ⟨h1, h2, hb⟩
  · rw [hc] at hn; cases hn

theorem committedB_of_ok (fmt : R → List UInt8) (typed : Bool) (b b' : BDoc R) (i : SaveInfo) (h : saveB fmt typed b = (b', .ok i)) :
    CommittedB fmt typed b b' i := by
  obtain ⟨h1, h2, h3⟩ := saveB_ok_iff fmt typed b b' i h
  exact ⟨committed_of_ok _ _ _ _ _ h1, h2, h3⟩

/-- the loop of a `saveB` in terms of the bytes: the layout gives every frame its true length, so the loop appends the
    frames, and every record it adds to the abstract backend stands framed at its offset -/
theorem writeChanges_saveB (fmt : R → List UInt8) (d0 : Doc (Prim R)) (chain0) (b : BDoc R) (hb : BaseOK d0 chain0)
    (hi : Inv d0 b.doc) (hlen : b.bytes.length = b.doc.st.len) (typed : Bool) (w : Written (Prim R))
    (hw : writeChanges (params fmt b.ids) (layoutOf fmt typed b) (prep b.doc).st2.start (prep b.doc).st2.changes
      ⟨(prep b.doc).st2.refs, (prep b.doc).st2.objs, (prep b.doc).st2.len⟩ = (w, .ok ())) :
    (b.bytes ++ framesOf fmt (prep b.doc).st2.changes).length = w.len ∧
    ∃ ext, w.objs = b.doc.st.objs ++ ext ∧ ∀ o ∈ ext, o.members = [] ∧ (o.id, o.val, o.gen) ∈ (prep b.doc).st2.changes ∧
      ∃ body rest, serialize fmt o.val = .ok body ∧
        (b.bytes ++ framesOf fmt (prep b.doc).st2.changes).drop o.off = objFrame o.id o.gen body ++ rest := by
  have pf := prep_facts d0 b.doc chain0 hb hi
  obtain ⟨_, _, _, k5⟩ := writeChanges_ok _ _ _ (layoutOf_pos fmt typed b).1 _ _ _ hw pf.inv.sorted pf.inv.objs_lt
  have hLrec : ∀ c ∈ (prep b.doc).st2.changes, (layoutOf fmt typed b).recLen c.1 = (frameOf fmt c).length := by
    rintro ⟨id, v, g⟩ hc
    have hlook := chLookup_of_mem_sorted _ pf.inv.sorted _ hc
    obtain ⟨body, _, hfr⟩ := frameOf_of_ok fmt b.ids id g v (k5 id v g hlook).2.1
    simp only [layoutOf, hlook, hfr]
    have := objFrame_length_pos id g body; omega
  obtain ⟨b1, ext, e1, e2⟩ := writeChanges_frames fmt b.ids _ _ _ _ _ hw hLrec b.bytes (by rw [hlen, pf.len_same])
  refine ⟨b1, ext, by rw [e1, pf.objs_eq], fun o ho => ?_⟩
  obtain ⟨a1, a3, a4, r, a5⟩ := e2 o ho
  obtain ⟨body, hbody, hfr⟩ := frameOf_of_ok fmt b.ids o.id o.gen o.val a3
  exact ⟨a1, a4, body, r, hbody, by rw [a5, hfr]⟩

theorem saveB_spec (fmt : R → List UInt8) (pr : List UInt8 → Option R) (d0 : Doc (Prim R)) (chain0) (b b' : BDoc R)
    (i : SaveInfo) (hb : BaseOK d0 chain0) (hi : Inv d0 b.doc) (hlen : b.bytes.length = b.doc.st.len)
    (typed : Bool) (h : CommittedB fmt typed b b' i) (hbd : Bounds b.doc.tr (prep b.doc).infoRef i) : SavedBytes fmt typed b b' i := by
  obtain ⟨hs, hids, hbytes⟩ := h
  have pf := prep_facts d0 b.doc chain0 hb hi
  obtain ⟨w, rows, hw, hr, hst, hxid, hxpos, _, hrows, _⟩ := hs.spec'
  have hinfo := (hs.info w rows hw hr).symm
  subst hrows
  obtain ⟨f1, _⟩ := writeChanges_rows _ _ _ _ _ _ _ hw pf.inv.sorted
  obtain ⟨_, _, _, k5⟩ := writeChanges_ok _ _ _ (layoutOf_pos fmt typed b).1 _ _ _ hw pf.inv.sorted pf.inv.objs_lt
  obtain ⟨hpre, ext, e1, e2⟩ := writeChanges_saveB fmt d0 chain0 b hb hi hlen typed w hw
  have hstart : (prep b.doc).st2.start ≤ w.len := by
    have h1 := hb.start_le; have h2 := pf.inv.start_eq; have h3 := pf.inv.len_ge; have h4 := pf.len_same; have h5 := hpre
    simp only [List.length_append] at h2 h3 h5
    omega
  rw [List.take_of_length_le (by rw [List.length_set, f1, pf.len_eq]; omega)] at hr
  obtain ⟨_, r2⟩ := rowsOf_spec _ _ hr
  have hxf := xrefDict_facts fmt pr b.doc.tr (prep b.doc).infoRef b.ids i hbd
  obtain ⟨txt, hxs, _⟩ := serialize_stream_ok fmt pr (xrefDict b.doc.tr b.ids (prep b.doc).infoRef i) (rowsData i) hxf.ser
  have hxob : xrefObjBytes fmt b.doc.tr b.ids (prep b.doc).infoRef i =
      fmtNat i.xid ++ [32, 48, 32] ++ kwObj ++ [10] ++ (txt ++ [10]) ++ kwEndobj ++ [10] := by
    simp [xrefObjBytes, hxs]
  have happ : b'.bytes = (b.bytes ++ framesOf fmt (prep b.doc).st2.changes) ++
      (xrefObjBytes fmt b.doc.tr b.ids (prep b.doc).infoRef i ++ tailBytes i) := by
    rw [hbytes, revisionBytes]; simp only [List.append_assoc]
  refine ⟨hs, hids, hbytes, ?_, ?_, ?_, ?_⟩
  · rw [happ, hst]
    simp only [commit, hinfo, layoutOf, List.length_append] at hpre ⊢
    have : 0 < (xrefObjBytes fmt b.doc.tr b.ids (prep b.doc).infoRef i).length := by
      rw [hxob]; simp [kwObj]; omega
    omega
  · intro id v g hc
    obtain ⟨_, _, off, c1, c2, c3⟩ := k5 id v g hc
    obtain ⟨hmem, _⟩ := objAt_some c3
    rcases List.mem_append.mp (e1 ▸ hmem) with hold | hnew
    · have := hi.objs_lt _ hold
      have := pf.len_same
      simp only at this c1; omega
    · obtain ⟨_, _, body, rest, hbody, hdrop⟩ := e2 _ hnew
      have hne : (prep b.doc).xid ≠ id := by intro heq; rw [← heq, pf.xid_free] at hc; cases hc
      obtain ⟨r, ra, rb⟩ := r2 id _ (by rw [List.getElem?_set_ne hne]; exact c2)
      cases ra
      exact ⟨off, _, body, by rw [← pf.len_same]; exact c1, by rw [← pf.start_same]; exact rb, hbody,
        by rw [happ]; exact drop_append_of_frame _ hdrop (objFrame_length_pos ..)⟩
  · obtain ⟨r, ra, rb⟩ := r2 (prep b.doc).xid _ (List.getElem?_set_self (by rw [f1, pf.len_eq]; omega))
    cases ra
    rw [hxid, hxpos]; exact rb
  · refine ⟨txt ++ [10], hxs, ?_⟩
    have hpos : b.doc.st.start + i.xpos = (b.bytes ++ framesOf fmt (prep b.doc).st2.changes).length := by
      rw [hpre, hxpos, ← pf.start_same]; omega
    rw [happ, hpos, List.drop_left, hxob]

/-- what a successful `saveB` appended to the abstract backend, in terms of the bytes -/
structure SavedBackend (fmt : R → List UInt8) (b b' : BDoc R) (i : SaveInfo) : Prop where
  start : b'.doc.st.start = b.doc.st.start
  startxref : b'.doc.st.startxref = i.xpos
  xpos_ge : b.doc.st.len ≤ b.doc.st.start + i.xpos
  xpos_le : b.doc.st.start + i.xpos ≤ b'.bytes.length
  secs : b'.doc.st.secs = b.doc.st.secs ++
      [⟨b.doc.st.start + i.xpos, [⟨0, i.rows⟩], i.size, b.doc.tr.prev, b.doc.tr.root, (prep b.doc).infoRef⟩]
  objs : ∃ ext, b'.doc.st.objs = b.doc.st.objs ++ ext ++
        [⟨b.doc.st.start + i.xpos, i.xid, 0, xrefRecVal b.ids b.doc.tr (prep b.doc).infoRef i, []⟩] ∧
      ∀ o ∈ ext, o.members = [] ∧ (o.id, o.val, o.gen) ∈ (prep b.doc).st2.changes ∧
        ∃ body rest, serialize fmt o.val = .ok body ∧ b'.bytes.drop o.off = objFrame o.id o.gen body ++ rest

theorem saveB_backend (fmt : R → List UInt8) (d0 : Doc (Prim R)) (chain0) (b b' : BDoc R)
    (i : SaveInfo) (hb : BaseOK d0 chain0) (hi : Inv d0 b.doc) (hlen : b.bytes.length = b.doc.st.len)
    (typed : Bool) (h : CommittedB fmt typed b b' i) : SavedBackend fmt b b' i := by
  obtain ⟨hs, hids, hbytes⟩ := h
  have pf := prep_facts d0 b.doc chain0 hb hi
  obtain ⟨w, rows, hw, hr, hst, hxid, hxpos, hsize, hrows, _⟩ := hs.spec'
  have hinfo := (hs.info w rows hw hr).symm
  subst hrows
  obtain ⟨b1, ext, e1, e2⟩ := writeChanges_saveB fmt d0 chain0 b hb hi hlen typed w hw
  have hwl : w.len = b.doc.st.start + i.xpos := by
    have h1 := hb.start_le; have h2 := pf.inv.start_eq; have h3 := pf.inv.len_ge; have h4 := pf.len_same
    have h5 := b1; have h6 := pf.start_same
    simp only [List.length_append] at h2 h3 h5
    omega
  have happ : b'.bytes = (b.bytes ++ framesOf fmt (prep b.doc).st2.changes) ++
      (xrefObjBytes fmt b.doc.tr b.ids (prep b.doc).infoRef i ++ tailBytes i) := by
    rw [hbytes, revisionBytes]; simp only [List.append_assoc]
  refine ⟨by rw [hst]; exact pf.start_same, by rw [hst]; exact hxpos.symm, ?_, ?_, ?_, ext, ?_, fun o ho => ?_⟩
  · rw [← hwl, ← b1, ← hlen]; simp
  · rw [happ, ← hwl, ← b1]; simp
  · rw [hst]; simp only [commit]; rw [pf.secs_eq, hwl, hsize]
  · rw [hst]; simp only [commit]; rw [hinfo, e1, hwl, hxid]; rfl
  · obtain ⟨a1, a4, body, r, hbody, a5⟩ := e2 o ho
    exact ⟨a1, a4, body, _, hbody, by rw [happ]; exact drop_append_of_frame _ a5 (objFrame_length_pos ..)⟩

end SaveBytes
