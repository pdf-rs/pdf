import PdfModel.Lemmas.ContentBytesLex
import PdfModel.Lemmas.Sequence
import PdfModel.Lemmas.Content

/-! C08 byte level, the reader: the loop of `OpBuilder::parse` on any conformant spelling of a token sequence
    (`ContentSyntax.SpellsToks`) does what the token-level loop (`Content.parseLoop`) does on the tokens. -/

namespace ContentBytes
open Content ContentSyntax
open PdfLex (Buf Env Suffix Ahead NotR)
open PdfSyntax (Gap Bnd Spells needsBnd WF vdepth need)

variable {R : Type}

theorem bytesStr_strBytes (s : String) : bytesStr (strBytes s) = some s := by
  unfold bytesStr strBytes
  have : ByteArray.mk s.toUTF8.data.toList.toArray = s.toUTF8 := by simp
  rw [this]
  unfold String.fromUTF8?
  have h : s.toUTF8.IsValidUTF8 := s.isValidUTF8
  simp
  exact ⟨h, rfl⟩

/-- what the theorems need to know about the `isEof` oracle: at the end of the data the error is `EOF`
    (`Lexer::next` fails with `EOF` only), at an operator keyword it is not (`UnknownType`) -/
structure EofFacts (o : Oracle) : Prop where
  end_is_eof : ∀ buf pos, PdfLex.next buf pos = .err → o.isEof buf pos = true
  keyword_not_eof : ∀ buf pos w, PdfLex.next buf pos = .ok w → kwOK (PdfLex.slice buf w.1 w.2) = true →
    o.isEof buf pos = false

/-- an operand that the object parser can read back: a value of the Rust types (names UTF-8, dictionary keys
    distinct), nested no deeper than `MAX_DEPTH`, and converted back to itself -/
def PrimRT (p : Content.Prim R) : Prop :=
  WF (toLex p) ∧ vdepth (toLex p) ≤ PdfLex.maxDepth ∧ ofLex (toLex p) = some p

def primsOf : List (Tok R) → List (Content.Prim R)
  | [] => []
  | .prim p :: ts => p :: primsOf ts
  | _ :: ts => primsOf ts

theorem spellsToks_empty_aux {pr : List UInt8 → Option R} {toks : List (Tok R)} {txt : List UInt8}
    (h : SpellsToks pr toks txt) : txt = [] → toks = [] := by
  intro he
  cases h with
  | nil g _ => rfl
  | prim g p txt rest toks hg hsp hb ht =>
    have := PdfLex.spells_ne_nil pr (toLex p) txt hsp
    simp at he
    exact absurd he.2.1 this
  | kw g s rest toks hg hk hb ht =>
    simp at he
    exact absurd he.2.1 (PdfLex.kwOK_spec hk).1

theorem spellsToks_empty {pr : List UInt8 → Option R} {toks : List (Tok R)} (h : SpellsToks pr toks []) : toks = [] :=
  spellsToks_empty_aux h rfl

/-- what follows a value in a content stream never merges with it into another object -/
theorem ahead_toks (pr : List UInt8 → Option R) : ∀ (toks : List (Tok R)) (rest : List UInt8),
    SpellsToks pr toks rest → ∀ {buf : Buf} (q : Nat), Suffix buf q rest → Ahead buf q := by
  intro toks rest h
  induction h with
  | nil g hg =>
    intro buf q hs
    exact Or.inl (PdfLex.next_gap_end g hg q hs)
  | prim g p txt rest toks hg hsp hb ht ih =>
    intro buf q hs
    obtain ⟨k, t, hk, hn, hsl, hf, hint⟩ := PdfLex.spells_first pr (toLex p) txt hsp g rest q hg hs hb
    refine PdfLex.ahead_of_lexeme _ t hn hsl hf.neR hf.neStream ?_
    intro hi
    rcases hint hi with ⟨hk', _⟩ | hnr
    · subst hk'
      have hs2 : Suffix buf (q + g.length + txt.length) rest := by
        have := Suffix.drop (a := g ++ txt) (s := rest) (by simpa using hs)
        simpa [Nat.add_assoc] using this
      exact (ih _ hs2).notR
    · exact hnr
  | kw g s rest toks hg hk hb ht ih =>
    intro buf q hs
    obtain ⟨hne, hreg, hint, hreal, hR, hS, hT, hF, hN, hBI⟩ := PdfLex.kwOK_spec hk
    obtain ⟨hn, hsl⟩ := PdfLex.next_regular g (strBytes s) rest q hg hs hne hreg hb
    exact PdfLex.ahead_of_lexeme _ (strBytes s) hn hsl hR (by simpa [PdfLex.kwStream, PdfSyntax.kwStream] using hS)
      (fun hi => by rw [hint] at hi; simp at hi)


/-- after a round that ended at `p`, where a spelling of `toks` begins: the loop goes on (`X`, by induction) or,
    at the end of the data, stops, and then there are no tokens left -/
theorem bytesLoop_tail (ro : RealOps R) (allow : Bool) {pr : List UInt8 → Option R} {toks : List (Tok R)}
    {rest : List UInt8} (ht : SpellsToks pr toks rest) {buf : Buf} {p : Nat} (hs : Suffix buf p rest)
    (X : Out (PCfg R)) (c' : PCfg R) (ih : X = parseLoop ro allow c' toks) :
    (if p > buf.size then Out.err else if p < buf.size then X else .ok c') = parseLoop ro allow c' toks := by
  have hle := hs.le
  rw [if_neg (by omega)]
  by_cases hlt : p < buf.size
  · rw [if_pos hlt]; exact ih
  · rw [if_neg hlt]
    have hrest : rest = [] := by
      have := hs.size_sub
      rw [show p = buf.size by omega] at this
      simp at this
      exact List.eq_nil_of_length_eq_zero this.symm
    subst hrest
    rw [spellsToks_empty ht]
    rfl

/-- **Reading a spelled content stream.**  On any conformant spelling of the token sequence `toks` (whatever
    the white-space, comments and omitted separators, whichever spelling of each operand), placed in a buffer
    from `pos` to its end, the byte-level loop computes what the token-level loop computes on `toks`.  One round per
    token, and one more that meets only the gap after the last token and `EOF`: hence `toks.length + 1` rounds. -/
theorem bytesLoop_spells (ro : RealOps R) (env : Env R) (hd : env.decrypt = none) (o : Oracle) (ho : EofFacts o)
    (allow : Bool) : ∀ (toks : List (Tok R)) (rest : List UInt8), SpellsToks env.parseReal toks rest →
    (∀ p ∈ primsOf toks, PrimRT p) →
    ∀ {buf : Buf}, buf.size ≤ 2147483647 → ∀ (pos : Nat) (c : PCfg R) (fuel : Nat), Suffix buf pos rest →
      toks.length + 1 ≤ fuel →
      bytesLoop ro env o allow buf fuel c pos = parseLoop ro allow c toks := by
  intro toks rest h
  induction h with
  | nil g hg =>
    intro _ buf hsz pos c fuel hs hf
    obtain ⟨f, rfl⟩ : ∃ f, fuel = f + 1 := ⟨fuel - 1, by omega⟩
    have h1 := PdfLex.parseWithLexer_gap_end env g hg pos hs (PdfLex.defaultFuel buf) PdfLex.Flags.any
      (by unfold PdfLex.defaultFuel; omega)
    have h2 := ho.end_is_eof buf pos (PdfLex.next_gap_end g hg pos hs)
    simp [bytesLoop, bytesStep, h1, h2, parseLoop]
  | prim g p txt rest toks hg hsp hb ht ih =>
    intro hp buf hsz pos c fuel hs hf
    obtain ⟨f, rfl⟩ : ∃ f, fuel = f + 1 := ⟨fuel - 1, by omega⟩
    obtain ⟨hwf, hdepth, hrt⟩ := hp p (by simp [primsOf])
    have hs2 : Suffix buf (pos + g.length + txt.length) rest := by
      have := Suffix.drop (a := g ++ txt) (s := rest) (by simpa using hs)
      simpa [Nat.add_assoc] using this
    have hah := ahead_toks env.parseReal toks rest ht _ hs2
    have hneed : need (toLex p) ≤ PdfLex.defaultFuel buf := by
      have h1 := PdfLex.need_bound env.parseReal (toLex p) txt hsp
      have h2 := hs.size_eq
      simp at h2
      unfold PdfLex.defaultFuel
      omega
    have hparse := PdfLex.parseCtx_spells env hd (toLex p) txt hsp hwf hsz g rest pos (PdfLex.defaultFuel buf) none
      PdfLex.maxDepth PdfLex.Flags.any hg (PdfLex.any_allows _) hs hb hah hneed hdepth
    have hstep : bytesStep ro env o allow buf c pos =
        .ok (some (⟨c.st, c.buf ++ [p]⟩, pos + g.length + txt.length)) := by
      simp [bytesStep, PdfLex.parseWithLexer, hparse, hrt]
    simp only [bytesLoop, hstep]
    exact bytesLoop_tail ro allow ht hs2 _ _
      (ih (fun q hq => hp q (by simp [primsOf, hq])) hsz _ _ f hs2 (by simp at hf; omega))
  | kw g s rest toks hg hk hb ht ih =>
    intro hp buf hsz pos c fuel hs hf
    obtain ⟨f, rfl⟩ : ∃ f, fuel = f + 1 := ⟨fuel - 1, by omega⟩
    obtain ⟨h1, h2, h3⟩ := PdfLex.parseWithLexer_keyword env g (strBytes s) rest pos hg hs hk hb hsz
      (PdfLex.defaultFuel buf) (by unfold PdfLex.defaultFuel; omega)
    have h4 := ho.keyword_not_eof buf pos _ h2 (by rw [h3]; exact hk)
    have hs2 : Suffix buf (pos + g.length + (strBytes s).length) rest := by
      have := Suffix.drop (a := g ++ strBytes s) (s := rest) (by simpa using hs)
      simpa [Nat.add_assoc] using this
    have hnbi : (strBytes s == kwBI) = false := by simpa using (PdfLex.kwOK_spec hk).2.2.2.2.2.2.2.2.2
    simp only [bytesLoop, bytesStep, h1, h4, Bool.false_eq_true, if_false, PdfLex.setPos_ok hs.le hs.le, Out.bind_ok, h2,
      h3, bytesStr_strBytes, hnbi, parseLoop]
    cases Content.step ro allow c (.kw s) with
    | ok c' =>
      exact bytesLoop_tail ro allow ht hs2 _ _
        (ih (fun q hq => hp q (by simp [primsOf, hq])) hsz _ _ f hs2 (by simp at hf; omega))
    | _ => rfl

/-- the driver's oracle has the two properties the theorems use -/
theorem lexOracle_facts (img : Buf → Nat → Out (Option Nat × Nat)) : EofFacts (lexOracle img) where
  end_is_eof := by
    intro buf pos h
    simp [lexOracle, h]
  keyword_not_eof := by
    intro buf pos w h hk
    obtain ⟨hne, hreg, _⟩ := PdfLex.kwOK_spec hk
    simp only [lexOracle, h]
    generalize PdfLex.slice buf w.1 w.2 = t at *
    cases t with
    | nil => exact absurd rfl hne
    | cons b t' =>
      obtain ⟨h60, _, _, h40⟩ := PdfLex.regular_not_delims b (hreg b (by simp))
      simp [PdfLex.head_ne_beq t' [] h40, PdfLex.head_ne_beq t' [] h60]

theorem spellsToks_length {pr : List UInt8 → Option R} {toks : List (Tok R)} {txt : List UInt8}
    (h : SpellsToks pr toks txt) : toks.length ≤ txt.length := by
  induction h with
  | nil g _ => simp
  | prim g p txt rest toks hg hsp hb ht ih =>
    have := PdfLex.spells_ne_nil pr (toLex p) txt hsp
    have : 0 < txt.length := List.length_pos_iff.mpr this
    simp; omega
  | kw g s rest toks hg hk hb ht ih =>
    have : 0 < (strBytes s).length := List.length_pos_iff.mpr (PdfLex.kwOK_spec hk).1
    simp; omega

end ContentBytes
