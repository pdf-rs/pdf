import PdfModel.Model.Lexer
import PdfModel.Model.StrLexer
import PdfModel.Model.OffsetsConcrete
import PdfModel.Lemmas.TotalLexer

/-!
  Shift lemmas for the lexer models (`Model/Lexer.lean`, `Model/StrLexer.lean`): running a lexer function
  on `p ++ b` from position `p.size + k` is running it on `b` from `k`, with every position that comes
  back `p.size` further on. Nothing in the forward lexer ever looks at a byte before its cursor.

  `next_word` runs its comment loop with fuel `buf.size`, which differs between the two runs: hence the two
  fuel facts `skipComments_fuel` (more fuel changes no answer but `oof`) and `skipComments_ne_oof`.

  (`back` / `boundaryRev` look backwards and are not shift-invariant; the parser does not use them.)
-/

namespace PdfShift
open PdfLex

@[simp] theorem omap_ok {α β : Type} (f : α → β) (a : α) : omap f (.ok a) = .ok (f a) := rfl
@[simp] theorem omap_err {α β : Type} (f : α → β) : omap f (.err : Out α) = .err := rfl
@[simp] theorem omap_panic {α β : Type} (f : α → β) : omap f (.panic : Out α) = .panic := rfl
@[simp] theorem omap_oof {α β : Type} (f : α → β) : omap f (.oof : Out α) = .oof := rfl

theorem omap_id {α : Type} (x : Out α) : omap (fun a => a) x = x := by cases x <;> rfl

/-- the workhorse: a shifted first step followed by a continuation that commutes with the shift; the
    continuation may use that its argument is what the first step returned -/
theorem bind_shift' {α β α' β' : Type} (x : Out α) (x' : Out α') (g : α → α') (h : β → β')
    (f : α → Out β) (f' : α' → Out β') (hx : x' = omap g x) (hf : ∀ a, x = .ok a → f' (g a) = omap h (f a)) :
    x'.bind f' = omap h (x.bind f) := by
  subst hx
  cases x with
  | ok a => exact hf a rfl
  | _ => rfl

theorem bind_shift {α β α' β' : Type} (x : Out α) (x' : Out α') (g : α → α') (h : β → β')
    (f : α → Out β) (f' : α' → Out β') (hx : x' = omap g x) (hf : ∀ a, f' (g a) = omap h (f a)) :
    x'.bind f' = omap h (x.bind f) :=
  bind_shift' x x' g h f f' hx fun a _ => hf a

/-- a step that does not depend on the buffer, followed by a continuation that commutes with the shift -/
theorem bind_same {α β β' : Type} (x : Out α) (h : β → β') (f : α → Out β) (f' : α → Out β')
    (hf : ∀ a, f' a = omap h (f a)) : x.bind f' = omap h (x.bind f) := by
  cases x <;> simp [Out.bind, hf]

/-- both runs take the same branch -/
theorem ite_omap_of {β β' : Type} {h : β → β'} {c c' : Prop} [Decidable c] [Decidable c'] {t e : Out β}
    {t' e' : Out β'} (hc : c' ↔ c) (ht : t' = omap h t) (he : e' = omap h e) :
    (if c' then t' else e') = omap h (if c then t else e) := by
  by_cases h0 : c
  · rw [if_pos h0, if_pos (hc.2 h0)]; exact ht
  · rw [if_neg h0, if_neg (mt hc.1 h0)]; exact he

theorem ite_omap {β β' : Type} {h : β → β'} {c : Prop} [Decidable c] {t e : Out β} {t' e' : Out β'}
    (ht : t' = omap h t) (he : e' = omap h e) : (if c then t' else e') = omap h (if c then t else e) :=
  ite_omap_of Iff.rfl ht he

/-- a lexeme `(start, stop)` moved by `k` -/
def sh2 (k : Nat) (w : Nat × Nat) : Nat × Nat := (k + w.1, k + w.2)

/-- a result with the cursor behind it, the cursor moved by `k` -/
def shV {α : Type} (k : Nat) (r : α × Nat) : α × Nat := (r.1, k + r.2)

theorem size_shift (p b : Buf) : (p ++ b).size = p.size + b.size := Array.size_append

theorem get_shift (p b : Buf) (i : Nat) : (p ++ b)[p.size + i]? = b[i]? := by
  rw [Array.getElem?_append_right (by omega)]; simp

theorem slice_shift (p b : Buf) (a c : Nat) : slice (p ++ b) (p.size + a) (p.size + c) = slice b a c := by
  unfold slice
  simp [Array.toList_extract]

theorem scanWhile_shift (p b : Buf) (cond : UInt8 → Bool) :
    ∀ (fuel pos : Nat), scanWhile (p ++ b) cond fuel (p.size + pos) = p.size + scanWhile b cond fuel pos := by
  intro fuel
  induction fuel with
  | zero => intro pos; simp [scanWhile]
  | succ fuel ih =>
    intro pos
    simp only [scanWhile, get_shift]
    cases b[pos]? with
    | none => simp
    | some c =>
      simp only
      split
      · rw [Nat.add_assoc, ih]
      · rfl

theorem boundary_shift (p b : Buf) (pos : Nat) (cond : UInt8 → Bool) :
    boundary (p ++ b) (p.size + pos) cond = omap (p.size + ·) (boundary b pos cond) := by
  unfold boundary
  rw [size_shift, Nat.add_sub_add_left, scanWhile_shift]
  exact ite_omap_of (by omega) rfl rfl

theorem skipWhitespace_shift (p b : Buf) (pos : Nat) :
    skipWhitespace (p ++ b) (p.size + pos) = omap (p.size + ·) (skipWhitespace b pos) := by
  unfold skipWhitespace
  apply bind_shift _ _ (p.size + ·) (p.size + ·) _ _ (boundary_shift p b pos isWhitespace)
  intro a
  rw [size_shift]
  exact ite_omap_of (by omega) rfl rfl

theorem isWsAt_shift (p b : Buf) (pos : Nat) : isWsAt (p ++ b) (p.size + pos) = isWsAt b pos := by
  simp [isWsAt, get_shift]

theorem isDelimAt_shift (p b : Buf) (pos : Nat) : isDelimAt (p ++ b) (p.size + pos) = isDelimAt b pos := by
  simp [isDelimAt, get_shift]

theorem advancePos_shift (p b : Buf) (pos : Nat) :
    advancePos (p ++ b) (p.size + pos) = omap (p.size + ·) (advancePos b pos) := by
  unfold advancePos
  rw [size_shift]
  exact ite_omap_of (by omega) (congrArg Out.ok (Nat.add_assoc ..)) rfl

theorem newSubstr_shift (p b : Buf) (a c : Nat) :
    newSubstr (p ++ b) (p.size + a) (p.size + c) = omap (sh2 p.size) (newSubstr b a c) := by
  unfold newSubstr
  simp only [size_shift]
  have er : (if p.size + a > p.size + c then (p.size + c + 1, p.size + a + 1) else (p.size + a, p.size + c))
      = sh2 p.size (if a > c then (c + 1, a + 1) else (a, c)) := by
    by_cases h : a > c
    · rw [if_pos h, if_pos (by omega)]; simp [sh2, Nat.add_assoc]
    · rw [if_neg h, if_neg (by omega)]; rfl
  rw [er]
  generalize (if a > c then (c + 1, a + 1) else (a, c)) = r
  exact ite_omap_of (by simp [sh2]) rfl rfl

theorem scanRegular_shift (p b : Buf) (pos : Nat) :
    scanRegular (p ++ b) (p.size + pos) = p.size + scanRegular b pos := by
  unfold scanRegular
  have e : (p ++ b).size - (p.size + pos) = b.size - pos := by rw [size_shift]; omega
  rw [e, scanWhile_shift]

theorem findEol_shift (p b : Buf) :
    ∀ (fuel pos : Nat), findEol (p ++ b) fuel (p.size + pos) = (findEol b fuel pos).map (p.size + ·) := by
  intro fuel
  induction fuel with
  | zero => intro pos; rfl
  | succ fuel ih =>
    intro pos
    simp only [findEol, get_shift]
    cases b[pos]? with
    | none => rfl
    | some c =>
      simp only
      split
      · rfl
      · rw [Nat.add_assoc, ih]

/-- where the comment loop continues after the `%` at `pos` -/
def afterComment (b : Buf) (pos : Nat) : Nat :=
  match findEol b (b.size - (pos + 1)) (pos + 1) with
  | some p => p + 1
  | none => pos + 1

theorem skipComments_succ (b : Buf) (fuel pos : Nat) :
    skipComments b (fuel + 1) pos =
      if b[pos]? == some 37 then
        if pos + 1 > b.size then .panic
        else (skipWhitespace b (afterComment b pos)).bind fun q => skipComments b fuel q
      else .ok pos := by
  rw [skipComments]; rfl

theorem skipComments_zero (b : Buf) (pos : Nat) :
    skipComments b 0 pos = if b[pos]? == some 37 then .oof else .ok pos := by
  rw [skipComments]

theorem afterComment_shift (p b : Buf) (pos : Nat) :
    afterComment (p ++ b) (p.size + pos) = p.size + afterComment b pos := by
  unfold afterComment
  have e : (p ++ b).size - (p.size + pos + 1) = b.size - (pos + 1) := by rw [size_shift]; omega
  rw [e, Nat.add_assoc, findEol_shift]
  cases findEol b (b.size - (pos + 1)) (pos + 1) <;> simp [Nat.add_assoc]

theorem skipComments_shift (p b : Buf) :
    ∀ (fuel pos : Nat), skipComments (p ++ b) fuel (p.size + pos) = omap (p.size + ·) (skipComments b fuel pos) := by
  intro fuel
  induction fuel with
  | zero =>
    intro pos
    rw [skipComments_zero, skipComments_zero, get_shift]
    exact ite_omap rfl rfl
  | succ fuel ih =>
    intro pos
    rw [skipComments_succ, skipComments_succ, get_shift, size_shift, afterComment_shift]
    refine ite_omap (ite_omap_of (by omega) rfl ?_) rfl
    exact bind_shift _ _ (p.size + ·) (p.size + ·) _ _ (skipWhitespace_shift p b _) (ih ·)

/-- more fuel never changes an answer of the comment loop other than `oof` -/
theorem skipComments_fuel (b : Buf) : ∀ (fuel fuel' pos : Nat), fuel ≤ fuel' →
    skipComments b fuel pos ≠ .oof → skipComments b fuel' pos = skipComments b fuel pos := by
  intro fuel
  induction fuel with
  | zero =>
    intro fuel' pos _ h
    rw [skipComments_zero] at h ⊢
    by_cases hc : (b[pos]? == some 37) = true
    · simp [hc] at h
    · cases fuel' with
      | zero => rw [skipComments_zero]
      | succ f => rw [skipComments_succ]; simp [hc]
  | succ fuel ih =>
    intro fuel' pos hle h
    cases fuel' with
    | zero => omega
    | succ fuel' =>
      rw [skipComments_succ] at h ⊢
      rw [skipComments_succ]
      by_cases hc : (b[pos]? == some 37) = true
      · simp only [hc, if_true] at h ⊢
        by_cases h1 : pos + 1 > b.size
        · simp [h1]
        · simp only [h1, if_false] at h ⊢
          cases hs : skipWhitespace b (afterComment b pos) with
          | ok a =>
            simp only [hs, Out.bind] at h ⊢
            exact ih fuel' a (by omega) h
          | _ => rfl
      · simp [hc]

theorem afterComment_bounds (b : Buf) (pos : Nat) (h : pos + 1 ≤ b.size) :
    pos + 1 ≤ afterComment b pos ∧ afterComment b pos ≤ b.size := by
  unfold afterComment
  cases hf : findEol b (b.size - (pos + 1)) (pos + 1) with
  | none => exact ⟨Nat.le_refl _, h⟩
  | some q => have := findEol_bounds b _ _ _ hf; simp only; omega

/-- the comment loop never runs out of fuel when it is given at least `size - pos` rounds -/
theorem skipComments_ne_oof (b : Buf) : ∀ (fuel pos : Nat), b.size ≤ fuel + pos →
    skipComments b fuel pos ≠ .oof := by
  intro fuel
  induction fuel with
  | zero =>
    intro pos h
    rw [skipComments_zero, show b[pos]? = none by simp; omega]
    exact nofun
  | succ fuel ih =>
    intro pos h
    rw [skipComments_succ]
    split
    · split
      · exact nofun
      · have hq := afterComment_bounds b pos (by omega)
        rcases skipWhitespace_spec b _ hq.2 with he | ⟨a, ha, hge, _⟩
        · rw [he]; exact nofun
        · rw [ha]; exact ih a (by omega)
    · exact nofun

theorem isDouble_shift (p b : Buf) (pos : Nat) : isDouble (p ++ b) (p.size + pos) = isDouble b pos := by
  unfold isDouble
  rw [get_shift, Nat.add_assoc, get_shift]

theorem tokenStart_shift (p b : Buf) (pos : Nat) :
    tokenStart (p ++ b) (p.size + pos) = omap (p.size + ·) (tokenStart b pos) := by
  unfold tokenStart
  apply bind_shift _ _ (p.size + ·) (p.size + ·) _ _ (skipWhitespace_shift p b pos)
  intro a
  rw [skipComments_shift, size_shift]
  congr 1
  exact skipComments_fuel b b.size (p.size + b.size) a (by omega) (skipComments_ne_oof b b.size a (by omega))

theorem lexemeAt_shift (p b : Buf) (start : Nat) :
    lexemeAt (p ++ b) (p.size + start) = omap (sh2 p.size) (lexemeAt b start) := by
  unfold lexemeAt
  simp only [isDelimAt_shift, get_shift, isDouble_shift]
  refine ite_omap ?_ (by rw [scanRegular_shift, newSubstr_shift])
  cases b[start]? with
  | none => rfl
  | some c =>
    refine ite_omap ?_ ?_
    · exact bind_shift _ _ (p.size + ·) (sh2 p.size) _ _ (advancePos_shift p b start) fun a => by
        rw [scanRegular_shift, newSubstr_shift]
    · exact bind_shift _ _ (p.size + ·) (sh2 p.size) _ _ (ite_omap (advancePos_shift p b start) rfl) fun a =>
        bind_shift _ _ (p.size + ·) (sh2 p.size) _ _ (advancePos_shift p b a) fun a2 => newSubstr_shift p b start a2

/-- **`next_word` under a prefix.** -/
theorem nextWord_shift (p b : Buf) (pos : Nat) :
    nextWord (p ++ b) (p.size + pos) = omap (sh2 p.size) (nextWord b pos) := by
  unfold nextWord
  rw [size_shift]
  refine ite_omap_of (by simp) rfl ?_
  exact bind_shift _ _ (p.size + ·) (sh2 p.size) _ _ (tokenStart_shift p b pos) (lexemeAt_shift p b)

theorem next_shift (p b : Buf) (pos : Nat) :
    next (p ++ b) (p.size + pos) = omap (sh2 p.size) (next b pos) := nextWord_shift p b pos

theorem peek_shift (p b : Buf) (pos : Nat) :
    peek (p ++ b) (p.size + pos) = omap (sh2 p.size) (peek b pos) := by
  unfold peek
  rw [nextWord_shift]
  cases nextWord b pos with
  | err => exact newSubstr_shift p b pos pos
  | _ => rfl

theorem nextExpect_shift (p b : Buf) (pos : Nat) (expected : List UInt8) :
    nextExpect (p ++ b) (p.size + pos) expected = omap (p.size + ·) (nextExpect b pos expected) := by
  unfold nextExpect
  apply bind_shift _ _ (sh2 p.size) (p.size + ·) _ _ (next_shift p b pos)
  intro w
  simp only [sh2, slice_shift]
  exact ite_omap rfl rfl

theorem nextStream_shift (p b : Buf) (pos : Nat) :
    nextStream (p ++ b) (p.size + pos) = omap (p.size + ·) (nextStream b pos) := by
  unfold nextStream
  apply bind_shift _ _ (sh2 p.size) (p.size + ·) _ _ (nextWord_shift p b pos)
  intro w
  simp only [sh2, size_shift, Nat.add_sub_add_left]
  by_cases h1 : w.2 - w.1 > w.2
  · omega
  rw [if_neg h1, if_neg (by omega), show p.size + w.2 - (w.2 - w.1) = p.size + (w.2 - (w.2 - w.1)) by omega]
  refine ite_omap_of (by omega) rfl ?_
  simp only [Nat.add_assoc, get_shift]
  cases b[w.2 - (w.2 - w.1) + 6]? with
  | none => rfl
  | some b0 =>
    refine ite_omap rfl (ite_omap ?_ rfl)
    cases b[w.2 - (w.2 - w.1) + 7]? with
    | none => rfl
    | some b1 => exact ite_omap rfl rfl

theorem setPos_shift (p b : Buf) (pos wanted : Nat) :
    setPos (p ++ b) (p.size + pos) (p.size + wanted) = omap (p.size + ·) (setPos b pos wanted) := by
  unfold setPos
  rw [size_shift, show min (p.size + wanted) (p.size + b.size) = p.size + min wanted b.size by omega]
  refine bind_shift _ _ (sh2 p.size) (p.size + ·) _ _ ?_ fun _ => rfl
  exact ite_omap_of (by omega) (newSubstr_shift ..) (newSubstr_shift ..)

/-- `offset_pos` wraps at 2^64: the shift needs the sum to stay below that -/
theorem offsetPos_shift (p b : Buf) (pos offset : Nat) (h : p.size + pos + offset ≤ usizeMax) :
    offsetPos (p ++ b) (p.size + pos) offset = omap (p.size + ·) (offsetPos b pos offset) := by
  unfold offsetPos
  have e1 : (p.size + pos + offset) % (usizeMax + 1) = p.size + (pos + offset) := by
    rw [Nat.mod_eq_of_lt (by omega)]; omega
  have e2 : (pos + offset) % (usizeMax + 1) = pos + offset := Nat.mod_eq_of_lt (by omega)
  rw [e1, e2, setPos_shift]

/-- `read_n` adds with overflow checks: the shift needs the sum to stay below 2^64; and the cursor must be
    inside `b` (at the very end `read_n` returns `new_substr(0..0)`, which is not relative to the cursor) -/
theorem readN_shift (p b : Buf) (pos n : Nat) (h : p.size + pos + n ≤ usizeMax) (hpos : pos < b.size) :
    readN (p ++ b) (p.size + pos) n = omap (fun r => (sh2 p.size r.1, p.size + r.2)) (readN b pos n) := by
  unfold readN
  simp only [size_shift]
  rw [Nat.min_eq_left h, Nat.min_eq_left (show pos + n ≤ usizeMax by omega), if_pos hpos,
    if_pos (show p.size + pos < p.size + b.size by omega)]
  by_cases hge : pos + n ≥ b.size
  · rw [if_pos hge, if_pos (show p.size + pos + n ≥ p.size + b.size by omega),
      show p.size + b.size - 1 = p.size + (b.size - 1) by omega]
    exact bind_shift _ _ (sh2 p.size) _ _ _ (newSubstr_shift ..) fun _ => rfl
  · rw [if_neg hge, if_neg (show ¬ p.size + pos + n ≥ p.size + b.size by omega), Nat.add_assoc]
    exact bind_shift _ _ (sh2 p.size) _ _ _ (newSubstr_shift ..) fun _ => rfl

theorem remainingStart_shift (p b : Buf) (pos : Nat) :
    remainingStart (p ++ b) (p.size + pos) = omap (p.size + ·) (remainingStart b pos) := by
  unfold remainingStart
  rw [size_shift]
  exact ite_omap_of (by omega) rfl rfl

end PdfShift
