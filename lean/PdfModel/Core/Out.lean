/-
  Outcome of a modelled Rust function.

  `ok a`   the Rust function returned `Ok(a)` (or a plain value)
  `err`    the Rust function returned `Err(_)`
  `panic`  the Rust function panicked (index out of range, unwrap on None/Err, assert!, division by
           zero, arithmetic overflow with overflow-checks on, explicit panic!/todo!)
  `oof`    the model ran out of fuel (only for loops that are not structurally recursive; a totality
           theorem proves it never happens for a fuel bound that is linear in the input)
-/

inductive Out (α : Type) where
  | ok : α → Out α
  | err : Out α
  | panic : Out α
  | oof : Out α
deriving Repr, DecidableEq, Inhabited

namespace Out

@[inline] def bind {α β : Type} (x : Out α) (f : α → Out β) : Out β :=
  match x with
  | .ok a => f a
  | .err => .err
  | .panic => .panic
  | .oof => .oof

instance : Monad Out where
  pure := Out.ok
  bind := Out.bind

def isOk {α : Type} : Out α → Bool
  | .ok _ => true
  | _ => false

/-- "value or error value": what every property that says "never panics / hangs" asks for. -/
def Returns {α : Type} (x : Out α) : Prop := x ≠ .panic ∧ x ≠ .oof

def tag {α : Type} : Out α → String
  | .ok _ => "ok"
  | .err => "err"
  | .panic => "panic"
  | .oof => "oof"

@[simp] theorem bind_ok {α β : Type} (a : α) (f : α → Out β) : Out.bind (.ok a) f = f a := rfl
@[simp] theorem bind_err {α β : Type} (f : α → Out β) : Out.bind (.err : Out α) f = .err := rfl
@[simp] theorem bind_panic {α β : Type} (f : α → Out β) : Out.bind (.panic : Out α) f = .panic := rfl
@[simp] theorem bind_oof {α β : Type} (f : α → Out β) : Out.bind (.oof : Out α) f = .oof := rfl

theorem bind_eq_ok {α β : Type} {x : Out α} {f : α → Out β} {b : β} (h : x.bind f = .ok b) :
    ∃ a, x = .ok a ∧ f a = .ok b := by
  cases x <;> first | exact ⟨_, rfl, h⟩ | cases h

theorem Returns.ok {α : Type} (a : α) : (Out.ok a).Returns := ⟨nofun, nofun⟩
theorem Returns.err {α : Type} : (Out.err : Out α).Returns := ⟨nofun, nofun⟩

theorem Returns.bind {α β : Type} {x : Out α} {f : α → Out β} (hx : x.Returns) (hf : ∀ a, (f a).Returns) :
    (x.bind f).Returns := by
  cases x with
  | ok a => exact hf a
  | err => exact .err
  | panic => exact absurd rfl hx.1
  | oof => exact absurd rfl hx.2

/-- a computation that returns is `err` or some `ok a` -/
theorem Returns.cases {α : Type} {x : Out α} (h : x.Returns) : x = .err ∨ ∃ a, x = .ok a := by
  cases x with
  | ok a => exact .inr ⟨a, rfl⟩
  | err => exact .inl rfl
  | panic => exact absurd rfl h.1
  | oof => exact absurd rfl h.2

/-- Sequencing under a predicate that `err` satisfies: when the first step is `err` or an `ok a` with `P a`, it is enough
    to continue from such an `a`.  (`G` is found by unification when the goal is an application `G (x.bind f)`.) -/
theorem bind_ind {α β : Type} {G : Out β → Prop} {x : Out α} {f : α → Out β} {P : α → Prop}
    (hx : x = .err ∨ ∃ a, x = .ok a ∧ P a) (herr : G .err) (hf : ∀ a, P a → G (f a)) : G (x.bind f) := by
  rcases hx with rfl | ⟨a, rfl, ha⟩
  · exact herr
  · exact hf a ha

/-- `bind_ind` for a first step that returns a pair -/
theorem bind_ind₂ {α γ β : Type} {G : Out β → Prop} {x : Out (α × γ)} {f : α × γ → Out β} {P : α → γ → Prop}
    (hx : x = .err ∨ ∃ a c, x = .ok (a, c) ∧ P a c) (herr : G .err) (hf : ∀ a c, P a c → G (f (a, c))) :
    G (x.bind f) := by
  rcases hx with rfl | ⟨a, c, rfl, ha⟩
  · exact herr
  · exact hf a c ha

/-- from `x = .err ∨ ∃ a, x = .ok a ∧ P a`: an `ok` result has the property -/
theorem of_ok {α : Type} {x : Out α} {P : α → Prop} (hx : x = .err ∨ ∃ a, x = .ok a ∧ P a) {a : α} (e : x = .ok a) :
    P a := by
  rcases hx with rfl | ⟨_, rfl, ha⟩ <;> cases e
  exact ha

theorem of_ok₂ {α γ : Type} {x : Out (α × γ)} {P : α → γ → Prop} (hx : x = .err ∨ ∃ a c, x = .ok (a, c) ∧ P a c)
    {a : α} {c : γ} (e : x = .ok (a, c)) : P a c := by
  rcases hx with rfl | ⟨_, _, rfl, ha⟩ <;> cases e
  exact ha

theorem bind_congr_ok {α β : Type} {x : Out α} {f g : α → Out β} (h : ∀ a, x = .ok a → f a = g a) :
    x.bind f = x.bind g := by
  cases x with
  | ok a => exact h a rfl
  | _ => rfl

theorem bind_ne_oof {α β : Type} {x : Out α} {f : α → Out β} (hx : x ≠ .oof)
    (hf : ∀ a, x = .ok a → f a ≠ .oof) : x.bind f ≠ .oof := by
  cases x with
  | ok a => exact hf a rfl
  | oof => exact absurd rfl hx
  | _ => nofun

/-- below a result other than `oof`, two continuations need only agree where the second does not answer `oof` -/
theorem bind_congr_of_ne_oof {α β : Type} {x : Out α} {f g : α → Out β} (h : x.bind g ≠ .oof)
    (hfg : ∀ a, g a ≠ .oof → f a = g a) : x.bind f = x.bind g := by
  cases x with
  | ok a => exact hfg a h
  | _ => rfl

end Out
