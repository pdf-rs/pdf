import PdfModel.Model.Parser

/-!
  Statement side of C03: which byte strings the PDF syntax (ISO 32000-1 §7.2, §7.3) permits as spellings of
  a value.  `Spells pr v txt`: `txt` is a conformant spelling of `v` (no white-space before or after).
  The definitions are independent of the lexer / parser model (they use only the value type `Prim` and,
  for reals, the text→f32 conversion `pr`, which is third-party code: a real `r` is spelled by any real
  token `t` with `pr t = some r`).

  * `Gap g`        white-space bytes and comments (`% … EOL`) in any number and order
  * `Bnd s`        `s` is empty or begins with a white-space or delimiter byte (a regular token may end there)
  * `IntTok`, `RealTok`, `NatTok`, `NameBody`, `LitBody`, `HexBody`   token grammars
  * `Spells`, `SpellsElems`, `SpellsEntries`                          values (stream-free)
  * `SpellsStream`                                                    stream objects
-/

namespace PdfSyntax
open PdfLex (Prim StreamInner)

/-- table 1: NUL, HT, LF, FF, CR, SP -/
def isWs (b : UInt8) : Bool := b == 0 || b == 9 || b == 10 || b == 12 || b == 13 || b == 32

/-- table 2: `( ) < > [ ] { } / %` -/
def isDelim (b : UInt8) : Bool :=
  b == 40 || b == 41 || b == 60 || b == 62 || b == 91 || b == 93 || b == 123 || b == 125 || b == 47 || b == 37

def isReg (b : UInt8) : Bool := !isWs b && !isDelim b

def isDig (b : UInt8) : Bool := 48 ≤ b && b ≤ 57

inductive Gap : List UInt8 → Prop where
  | nil : Gap []
  | ws (b : UInt8) (g : List UInt8) : isWs b = true → Gap g → Gap (b :: g)
  /-- `%`, any bytes but CR and LF, then CR or LF (CR LF = CR followed by the white-space LF) -/
  | comment (body : List UInt8) (e : UInt8) (g : List UInt8) :
      (∀ b ∈ body, b ≠ 10 ∧ b ≠ 13) → (e = 10 ∨ e = 13) → Gap g → Gap (37 :: body ++ e :: g)

/-- a regular token may end before `s` -/
def Bnd (s : List UInt8) : Prop :=
  match s with
  | [] => True
  | b :: _ => isReg b = false

/-- value of a digit string -/
def digitsVal (ds : List UInt8) : Nat := ds.foldl (fun a d => a * 10 + (d.toNat - 48)) 0

def Digits (ds : List UInt8) : Prop := ∀ b ∈ ds, isDig b = true

/-- unsigned integer (object / generation numbers): digits only -/
def NatTok (t : List UInt8) (n : Nat) : Prop := t ≠ [] ∧ Digits t ∧ digitsVal t = n

/-- `[+-]? digits` with the value `i` -/
def IntTok (t : List UInt8) (i : Int) : Prop :=
  ∃ ds, ds ≠ [] ∧ Digits ds ∧
    ((t = ds ∧ i = digitsVal ds) ∨ (t = 43 :: ds ∧ i = digitsVal ds) ∨ (t = 45 :: ds ∧ i = -(digitsVal ds : Int)))

/-- `[+-]? digits* . digits*` with at least one digit -/
def RealTok (t : List UInt8) : Prop :=
  ∃ sign ip fp, t = sign ++ ip ++ 46 :: fp ∧ (sign = [] ∨ sign = [43] ∨ sign = [45]) ∧
    Digits ip ∧ Digits fp ∧ (ip ≠ [] ∨ fp ≠ [])

def hexVal (c : UInt8) : Option UInt8 :=
  if 48 ≤ c && c ≤ 57 then some (c - 48)
  else if 65 ≤ c && c ≤ 70 then some (c - 55)
  else if 97 ≤ c && c ≤ 102 then some (c - 87)
  else none

/-- the text of a name after `/` and the bytes it denotes -/
inductive NameBody : List UInt8 → List UInt8 → Prop where
  | nil : NameBody [] []
  | raw (b : UInt8) (t s : List UInt8) : isReg b = true → b ≠ 35 → NameBody t s → NameBody (b :: t) (b :: s)
  | esc (h1 h2 v1 v2 : UInt8) (t s : List UInt8) : hexVal h1 = some v1 → hexVal h2 = some v2 →
      NameBody t s → NameBody (35 :: h1 :: h2 :: t) ((v1 * 16 + v2) :: s)

def isOct (b : UInt8) : Bool := 48 ≤ b && b ≤ 55

/-- `\c` for the named escapes of table 3 -/
def namedEscape (c : UInt8) : Option UInt8 :=
  if c == 110 then some 10 else if c == 114 then some 13 else if c == 116 then some 9
  else if c == 98 then some 8 else if c == 102 then some 12 else if c == 40 then some 40
  else if c == 41 then some 41 else if c == 92 then some 92 else none

/-- the next byte is not an octal digit (so a 1- or 2-digit code ends here) -/
def NoOct (r : List UInt8) : Prop :=
  match r with
  | [] => True
  | b :: _ => isOct b = false

/-- the next byte is not LF (so a CR stands alone) -/
def NoLf (r : List UInt8) : Prop := r.head? ≠ some 10

/-- `LitBody txt n s`: `txt` is the text of a literal string after its `(` up to and including the closing
    `)`, read at parenthesis nesting level `n`; it denotes the bytes `s` -/
inductive LitBody : List UInt8 → Nat → List UInt8 → Prop where
  | close : LitBody [41] 0 []
  | popen (r s : List UInt8) (n : Nat) : LitBody r (n + 1) s → LitBody (40 :: r) n (40 :: s)
  | pclose (r s : List UInt8) (n : Nat) : LitBody r n s → LitBody (41 :: r) (n + 1) (41 :: s)
  | plain (b : UInt8) (r s : List UInt8) (n : Nat) : b ≠ 40 → b ≠ 41 → b ≠ 92 → b ≠ 13 →
      LitBody r n s → LitBody (b :: r) n (b :: s)
  | cr (r s : List UInt8) (n : Nat) : NoLf r → LitBody r n s → LitBody (13 :: r) n (10 :: s)
  | crlf (r s : List UInt8) (n : Nat) : LitBody r n s → LitBody (13 :: 10 :: r) n (10 :: s)
  | named (c v : UInt8) (r s : List UInt8) (n : Nat) : namedEscape c = some v →
      LitBody r n s → LitBody (92 :: c :: r) n (v :: s)
  | oct1 (d1 : UInt8) (r s : List UInt8) (n : Nat) : isOct d1 = true → NoOct r →
      LitBody r n s → LitBody (92 :: d1 :: r) n ((d1 - 48) :: s)
  | oct2 (d1 d2 : UInt8) (r s : List UInt8) (n : Nat) : isOct d1 = true → isOct d2 = true → NoOct r →
      LitBody r n s → LitBody (92 :: d1 :: d2 :: r) n (((d1 - 48) * 8 + (d2 - 48)) :: s)
  /-- three digits; the high-order overflow (`\400`…`\777`) is ignored -/
  | oct3 (d1 d2 d3 : UInt8) (r s : List UInt8) (n : Nat) : isOct d1 = true → isOct d2 = true → isOct d3 = true →
      LitBody r n s → LitBody (92 :: d1 :: d2 :: d3 :: r) n (((d1 - 48) * 64 + (d2 - 48) * 8 + (d3 - 48)) :: s)
  /-- a backslash before a character that starts no escape sequence is ignored -/
  | ignored (c : UInt8) (r s : List UInt8) (n : Nat) : namedEscape c = none → isOct c = false → c ≠ 10 → c ≠ 13 →
      LitBody r n s → LitBody (92 :: c :: r) n (c :: s)
  | contLf (r s : List UInt8) (n : Nat) : LitBody r n s → LitBody (92 :: 10 :: r) n s
  | contCr (r s : List UInt8) (n : Nat) : NoLf r → LitBody r n s → LitBody (92 :: 13 :: r) n s
  | contCrLf (r s : List UInt8) (n : Nat) : LitBody r n s → LitBody (92 :: 13 :: 10 :: r) n s

/-- white-space inside a hexadecimal string -/
def HexWs (w : List UInt8) : Prop := ∀ b ∈ w, isWs b = true

/-- text of a hexadecimal string after `<` up to and including `>`, and the bytes it denotes -/
inductive HexBody : List UInt8 → List UInt8 → Prop where
  | close (w : List UInt8) : HexWs w → HexBody (w ++ [62]) []
  | byte (w1 w2 : List UInt8) (h1 h2 v1 v2 : UInt8) (r s : List UInt8) : HexWs w1 → HexWs w2 →
      hexVal h1 = some v1 → hexVal h2 = some v2 → HexBody r s →
      HexBody (w1 ++ h1 :: (w2 ++ h2 :: r)) ((v1 * 16 + v2) :: s)
  /-- an odd number of digits: the last one is followed by an assumed `0` -/
  | odd (w1 w2 : List UInt8) (h1 v1 : UInt8) : HexWs w1 → HexWs w2 → hexVal h1 = some v1 →
      HexBody (w1 ++ h1 :: (w2 ++ [62])) [v1 * 16]

/-- values whose spelling ends in a regular character (a separator or delimiter must follow) -/
def needsBnd {R : Type} : Prim R → Bool
  | .null | .int _ | .real _ | .bool _ | .ref _ _ | .name _ | .stream _ _ => true
  | _ => false

def kwTrue : List UInt8 := [116, 114, 117, 101]
def kwFalse : List UInt8 := [102, 97, 108, 115, 101]
def kwNull : List UInt8 := [110, 117, 108, 108]
def kwStream : List UInt8 := [115, 116, 114, 101, 97, 109]
def kwEndstream : List UInt8 := [101, 110, 100, 115, 116, 114, 101, 97, 109]
def kwObj : List UInt8 := [111, 98, 106]
def kwEndobj : List UInt8 := [101, 110, 100, 111, 98, 106]

mutual

/-- `txt` spells the (stream-free) value `v`; `pr` is the text → f32 conversion -/
def Spells {R : Type} (pr : List UInt8 → Option R) : Prim R → List UInt8 → Prop
  | .null, txt => txt = kwNull
  | .bool b, txt => txt = if b then kwTrue else kwFalse
  | .int i, txt => IntTok txt i ∧ -2147483648 ≤ i ∧ i ≤ 2147483647
  | .real r, txt => RealTok txt ∧ pr txt = some r
  | .str s, txt => (∃ body, txt = 40 :: body ∧ LitBody body 0 s) ∨ (∃ body, txt = 60 :: body ∧ HexBody body s)
  | .name s, txt => ∃ body, txt = 47 :: body ∧ NameBody body s
  | .ref id gen, txt => ∃ a g1 b g2, txt = a ++ g1 ++ b ++ g2 ++ [82] ∧ NatTok a id ∧ NatTok b gen ∧
      Gap g1 ∧ g1 ≠ [] ∧ Gap g2 ∧ g2 ≠ [] ∧ id ≤ 18446744073709551615 ∧ gen ≤ 18446744073709551615
  | .arr xs, txt => ∃ g r, txt = 91 :: g ++ r ∧ Gap g ∧ SpellsElems pr xs r
  | .dict kvs, txt => ∃ g r, txt = 60 :: 60 :: g ++ r ∧ Gap g ∧ SpellsEntries pr kvs r
  | .stream _ _, _ => False

/-- the elements of an array and the closing `]` -/
def SpellsElems {R : Type} (pr : List UInt8 → Option R) : List (Prim R) → List UInt8 → Prop
  | [], txt => txt = [93]
  | x :: xs, txt => ∃ tx g r, txt = tx ++ g ++ r ∧ Spells pr x tx ∧ Gap g ∧ SpellsElems pr xs r ∧
      (needsBnd x = true → Bnd (g ++ r))

/-- the entries of a dictionary and the closing `>>` -/
def SpellsEntries {R : Type} (pr : List UInt8 → Option R) : List (List UInt8 × Prim R) → List UInt8 → Prop
  | [], txt => txt = [62, 62]
  | (k, v) :: rest, txt => ∃ kb g1 tv g2 r, txt = 47 :: kb ++ g1 ++ tv ++ g2 ++ r ∧ NameBody kb k ∧ Gap g1 ∧
      Bnd (g1 ++ tv) ∧ Spells pr v tv ∧ Gap g2 ∧ SpellsEntries pr rest r ∧ (needsBnd v = true → Bnd (g2 ++ r))

end

/-- `txt` spells a stream object with dictionary `info` and data `data`; `lenOk` says that `/Length`
    (direct, or indirect through the resolver) is the length of the data -/
def SpellsStream {R : Type} (pr : List UInt8 → Option R) (info : List (List UInt8 × Prim R)) (data : List UInt8)
    (txt : List UInt8) : Prop :=
  ∃ g1 ents g2 eol g3, txt = 60 :: 60 :: g1 ++ ents ++ g2 ++ kwStream ++ eol ++ data ++ g3 ++ kwEndstream ∧
    Gap g1 ∧ SpellsEntries pr info ents ∧ Gap g2 ∧ (eol = [10] ∨ eol = [13, 10]) ∧ Gap g3


/-! ### side conditions of the theorems -/

mutual
/-- nesting depth of arrays / dictionaries (the parser's `MAX_DEPTH` budget) -/
def vdepth {R : Type} : Prim R → Nat
  | .arr xs => 1 + vdepthL xs
  | .dict kvs => 1 + vdepthE kvs
  | .stream info _ => 1 + vdepthE info
  | _ => 0
def vdepthL {R : Type} : List (Prim R) → Nat
  | [] => 0
  | x :: xs => max (vdepth x) (vdepthL xs)
def vdepthE {R : Type} : List (List UInt8 × Prim R) → Nat
  | [] => 0
  | (_, v) :: rest => max (vdepth v) (vdepthE rest)
end

mutual
/-- fuel that the model's parser needs for a value (at most three times the length of any spelling) -/
def need {R : Type} : Prim R → Nat
  | .arr xs => 2 + needL xs
  | .dict kvs => 2 + needE kvs
  | .stream info _ => 2 + needE info
  | _ => 2
def needL {R : Type} : List (Prim R) → Nat
  | [] => 1
  | x :: xs => 1 + need x + needL xs
def needE {R : Type} : List (List UInt8 × Prim R) → Nat
  | [] => 1
  | (_, v) :: rest => 1 + need v + needE rest
end

def keysOf {R : Type} (kvs : List (List UInt8 × Prim R)) : List (List UInt8) := kvs.map (·.1)

mutual
/-- invariants of the Rust types: a `Name` is a string (valid UTF-8), the keys of a dictionary are distinct -/
def WF {R : Type} : Prim R → Prop
  | .name s => PdfLex.utf8Valid s = true
  | .arr xs => WFL xs
  | .dict kvs => WFE kvs ∧ (keysOf kvs).Nodup
  | .stream info _ => WFE info ∧ (keysOf info).Nodup
  | _ => True
def WFL {R : Type} : List (Prim R) → Prop
  | [] => True
  | x :: xs => WF x ∧ WFL xs
def WFE {R : Type} : List (List UInt8 × Prim R) → Prop
  | [] => True
  | (k, v) :: rest => PdfLex.utf8Valid k = true ∧ WF v ∧ WFE rest
end


mutual
/-- the keys of every dictionary are distinct (the value is a value of the object model: an `IndexMap`) -/
def KeysDistinct {R : Type} : Prim R → Prop
  | .arr xs => KeysDistinctL xs
  | .dict kvs => KeysDistinctE kvs ∧ (keysOf kvs).Nodup
  | .stream info _ => KeysDistinctE info ∧ (keysOf info).Nodup
  | _ => True
def KeysDistinctL {R : Type} : List (Prim R) → Prop
  | [] => True
  | x :: xs => KeysDistinct x ∧ KeysDistinctL xs
def KeysDistinctE {R : Type} : List (List UInt8 × Prim R) → Prop
  | [] => True
  | (_, v) :: rest => KeysDistinct v ∧ KeysDistinctE rest
end

mutual
/-- every name and every dictionary key is valid UTF-8 (what `Name = SmallString` can hold) -/
def namesUtf8 {R : Type} : Prim R → Bool
  | .name s => PdfLex.utf8Valid s
  | .arr xs => namesUtf8L xs
  | .dict kvs => namesUtf8E kvs
  | .stream info _ => namesUtf8E info
  | _ => true
def namesUtf8L {R : Type} : List (Prim R) → Bool
  | [] => true
  | x :: xs => namesUtf8 x && namesUtf8L xs
def namesUtf8E {R : Type} : List (List UInt8 × Prim R) → Bool
  | [] => true
  | (k, v) :: rest => PdfLex.utf8Valid k && namesUtf8 v && namesUtf8E rest
end

mutual
theorem wf_of {R : Type} (v : Prim R) : KeysDistinct v → namesUtf8 v = true → WF v := by
  intro h1 h2
  cases v with
  | name s => simpa [WF, namesUtf8] using h2
  | arr xs =>
    simp only [KeysDistinct, namesUtf8, WF] at h1 h2 ⊢
    exact wfL_of xs h1 h2
  | dict kvs =>
    simp only [KeysDistinct, namesUtf8, WF] at h1 h2 ⊢
    exact ⟨wfE_of kvs h1.1 h2, h1.2⟩
  | stream info inner =>
    simp only [KeysDistinct, namesUtf8, WF] at h1 h2 ⊢
    exact ⟨wfE_of info h1.1 h2, h1.2⟩
  | _ => simp [WF]
theorem wfL_of {R : Type} (xs : List (Prim R)) : KeysDistinctL xs → namesUtf8L xs = true → WFL xs := by
  intro h1 h2
  cases xs with
  | nil => simp [WFL]
  | cons x xs =>
    simp only [KeysDistinctL, namesUtf8L, Bool.and_eq_true, WFL] at h1 h2 ⊢
    exact ⟨wf_of x h1.1 h2.1, wfL_of xs h1.2 h2.2⟩
theorem wfE_of {R : Type} (kvs : List (List UInt8 × Prim R)) : KeysDistinctE kvs → namesUtf8E kvs = true → WFE kvs := by
  intro h1 h2
  cases kvs with
  | nil => simp [WFE]
  | cons kv kvs =>
    obtain ⟨k, v⟩ := kv
    simp only [KeysDistinctE, namesUtf8E, Bool.and_eq_true, WFE] at h1 h2 ⊢
    exact ⟨h2.1.1, wf_of v h1.1 h2.1.2, wfE_of kvs h1.2 h2.2⟩
end

end PdfSyntax
