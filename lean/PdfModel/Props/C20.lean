import PdfModel.Lemmas.Import

/-!
# C20 — a page imported into another document is equal and self-contained

The source document is a graph of indirect objects (`Src`); an importer (`St`: memo `map`, typed copies
`rcrefs`, copies under construction `pending`, the objects created in the new document `objs`) serves a
sequence of page imports (`clonePages`, one `clonePage` = `PageBuilder::clone_page` each) or of single
clone requests (`cloneRoots`). The model (`Model/Import.lean`) is the code *after* the two repairs of this
package (D41 cycle guard, D46 typed copy rebuilt on demand); `Import.Old.cloneRef` is the code before.

The theorems hold for **every** source graph (cyclic or not, with or without missing objects), every
sequence of pages, every amount of fuel and every outcome of the individual imports (a page that fails is
skipped, the state it leaves behind is covered too). The correspondence check for C20 ties `cloneRef`,
`clonePage` to `Importer::{clone_plainref, clone_ref, clone_rcref}` and `PageBuilder::clone_page` of the
current tree (same request answered by both, compared up to renaming of the new object numbers).

What the theorems do not carry — read this before reading more into a theorem than it says:

* **Payload equality** ("a resource whose content (dictionaries, stream data) equals the original's"): the payload of
  an object is an abstract number here. Equality of dictionaries, strings and stream bytes after the typed
  re-serialisation, decryption included, is the oracle's comparison on the real library against the generator's
  plaintext (harness/src/c20.rs), and the correspondence carries a payload digest. No theorem.
* **"The same operation sequence"** and **"the new document saved and reloaded"**: no model statement at all. The
  model keeps the operations of a page verbatim by construction (`OpM` values are never rewritten; only the
  resources they name are looked at), `PdfBuilder::build`, `Storage::save`, `serialize_ops` and the reload are not
  modelled. Both clauses are decided by the oracle only (import + build + reload, operations compared with the
  source's and with the generator's plaintext; the serialiser itself is C08's, saving is C09's / C10's).
* **"Importing never panics"**: `import_never_panics`, `clone_never_panics`, `tree_import_never_panics` hold *by
  construction of the model* — after the repairs no branch of `cloneRef` / `cloneOp` / `clonePage` produces `.panic`,
  the proofs only show that `.panic` cannot appear from nowhere. What carries the content is (a) `Old.cloneRef`,
  which has the panic branch of the code before the repair (`d46_old_code_panics`), (b) the correspondence (the
  implementation's outcome `panic` would disagree with the model's), and (c) the oracle on the real library, where
  the panic sites actually were: `rcrefs.get(&new_ref).unwrap()` in `clone_rcref` (D46), `assert!(params.is_none())`
  in `Stream::to_pdf_stream` (D47), `serialize_ops(..).unwrap()` in `Content::from_ops` under
  `CatalogBuilder::build` (D49), and the stack overflow of the unguarded recursion (D41, an abort rather than a
  panic) — all found by, and now regression witnesses of, the oracle; the last three lie outside the model.
* **Sources with a reference cycle.** Every theorem whose premise is `(clonePage …).1 = .ok out` (or
  `clonePageT`) says nothing about a page from which a reference cycle is reachable: the repaired importer answers
  `.err` there (`cyclic_page_is_rejected` below), so the premise is false. That is the library's behaviour after the
  D41 repair — a cyclic page is *refused*, not imported — and it is within the property as stated: its clauses are
  conditioned on "when importing it into a new document succeeds", and the unconditional clause ("importing never
  panics") is what the cycle guard establishes (`import_terminates`: no `.oof` on any finite source;
  `d41_old_code_diverges`: the old code did not terminate). The property's quantifier lists cyclic sources because
  of that unconditional clause. The state-level theorems (`clone_closed`, `clone_once`, `clone_iso`, `memo_stable`,
  `copies_get_fresh_numbers`) have no such premise: they hold after refused pages too, and
  `acyclic_page_beside_a_cycle_imports` shows a page of a source that has a cycle elsewhere importing normally,
  before and after a refused page. That cyclic pages cannot be imported at all is recorded as a limitation in
  notes/C20.md, not as a violation.
* **Boxes and entry points.** `from_page_attributes` and the box fields of `tree_page_attributes` read the
  definitions of `fromPageT` / `clonePageT` back (the model *is* "take the nearest entry"); their content is that
  the statement is in terms of `nearest`, which `nearest_is_first` characterises independently (first entry on the
  way up — see the corollaries `tree_page_boxes_first_on_the_way_up`, `from_page_boxes_first_on_the_way_up`), and
  that the correspondence streams `c20.page*` / `c20.frompage*` (6⁴ placements exhaustively) tie those definitions
  to `Page::media_box` / `crop_box` / `resources` and the two builders. The resource part of
  `tree_page_attributes` (`PageOK`) is a real consequence of the invariant.
* **Resource categories** other than ExtGState / Font / XObject / Properties are not copied by the code (D40, open
  for ColorSpace, Pattern, Shading): `C20_full` is kept below with its counter-example; inherited /Rotate is not
  read by the library: `C20_rotate_full` with its counter-example.
-/

namespace Import

/-- the state of an importer after a sequence of page imports into a document that had `n` objects -/
def after (f : Nat) (src : Src) (n : Nat) (pages : List PageM) : St := (clonePages f src pages (St.init n)).2

/-- Every state reachable by importing pages satisfies the invariant all the clauses below follow from. -/
theorem reachable_inv (src : Src) (f n : Nat) (pages : List PageM) : Inv src (after f src n pages) :=
  (clonePages_spec src f pages _ (Inv.init src n)).1

/-- **C20, closure** ("every reference in the new document points to an object of the new document").
    After any sequence of page imports — any source graph, any sharing, failed imports included — every
    reference held by a created object is the number of a created object. -/
theorem clone_closed (src : Src) (f n : Nat) (pages : List PageM) : Closed (after f src n pages) :=
  (reachable_inv src f n pages).closed

/-- **C20, single copy** ("shared source objects are copied once"). The memo has one entry per source
    object, every entry owns exactly one created object and created objects have distinct numbers: a source
    object reached through several pages, several resources or several paths is allocated at most once. -/
theorem clone_once (src : Src) (f n : Nat) (pages : List PageM) : Once (after f src n pages) :=
  (reachable_inv src f n pages).once

/-- **C20, single copy, counted**: the number of objects created equals the number of distinct source
    objects copied. -/
theorem clone_once_count (src : Src) (f n : Nat) (pages : List PageM) :
    (after f src n pages).objs.length = ((after f src n pages).map.map Prod.fst).length ∧
    ((after f src n pages).map.map Prod.fst).Nodup := by
  have h := reachable_inv src f n pages
  refine ⟨?_, h.keys_nodup⟩
  have := congrArg List.length h.ids_eq
  simpa using this

/-- **C20, equality of the copied graph** (stretch `clone_iso`). The copy of a source object carries the
    payload of the source object, has as many references, and its i-th reference is the copy of the
    target of the source object's i-th reference. -/
theorem clone_iso (src : Src) (f n : Nat) (pages : List PageM) : Iso src (after f src n pages) :=
  (reachable_inv src f n pages).iso

/-- Copies are never moved, replaced or dropped by later imports: what the memo says after some pages it
    still says after more pages, and the objects created stay. -/
theorem memo_stable (src : Src) (f n : Nat) (pages more : List PageM) :
    MemoExt (after f src n pages) (after f src n (pages ++ more)) ∧
    ∀ ob ∈ (after f src n pages).objs, ob ∈ (after f src n (pages ++ more)).objs := by
  have h := clonePages_spec src f more _ (reachable_inv src f n pages)
  have e : after f src n (pages ++ more) = (clonePages f src more (after f src n pages)).2 :=
    clonePages_append src f pages more _
  rw [e]
  exact ⟨h.2.map_ext, h.2.objs_ext⟩

/-- **C20, resources** (`pruned_resources_cover_used`, categories ExtGState / Font / XObject / Properties).
    (Premise `= .ok out`: silent about pages from which a reference cycle or a missing object is reachable — those
    are refused, see the header.) When a page
    is imported successfully after any history: for every operation naming a resource of a category
    `deep_clone_op` looks at, if the page's resources have an entry of that name, the new page's resources
    have an entry of the same name that is a copy of it (same payload, references mapped); the new table
    holds nothing else; the page-level references (`metadata`, `lgi`, `vp`, `other`) are mapped. -/
theorem pruned_resources_cover_used (src : Src) (f n : Nat) (before : List PageM) (p : PageM) (out : PageOut)
    (hok : (clonePage f src p (after f src n before)).1 = .ok out) :
    PageOK p out (clonePage f src p (after f src n before)).2 :=
  (clonePage_spec src f p _ (reachable_inv src f n before)).2.2 out hok

/-- … and the entries stay copies when further pages are imported (the memo only grows). -/
theorem pruned_resources_stay (src : Src) (f n : Nat) (before : List PageM) (p : PageM) (more : List PageM)
    (out : PageOut) (hok : (clonePage f src p (after f src n before)).1 = .ok out) :
    PageOK p out (after f src n (before ++ p :: more)) := by
  have h1 := clonePage_spec src f p _ (reachable_inv src f n before)
  have e : after f src n (before ++ p :: more) =
      (clonePages f src more (clonePage f src p (after f src n before)).2).2 := clonePages_append src f before _ _
  rw [e]
  exact (h1.2.2 out hok).mono (clonePages_spec src f more _ h1.1).2.map_ext

/-- **C20, closure, seen from the page**: every reference held by the resources of a successfully imported
    page and by its page-level entries is the number of an object created in the new document. -/
theorem page_refs_closed (src : Src) (f n : Nat) (before : List PageM) (p : PageM) (out : PageOut)
    (hok : (clonePage f src p (after f src n before)).1 = .ok out) :
    (∀ k name pl ks, resGet out.res k name = some (pl, ks) → ∀ r ∈ ks,
        ∃ ob ∈ (clonePage f src p (after f src n before)).2.objs, ob.id = r) ∧
    (∀ r ∈ out.rest, ∃ ob ∈ (clonePage f src p (after f src n before)).2.objs, ob.id = r) := by
  have h1 := clonePage_spec src f p _ (reachable_inv src f n before)
  have ok := h1.2.2 out hok
  exact ⟨fun k name pl ks hg => let ⟨_, _, _, _, hm⟩ := ok.only k name pl ks hg; h1.1.mapped_obj hm,
    h1.1.mapped_obj ok.rest⟩

/-- **Self-contained, the other direction**: the objects the importer creates get numbers the new document
    did not use before (`n` objects existed), so nothing that was there is overwritten. -/
theorem copies_get_fresh_numbers (src : Src) (f n : Nat) (pages : List PageM) :
    ∀ ob ∈ (after f src n pages).objs, n ≤ ob.id := by
  intro ob hob
  have h := (clonePages_spec src f pages _ (Inv.init src n)).2
  rcases h.new_ids ob hob with hb | hb
  · simp [St.init] at hb
  · exact hb

/-- **C20, "importing never panics"**, model level — *true by construction*: the model of the repaired importer has
    no branch that produces `.panic` (`cloneRef`, `cloneOp`, `clonePage` only pass one on), so this says no more
    than that. The clause is carried by the correspondence (outcome `panic` of the implementation would disagree),
    by `d46_old_code_panics` for the code before the repair, and by the oracle, which is where the real panic sites
    were found: `clone_rcref`'s `unwrap` (D46), `to_pdf_stream`'s `assert!` (D47), `Content::from_ops`' `unwrap`
    (D49) — the last two are not in the model at all. -/
theorem import_never_panics (src : Src) (f : Nat) (p : PageM) (st : St) : (clonePage f src p st).1 ≠ .panic :=
  clonePage_ne_panic src f p st

/-- … nor a single clone request (by construction of `cloneRef`, as above). -/
theorem clone_never_panics (src : Src) (f : Nat) (e : Edge) (st : St) : (cloneRef f src e st).1 ≠ .panic :=
  cloneRef_ne_panic src f e st

/-- **C20, termination** (D41 repaired): on *every* finite source — reference cycles included — importing a
    page needs no more recursion depth than the source has objects. `support` lists the existing objects. -/
theorem import_terminates (src : Src) (support : List Nat) (hsup : ∀ o, src o ≠ none → o ∈ support)
    (f n : Nat) (hf : support.length < f) (before : List PageM) (p : PageM) :
    (clonePage f src p (after f src n before)).1 ≠ .oof :=
  clonePage_ne_oof src f support hsup hf p _ (reachable_inv src f n before)
    (clonePages_spec src f before _ (Inv.init src n)).2.pend_eq

/-- **The fuel is a proof device only**: once a page import does not run out of fuel, more fuel changes neither
    the result nor the state — together with `import_terminates` the model's answer for fuel > number of
    source objects is *the* answer of the unbounded recursion in the code. -/
theorem answer_independent_of_fuel (src : Src) (f : Nat) (p : PageM) (st : St)
    (h : (clonePage f src p st).1 ≠ .oof) : clonePage (f + 1) src p st = clonePage f src p st :=
  clonePage_fuel_le src f (f + 1) (Nat.le_succ f) p st h

/-- … likewise for a single clone request and any larger amount of fuel. -/
theorem clone_independent_of_fuel (src : Src) (f f' : Nat) (hle : f ≤ f') (e : Edge) (st : St)
    (h : (cloneRef f src e st).1 ≠ .oof) : cloneRef f' src e st = cloneRef f src e st :=
  cloneRef_fuel_le src f f' hle e st h

/-- **Non-vacuity of "when importing succeeds"**: over a source whose references all lead to existing objects
    and go down a rank (no cycle), the import of a page succeeds after any history — the cycle guard and the
    error paths never reject a well-formed acyclic page. -/
theorem import_succeeds_on_acyclic (src : Src) (rank : Nat → Nat) (hac : Acyclic src rank) (f n : Nat)
    (before : List PageM) (p : PageM) (hedges : ∀ e ∈ pageEdges p, src e.tgt ≠ none ∧ rank e.tgt < f) :
    ∃ out, (clonePage f src p (after f src n before)).1 = .ok out :=
  clonePage_ok_of_acyclic src f rank hac p _ (reachable_inv src f n before)
    (clonePages_spec src f before _ (Inv.init src n)).2.pend_eq hedges

/-- The same clauses for raw clone requests (`clone_plainref` / `clone_ref` / `clone_rcref` called directly). -/
theorem roots_closed_once_iso (src : Src) (f n : Nat) (roots : List Edge) :
    Closed (cloneRoots f src roots (St.init n)).2 ∧ Once (cloneRoots f src roots (St.init n)).2 ∧
    Iso src (cloneRoots f src roots (St.init n)).2 := by
  have h := (cloneRoots_spec src f roots _ (Inv.init src n)).1
  exact ⟨h.closed, h.once, h.iso⟩

/-- A request for an object that already has a copy returns that copy and creates nothing. -/
theorem second_request_is_a_hit (src : Src) (f : Nat) (k : Kind) (r n : Nat) (st : St)
    (hk : k ≠ .rc) (hl : lk st.map r = some n) : cloneRef (f + 1) src ⟨k, r⟩ st = (.ok n, st) := by
  cases k with
  | prim => simp [cloneRef, hl]
  | ref => simp [cloneRef, hl]
  | rc => exact absurd rfl hk

/-! ## Pages in the page tree: inherited attributes, the two entry points (`clone_page`, `from_page`) -/

/-- the state after importing a sequence of pages given with their place in the page tree -/
def afterT (f : Nat) (src : Src) (n : Nat) (pages : List PageT) : St := (clonePagesT f src pages (St.init n)).2

/-- Importing pages of the tree reaches only states that satisfy the invariant: closure, single copy and
    equality of the copied graph hold for them exactly as for `after`. -/
theorem tree_pages_closed_once_iso (src : Src) (f n : Nat) (pages : List PageT) :
    Closed (afterT f src n pages) ∧ Once (afterT f src n pages) ∧ Iso src (afterT f src n pages) := by
  have h := (clonePagesT_spec src f pages _ (Inv.init src n)).1
  exact ⟨h.closed, h.once, h.iso⟩

/-- **C20, boxes and resources of a page in the tree** (`clone_page`). The *box* fields (`media`, `crop`, `trim`,
    `rotate`) restate the definition of `clonePageT` — their content is the use of `nearest` (characterised by
    `nearest_is_first`, composed in `tree_page_boxes_first_on_the_way_up`) and the correspondence that ties
    `clonePageT` to the code; the *resource* field (`PageOK` over the nearest dictionary) follows from the invariant.
    Premise `= .ok out`: silent about refused (cyclic / dangling) pages. When the import of a page succeeds after
    any history, the new page's own /MediaBox is the entry of the nearest node (page, parent, grand-parent, …)
    that has one, its /CropBox likewise and the media box if no node has one, its /TrimBox the page's own; its
    resources are the pruned copy (`PageOK`: per category *and* name — the same name in two categories is two
    entries) of the nearest /Resources dictionary, taken whole. -/
theorem tree_page_attributes (src : Src) (f n : Nat) (before : List PageT) (pt : PageT) (out : PageOutT)
    (hok : (clonePageT f src pt (afterT f src n before)).1 = .ok out) :
    PageTOK pt out (clonePageT f src pt (afterT f src n before)).2 :=
  (clonePageT_spec src f pt _ (clonePagesT_spec src f before _ (Inv.init src n)).1).2.2 out hok

/-- `nearest` is "the first entry on the way up": the chosen value is an entry of the chain and every
    node below it has none. -/
theorem nearest_is_first {α : Type} (c : List (Option α)) (v : α) (h : nearest c = some v) :
    ∃ i : Nat, c[i]? = some (some v) ∧ ∀ j : Nat, j < i → c[j]? = some none :=
  nearest_spec c v h

/-- **The other entry point** (`from_page`): same effective boxes; the effective resource dictionary whole
    (minus the category the typed `Resources` has no field for). This reads the definition of `fromPageT` back: it is
    a statement about the *model*, made in terms of `nearest`; that `PageBuilder::from_page` behaves like `fromPageT`
    is the correspondence stream `c20.frompage` / `c20.frompage.exhaustive`, not a theorem. The independent
    characterisation of the chosen entries is `from_page_boxes_first_on_the_way_up`. -/
theorem from_page_attributes (pt : PageT) (out : FromOut) (hok : fromPageT pt = .ok out) :
    nearest pt.media = some out.media ∧ out.crop = (nearest pt.crop).getD out.media ∧ out.trim = pt.trim ∧
    out.rotate = pt.ownRotate ∧ ∃ r, nearest pt.resChain = some r ∧ out.res = typedRes r := by
  simp only [fromPageT] at hok
  cases hm : nearest pt.media with
  | none => simp [hm] at hok
  | some m =>
    cases hr : nearest pt.resChain with
    | none => simp [hm, hr] at hok
    | some r =>
      simp only [hm, hr, Out.ok.injEq] at hok
      subst hok
      exact ⟨rfl, rfl, rfl, rfl, r, rfl, rfl⟩

/-- **Boxes, stated without `nearest`**: the /MediaBox of a successfully imported page is the entry of some node `i`
    steps up (0 = the page itself) and no node below `i` has a /MediaBox; the /CropBox is such an entry of the
    /CropBox chain, or — when *no* node on the way up has a /CropBox — the media box. -/
theorem tree_page_boxes_first_on_the_way_up (src : Src) (f n : Nat) (before : List PageT) (pt : PageT) (out : PageOutT)
    (hok : (clonePageT f src pt (afterT f src n before)).1 = .ok out) :
    (∃ i : Nat, pt.media[i]? = some (some out.media) ∧ ∀ j : Nat, j < i → pt.media[j]? = some none) ∧
    ((∃ i : Nat, pt.crop[i]? = some (some out.crop) ∧ ∀ j : Nat, j < i → pt.crop[j]? = some none) ∨
     (nearest pt.crop = none ∧ out.crop = out.media)) := by
  have h := tree_page_attributes src f n before pt out hok
  exact ⟨nearest_is_first _ _ h.media, nearest_getD_spec h.crop⟩

/-- `nearest c = none` means what it should: no node on the way up has the entry. -/
theorem nearest_none_iff {α : Type} (c : List (Option α)) : nearest c = none ↔ ∀ x ∈ c, x = none := by
  induction c with
  | nil => simp [nearest]
  | cons x c ih =>
    cases x with
    | some v => simp [nearest]
    | none => simp [nearest, ih]

/-- the same for `from_page` -/
theorem from_page_boxes_first_on_the_way_up (pt : PageT) (out : FromOut) (hok : fromPageT pt = .ok out) :
    (∃ i : Nat, pt.media[i]? = some (some out.media) ∧ ∀ j : Nat, j < i → pt.media[j]? = some none) ∧
    ((∃ i : Nat, pt.crop[i]? = some (some out.crop) ∧ ∀ j : Nat, j < i → pt.crop[j]? = some none) ∨
     ((∀ x ∈ pt.crop, x = none) ∧ out.crop = out.media)) := by
  obtain ⟨hm, hcrop, _⟩ := from_page_attributes pt out hok
  exact ⟨nearest_is_first _ _ hm, (nearest_getD_spec hcrop).imp_right (And.imp_left (nearest_none_iff _).mp)⟩

/-- `clone_page` on a page of the tree: no `.panic` outcome — by construction of `clonePageT`, see
    `import_never_panics`. -/
theorem tree_import_never_panics (src : Src) (f : Nat) (pt : PageT) (st : St) : (clonePageT f src pt st).1 ≠ .panic :=
  clonePageT_ne_panic src f pt st

/-- The rotation clause as the property states it: the new page has the source page's rotation, i.e. the
    /Rotate of the nearest node that has one (0 if none). -/
def C20_rotate_full : Prop :=
  ∀ (src : Src) (f n : Nat) (before : List PageT) (pt : PageT) (out : PageOutT),
    (clonePageT f src pt (afterT f src n before)).1 = .ok out → out.rotate = (nearest pt.rotate).getD 0

/-- proved part: the page has its own /Rotate, or no ancestor has one -/
theorem C20_rotate_partial (src : Src) (f n : Nat) (before : List PageT) (pt : PageT) (out : PageOutT)
    (hok : (clonePageT f src pt (afterT f src n before)).1 = .ok out)
    (hown : (pt.rotate.head?.join).isSome = true ∨ nearest pt.rotate = none) :
    out.rotate = (nearest pt.rotate).getD 0 := by
  have h := (tree_page_attributes src f n before pt out hok).rotate
  rw [h]
  simp only [PageT.ownRotate]
  cases hc : pt.rotate with
  | nil => rfl
  | cons x c =>
    cases x with
    | some v => rfl
    | none =>
      rw [hc] at hown
      rcases hown with h1 | h1
      · simp at h1
      · rw [h1]; rfl

/-- **open**: the library reads only the page's own /Rotate (`PageTree` has no such field): a page below a
    /Pages node with /Rotate 90 is imported unrotated. -/
theorem C20_rotate_counterexample : ¬ C20_rotate_full := by
  intro h
  have := h (srcOf []) 1 0 [] ⟨[], [some []], [some 1], [none], none, [none, some 90], []⟩
    ⟨[], [], 1, 1, none, 0⟩ (by decide)
  simp [nearest] at this

/-- non-vacuity: a page that takes everything from its grand-parent, with one name in two categories -/
example : clonePageT 5 (srcOf [(1, ⟨7, [], []⟩), (2, ⟨8, [], []⟩)])
      ⟨[.use .xobject 1, .use .font 1, .use .xobject 1], [none, none, some [((.font, 1), ⟨0, [⟨.prim, 1⟩]⟩), ((.xobject, 1), ⟨0, [⟨.ref, 2⟩]⟩)]],
        [none, none, some 3], [none, some 44, some 45], some 81, [some 90, none, some 180], []⟩ (St.init 0) =
    (.ok ⟨[((.font, 1), (0, [1])), ((.xobject, 1), (0, [0]))], [], 3, 44, some 81, 90⟩,
      ⟨[(1, 1), (2, 0)], [], [], 2, [⟨1, 7, []⟩, ⟨0, 8, []⟩]⟩) := by decide

/-! ## Regressions: the code before the repairs -/

/-- **D41** (fixed). Before the cycle guard, an object whose first reference leads back to itself made
    `clone_*` recurse without bound: for every amount of fuel the old cloner runs out of it. -/
theorem d41_old_code_diverges (payload : Nat) (f : Nat) :
    (Old.cloneRef f (srcOf [(1, ⟨payload, [⟨.prim, 1⟩], [⟨.prim, 1⟩]⟩)]) ⟨.prim, 1⟩ (St.init 0)).1 = .oof :=
  Old.selfloop_diverges _ 1 ⟨payload, [⟨.prim, 1⟩], [⟨.prim, 1⟩]⟩ rfl
    (fun k => by cases k <;> exact ⟨.prim, [], rfl⟩) f .prim (St.init 0) rfl

/-- the repaired cloner reports the cycle -/
example : (cloneRef 5 (srcOf [(1, ⟨7, [⟨.prim, 1⟩], [⟨.prim, 1⟩]⟩)]) ⟨.prim, 1⟩ (St.init 0)).1 = .err := by decide

/-- a two-object cycle reached below a shared object: reported as well, and the state stays clean -/
example : cloneRef 9 (srcOf [(1, ⟨1, [⟨.prim, 2⟩], []⟩), (2, ⟨2, [⟨.prim, 3⟩, ⟨.prim, 1⟩], []⟩), (3, ⟨3, [], []⟩)])
    ⟨.prim, 1⟩ (St.init 0) = (.err, ⟨[(3, 0)], [], [], 1, [⟨0, 3, []⟩]⟩) := by decide

/-- **What the repaired importer does with a cyclic page**: an object whose references (for the kind of edge it is
    reached by) lead straight back to itself is refused with `.err` — for every amount of fuel ≥ 2, whatever else the
    importer has done before, as long as the object has no copy yet. (The general statement "a reachable cycle ⇒
    `.err`" is not proved; `import_terminates` gives "not `.oof`" and `import_never_panics` "not `.panic`" on every
    finite source, the examples below show `.err` on longer cycles.) Consequently every theorem with premise
    `… = .ok out` is silent about such pages; see the header for why that is within the property. -/
theorem cyclic_page_is_rejected (src : Src) (r : Nat) (node : Node) (k : Kind) (f : Nat) (st : St)
    (hs : src r = some node) (hk : ∃ k' rest, node.kids k = ⟨k', r⟩ :: rest) (hl : lk st.map r = none)
    (hp : r ∉ st.pending) : (cloneRef (f + 2) src ⟨k, r⟩ st).1 = .err := by
  obtain ⟨k', rest, hkids⟩ := hk
  have hh : ∀ k' s, s.map = st.map → hit? ⟨k', r⟩ s = none := fun k' s hm => by simp [hit?, hm, hl]
  -- the first reference is followed with `r` pending: refused
  have inner : cloneRef (f + 1) src ⟨k', r⟩ (st.push r) = (.err, st.push r) := by
    rw [cloneRef_succ, step, hh k' (st.push r) rfl]
    exact if_pos List.mem_cons_self
  rw [cloneRef_succ, step, hh k st rfl]
  simp only [hp, if_false, hs, walk, hkids, mapSt_cons, inner, seq]

/-- **Sharing and a cycle elsewhere.** Objects 1–4 form a shared acyclic part (1 → 3, 2 → 3 and 4, 3 → 4), objects
    5 ⇄ 6 a cycle. Page A (ExtGState → 1, font → 2) imports; page C (font → 5) is refused and leaves the state as it
    was; page A′ (font → 2 again, page entry → 3) imports after the refusal, re-using the copies: four objects in
    all, one per source object reached, none for 5 and 6. -/
theorem acyclic_page_beside_a_cycle_imports :
    clonePages 7
      (srcOf [(1, ⟨11, [⟨.prim, 3⟩], []⟩), (2, ⟨12, [⟨.prim, 3⟩, ⟨.prim, 4⟩], []⟩), (3, ⟨13, [⟨.prim, 4⟩], []⟩),
              (4, ⟨14, [], []⟩), (5, ⟨15, [⟨.prim, 6⟩], []⟩), (6, ⟨16, [⟨.prim, 4⟩, ⟨.prim, 5⟩], []⟩)])
      [⟨[.use .gs 1, .use .font 2], [((.gs, 1), ⟨100, [⟨.prim, 1⟩]⟩), ((.font, 2), ⟨0, [⟨.prim, 2⟩]⟩)], []⟩,
       ⟨[.use .font 9], [((.font, 9), ⟨0, [⟨.prim, 5⟩]⟩)], []⟩,
       ⟨[.use .font 2], [((.font, 2), ⟨0, [⟨.prim, 2⟩]⟩)], [⟨.prim, 3⟩]⟩] (St.init 0) =
    ([.ok ⟨[((.font, 2), (0, [3])), ((.gs, 1), (100, [2]))], []⟩, .err, .ok ⟨[((.font, 2), (0, [3]))], [1]⟩],
     ⟨[(2, 3), (1, 2), (3, 1), (4, 0)], [], [], 4,
      [⟨3, 12, [1, 0]⟩, ⟨2, 11, [1]⟩, ⟨1, 13, [0]⟩, ⟨0, 14, []⟩]⟩) := by decide

/-- **D46** (fixed). Before the repair `clone_rcref` on an object already copied through a plain reference
    hit `rcrefs.get(..).unwrap()` on `None`. -/
theorem d46_old_code_panics :
    (Old.cloneRef 3 (srcOf [(1, ⟨7, [], []⟩)]) ⟨.rc, 1⟩
      (Old.cloneRef 3 (srcOf [(1, ⟨7, [], []⟩)]) ⟨.prim, 1⟩ (St.init 0)).2).1 = .panic := by decide

/-- the repaired cloner returns the existing copy and allocates nothing -/
example : cloneRef 3 (srcOf [(1, ⟨7, [], []⟩)]) ⟨.rc, 1⟩
      (cloneRef 3 (srcOf [(1, ⟨7, [], []⟩)]) ⟨.prim, 1⟩ (St.init 0)).2 =
    (.ok 0, ⟨[(1, 0)], [0], [], 1, [⟨0, 7, []⟩]⟩) := by decide

/-! ## Non-vacuity: a concrete shared, acyclic document satisfies the hypotheses and exercises every clause -/

/-- objects 1..4: 1 and 2 both refer to 3, 3 refers to 4 (typed: through an `RcRef`) -/
def demoNodes : List (Nat × Node) :=
  [(1, ⟨11, [⟨.prim, 3⟩], [⟨.prim, 3⟩]⟩), (2, ⟨12, [⟨.prim, 3⟩, ⟨.prim, 4⟩], [⟨.ref, 3⟩, ⟨.rc, 4⟩]⟩),
   (3, ⟨13, [⟨.prim, 4⟩], [⟨.rc, 4⟩]⟩), (4, ⟨14, [], []⟩)]
def demoSrc : Src := srcOf demoNodes

/-- page A names an ExtGState (→ object 1), a font (→ 2) and a colour space; page B names the same font -/
def demoA : PageM := ⟨[.use .gs 1, .other 0, .use .font 2, .use .colorspace 5, .use .gs 1],
  [((.gs, 1), ⟨100, [⟨.prim, 1⟩]⟩), ((.font, 2), ⟨0, [⟨.ref, 2⟩]⟩), ((.colorspace, 5), ⟨500, [⟨.prim, 4⟩]⟩)], [⟨.prim, 4⟩]⟩
def demoB : PageM := ⟨[.use .font 2, .inline [⟨.rc, 4⟩]], [((.font, 2), ⟨0, [⟨.ref, 2⟩]⟩)], []⟩

def demoRank : Nat → Nat := fun o => 5 - o

/-- the hypotheses of `import_succeeds_on_acyclic` are satisfiable: the demo source is acyclic … -/
example : Acyclic demoSrc demoRank := acyclic_of_check demoNodes demoRank (by decide)

/-- … and every reference of the demo pages leads to an existing object of rank below the fuel -/
example : ∀ e ∈ pageEdges demoA ++ pageEdges demoB, demoSrc e.tgt ≠ none ∧ demoRank e.tgt < 6 := by decide

/-- both pages import; four source objects are copied into four objects although 3 and 4 are reached several
    times; the colour space named by page A is *not* in the new resources (D40) -/
example : clonePages 6 demoSrc [demoA, demoB] (St.init 0) =
    ([.ok ⟨[((.font, 2), (0, [3])), ((.gs, 1), (100, [2]))], [0]⟩, .ok ⟨[((.font, 2), (0, [3]))], []⟩],
     ⟨[(2, 3), (1, 2), (3, 1), (4, 0)], [0], [], 4,
      [⟨3, 12, [1, 0]⟩, ⟨2, 11, [1]⟩, ⟨1, 13, [0]⟩, ⟨0, 14, []⟩]⟩) := by decide

/-! ## Full strength and what is still open (D40) -/

/-- The resource clause as the property states it: **every** resource the operations name — whatever its
    category — is copied into the new page's resources. -/
def C20_full : Prop :=
  ∀ (src : Src) (f n : Nat) (before : List PageM) (p : PageM) (out : PageOut),
    (clonePage f src p (after f src n before)).1 = .ok out →
    ∀ k name, OpM.use k name ∈ p.ops → ∀ ent, resGet p.res k name = some ent →
      ∃ ks, resGet out.res k name = some (ent.payload, ks) ∧
        Mapped (clonePage f src p (after f src n before)).2.map ent.kids ks

/-- The proved part: the categories `deep_clone_op` handles (the explicit, decidable exclusion is
    `handled k = true`, i.e. k ∈ {ExtGState, Font, XObject, Properties}). -/
theorem C20_partial (src : Src) (f n : Nat) (before : List PageM) (p : PageM) (out : PageOut)
    (hok : (clonePage f src p (after f src n before)).1 = .ok out)
    (k : RKind) (name : Nat) (hop : OpM.use k name ∈ p.ops) (hk : handled k = true)
    (ent : Entry) (hent : resGet p.res k name = some ent) :
    ∃ ks, resGet out.res k name = some (ent.payload, ks) ∧
      Mapped (clonePage f src p (after f src n before)).2.map ent.kids ks :=
  (pruned_resources_cover_used src f n before p out hok).cover k name hop hk ent hent

/-- **D40** (open): a page that sets a named colour space imports "successfully" without it. The same
    witness with `.pattern` or `.shading` behaves alike (`.properties` is copied since its repair). -/
theorem C20_counterexample : ¬ C20_full := by
  intro h
  have := h (srcOf []) 1 0 [] ⟨[.use .colorspace 1], [((.colorspace, 1), ⟨5, []⟩)], []⟩ ⟨[], []⟩ (by decide)
    .colorspace 1 (by simp) ⟨5, []⟩ (by decide)
  obtain ⟨ks, hks, _⟩ := this
  simp [resGet] at hks

example : ∀ k, handled k = false ↔ k = .colorspace ∨ k = .pattern ∨ k = .shading := by
  intro k; cases k <;> simp [handled]

end Import
