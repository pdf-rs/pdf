import PdfModel.Lemmas.Dangling
import PdfModel.Props.C15

/-!
# C18 — references to missing or free objects read as null

Model: the interpreter of `Model/Derive.lean` (the derived reader, the `Option` reader and the other container
impls, `Lazy::load`; `Cfg.peel = true` is the repaired tree, `false` the pinned commit) and `Model/Dangling.lean`
(where `resolve_ref`'s three missing-object errors come from, which wrappers they pick up, which reader resolves a
reference and which keeps it). Data: `Generated/Schemas.lean`, regenerated by the translator on every run.

* the decision logic of the `Option` reader, outright over the finite domain
  {free, gap, beyond} × {bare, `Shared`, `Try`, `Try(Shared)`, `Shared(Try(Shared))`} × {strict, tolerant}
  (`dangling_optional_is_none`; at the pinned commit only the two bare cases worked: `pinned_option_reader_only_bare`);
* lifted to every derived reader: an entry that refers to a missing object is read exactly like no entry — the
  result of `from_dict` on the dictionary equals the result on the dictionary without the entry, value or error
  (`dangling_entry_read_as_absent` for every well-formed schema over any leaf semantics that resolves;
  `registry_dangling_entry_read_as_absent` for every field of every model of the generated registry whose type is
  modelled) — hence `None` / empty / the default for optional, `Vec` / `HashMap` and defaulted fields
  (`optional_field_is_none`, `defaulted_field_takes_default`), and `MissingEntry` naming the field for a required
  one (`required_dangling_names_entry`);
* `Lazy::load` (`lazy_load_dangling`).
The modelled readers contain no panicking operation (no indexing, `unwrap`, arithmetic): outcomes are values or
errors by construction; `dangling_read_is_value_or_named_error` records that no fuel is consumed either.
-/

namespace C18
open Derive Generated

/-! ## translator obligations -/

/-- the `Option` reader of the tree under test answers `None` for all three missing-object errors and looks through
    `Try` and `Shared` (extracted from `impl Object for Option<T>` and `PdfError::is_missing_object`); any other
    error becomes `None` only under `allow_error_in_option` -/
theorem option_reader_sees_missing_objects :
    (["NullRef", "FreeObject", "UnspecifiedXRefEntry"].all fun k => optionReaderMissingKinds.contains k) = true ∧
    (["Try", "Shared"].all fun k => optionReaderPeeled.contains k) = true ∧
    optionReaderTolerantFlag = some "allow_error_in_option" := by decide +kernel

/-- hand-written types whose reader is not modelled in Lean: validated on the implementation only (C18 oracle) -/
def harnessOnlyLeaves : List String :=
  ["Date", "Font", "ColorSpace", "AppearanceStreamEntry", "Pattern", "Dest", "Content", "CidToGidMap", "Action",
   "Stream", "NameTree", "NumberTree"]

/-- every keyed field of every (non-generic) derived struct is classified: its reader resolves a reference, or
    keeps it unresolved, or it involves one of the listed hand-written types; the one generic struct (`Files<T>`)
    is classified at the instantiation that occurs (`T = Ref<Stream<EmbeddedFile>>`: references are kept) -/
theorem registry_fields_classified :
    (∀ S ∈ generatedSchemas, ∀ f ∈ S.keyed,
      (!S.params.isEmpty || f.shape.dclass generatedSchemas != .unmodelled
        || f.shape.leaves.any harnessOnlyLeaves.contains) = true) ∧
    (∀ f ∈ (s_Files.inst (.ref (.leafApp "Stream" (.model "EmbeddedFile")))).keyed,
      f.shape.dclass generatedSchemas = .keeps) := by
  decide +kernel

/-- the only ways for an entry to be optional: `Option`, the containers that read `null` as empty, `Lazy`,
    `Primitive` / `()`, or a `default` -/
def Shape.nullable : Shape → Bool
  | .option _ | .vec _ | .hashMap _ | .lazy _ => true
  | .leaf n => n == "Primitive" || n == "()"
  | .box a | .maybeRef a => Shape.nullable a
  | _ => false

theorem optional_fields_use_option_reader :
    ∀ S ∈ generatedSchemas, ∀ f ∈ S.keyed, Shape.nullable f.shape = true →
      (f.shape.isOption ||
        (match f.shape with
          | .vec _ | .hashMap _ | .lazy _ => true
          | .leaf n => n == "Primitive"
          | _ => false)) = true := by decide +kernel

/-! ## the decision logic, outright -/

/-- **every kind of missing object, through every wrapper, in both modes: `None`** -/
theorem dangling_optional_is_none :
    ∀ k ∈ DKind.all, ∀ w ∈ Path.all, ∀ tolerant : Bool,
      optionDecision ⟨true⟩ tolerant (w.wrap (rootErr k)) = .none := by decide

/-- D38: at the pinned commit, in strict mode, only a bare `FreeObject` / `NullRef` was recognised — nothing that
    had passed through `get` (`Shared`) or `t!` (`Try`), and no object number beyond the table -/
theorem pinned_option_reader_only_bare :
    ∀ k ∈ DKind.all, ∀ w ∈ Path.all,
      (optionDecision ⟨false⟩ false (w.wrap (rootErr k)) = .none ↔ (w = .direct ∧ k ≠ .beyond)) := by decide

/-! ## lifted to every derived reader -/

theorem missingAt_without (env : Env) (r g : Nat) (k : DKind) : MissingAt (env.without r k) (.ref r g) :=
  ⟨rfl, rootErr k, by simp [resolveP, Env.without], rootErr_isMissing k⟩

/-- **an entry that refers to a missing object is read like no entry**, for the derived reader of every
    well-formed schema over any leaf semantics whose readers resolve (repaired tree) -/
theorem dangling_entry_read_as_absent (sem : Sem) (env : Env) (schemas : List Schema) (hd : 1 ≤ env.depth)
    (S : Schema) (hk : S.kind = .struct) (hrd : S.derivesRead = true) (wf : S.WF)
    (f : Field) (hf : f ∈ S.fields) (hfo : f.other = false)
    (hdef : f.default.isNone = true ∨ f.shape.isOption = false)
    (hc : f.shape.dclass schemas = .resolves)
    (p : Prim) (hm : MissingAt env p) (hsem : sem.ResolvesMissing env schemas p)
    (d : Dict) (hget : dget (keyOf f) d = some p) :
    readStructD ⟨true⟩ sem env S d = readStructD ⟨true⟩ sem env S (derase (keyOf f) d) :=
  struct_without_entry ⟨true⟩ sem env S hk hrd wf f hf hfo d p hget
    (readField_dangling ⟨true⟩ rfl sem env schemas hd f hdef hc p hm hsem)

theorem field_wf_default {S : Schema} (hk : S.kind = .struct) (wf : S.WF) (f : Field) (hf : f ∈ S.fields) :
    f.default.isNone = true ∨ f.shape.isOption = false := by
  have h : S.structWf = true := by simpa [Schema.WF, Schema.wf, hk] using wf
  simp only [Schema.structWf, Bool.and_eq_true] at h
  have hall : ∀ g ∈ S.fields, Field.wf S.params g = true := by simpa using h.1.1.1.1.1
  have hfw := hall f hf
  -- the conjunct of `Field.wf` wanted is the fifth of seven: no `default` on an `Option` field
  simp only [Field.wf, Bool.and_eq_true] at hfw
  have := hfw.1.1.2
  simpa using this

/-- … for every field of every model of the generated registry whose reader is MODELLED AND RESOLVES (`hc`:
    `dclass = .resolves`), every kind of missing object (`MissingAt`), strict and tolerant, every nesting depth.
    Coverage: of the 249 optional / defaulted keyed fields of the registry, 190 satisfy `hc`; the remaining 59 keep the
    reference unresolved (`Ref`, `Lazy`: nothing to read) or involve a hand-written reader that is not modelled in Lean
    (`harnessOnlyLeaves`) — for those the statement is validated on the implementation only (C18 oracle). The split is
    what `registry_fields_classified` discloses. Note also that `dangling_entry_read_as_absent`, which this instantiates,
    follows closely from the repaired-reader branch of the model (`cfg.peel`): its content is that the branch is reached
    for every field shape and every way a missing object surfaces (`Path`, `DKind`), and the correspondence stream ties
    that branch to the code. -/
theorem registry_dangling_entry_read_as_absent (S : Schema) (hS : S ∈ generatedSchemas)
    (hk : S.kind = .struct) (hrd : S.derivesRead = true)
    (f : Field) (hf : f ∈ S.fields) (hfo : f.other = false)
    (hc : f.shape.dclass generatedSchemas = .resolves)
    (env : Env) (hd : 1 ≤ env.depth) (n : Nat) (p : Prim) (hm : MissingAt env p)
    (d : Dict) (hget : dget (keyOf f) d = some p) :
    readStructD ⟨true⟩ (semN ⟨true⟩ generatedSchemas (n + 1)) env S d
      = readStructD ⟨true⟩ (semN ⟨true⟩ generatedSchemas (n + 1)) env S (derase (keyOf f) d) :=
  dangling_entry_read_as_absent _ env generatedSchemas hd S hk hrd (C15.all_schemas_wf S hS) f hf hfo
    (field_wf_default hk (C15.all_schemas_wf S hS) f hf) hc p hm
    (semN_resolves_missing ⟨true⟩ generatedSchemas env p hm hd n) d hget

/-- an `Option` entry that refers to a missing object is `None` -/
theorem optional_field_is_none (sem : Sem) (env : Env) (schemas : List Schema) (hd : 1 ≤ env.depth)
    (f : Field) (a : Shape) (hs : f.shape = .option a) (hdn : f.default = none)
    (hc : f.shape.dclass schemas = .resolves) (p : Prim) (hm : MissingAt env p)
    (hsem : sem.ResolvesMissing env schemas p) (acc : List Val) :
    readField ⟨true⟩ sem env f acc (some p) = .ok .none := by
  rw [readField_dangling ⟨true⟩ rfl sem env schemas hd f (Or.inl (by simp [hdn])) hc p hm hsem acc]
  simp [readField, hdn, readPlain, readAbsent, hs, readShape]

/-- a defaulted entry (`/Rotate 7 0 R`) that refers to a missing object takes the default -/
theorem defaulted_field_takes_default (sem : Sem) (env : Env) (schemas : List Schema) (hd : 1 ≤ env.depth)
    (f : Field) (dx : String) (hdx : f.default = some dx) (hno : f.shape.isOption = false)
    (hc : f.shape.dclass schemas = .resolves) (p : Prim) (hm : MissingAt env p)
    (hsem : sem.ResolvesMissing env schemas p) (acc : List Val) :
    readField ⟨true⟩ sem env f acc (some p) = sem.dflt dx acc := by
  rw [readField_dangling ⟨true⟩ rfl sem env schemas hd f (Or.inr hno) hc p hm hsem acc]
  simp [readField, hdx, readDefaulted]

/-- a required entry that refers to a missing object is reported as an error naming the entry -/
theorem required_dangling_names_entry (sem : Sem) (env : Env) (schemas : List Schema) (hd : 1 ≤ env.depth)
    (f : Field) (hdn : f.default = none) (e0 : Err) (hreq : readShape ⟨true⟩ sem env f.shape .null = .error e0)
    (hc : f.shape.dclass schemas = .resolves) (p : Prim) (hm : MissingAt env p)
    (hsem : sem.ResolvesMissing env schemas p) (acc : List Val) :
    readField ⟨true⟩ sem env f acc (some p) = .error (.missingEntry f.ident) := by
  rw [readField_dangling ⟨true⟩ rfl sem env schemas hd f (Or.inl (by simp [hdn])) hc p hm hsem acc]
  simp [readField, hdn, readPlain, readAbsent, hreq]

/-- reading an entry that refers to a missing object gives a value or the error naming the entry: no other
    outcome, in particular no exhausted fuel -/
theorem dangling_read_is_value_or_named_error (sem : Sem) (env : Env) (schemas : List Schema) (hd : 1 ≤ env.depth)
    (f : Field) (hdn : f.default = none)
    (hc : f.shape.dclass schemas = .resolves) (p : Prim) (hm : MissingAt env p)
    (hsem : sem.ResolvesMissing env schemas p) (acc : List Val) :
    (∃ v, readField ⟨true⟩ sem env f acc (some p) = .ok v) ∨
      readField ⟨true⟩ sem env f acc (some p) = .error (.missingEntry f.ident) := by
  rw [readField_dangling ⟨true⟩ rfl sem env schemas hd f (Or.inl (by simp [hdn])) hc p hm hsem acc]
  simp only [readField, hdn, readPlain, readAbsent]
  cases readShape ⟨true⟩ sem env f.shape .null with
  | ok v => exact Or.inl ⟨v, rfl⟩
  | error e => exact Or.inr rfl

/-- `Lazy::load` on a reference to a missing object loads what `null` reads as (the empty list for `/Annots`) -/
theorem lazy_load_dangling (sem : Sem) (env : Env) (a : Shape) (p : Prim) (hm : MissingAt env p) :
    lazyLoad ⟨true⟩ sem env a (.lazy p) =
      match readShape ⟨true⟩ sem env a .null with
      | .ok v => .ok (.direct v)
      | .error e => .error e := by
  obtain ⟨hr, e, he, hmiss⟩ := hm
  simp only [lazyLoad, hr, getTyped, he, isMissing_shared hmiss, if_true, Bool.true_and]
  cases readShape ⟨true⟩ sem env a .null <;> rfl

/-- access path *array element*: `Option<Vec<T>>` whose array has an element referring to a missing object is `None`
    (the elements before it being readable). This is the `Option<Vec<T>>` case only. For a plain `Vec<T>` field (no
    `Option`) there is NO theorem of its own here: `dangling_entry_read_as_absent` covers such a field when the ENTRY itself
    is the dangling reference (`Shape.dclass (.vec _) = .resolves`), not when an element of its array is — the
    behaviour of plain `Vec` fields with a dangling element is checked on the implementation by the C18 oracle only -/
theorem optional_array_with_dangling_element_is_none (sem : Sem) (env : Env) (a : Shape) (pre post : List Prim)
    (p : Prim) (hpre : ∀ y ∈ pre, ∃ v, readShape ⟨true⟩ sem env a y = .ok v)
    (hm : ReadsMissing ⟨true⟩ sem env a p) :
    readShape ⟨true⟩ sem env (.option (.vec a)) (.arr (pre ++ p :: post)) = .ok .none :=
  option_of_reads_missing ⟨true⟩ rfl sem env (.vec a) _ (vec_element_reads_missing ⟨true⟩ sem env a pre post p hpre hm) rfl

/-- access path *dictionary value*: `Option<HashMap<Name, T>>` -/
theorem optional_map_with_dangling_value_is_none (sem : Sem) (env : Env) (a : Shape) (pre post : List (String × Prim))
    (k : String) (p : Prim) (hpre : ∀ y ∈ pre, ∃ v, readShape ⟨true⟩ sem env a y.2 = .ok v)
    (hm : ReadsMissing ⟨true⟩ sem env a p) :
    readShape ⟨true⟩ sem env (.option (.hashMap a)) (.dict (pre ++ (k, p) :: post)) = .ok .none :=
  option_of_reads_missing ⟨true⟩ rfl sem env (.hashMap a) _ (map_value_reads_missing ⟨true⟩ sem env a pre post k p hpre hm) rfl

/-! ## the pinned commit (D38), as checked counter-examples -/

def strictEnv : Env := { resolve := fun _ => .error .nullRef, tolerant := false, depth := 4 }
def tolerantEnv : Env := { resolve := fun _ => .error .nullRef, tolerant := true, depth := 4 }

/-- `Option<MaybeRef<i32>>` on a reference into a gap, strict mode, pinned reader: `Shared(NullRef)`, not `None` -/
theorem pinned_optional_via_get_fails :
    readShape ⟨false⟩ baseSem (strictEnv.without 7 .gap) (.option (.maybeRef (.leaf "i32"))) (.ref 7 0)
      = .error (.shared .nullRef) :=
  rfl

/-- `Option<i32>` on an object number beyond the table, strict mode, pinned reader: `Try(Unspecified)` -/
theorem pinned_optional_beyond_fails :
    readShape ⟨false⟩ baseSem (strictEnv.without 7 .beyond) (.option (.leaf "i32")) (.ref 7 0)
      = .error (.tryE .unspecified) :=
  rfl

def rotateField : Field :=
  { ident := "rotate", key := some "Rotate", default := some "0", other := false, skip := false, indirect := false, shape := .leaf "i32" }

/-- `/Rotate 7 0 R` (defaulted field) with object 7 free: an error even in tolerant mode at the pinned commit;
    the default after the repair -/
theorem pinned_defaulted_field_fails :
    readField ⟨false⟩ baseSem (tolerantEnv.without 7 .free) rotateField [] (some (.ref 7 0))
      = .error (.fromPrimitive "rotate" .freeObject) ∧
    readField ⟨true⟩ baseSem (tolerantEnv.without 7 .free) rotateField [] (some (.ref 7 0))
      = baseSem.dflt "0" [] :=
  ⟨rfl, rfl⟩

/-! ## non-vacuity -/

/-- the hypotheses of `registry_dangling_entry_read_as_absent` are satisfiable: `Page`, its `/Resources` entry
    (`Option<MaybeRef<Resources>>`, read through `get`), object 7 in a gap -/
example : s_Page ∈ generatedSchemas ∧ s_Page.kind = .struct ∧ s_Page.derivesRead = true ∧
    (∃ f ∈ s_Page.fields, f.ident = "resources" ∧ f.other = false ∧ f.shape.dclass generatedSchemas = .resolves) ∧
    MissingAt (strictEnv.without 7 .gap) (.ref 7 0) ∧ 1 ≤ (strictEnv.without 7 .gap).depth := by
  refine ⟨by simp [generatedSchemas], rfl, rfl, ⟨_, List.mem_cons_of_mem _ (List.mem_cons_self ..), rfl, rfl, by decide⟩,
    missingAt_without strictEnv 7 0 .gap, by decide⟩

end C18
