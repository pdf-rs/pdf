import PdfModel.Lemmas.TotalLexer
import PdfModel.Lemmas.TotalStr
import PdfModel.Lemmas.TotalParser
import PdfModel.Lemmas.TotalContent
import PdfModel.Lemmas.TotalContentEI
import PdfModel.Lemmas.TotalXrefTable
import PdfModel.Lemmas.TotalXrefStream
import PdfModel.Lemmas.TotalOpen
import PdfModel.Lemmas.TotalGlue
import PdfModel.Lemmas.DeriveRegistryTotal
import PdfModel.Lemmas.ReadLinear
import PdfModel.Lemmas.TotalTyped
import PdfModel.Lemmas.TotalDate
import PdfModel.Lemmas.TotalColorSpace
import PdfModel.Lemmas.TotalFont
import PdfModel.Lemmas.TotalHandTower
import PdfModel.Lemmas.TotalCrypt
import PdfModel.Lemmas.TotalContentTyped
import PdfModel.Lemmas.TotalScan
import PdfModel.Generated.Schemas
import PdfModel.Props.C02
import PdfModel.Props.C05
import PdfModel.Props.C11
import PdfModel.Props.C14
import PdfModel.Props.C17
import PdfModel.Props.C19
import PdfModel.Generated.Lexical

/-!
# C01 — reading arbitrary bytes never panics, aborts or hangs

The model-level content of the property: every modelled function of the lexical, syntactic and structural
core returns `ok` or `err` — never `panic` (the explicit outcome of every Rust index, slice, `unwrap`,
`assert!` and checked arithmetic operation) and never `oof` (out of fuel, for a fuel that is a linear function
of the input: "returns within resources proportional to the input") — for EVERY buffer and EVERY cursor
inside it, both option sets.

Standing facts about the inputs (explicit hypotheses, never axioms):
* `pos ≤ buf.size` — the cursor invariant of `Lexer` (`pos` is private, `set_pos` clamps). `lexer_inv` shows
  that every method re-establishes it.
* `RealSize buf : buf.size ≤ isize::MAX` — true of every Rust slice. Needed where `usize` arithmetic must not
  wrap (`offset_pos`, `get_pos() + 1`) and for the nesting counter of the string lexer.
* `EnvOk env` — the resolver behind an indirect `/Length` and the string decryption return `Ok` or `Err`; they
  are parameters of the parser model (`Resolve::resolve_flags`, `Decoder::decrypt`).
* a search pattern is not empty (`slice::windows(0)` panics; the library only passes constants).

Repairs this package made to the code and that the models describe (`notes/C01.md`): `next_lexeme` is a loop
(it recursed once per line continuation: stack overflow on a long run), its nesting counter is an `i64`
(`nested_i32_overflows`), `read_n` and `seek_newline` saturate (`read_n_old_panics`).
-/

namespace C01
open PdfLex

/-- `Lexer::skip_whitespace` from any cursor inside the buffer: `Err(EOF)` or the position of a byte. -/
theorem skip_whitespace_total (buf : Buf) (pos : Nat) (h : pos ≤ buf.size) :
    skipWhitespace buf pos = .err ∨ ∃ p, skipWhitespace buf pos = .ok p ∧ pos ≤ p ∧ p < buf.size :=
  (skipWhitespace_spec buf pos h).imp id fun ⟨p, hp, h1, h2, _⟩ => ⟨p, hp, h1, h2⟩

/-- `Lexer::next_word` / `next`: never panics, never runs out of fuel (the comment loop consumes a byte per
    round); an `Ok` lexeme is not empty, lies at or behind the cursor and inside the buffer. -/
theorem next_word_total (buf : Buf) (pos : Nat) (h : pos ≤ buf.size) :
    nextWord buf pos ≠ .panic ∧ nextWord buf pos ≠ .oof ∧
    ∀ w, nextWord buf pos = .ok w → pos ≤ w.1 ∧ w.1 < w.2 ∧ w.2 ≤ buf.size := by
  have hs := nextWord_spec buf pos h
  exact ⟨(Ret.returns (hs.imp id fun ⟨w, hw, _⟩ => ⟨w, hw⟩)).1, (Ret.returns (hs.imp id fun ⟨w, hw, _⟩ => ⟨w, hw⟩)).2,
    fun _ hw => Out.of_ok hs hw⟩

/-- `Lexer::next` is `next_word` plus the cursor update. -/
theorem next_total (buf : Buf) (pos : Nat) (h : pos ≤ buf.size) :
    next buf pos ≠ .panic ∧ next buf pos ≠ .oof ∧
    ∀ w, next buf pos = .ok w → pos ≤ w.1 ∧ w.1 < w.2 ∧ w.2 ≤ buf.size :=
  next_word_total buf pos h

/-- `Lexer::peek` always returns a substring inside the buffer (the empty one at the end of the data). -/
theorem peek_total (buf : Buf) (pos : Nat) (h : pos ≤ buf.size) :
    ∃ w, peek buf pos = .ok w ∧ w.1 ≤ w.2 ∧ w.2 ≤ buf.size := by
  obtain ⟨w, hw, _, h2, h3⟩ := peek_spec buf pos h
  exact ⟨w, hw, h2, h3⟩

/-- `Lexer::back` always returns; the cursor moves to the start of the previous lexeme, never forward. -/
theorem back_total (buf : Buf) (pos : Nat) (h : pos ≤ buf.size) :
    ∃ w, back buf pos = .ok w ∧ w.1 ≤ w.2 ∧ w.2 ≤ pos :=
  back_spec buf pos h

/-- `Lexer::next_stream`: `end - word.len()` cannot underflow, `pos + 6` / `pos + 7` are bounds-checked reads. -/
theorem next_stream_total (buf : Buf) (pos : Nat) (h : pos ≤ buf.size) :
    nextStream buf pos = .err ∨ ∃ p, nextStream buf pos = .ok p ∧ pos < p ∧ p ≤ buf.size :=
  nextStream_cases buf pos h

/-- `Lexer::next_expect`. -/
theorem next_expect_total (buf : Buf) (pos : Nat) (expected : List UInt8) (h : pos ≤ buf.size) :
    nextExpect buf pos expected = .err ∨ ∃ p, nextExpect buf pos expected = .ok p ∧ pos < p ∧ p ≤ buf.size :=
  nextExpect_spec buf pos expected h

/-- `Lexer::set_pos` clamps: whatever position is asked for, the cursor ends inside the buffer. -/
theorem set_pos_total (buf : Buf) (pos wanted : Nat) (h : pos ≤ buf.size) :
    setPos buf pos wanted = .ok (min wanted buf.size) :=
  setPos_spec buf pos wanted h

/-- `Lexer::offset_pos` (`wrapping_add`, then `set_pos`). -/
theorem offset_pos_total (buf : Buf) (pos offset : Nat) (h : pos ≤ buf.size) :
    ∃ p, offsetPos buf pos offset = .ok p ∧ p ≤ buf.size :=
  offsetPos_spec buf pos offset h

/-- `Lexer::set_pos_from_end` (two `saturating_sub`s, then `set_pos`). -/
theorem set_pos_from_end_total (buf : Buf) (pos n : Nat) (h : pos ≤ buf.size) :
    setPosFromEnd buf pos n = .ok (buf.size - n - 1) :=
  setPosFromEnd_spec buf pos n h

/-- `Lexer::read_n` (after the repair) for every count, on every buffer including the empty one. -/
theorem read_n_total (buf : Buf) (pos n : Nat) (h : pos ≤ buf.size) :
    ∃ s p, readN buf pos n = .ok (s, p) ∧ s.1 ≤ s.2 ∧ s.2 ≤ buf.size ∧ p ≤ buf.size :=
  readN_total buf pos n h

/-- Before the repair `read_n` on an empty buffer panicked (`self.buf.len() - 1`), for every count. -/
theorem read_n_old_panics (n : Nat) : readNOld #[] 0 n = .panic :=
  readNOld_panics_empty n

/-- `Lexer::seek_substr` with a non-empty pattern: the cursor moves forward only and stays inside. -/
theorem seek_substr_total (buf : Buf) (pos : Nat) (pat : List UInt8) (h : pos ≤ buf.size) (hp : pat ≠ []) :
    ∃ r p, seekSubstr buf pos pat = .ok (r, p) ∧ pos ≤ p ∧ p ≤ buf.size :=
  let ⟨r, p, hr, h1, h2, _⟩ := seekSubstr_spec buf pos pat h hp
  ⟨r, p, hr, h1, h2⟩

/-- `Lexer::seek_substr_back` with a non-empty pattern: `Err(NotFound)` or a cursor at or before the old one. -/
theorem seek_substr_back_total (buf : Buf) (pos : Nat) (pat : List UInt8) (h : pos ≤ buf.size) (hp : pat ≠ []) :
    seekSubstrBack buf pos pat = .err ∨ ∃ s p, seekSubstrBack buf pos pat = .ok (s, p) ∧ p ≤ pos :=
  (seekSubstrBack_spec buf pos pat h hp).imp id fun ⟨s, p, hs, _, _, h3⟩ => ⟨s, p, hs, h3⟩

/-- The empty pattern is the one way to make the search functions panic (`slice::windows(0)`). -/
theorem seek_substr_empty_pattern_panics (buf : Buf) (pos : Nat) (h : pos ≤ buf.size) :
    seekSubstr buf pos [] = .panic :=
  seekSubstr_empty_panics buf pos h

/-- `Lexer::seek_newline` (after the repair). -/
theorem seek_newline_total (buf : Buf) (pos : Nat) (h : pos ≤ buf.size) :
    ∃ s p, seekNewline buf pos = .ok (s, p) ∧ pos ≤ p ∧ p ≤ buf.size :=
  seekNewline_spec buf pos h

/-- **The cursor invariant.** Started at a cursor inside the buffer, every cursor-moving method of `Lexer`
    leaves the cursor inside the buffer — so the hypothesis `pos ≤ buf.size` of all the theorems here holds at
    every call site, by induction over any sequence of calls. -/
theorem lexer_inv (buf : Buf) (pos : Nat) (h : pos ≤ buf.size) :
    (∀ w, next buf pos = .ok w → w.2 ≤ buf.size) ∧
    (∀ w, back buf pos = .ok w → w.1 ≤ buf.size) ∧
    (∀ e p, nextExpect buf pos e = .ok p → p ≤ buf.size) ∧
    (∀ p, nextStream buf pos = .ok p → p ≤ buf.size) ∧
    (∀ x p, setPos buf pos x = .ok p → p ≤ buf.size) ∧
    (∀ x p, offsetPos buf pos x = .ok p → p ≤ buf.size) ∧
    (∀ x p, setPosFromEnd buf pos x = .ok p → p ≤ buf.size) ∧
    (∀ n s p, readN buf pos n = .ok (s, p) → p ≤ buf.size) ∧
    (∀ pat r p, pat ≠ [] → seekSubstr buf pos pat = .ok (r, p) → p ≤ buf.size) ∧
    (∀ pat s p, pat ≠ [] → seekSubstrBack buf pos pat = .ok (s, p) → p ≤ buf.size) ∧
    (∀ s p, seekNewline buf pos = .ok (s, p) → p ≤ buf.size) := by
  refine ⟨fun w hw => (Out.of_ok (next_spec buf pos h) hw).2.2,
    fun w hw => by have := Out.of_ok (.inr (back_spec buf pos h)) hw; omega,
    fun e p hp => (Out.of_ok (nextExpect_spec buf pos e h) hp).2,
    fun p hp => (Out.of_ok (nextStream_cases buf pos h) hp).2,
    fun x p hp => by rw [setPos_spec buf pos x h] at hp; cases hp; omega,
    fun x p hp => Out.of_ok (.inr (offsetPos_spec buf pos x h)) hp,
    fun x p hp => by rw [setPosFromEnd_spec buf pos x h] at hp; cases hp; omega,
    fun n s p hp => (Out.of_ok₂ (.inr (readN_total buf pos n h)) hp).2.2,
    fun pat r p hne hp => (Out.of_ok₂ (.inr (seekSubstr_spec buf pos pat h hne)) hp).2.1,
    fun pat s p hne hp => by have := Out.of_ok₂ (seekSubstrBack_spec buf pos pat h hne) hp; omega,
    fun s p hp => (Out.of_ok₂ (.inr (seekNewline_spec buf pos h)) hp).2⟩

/-- `StringLexer::next_lexeme` from any cursor and any non-negative nesting: `Err(EOF)` or a lexeme with the
    cursor strictly further and inside the buffer. No panic on any buffer that can exist (the nesting counter
    has room: `nested + bytes left ≤ i64::MAX`), no `oof` with fuel `bytes left + 1` — a run of line
    continuations of any length is consumed by the loop. -/
theorem next_lexeme_total (buf : Buf) (pos : Nat) (nested : Int) (h : pos ≤ buf.size) (hn : 0 ≤ nested)
    (hm : nested + ((buf.size - pos : Nat) : Int) ≤ 9223372036854775807) :
    nextLexeme buf (buf.size - pos + 1) pos nested = .err ∨
    ∃ r p n', nextLexeme buf (buf.size - pos + 1) pos nested = .ok (r, p, n') ∧ pos < p ∧ p ≤ buf.size := by
  exact (nextLexeme_spec buf (buf.size - pos + 1) pos nested h hn hm (by omega)).imp id
    fun ⟨r, p, n', hp, h1, h2, _⟩ => ⟨r, p, n', hp, h1, h2⟩

/-- The step that panicked before the repair: the 2^31-th unbalanced `(` with an `i32` counter. -/
theorem nested_i32_overflows : nestedStepOld32 2147483647 = .panic :=
  PdfLex.nested_i32_overflows

/-- The iterator loop over a literal string (as `_parse_with_lexer_ctx` runs it), on every real buffer. -/
theorem literal_string_total (buf : Buf) (hs : RealSize buf) (pos : Nat) (h : pos ≤ buf.size) :
    collectString buf (buf.size - pos + 2) pos 0 [] = .err ∨
    ∃ s p, collectString buf (buf.size - pos + 2) pos 0 [] = .ok (s, p) ∧ pos < p ∧ p ≤ buf.size := by
  apply collectString_spec buf _ pos 0 [] h (Int.le_refl 0) _ (by omega)
  unfold RealSize at hs; unfold i64Max; omega

/-- `HexStringLexer::next_hex_byte`: the `back()` before a lone `>` cannot fail. -/
theorem next_hex_byte_total (buf : Buf) (base pos : Nat) (hb : base ≤ pos) :
    nextHexByte buf base pos = .err ∨ ∃ r p, nextHexByte buf base pos = .ok (r, p) ∧ pos < p ∧ p ≤ buf.size :=
  nextHexByte_spec buf base pos hb

/-- The iterator loop over a hexadecimal string, on every buffer. -/
theorem hex_string_total (buf : Buf) (pos : Nat) (h : pos ≤ buf.size) :
    collectHex buf pos (buf.size - pos + 2) pos [] = .err ∨
    ∃ s p, collectHex buf pos (buf.size - pos + 2) pos [] = .ok (s, p) ∧ pos < p ∧ p ≤ buf.size :=
  collectHex_spec buf pos _ pos [] (Nat.le_refl _) h (by omega)

/-- **`parse` is total.** For every byte string (of a size a slice can have), every flag set, every total
    resolver: `parse(data, r, flags)` with the default fuel `3·len + 64` is neither `panic` nor `oof`. The fuel
    is adequate for EVERY input, not only for renderings of values: every recursive call of the parser happens
    behind at least one consumed byte (`Lemmas/TotalParser`). -/
theorem parse_total {R : Type} (env : Env R) (henv : EnvOk env) (buf : Buf) (hs : RealSize buf) (flags : Nat) :
    parse env buf flags ≠ .panic ∧ parse env buf flags ≠ .oof := by
  have h := (parseWithLexer_good env henv buf hs (defaultFuel buf) 0 flags (Nat.zero_le _)
    (by have := defaultFuel_enough buf 0; omega)).ret
  exact ⟨h.ne_panic, h.ne_oof⟩

/-- `parse_with_lexer` from any cursor: `err`, or a value with the cursor strictly further and inside the
    buffer — a successful parse consumes at least one byte, which is what makes every loop around it
    (arrays, dictionaries, content streams, cross-reference sections) terminate. -/
theorem parse_with_lexer_total {R : Type} (env : Env R) (henv : EnvOk env) (buf : Buf) (hs : RealSize buf)
    (pos flags : Nat) (h : pos ≤ buf.size) :
    parseWithLexer env buf (defaultFuel buf) pos flags = .err ∨
    ∃ v p, parseWithLexer env buf (defaultFuel buf) pos flags = .ok (v, p) ∧ pos < p ∧ p ≤ buf.size :=
  parseWithLexer_good env henv buf hs (defaultFuel buf) pos flags h (by have := defaultFuel_enough buf pos; omega)

/-- **Recursion depth ≤ MAX_DEPTH.** Every value the parser returns nests at most `MAX_DEPTH = 20` arrays /
    dictionaries: an activation for a container at budget 0 returns `Err(MaxDepth)` before it recurses, and
    every nested activation runs with the budget minus one. The native stack of `_parse_with_lexer_ctx` is
    therefore bounded by a constant, whatever the input. -/
theorem parse_nesting_bounded {R : Type} (env : Env R) (henv : EnvOk env) (buf : Buf) (hs : RealSize buf)
    (pos flags : Nat) (h : pos ≤ buf.size) (v : Prim R) (p : Nat)
    (hv : parseWithLexer env buf (defaultFuel buf) pos flags = .ok (v, p)) : nest v ≤ maxDepth := by
  exact (Out.of_ok₂ (parseWithLexer_goodq env henv buf hs (defaultFuel buf) pos flags h
    (by have := defaultFuel_enough buf pos; omega)) hv).2.2

/-- `parse_stream_object` with the resolver a parameter that returns `Ok` or `Err`. -/
theorem parse_stream_object_total {R : Type} (env : Env R) (henv : EnvOk env) (buf : Buf) (hs : RealSize buf)
    (pos : Nat) (dict : Dict R) (id : Nat × Nat) (h : pos ≤ buf.size) :
    parseStreamObject env buf pos dict id = .err ∨
    ∃ v p, parseStreamObject env buf pos dict id = .ok (v, p) ∧ pos < p ∧ p ≤ buf.size :=
  parseStreamObject_good env henv buf hs pos dict id h

/-- `parse_indirect_object`, strict (`allow_missing_endobj = false`) and tolerant alike. -/
theorem parse_indirect_object_total {R : Type} (env : Env R) (henv : EnvOk env) (buf : Buf) (hs : RealSize buf)
    (pos flags : Nat) (h : pos ≤ buf.size) :
    parseIndirectObject env buf (defaultFuel buf) pos flags = .err ∨
    ∃ v p, parseIndirectObject env buf (defaultFuel buf) pos flags = .ok (v, p) ∧ pos < p ∧ p ≤ buf.size :=
  parseIndirectObject_good env henv buf hs (defaultFuel buf) pos flags h (by unfold defaultFuel; omega)

/-- `parse_stream` / `parse_stream_with_lexer`. -/
theorem parse_stream_total {R : Type} (env : Env R) (henv : EnvOk env) (buf : Buf) (hs : RealSize buf)
    (pos : Nat) (id : Nat × Nat) (h : pos ≤ buf.size) :
    parseStream env buf (defaultFuel buf) pos id = .err ∨
    ∃ v p, parseStream env buf (defaultFuel buf) pos id = .ok (v, p) ∧ pos < p ∧ p ≤ buf.size :=
  parseStream_good env henv buf hs (defaultFuel buf) pos id h (by unfold defaultFuel; omega)

/-- `parse_indirect_stream` (the reader of cross-reference streams and object streams by position). -/
theorem parse_indirect_stream_total {R : Type} (env : Env R) (henv : EnvOk env) (buf : Buf) (hs : RealSize buf)
    (pos : Nat) (h : pos ≤ buf.size) :
    parseIndirectStream env buf (defaultFuel buf) pos = .err ∨
    ∃ v p, parseIndirectStream env buf (defaultFuel buf) pos = .ok (v, p) ∧ pos < p ∧ p ≤ buf.size :=
  parseIndirectStream_good env henv buf hs (defaultFuel buf) pos h (by unfold defaultFuel; omega)

/-- **The content-stream loop terminates on every input**, for every classification of the errors it
    branches on (`is_eof`), every outcome of the operand conversions, strict and tolerant
    (`allow_invalid_ops`): `OpBuilder::parse` is `Ok` or `Err` within `len + 1` rounds. -/
theorem content_total {R : Type} (env : Env R) (henv : EnvOk env) (buf : Buf) (hs : RealSize buf) (o : Oracle)
    (allowInvalidOps : Bool) :
    parseOps env buf o allowInvalidOps ≠ .panic ∧ parseOps env buf o allowInvalidOps ≠ .oof := by
  have h := parseOps_ret env henv buf hs o allowInvalidOps
  exact ⟨h.ne_panic, h.ne_oof⟩

/-- `ContentReadPastBoundary` is dead code: after a round of the loop the cursor never lies beyond the data. -/
theorem content_never_past_boundary {R : Type} (env : Env R) (henv : EnvOk env) (buf : Buf) (hs : RealSize buf)
    (o : Oracle) (allowInvalidOps : Bool) (pos : Nat) (h : pos ≤ buf.size) (p : Nat)
    (hp : contentStep env buf o allowInvalidOps pos = .ok (some p)) : pos < p ∧ p ≤ buf.size := by
  rcases contentStep_spec env henv buf hs o allowInvalidOps pos h with e | e | ⟨p', e, h1, h2⟩ <;>
    rw [e] at hp <;> cases hp
  exact ⟨h1, h2⟩

/-- The position arithmetic of `inline_image`: `get_pos() + 1` and `get_pos() - 3` neither over- nor underflow,
    and `data_start .. data_end` is always a range that `new_substr` accepts (forward, or the backward range of
    an empty image), whatever follows `BI`. -/
theorem inline_image_total {R : Type} (env : Env R) (henv : EnvOk env) (buf : Buf) (hs : RealSize buf) (o : Oracle)
    (pos : Nat) (h : pos ≤ buf.size) :
    ∃ b p d, inlineImage env buf o pos = .ok ((b, p), d) ∧ pos ≤ p ∧ p ≤ buf.size ∧
      (∀ s, d = some s → s.1 ≤ s.2 ∧ s.2 ≤ buf.size) :=
  inlineImage_spec env henv buf hs o pos h

/-- The same for the end-of-data search of repo commit 4386f8d (white-space followed by the token `EI`;
    `data_end = max(pos + i, data_start)`, `offset_pos(i + 3)`): whichever of the two searches the tree has, the
    position arithmetic is total. -/
theorem inline_image_ei_total {R : Type} (env : Env R) (henv : EnvOk env) (buf : Buf) (hs : RealSize buf) (o : Oracle)
    (pos : Nat) (h : pos ≤ buf.size) :
    ∃ b p d, inlineImageEI env buf o pos = .ok ((b, p), d) ∧ pos ≤ p ∧ p ≤ buf.size ∧
      (∀ s, d = some s → s.1 ≤ s.2 ∧ s.2 ≤ buf.size) :=
  inlineImageEI_spec env henv buf hs o pos h

/-- `read_xref_and_trailer_at`, BOTH section formats (the one model of them: `Model/XrefTable` with its stream
    branch `Model/XrefStreamRead`, over the row reader `Model/XrefStream`), strict and tolerant. What the statement
    says, no more: the outcome is never `panic` and never `oof` for every buffer and cursor, and the sections of an
    `Ok` satisfy `Xref.pairsOK` (`Free` / `Raw` / `Stream` entries only, firsts and lengths in range), which is what
    the merge needs (`merge_total`). The bound on the entry loop of a table (at most `len / 3` rounds whatever count
    the header claims) is NOT part of this statement: it is `xref_table_total` and item 4 of `read_core_linear`. The
    typed reader of the stream dictionary (`Stream::<XRefInfo>`) and the data of the stream (`Resolve::stream_data` +
    filters) are parameters assumed to return `Ok` or `Err` (`htyped`, `hdata`). -/
theorem read_xref_at_total {R : Type} (env : Env R) (henv : EnvOk env) (typed : Dict R → Out XrefTable.XInfo)
    (htyped : ∀ d, Ret (typed d)) (sdata : Dict R → StreamInner → Out (List UInt8)) (hdata : ∀ d i, Ret (sdata d i))
    (allowErr : Bool) (buf : Buf) (hs : RealSize buf) (pos : Nat) (h : pos ≤ buf.size) :
    XrefTable.readXrefAt env typed sdata allowErr buf pos ≠ .panic ∧
    XrefTable.readXrefAt env typed sdata allowErr buf pos ≠ .oof ∧
    ∀ secs d, XrefTable.readXrefAt env typed sdata allowErr buf pos = .ok (secs, d) → Xref.pairsOK (Xref.secPairs secs) := by
  have hx := XrefTable.readXrefAt_total env henv typed htyped sdata hdata allowErr buf hs pos h
  have hr := Ret.returns (hx.imp id fun ⟨subs, d, hr, _⟩ => ⟨(subs, d), hr⟩)
  exact ⟨hr.1, hr.2, fun secs d hh => subsOk_pairsOK _ (Out.of_ok₂ hx hh)⟩

/-- The classic table reader alone, with the progress that bounds its work: what `parse_xref_table_and_trailer`
    returns lies strictly behind the cursor, and (`XrefTable.entryLoop_total`) `n` entries cost at least `3 n` bytes. -/
theorem xref_table_total {R : Type} (env : Env R) (henv : EnvOk env) (buf : Buf) (hs : RealSize buf) (pos : Nat)
    (h : pos ≤ buf.size) :
    XrefTable.parseXrefTableAndTrailer env buf (XrefTable.defaultFuel buf) (defaultFuel buf) pos = .err ∨
    ∃ subs d q, XrefTable.parseXrefTableAndTrailer env buf (XrefTable.defaultFuel buf) (defaultFuel buf) pos = .ok ((subs, d), q) ∧
      pos < q ∧ q ≤ buf.size :=
  (XrefTable.parseXrefTableAndTrailer_total env henv buf hs pos h).imp id
    fun ⟨subs, d, q, hq, q1, q2, _⟩ => ⟨subs, d, q, hq, q1, q2⟩

/-- The row reader of cross-reference streams at byte level (the model `Props/C02` reads sections back with): the two
    panic sites of `read_u64_from_stream` are unreachable behind its guards; a section never holds more entries than
    the decoded data has bytes. -/
theorem xref_stream_rows_total (first n : Nat) (width : List Nat) (data : List UInt8) (allowErr : Bool) :
    Xref.parseSection first n width data allowErr = .err ∨
    ∃ s rest, Xref.parseSection first n width data allowErr = .ok (s, rest) ∧ s.entries.length ≤ data.length := by
  exact (Xref.parseSection_spec first n width data allowErr).imp id fun ⟨s, rest, hr, _, _, hl⟩ => ⟨s, rest, hr, hl⟩

/-- The section reader of cross-reference *streams* (`parse_xref_section_from_stream`, the `/Index` loop), for
    every width triple, count and amount of data, strict and tolerant (imported from the C14 package). -/
theorem xref_stream_sections_total (tolerant : Bool) (width : List Nat) (pairs : List (Nat × Nat)) (data : List Nat) :
    Numeric.xrefSections 64 true tolerant width pairs data [] ≠ .panic ∧
    Numeric.xrefSections 64 true tolerant width pairs data [] ≠ .oof :=
  C14.xref_sections_total 64 tolerant width pairs data []

/-- **`open_core_total`.** For every byte string `buf`, whatever token-level parsers `P` the structural model is
    run with, provided they are total on the suffixes of the file (`Offsets.TotalOn P len` — met by the byte-level
    models: `core_parsers_total`), and for both option sets:

    * the header search and the `startxref` search return (C17);
    * loading the chain of cross-reference sections — `startxref`, every `/Prev`, each section merged into the
      table (C02's merge: total on what the section readers deliver) — returns with `len + 2` rounds of fuel;
    * resolving ANY object number against ANY table through direct or compressed storage returns with fuel
      `2·(table length) + 3` (the guard `chain` is duplicate-free: pigeonhole), raw stream data and `scan` return
      (`scan`: the call, and every item *given that the items of the parameter `P.scanItems` return* — that is part of
      `TotalOn`; the concrete item loop is `scan_loop_total` / `open_core_total_scan`);
    * member lookup in an object stream returns (C11), every filter chain returns whatever the third-party
      decompressors deliver (C05), a cross-reference stream's sections are read without overflow (C14);
    * typed loading under the recursion guard returns on every object graph, cyclic or not (C14);
    * the `/W` interpreter and the ToUnicode reader return on every array / byte string (C19).

    What is *not* in this theorem (glue exercised only by the walker): the derive-generated typed loaders that sit
    between these pieces (`Stream::<XRefInfo>`, `ObjectStream`, `Catalog`, `Page`, fonts …), third-party
    decoders (they are the parameter `X` of the filter model), allocation sizes, the native stack. -/
theorem open_core_total {V T : Type} (P : Offsets.Parsers V T) (buf : List UInt8) (hP : Offsets.TotalOn P buf.length) :
    (Offsets.locateStart buf).Returns ∧ (Offsets.locateXref buf).Returns ∧
    (Offsets.openFile P (buf.length + 2) buf).Returns ∧
    (∀ start, (Offsets.loadTable P (buf.length + 2) buf start).Returns) ∧
    (∀ (start : Nat) (t : Xref.Table) (flags : Offsets.Flags) (id : Nat),
        (Offsets.resolveRef P buf start t (2 * t.length + 3) [] flags id).Returns) ∧
    (∀ o : Offsets.Obj V, (Offsets.rawData buf o).Returns) ∧
    (∀ start, (Offsets.scan P buf start).Returns ∧
        ∀ items, Offsets.scan P buf start = .ok items → ∀ it ∈ items, it.Returns) ∧
    (∀ (n first : Nat) (data : List UInt8) (i : Nat), (ObjStm.member n first data i).Returns) ∧
    (∀ (X : Enc.Ext) (fs : List Enc.Filter) (data : List UInt8), (Enc.decodeChain X data fs).Returns) ∧
    (∀ (tolerant : Bool) (width : List Nat) (pairs : List (Nat × Nat)) (data : List Nat),
        Numeric.xrefSections 64 true tolerant width pairs data [] ≠ .panic ∧
        Numeric.xrefSections 64 true tolerant width pairs data [] ≠ .oof) ∧
    (∀ (g : TypedLoad.Graph) (tolerant : Bool) (k : Nat),
        TypedLoad.load g tolerant (g.length + 1) [] k ≠ .oof ∧ TypedLoad.load g tolerant (g.length + 1) [] k ≠ .panic) ∧
    (∀ (w : Widths.Widths Nat) (items : List (Widths.WP Nat)),
        Widths.interp w items ≠ .panic ∧ Widths.interp w items ≠ .oof) ∧
    (∀ bs : List UInt8, CMap.parseCMap bs ≠ .oof) := by
  refine ⟨(Offsets.locate_total buf).1, (Offsets.locate_total buf).2,
    Offsets.openFile_returns P buf hP _ (Nat.le_refl _),
    fun start => Offsets.loadTable_returns P buf hP start _ (Nat.le_refl _),
    fun start t flags id => Offsets.resolveRef_returns_top P buf hP start t _ flags id (Nat.le_refl _),
    Offsets.rawData_returns buf,
    Offsets.scan_returns P buf hP,
    C11.member_total,
    Enc.decodeChain_never_panics,
    fun tolerant width pairs data => C14.xref_sections_total 64 tolerant width pairs data [],
    fun g tolerant k => ⟨C14.guarded_load_terminates g tolerant k, C14.guarded_load_never_panics g tolerant _ _ _⟩,
    C19.interp_total,
    C19.parse_cmap_total⟩

/-- The merge of any history of sections that the readers can deliver is total (C02). -/
theorem merge_total (size : Nat) (h : List (List Xref.Sub)) (hp : Xref.pairsOK (Xref.allPairs h.reverse)) :
    ∃ t, Xref.mergeAll (Xref.newTable size) h.reverse = .ok t ∧ t.length = size + 1 :=
  Xref.merge_total size h hp

/-- **The hypotheses of `open_core_total` are met by the byte-level models.** `Offsets.coreParsers` plugs together the
    models that exist once each — `XrefTable.readXrefAndTrailerAt` with both section formats, `parse_indirect_object`,
    `parse` (`Model/XrefFile`, `Model/XrefStreamRead`, `Model/OffsetsConcrete`) — and is total on every file a slice
    can hold, strict and tolerant, for parameters (typed reader of the xref stream dictionary, stream data, filter
    chain, `scan` items, resolver, decryption) that return `Ok` or `Err`. -/
theorem core_parsers_total {R : Type} (env : Env R) (typed : Dict R → Out XrefTable.XInfo)
    (sdata : Dict R → StreamInner → Out (List UInt8)) (allowErr : Bool)
    (dec : Dict R → List UInt8 → Out (List UInt8)) (S : List UInt8 → List (Out (Offsets.Obj (Prim R)))) (n : Nat)
    (hn : n ≤ Offsets.isizeMax) (hp : Offsets.ParamsOk env typed sdata dec S) :
    Offsets.TotalOn (Offsets.coreParsers env typed sdata allowErr dec S n) n :=
  Offsets.coreParsers_total env typed sdata allowErr dec S n hn hp

/-- **The composition on the concrete parsers, both section formats.** Opening ANY byte string (header, `startxref`,
    the `/Prev` walk over table and stream sections, merge) and resolving ANY object number through direct or
    compressed storage returns `Ok` or `Err`. The item loop of `Storage::scan` is a PARAMETER here (`S`, with the
    hypothesis `ParamsOk.scan` that its items return) and this statement says nothing about the scan;
    `open_core_total_scan` instantiates `S` with the concrete loop of `Model/ScanLoop.lean` and proves that hypothesis. -/
theorem open_core_total_concrete {R : Type} (env : Env R) (typed : Dict R → Out XrefTable.XInfo)
    (sdata : Dict R → StreamInner → Out (List UInt8)) (allowErr : Bool)
    (dec : Dict R → List UInt8 → Out (List UInt8)) (S : List UInt8 → List (Out (Offsets.Obj (Prim R))))
    (hp : Offsets.ParamsOk env typed sdata dec S) (buf : List UInt8) (hn : buf.length ≤ Offsets.isizeMax) :
    (Offsets.openFile (Offsets.coreParsers env typed sdata allowErr dec S buf.length) (buf.length + 2) buf).Returns ∧
    ∀ (start : Nat) (t : Xref.Table) (flags : Offsets.Flags) (id : Nat),
      (Offsets.resolveRef (Offsets.coreParsers env typed sdata allowErr dec S buf.length) buf start t
        (2 * t.length + 3) [] flags id).Returns := by
  have h := open_core_total _ buf (core_parsers_total env typed sdata allowErr dec S buf.length hn hp)
  exact ⟨h.2.2.1, h.2.2.2.2.1⟩

/-- **The recovery scan on the concrete lexer / parser** (`Model/ScanLoop.lean`, C17: the item loop of `Storage::scan`
    after the D26 repair). For EVERY slice: one call of the iterator's closure ends the iteration or yields an item
    (object, trailer, error) at a cursor strictly further inside the slice — it has no `Err` outcome of its own, never
    panics, and its `startxref … continue` recursion never uses up the fuel `len + 2`; so the iterator yields at most one
    item per byte and ends within `len + 1` calls (`ScanLoop.items` with fuel `len + 2` from cursor 0 is `Ok`). -/
theorem scan_loop_total {R : Type} (env : Env R) (henv : EnvOk env) (buf : Buf) (hs : RealSize buf) :
    (∀ (fuel pos : Nat), pos ≤ buf.size → buf.size - pos < fuel →
      (∃ p, ScanLoop.step env buf (defaultFuel buf) fuel pos = .ok (none, p)) ∨
      ∃ it q, ScanLoop.step env buf (defaultFuel buf) fuel pos = .ok (some it, q) ∧ pos < q ∧ q ≤ buf.size) ∧
    ∃ l, ScanLoop.items env buf (defaultFuel buf) (buf.size + 2) 0 = .ok l ∧ l.length ≤ buf.size := by
  refine ⟨ScanLoop.step_spec env henv buf hs, ?_⟩
  obtain ⟨l, hl, hn⟩ := ScanLoop.items_spec env henv buf hs (buf.size + 2) 0 (Nat.zero_le _) (by omega)
  exact ⟨l, hl, by simpa using hn⟩

/-- **The composition with the scan loop made concrete.** `open_core_total_concrete` takes the item loop of
    `Storage::scan` as a parameter `S` and *assumes* that its items return (`ParamsOk.scan`). Here `S` is
    `ScanLoop.scanItemsOf env`: the loop of `Model/ScanLoop.lean` on the concrete lexer / parser, where a `panic` or
    `oof` of the loop would be an item that does not return — and nothing is assumed about it: `scan_loop_total`
    discharges the hypothesis. Opening any byte string, resolving any object number AND the recovery scan (the call
    and every item it yields) return. Still parameters, assumed to return `Ok` or `Err`: the typed reader of a
    cross-reference stream dictionary, stream data, the filter chain of an object stream (`typed`, `sdata`, `dec`). -/
theorem open_core_total_scan {R : Type} (env : Env R) (typed : Dict R → Out XrefTable.XInfo)
    (sdata : Dict R → StreamInner → Out (List UInt8)) (allowErr : Bool) (dec : Dict R → List UInt8 → Out (List UInt8))
    (henv : EnvOk env) (htyped : ∀ d, Ret (typed d)) (hsdata : ∀ d i, Ret (sdata d i))
    (hdec : ∀ d raw, Ret (dec d raw) ∧ ∀ out, dec d raw = .ok out → out.length ≤ Offsets.isizeMax)
    (buf : List UInt8) (hn : buf.length ≤ Offsets.isizeMax) :
    let P := Offsets.coreParsers env typed sdata allowErr dec (ScanLoop.scanItemsOf env) buf.length
    (Offsets.openFile P (buf.length + 2) buf).Returns ∧
    (∀ (start : Nat) (t : Xref.Table) (flags : Offsets.Flags) (id : Nat),
      (Offsets.resolveRef P buf start t (2 * t.length + 3) [] flags id).Returns) ∧
    (∀ start, (Offsets.scan P buf start).Returns ∧
      ∀ items, Offsets.scan P buf start = .ok items → ∀ it ∈ items, it.Returns) ∧
    (∀ sl : List UInt8, (ScanLoop.scanItemsOf env sl).length ≤ sl.length) := by
  intro P
  have hp := ScanLoop.paramsOk_scan env typed sdata dec henv htyped hsdata hdec
  have hT := core_parsers_total env typed sdata allowErr dec (ScanLoop.scanItemsOf env) buf.length hn hp
  have h := open_core_total_concrete env typed sdata allowErr dec (ScanLoop.scanItemsOf env) hp buf hn
  exact ⟨h.1, h.2, Offsets.scan_returns P buf hT,
    fun sl => (ScanLoop.scanItemsOf_spec env henv sl).2⟩

/-- **… and on a well-formed chain it is the real `/Prev` walk** (`Props/C02.walk_visits_chain`, here for the concrete
    parsers): totality says the walk always comes back; on a chain `newest :: older` of sections that the concrete
    reader returns at their offsets, linked through `/Prev`, it comes back with exactly the merge of the chain,
    newest first, and the newest trailer — using `older.length ≤ len` rounds of the loop. -/
theorem open_walk_concrete {R : Type} (env : Env R) (typed : Dict R → Out XrefTable.XInfo)
    (sdata : Dict R → StreamInner → Out (List UInt8)) (allowErr : Bool)
    (dec : Dict R → List UInt8 → Out (List UInt8)) (S : List UInt8 → List (Out (Offsets.Obj (Prim R))))
    (buf : List UInt8) (start fuel : Nat) (newest : Offsets.Rev (Dict R)) (older : List (Offsets.Rev (Dict R))) (size : Nat)
    (hx : Offsets.locateXref buf = .ok newest.off) (hin : start + newest.off < buf.length)
    (hfit : start + newest.off ≤ OffLex.usizeMax)
    (hnew : (Offsets.coreParsers env typed sdata allowErr dec S buf.length).xrefAt (buf.drop (start + newest.off))
        = .ok (newest.subs, newest.trailer))
    (hsize : (Offsets.coreParsers env typed sdata allowErr dec S buf.length).sizeOf newest.trailer = .ok size)
    (hmax : size ≤ Offsets.maxId)
    (hread : ∀ r ∈ older, Offsets.ReadsAt (Offsets.coreParsers env typed sdata allowErr dec S buf.length) buf start r)
    (hlink : Offsets.Linked (Offsets.coreParsers env typed sdata allowErr dec S buf.length) (newest :: older))
    (hnd : (older.map (·.off)).Nodup) (hfuel : older.length ≤ fuel) :
    Offsets.loadTable (Offsets.coreParsers env typed sdata allowErr dec S buf.length) fuel buf start
      = Offsets.withTrailer newest.trailer (Xref.mergeAll (Xref.newTable size) ((newest :: older).map (·.subs))) :=
  Xref.walk_visits_chain _ buf start fuel newest older size hx hin hfit hnew hsize hmax hread hlink hnd hfuel

/-- **`derived_reader_total`.** The reader that `#[derive(Object)]` generates for a struct (`Model/Derive.readStruct`:
    the `/Type` test, the checks, the fields in declaration order with `default`, catch-all and error wrapping, on top of
    the container impls `Option` / `Vec` / `HashMap` / pair / `Box` / `MaybeRef` / `RcRef` / `Ref` / `Lazy`) returns a
    value or an error of the implementation — never the model's `oof`; the model has no panic outcome, none of these
    functions indexes, unwraps or computes — for EVERY schema, every input primitive, strict and tolerant, given
    readers of the leaf shapes and default expressions that do (`SchemaOk`) and a resolver that does (`EnvOk`). -/
theorem derived_reader_total (cfg : Derive.Cfg) (sem : Derive.Sem) (env : Derive.Env) (he : Derive.EnvOk env)
    (S : Derive.Schema) (hS : Derive.SchemaOk sem env S) (p : Derive.Prim) (hp : p.plain = true) :
    Derive.Clean (Derive.readStruct cfg sem env S p) :=
  Derive.readStruct_clean cfg sem he S hS p hp

/-- The derived enum readers (name enums with an `other` variant, integer enums). -/
theorem derived_enum_total (env : Derive.Env) (he : Derive.EnvOk env) (S : Derive.Schema) (p : Derive.Prim)
    (hp : p.plain = true) : Derive.Clean (Derive.readEnum env S p) :=
  Derive.readEnum_clean he S p hp

/-- **Over the generated schemas.** Reading ANY primitive as ANY of the derived models extracted from `pdf/src` (60 at
    this commit; regenerated from the source on every run), to ANY nesting budget `n`, through all nested derived
    models, `PagesNode` / `PagesRc` / `PageRc` and every `default = ".."`, is a value or an error — given readers `hand` of
    the hand-written shapes (`Derive.isHand`) that are. `hreg` is the decidable `RegistryOk` of the generated data (every
    default is of a form that evaluates; `Page` and `PageTree` exist): Lean's kernel cannot run `String.toInt?` /
    `splitOn`, so it is an explicit hypothesis here and is evaluated by the compiled model driver on every run
    (stream `c01.registry`). -/
theorem typed_registry_total (cfg : Derive.Cfg) (hreg : Derive.RegistryOk Generated.generatedSchemas)
    (hand : Derive.Env → Derive.Shape → Derive.Prim → Derive.R Derive.Val)
    (hhand : ∀ env, Derive.EnvOk env → ∀ s p, p.plain = true → Derive.Clean (hand env s p))
    (n : Nat) (env : Derive.Env) (he : Derive.EnvOk env) (S : Derive.Schema) (hS : S ∈ Generated.generatedSchemas)
    (p : Derive.Prim) (hp : p.plain = true) :
    Derive.Clean ((Derive.semH cfg Generated.generatedSchemas hand (n + 1)).rd env (.model S.name) p) ∧
    Derive.Clean (Derive.readStruct cfg (Derive.semH cfg Generated.generatedSchemas hand n) env S p) := by
  refine ⟨Derive.semH_clean cfg _ hreg hand hhand (n + 1) env he _ p hp, ?_⟩
  exact Derive.readStruct_clean cfg _ he S
    (Derive.schemaOk_of cfg _ hand n env (fun s q hq => Derive.semH_clean cfg _ hreg hand hhand n env he s q hq) S
      (hreg.dflt S hS)) p hp

/-- The registry has the four derived models `Font::from_primitive` dispatches to (`FontType`, `Type0Font`, `TFont`,
    `CIDFont`). -/
theorem generated_font_schemas : (Derive.fontSchemas Generated.generatedSchemas).isSome = true := by decide +kernel

/-- **Typed load of any object terminates without panic: derived schema OR one of the modelled hand-written readers.**
    Two theorems about the same code, side by side.

    *Values.* `Derive.semM` (`Model/HandTower`) is the typed layer with everything that has a model on primitives plugged
    in: the derived struct / enum readers over the generated schemas, `PagesNode` / `PagesRc` / `PageRc`, and the
    hand-written `Date`, `Dest`, `Action`, `NumberTree<T>`, `NameTree<T>`, `ColorSpace` and `Font` (`typed_load_uses_models`
    says which model reads which shape). At EVERY nesting budget `n`, for every shape, every plain primitive, strict and
    tolerant, it returns a value or an error — never `oof`; a used-up budget is the guard's `Err`. What is left as a
    parameter (`other`) are the hand-written readers of *stream objects* (`Stream<T>`, `XObject`, `Pattern`,
    `CidToGidMap`, `AppearanceStreamEntry`, `Content`): `Derive.Prim` leaves streams out; their models are on
    `Derive.TPrim` / `APrim` and are total there (`stream_readers_total`, `content_typed_total`).

    *Control.* The nested loads (`StorageResolver::get`: recursion guard, 64 nested gets; `Model/TypedLoad`, C14) return
    on every object graph — cyclic, self-referential, dangling — with fuel `objects + 1`.

    What links the two is not proved: that the budget `n` of the value model is the guard of the control model (64 gets
    × at most `MAX_DEPTH` = 20 directly nested dictionaries per object, `parse_nesting_bounded`). -/
theorem typed_load_total (cfg : Derive.Cfg) (hreg : Derive.RegistryOk Generated.generatedSchemas)
    (other : Derive.Env → Derive.Shape → Derive.Prim → Derive.R Derive.Val)
    (hother : ∀ env, Derive.EnvOk env → ∀ s p, p.plain = true → Derive.Clean (other env s p)) :
    (∀ (n : Nat) (env : Derive.Env), Derive.EnvOk env → ∀ (s : Derive.Shape) (p : Derive.Prim), p.plain = true →
        Derive.Clean ((Derive.semM cfg Generated.generatedSchemas other n).rd env s p)) ∧
    (∀ (g : TypedLoad.Graph) (tolerant : Bool) (k : Nat),
        TypedLoad.load g tolerant (g.length + 1) [] k ≠ .oof ∧ TypedLoad.load g tolerant (g.length + 1) [] k ≠ .panic) :=
  ⟨Derive.semM_clean cfg _ hreg generated_font_schemas other hother,
   fun g tolerant k => ⟨C14.guarded_load_terminates g tolerant k, C14.guarded_load_never_panics g tolerant _ _ _⟩⟩

/-- which model reads which hand-written shape of the generated schemas (above the bottom level of the tower) -/
theorem typed_load_uses_models (cfg : Derive.Cfg) (other : Derive.Env → Derive.Shape → Derive.Prim → Derive.R Derive.Val)
    (n : Nat) (env : Derive.Env) (p : Derive.Prim) :
    let G := Generated.generatedSchemas
    let below := Derive.semM cfg G other n
    let rd := (Derive.semM cfg G other (n + 1)).rd env
    rd (.leaf "Date") p = Derive.readDateP env p ∧
    rd (.leaf "Dest") p = (Derive.readDest env p).map Derive.destVal ∧
    rd (.leaf "Action") p = Derive.readAction (Derive.readDestP env) env p ∧
    rd (.leaf "ColorSpace") p = (CSLoad.csLoad { env := env, streams := fun _ => none } p).map Derive.csVal ∧
    (∀ S, Derive.fontSchemas G = some S →
      rd (.leaf "Font") p = (FontLoad.readFont cfg below S env p).map Derive.fontVal) ∧
    (∀ t, rd (.leafApp "NumberTree" t) p
      = (Derive.readNumTree (Derive.readShape cfg below env t) env p).map Derive.numTreeVal) ∧
    (∀ t, rd (.leafApp "NameTree" t) p
      = (Derive.readNameTree (Derive.readShape cfg below env t) env p).map Derive.nameTreeVal) ∧
    rd (.leafApp "Stream" (.leaf "()")) p = other env (.leafApp "Stream" (.leaf "()")) p := by
  intro G below rd
  -- above the bottom level `semM` hands every hand-written shape to `handM` (modelled) or to `other`;
  -- which one, and which branch of `handM`, is then a computation on the shape's name
  have hS : ∀ s, Derive.isHand G s = true → rd s p =
      if Derive.isModelledHand s then Derive.handM cfg G below env s p else other env s p := by
    exact fun s h => Derive.semM_rd_hand cfg G other n env s p h
  have hD : Derive.isHand G (.leaf "Date") = true := by decide +kernel
  have hDe : Derive.isHand G (.leaf "Dest") = true := by decide +kernel
  have hA : Derive.isHand G (.leaf "Action") = true := by decide +kernel
  have hC : Derive.isHand G (.leaf "ColorSpace") = true := by decide +kernel
  have hF : Derive.isHand G (.leaf "Font") = true := by decide +kernel
  refine ⟨(hS _ hD).trans rfl, (hS _ hDe).trans rfl, (hS _ hA).trans rfl, (hS _ hC).trans rfl, fun S hS' => ?_,
    fun t => (hS _ rfl).trans rfl, fun t => (hS _ rfl).trans rfl, (hS _ rfl).trans rfl⟩
  refine (hS _ hF).trans ?_
  simp only [Derive.isModelledHand, Derive.handM, (hS' : Derive.fontSchemas Generated.generatedSchemas = some S),
    ↓reduceIte, String.reduceBEq, String.reduceEq, Bool.or_true, Bool.or_false]

/-- **`Date::from_primitive`** (byte-level model `DateRead.readDate`, this package): on EVERY byte string a date or
    `Err`. The three slicing expressions `&s[p..p+1]`, `&s[..p]`, `&s[p+1..]` would panic off a character boundary; `p` is
    the position of an ASCII sign in a string that passed `str::from_utf8`, and both sides of an ASCII byte of a
    well-formed string are boundaries (`DateRead.boundary_around_ascii`). The `unreachable!()` is unreachable; the fields
    fit their types (`u16`, `u8`). -/
theorem date_total (data : List UInt8) :
    (DateRead.readDate data).Returns ∧
    ∀ d, DateRead.readDate data = .ok d →
      d.year ≤ 65535 ∧ d.month ≤ 255 ∧ d.day ≤ 255 ∧ d.hour ≤ 255 ∧ d.minute ≤ 255 ∧ d.second ≤ 255 ∧
      d.rel ≤ 2 ∧ d.tzHour ≤ 255 ∧ d.tzMinute ≤ 255 := by
  exact ⟨DateRead.readDate_total data, DateRead.readDate_bounds data⟩

/-- **`Dest`, `MaybeNamedDest`, `Action`** (`Model/Handwritten*.lean`, C15): every primitive, every resolver that answers
    with a value or an error. No indexing beyond `array.get(i)`, no arithmetic: values or errors. -/
theorem dest_action_total (env : Derive.Env) (hc : ∀ id, Derive.Clean (env.resolve id)) (p : Derive.Prim) :
    Derive.Clean (Derive.readDest env p) ∧
    Derive.Clean (Derive.readNamedDestV env p) ∧
    (∀ xs, Derive.Clean (Derive.readDestArr env.tolerant xs)) ∧
    (∀ rdDest : Derive.Prim → Derive.R Derive.Val, (∀ q, Derive.Clean (rdDest q)) →
      Derive.Clean (Derive.readNamedDest rdDest env p) ∧ Derive.Clean (Derive.readAction rdDest env p)) :=
  ⟨Derive.readDest_clean hc p, Derive.readNamedDestV_clean hc p, Derive.readDestArr_clean _,
   fun rdDest hd => ⟨Derive.readNamedDest_clean hc rdDest hd p, Derive.readAction_clean hc rdDest hd p⟩⟩

/-- **`NumberTree<T>` / `NameTree<T>::from_primitive`** (one node; C15's model): every primitive, given a reader of `T`
    that answers. The walk over the kids is `tree_walks_bounded`. -/
theorem tree_node_total (env : Derive.Env) (he : Derive.EnvOk env) (rdT : Derive.Prim → Derive.R Derive.Val)
    (h : ∀ v, v.plain = true → Derive.Clean (rdT v)) (p : Derive.Prim) (hp : p.plain = true) :
    Derive.Clean (Derive.readNumTree rdT env p) ∧ Derive.Clean (Derive.readNameTree rdT env p) :=
  ⟨Derive.readNumTree_clean_plain he rdT h p hp, Derive.readNameTree_clean_plain he rdT h p hp⟩

/-- **Name / number tree walks and the page lookup** (`Model/TypedLoad`, C14; corollaries of `C14.walk_total`,
    `C14.walk_work_linear`, `C14.page_total`). Three conjuncts: (1) a tree walk returns on every graph — cyclic, shared,
    dangling (the model recurses on the depth budget and has no fuel: "never `oof`" holds by construction there, the
    content is "never `panic`" and (2)); (2) the bound the name promises, for tree walks only: if every kid number is
    below `B`, a walk makes at most `B` gets and enters no node twice, whether it ends with a value or an error; (3) the
    page lookup returns for every table, `/Count` and `/Kids` — totality only, no bound on its work is stated here. -/
theorem tree_walks_bounded :
    (∀ (g : List TypedLoad.TNode) (root : TypedLoad.TNode),
      (TypedLoad.walkTree g root).out ≠ .panic ∧ (TypedLoad.walkTree g root).out ≠ .oof) ∧
    (∀ (g : List TypedLoad.TNode) (root : TypedLoad.TNode) (B : Nat),
      (∀ node ∈ g, ∀ kid ∈ TypedLoad.kidsOf node, kid < B) → (∀ kid ∈ TypedLoad.kidsOf root, kid < B) →
      (TypedLoad.walkTree g root).st.gets ≤ B ∧ (TypedLoad.walkTree g root).st.visited.Nodup) ∧
    (∀ (g : List TypedLoad.PNode) (kids : List Nat) (n : Nat),
      (TypedLoad.page g true kids n).out ≠ .panic ∧ (TypedLoad.page g true kids n).out ≠ .oof) :=
  ⟨C14.walk_total, C14.walk_work_linear,
   C14.page_total⟩

/-- **The readers of stream objects** (`CidToGidMap`, `Pattern`, `XObject` dispatch, `AppearanceStreamEntry`; C15's
    models on `TPrim` / `APrim`): every input. `unfiltered`: a stream handed to `unitStreamData` has a direct `/Length`
    and no filter — with filters `Stream::data` runs the decoders, `stream_decoders_total`. `AppearanceStreamEntry`:
    for EVERY nesting budget — a used-up budget is the error "nested too deeply". -/
theorem stream_readers_total :
    (∀ t : Derive.TPrim, t.unfiltered → Derive.Clean (Derive.readCidMap t)) ∧
    (∀ (rdDict : Derive.Dict → Derive.R Derive.Val) (parseOps : List UInt8 → Derive.R (List UInt8)),
      (∀ d, Derive.Clean (rdDict d)) → (∀ b, Derive.Clean (parseOps b)) →
      ∀ t : Derive.TPrim, t.unfiltered → Derive.Clean (Derive.readPattern rdDict parseOps t)) ∧
    (∀ (variants : List Derive.Variant) (rdInner : String → Derive.Dict → List UInt8 → Derive.R Derive.Val),
      (∀ s d b, Derive.Clean (rdInner s d b)) → ∀ t, Derive.Clean (Derive.readXObject variants rdInner t)) ∧
    (∀ (rdForm : Derive.Dict → List UInt8 → Derive.R Derive.Val), (∀ d b, Derive.Clean (rdForm d b)) →
      ∀ (n : Nat) (a : Derive.APrim), Derive.Clean (Derive.readASE rdForm n a)) :=
  ⟨Derive.readCidMap_clean,
   Derive.readPattern_clean,
   Derive.readXObject_clean,
   Derive.readASE_clean⟩

/-- the nesting budget of appearance entries and colour spaces over abstract object graphs (C14) -/
theorem nesting_budgets_total :
    (∀ (g : List TypedLoad.CObj) (k : Nat), TypedLoad.csLoad g 5 k ≠ .panic ∧ TypedLoad.csLoad g 5 k ≠ .oof) ∧
    (∀ (g : List TypedLoad.AObj) (k : Nat), TypedLoad.apLoad g 2 k ≠ .panic ∧ TypedLoad.apLoad g 2 k ≠ .oof) :=
  ⟨C14.colorspace_total, C14.appearance_total⟩

/-- **`Encoding::from_primitive`** (C15 / C19 models): every primitive. The `/Differences` loop is total — `gid + 1` is a
    checked addition, a code of −1 is an error, not an overflow (`Numeric.differences`, C14, is the same loop over
    numbers) — and one unit of fuel for the reference is enough. -/
theorem encoding_total (env : Derive.Env) (he : Derive.EnvOk env) (n : Nat) (p : Derive.Prim) :
    Derive.Clean (Derive.readEncoding env (n + 1) p) ∧
    (∀ (gid : Nat) (xs : List (FontEncoding.DP String)) (m : FontEncoding.DMap String),
      (FontEncoding.readDiffs gid xs m).Returns) ∧
    (∀ (parts : List Numeric.DPart) (gid : Nat) (m : List (Nat × Nat)),
      Numeric.differences true parts gid m ≠ .panic ∧ Numeric.differences true parts gid m ≠ .oof) :=
  ⟨Derive.readEncoding_clean he n p, Derive.readDiffs_returns,
   C14.differences_total⟩

/-- **`ColorSpace::from_primitive_depth`** (`Model/ColorSpaceLoad`, this package): EVERY budget, every plain primitive,
    every object table with plain objects and streams. All families; `get_index` never indexes (`Err(Bounds)`), `hival`
    is a `u8` by test, `depth - 1` is behind `depth == 0`. The value nests base / alternate spaces at most `depth` deep.
    The three loaders it hands over to (tint `Function`, `RcRef<Stream<IccInfo>>`, `Vec<Name>`) are recorded, not run:
    `cs.subs`. -/
theorem colorspace_load_total (se : CSLoad.SEnv) (he : Derive.EnvOk se.env) (depth : Nat) (p : Derive.Prim)
    (hp : p.plain = true) :
    Derive.Clean (CSLoad.csRead se depth p) ∧
    (∀ cs, CSLoad.csRead se depth p = .ok cs → cs.nesting ≤ depth) ∧
    (∀ h n, CSLoad.asU8 h = .ok n → n < 256) :=
  ⟨CSLoad.csRead_clean he depth p hp, CSLoad.csRead_nesting se depth p,
   CSLoad.asU8_range⟩

/-- **`Font::from_primitive`** (`Model/FontLoad`, this package): the dispatch on `/Subtype`, the `/BaseFont` rule,
    `/Encoding`, the cut of `/DescendantFonts` to one element answer on every plain primitive (`fontPlan`), and what the
    plan hands on is plain; run through the derived readers of `Type0Font` / `TFont` / `CIDFont` and the reader of
    `/ToUnicode` (`readFont`) it answers whenever the leaf readers one level down do (`SemOk`; in the tower:
    `typed_load_total`). -/
theorem font_load_total (cfg : Derive.Cfg) (sem : Derive.Sem) (S : FontLoad.Schemas) (env : Derive.Env)
    (he : Derive.EnvOk env) (p : Derive.Prim) (hp : p.plain = true) :
    Derive.Clean (FontLoad.fontPlan env S.fontType p) ∧
    (FontLoad.SemOk sem S env → Derive.Clean (FontLoad.readFont cfg sem S env p)) :=
  ⟨(FontLoad.fontPlan_spec he S.fontType p hp).1, fun hs => FontLoad.readFont_clean cfg sem S he hs p hp⟩

/-- **`Font::widths`** (`Model/Widths`, C19): the `/W` interpreter and the per-subtype dispatch answer on EVERY array —
    runs past `MAX_CID`, descending ranges, non-numbers, a composite font over a composite font. -/
theorem font_widths_total {α : Type} (zero : α) :
    (∀ (w : Widths.Widths α) (items : List (Widths.WP α)), (Widths.interp w items).Returns) ∧
    (∀ f : Widths.FontM α, (Widths.widthsOf zero f).Returns) := by
  refine ⟨C19.interp_total, fun f => ?_⟩
  fun_induction Widths.widthsOf zero f with
  | case2 d ds ih => exact ih
  | case7 dw w h => exact absurd h (C19.interp_total (Widths.Widths.new dw) w).1
  | case8 dw w h => exact absurd h (C19.interp_total (Widths.Widths.new dw) w).2
  | _ => simp [Out.Returns]

/-- **`Font::to_unicode` → `parse_cmap`** (`Model/CMap`, C19): the reader model answers on every byte string — a map,
    `Err`, or "outside the modelled fragment" — and the fuel `len + 1` is never the reason (the model has no panic
    outcome: no indexing, `checked` code arithmetic). -/
theorem cmap_total (bs : CMap.Bytes) : CMap.parseCMap bs ≠ .oof := C19.parse_cmap_total bs

/-- **`Stream::data` → the filters** (`Model/Enc`, `Model/Lzw`, C05): every decoder and every chain on every byte
    string, every parameter set, whatever the third-party decompressors return; LZW with both `EarlyChange` settings;
    undoing a predictor for every `/Predictor /Colors /BitsPerComponent /Columns`; the fax geometry. -/
theorem stream_decoders_total :
    (∀ (X : Enc.Ext) (fs : List Enc.Filter) (data : Enc.Bytes), (Enc.decodeChain X data fs).Returns) ∧
    (∀ (X : Enc.Ext) (data : Enc.Bytes) (f : Enc.Filter), (Enc.decode X data f).Returns) ∧
    (∀ (early : Bool) (data : Enc.Bytes), (Lzw.decode early data).Returns) ∧
    (∀ (decoded : Enc.Bytes) (p : Enc.Params), Enc.unpredict decoded p ≠ .panic ∧ Enc.unpredict decoded p ≠ .oof) ∧
    (∀ c r, Numeric.faxDims true c r ≠ .panic ∧ Numeric.faxDims true c r ≠ .oof) ∧
    (∀ columns rows dataLen c r, Numeric.faxDimsData columns rows dataLen = .ok (c, r) → c ≤ 65535 ∧ r ≤ 8 * dataLen) :=
  ⟨Enc.decodeChain_never_panics, Enc.decode_never_panics,
   Enc.lzw_decode_never_panics, C14.unpredict_total,
   C14.fax_dims_total, C14.fax_output_bounded⟩

/-- **Decryption** (`Model/Crypt`, C06; key lengths: `Model/Numeric`, C14): `Decoder::decrypt` on ARBITRARY ciphertext,
    object number and generation returns a plaintext or `DecryptionFailure` — given hash / block primitives that are
    functions with the digest lengths of MD5 and AES, a cipher method (`Decoder::new` builds no other) and a key of at
    least `min(key_size, 16)` bytes, which is what `from_password` hands over for EVERY `/Length`, `/R` and crypt filter
    (`keySchedule`, `objectKeySlices`, `cfKeyBits`). -/
theorem decrypt_total {P : Crypt.Prims} {H : StdSec.Hashes} (hp : StdSec.PrimsAgree P H) (hw : H.WF) :
    (∀ (d : Crypt.Decoder), d.method ≠ .none → min d.keySize 16 ≤ d.key.length →
      ∀ (id gen : Nat) (data : Crypt.Bytes), (Crypt.decrypt P d id gen data).Returns) ∧
    (∀ revision keyBits userOk,
      Numeric.keySchedule true revision keyBits userOk ≠ .panic ∧ Numeric.keySchedule true revision keyBits userOk ≠ .oof) ∧
    (∀ aes keySize keyLen, min keySize 16 ≤ keyLen →
      Numeric.objectKeySlices aes keySize keyLen ≠ .panic ∧ Numeric.objectKeySlices aes keySize keyLen ≠ .oof) ∧
    (∀ n, Numeric.cfKeyBits true n ≠ .panic ∧ Numeric.cfKeyBits true n ≠ .oof) ∧
    (∀ (d : Crypt.CryptDict) (id pass : Crypt.Bytes) (level keyBits : Nat) (m : Crypt.Method),
      Crypt.fromPasswordRc4 P d id pass level keyBits m ≠ .panic ∧ Crypt.fromPasswordRc4 P d id pass level keyBits m ≠ .oof) :=
  ⟨Crypt.decrypt_total hp hw,
   C14.key_schedule_total,
   C14.object_key_total,
   C14.cf_key_bits_total,
   C14.from_password_rc4_total hp hw⟩

/-- **`content::parse_ops` WITH the typed conversion of the operators** (`Model/ContentBytes.parseBytes` over
    `Model/Content.add`, C08: all 73 operators, their operand conversions and the graphics-state bookkeeping): the
    operations or `Err` for EVERY byte string, strict and `allow_invalid_ops`, within `len + 1` rounds — `content_total`
    with the oracle "the operands convert" replaced by the conversion itself. `ImgOk`: the inline-image reader below
    stays inside the data, which is `inline_image_total`. -/
theorem content_typed_total {R : Type} (ro : Content.RealOps R) (env : Env R) (henv : EnvOk env)
    (o : ContentBytes.Oracle) (ho : ContentBytes.ImgOk o) (allow : Bool) (data : List UInt8)
    (hs : RealSize data.toArray) : (ContentBytes.parseBytes ro env o allow data).Returns :=
  ContentBytes.parseBytes_total ro env henv o ho allow data hs

/-- the inline-image reader of `Model/ContentLoop` (`inline_image`'s position arithmetic, `inline_image_total`) as the
    `inlineImage` field of C08's oracle: the image is identified by where its data starts -/
def imgReader {R : Type} (env : Env R) (o : Oracle) (buf : Buf) (pos : Nat) : Out (Option Nat × Nat) :=
  if buf.size ≤ 9223372036854775807 then          -- `RealSize`: no Rust slice is longer than `isize::MAX`
    match inlineImage env buf o pos with
    | .ok ((true, p), some s) => .ok (some s.1, p)
    | .ok ((_, p), _) => .ok (none, p)
    | .err => .err
    | .panic => .panic
    | .oof => .oof
  else .err

/-- **`ImgOk` is what `inline_image_total` proves**: the hypothesis of `content_typed_total` about the inline-image reader
    holds for the model of `inline_image` with ANY classification oracle, so for that reader `content_typed_total` has no
    assumption left about images. (`isEof`, the error-kind oracle, stays arbitrary.) -/
theorem inline_image_img_ok {R : Type} (env : Env R) (henv : EnvOk env) (o : Oracle) (isEof : Buf → Nat → Bool) :
    ContentBytes.ImgOk { isEof := isEof, inlineImage := imgReader env o } := by
  intro buf pos h
  show imgReader env o buf pos = .err ∨ ∃ img q, imgReader env o buf pos = .ok (img, q) ∧ pos ≤ q ∧ q ≤ buf.size
  unfold imgReader
  split
  · rename_i hsz
    obtain ⟨b, p, d, hp, h1, h2, _⟩ := inline_image_total env henv buf hsz o pos h
    right
    rw [hp]
    cases b <;> cases d <;> exact ⟨_, p, rfl, h1, h2⟩
  · left; rfl

/-- `content_typed_total` with the inline-image reader made concrete: no hypothesis about images is left -/
theorem content_typed_total_concrete {R : Type} (ro : Content.RealOps R) (env : Env R) (henv : EnvOk env) (o : Oracle)
    (isEof : Buf → Nat → Bool) (allow : Bool) (data : List UInt8) (hs : RealSize data.toArray) :
    (ContentBytes.parseBytes ro env { isEof := isEof, inlineImage := imgReader env o } allow data).Returns :=
  content_typed_total ro env henv _ (inline_image_img_ok env henv o isEof) allow data hs

/-- **Functions** (`Model/Numeric`, C14): the PostScript calculator body parser and the interpreter's stack
    arithmetic answer on every token list / every operator list and input. Sampled (type 0) and stitching functions
    beyond the clamp repaired in 28a4efa are walker-only. -/
theorem function_eval_total :
    (∀ s, Numeric.psBody true s ≠ .panic ∧ Numeric.psBody true s ≠ .oof) ∧
    (∀ {V : Type} (A : Numeric.Arith V) (ops : List (Numeric.PsOp V)) (input : List V) (outLen : Nat),
      Numeric.exec A true ops input outLen ≠ .panic ∧ Numeric.exec A true ops input outLen ≠ .oof) :=
  ⟨C14.ps_body_total, C14.ps_exec_total⟩

/-- **`read_core_linear`: the step bounds of the read core, in one place.** Wherever the model of a loop or a recursion
    has fuel, the fuel that never runs out is an explicit linear function of the input (`len` = bytes of the file /
    buffer, `data` = bytes a stream decodes to, `objects` = entries of the tables involved); where the model recurses
    structurally, what it produces is bounded by what it consumes:

    1. object parser: `3·len + 64` levels of recursion / loop rounds for `parse` from any cursor (and a successful parse
       consumes ≥ 1 byte; values nest ≤ 20);
    2. string lexers: `bytes left + 2` lexemes, `bytes left + 1` loop rounds per lexeme;
    3. content stream: ≤ `len + 1` rounds of `OpBuilder::parse`, each round one `parse` (1.) — the rounds are linear, a
       round's parse is linear in what lies ahead; that the total is ≤ `(MAX_DEPTH + 1)·len` follows from the nesting
       limit but is not proved here;
    4. classic cross-reference section: ≤ `len + 1` subsections, and `n` entries cost ≥ `3 n` bytes whatever the header
       claims;
    5. cross-reference stream section: never more entries than decoded bytes;
    6. the `/Prev` walk: `len + 2` rounds (on a well-formed chain exactly its length: `open_walk_concrete`), and the table it
       returns has ≤ `MAX_ID + 1` = 1 000 001 slots whatever `/Size` says;
    7. resolving an object: `2·(table length) + 3` nested calls;
    8. typed loads: `objects + 1` nested gets, and never more than 64 (the guard's depth limit);
    9. name / number tree walks: ≤ `B` gets for kid numbers below `B`, no node entered twice; page lookup: ≤ `16·m` gets
       for `/Kids` arrays of ≤ `m` entries (C14).
    The walker's limits (10 s per document in the quick tier, 8 MiB stack, 1.5 GiB address space) are generous
    stand-ins for these bounds; what the bounds do not cover is named in the claim (third-party decoders, the
    hand-written loaders, allocation sizes). -/
theorem read_core_linear {R : Type} (env : Env R) (henv : EnvOk env) (buf : Buf) (hs : RealSize buf) :
    -- 1
    (∀ pos flags, pos ≤ buf.size → parseWithLexer env buf (3 * buf.size + 64) pos flags ≠ .oof) ∧
    -- 2
    (∀ pos, pos ≤ buf.size → collectString buf (buf.size - pos + 2) pos 0 [] ≠ .oof ∧
        collectHex buf pos (buf.size - pos + 2) pos [] ≠ .oof) ∧
    -- 3
    (∀ (o : Oracle) (allow : Bool), contentLoop env buf o allow (buf.size + 1) 0 ≠ .oof) ∧
    -- 4
    (∀ pos, pos ≤ buf.size → XrefTable.tableLoop buf (buf.size + 1) pos [] ≠ .oof) ∧
    (∀ n pos es q, pos ≤ buf.size → XrefTable.entryLoop buf n pos [] = .ok (es, q) → 3 * es.length ≤ q - pos ∧ q ≤ buf.size) ∧
    -- 5
    (∀ first n width data allowErr s rest, Xref.parseSection first n width data allowErr = .ok (s, rest) →
        s.entries.length ≤ data.length) ∧
    -- 6
    (∀ {V T : Type} (P : Offsets.Parsers V T) (bytes : List UInt8) (hP : Offsets.TotalOn P bytes.length) (start : Nat),
        Offsets.loadTable P (bytes.length + 2) bytes start ≠ .oof ∧
        ∀ t tr, Offsets.loadTable P (bytes.length + 2) bytes start = .ok (t, tr) → t.length ≤ Offsets.maxId + 1) ∧
    -- 7
    (∀ {V T : Type} (P : Offsets.Parsers V T) (bytes : List UInt8) (hP : Offsets.TotalOn P bytes.length)
        (start : Nat) (t : Xref.Table) (flags : Offsets.Flags) (id : Nat),
        Offsets.resolveRef P bytes start t (2 * t.length + 3) [] flags id ≠ .oof) ∧
    -- 8
    (∀ (g : TypedLoad.Graph) (tolerant : Bool) (k : Nat),
        TypedLoad.load g tolerant (g.length + 1) [] k ≠ .oof ∧ TypedLoad.load g tolerant (TypedLoad.maxNest + 1) [] k ≠ .oof) ∧
    -- 9
    (∀ (g : List TypedLoad.TNode) (root : TypedLoad.TNode) (B : Nat),
        (∀ node ∈ g, ∀ kid ∈ TypedLoad.kidsOf node, kid < B) → (∀ kid ∈ TypedLoad.kidsOf root, kid < B) →
        (TypedLoad.walkTree g root).st.gets ≤ B) ∧
    (∀ (g : List TypedLoad.PNode) (m : Nat), (∀ kids count, TypedLoad.PNode.tree kids count ∈ g → kids.length ≤ m) →
        ∀ kids, kids.length ≤ m → ∀ n, (TypedLoad.page g true kids n).gets ≤ 16 * m) := by
  refine ⟨?_, ?_, ?_, ?_, ?_, ?_, ?_, ?_, ?_, ?_, ?_⟩
  · intro pos flags h
    exact (parseWithLexer_good env henv buf hs _ pos flags h (by omega)).ret.ne_oof
  · intro pos h
    exact ⟨(Good.ret (literal_string_total buf hs pos h)).ne_oof, (Good.ret (hex_string_total buf pos h)).ne_oof⟩
  · intro o allow
    have := contentLoop_spec env henv buf hs o allow (buf.size + 1) 0 (Nat.zero_le _) (by omega)
    exact Ret.ne_oof (this.imp id fun ⟨p, hp, _⟩ => ⟨p, hp⟩)
  · intro pos h
    exact Ret.ne_oof ((XrefTable.tableLoop_total buf (buf.size + 1) pos [] h (by omega) nofun).imp id
      fun ⟨subs, q, hq, _⟩ => ⟨(subs, q), hq⟩)
  · intro n pos es q h heq
    obtain ⟨q1, q2, _, q4⟩ := Out.of_ok₂ (XrefTable.entryLoop_total buf n pos [] h nofun) heq
    simp at q4; exact ⟨by omega, q2⟩
  · intro first n width data allowErr s rest heq
    exact (Out.of_ok₂ (Xref.parseSection_spec first n width data allowErr) heq).2.2
  · intro V T P bytes hP start
    exact ⟨(Offsets.loadTable_returns P bytes hP start _ (Nat.le_refl _)).2,
      Offsets.loadTable_length P _ bytes start⟩
  · intro V T P bytes hP start t flags id
    exact (Offsets.resolveRef_returns_top P bytes hP start t _ flags id (Nat.le_refl _)).2
  · intro g tolerant k
    exact ⟨C14.guarded_load_terminates g tolerant k, C14.load_depth_bounded g tolerant k⟩
  · intro g root B hg hr
    exact (C14.walk_work_linear g root B hg hr).1
  · intro g m hm kids hk n
    exact C14.page_steps_bound g true m hm kids hk n

/-- an environment without resolver and without decryption; reals are kept as their token text -/
def textEnv : Env (List UInt8) :=
  { parseReal := fun t => some t, resolveLen := fun _ _ => .err, allowMissingEndobj := false, decrypt := none,
    fileOffset := 0 }

theorem textEnv_ok : EnvOk textEnv :=
  ⟨fun _ _ => Or.inl rfl, fun f hf => by cases hf⟩

def outTag {α : Type} : Out α → Nat
  | .ok _ => 0 | .err => 1 | .panic => 2 | .oof => 3

/-- `[[1] (a\` LF `b) <4> /N]` parses, and the cursor rests behind the `]` -/
def sampleBuf : Buf := #[91, 91, 49, 93, 32, 40, 97, 92, 10, 98, 41, 32, 60, 52, 62, 32, 47, 78, 93]

example : (match parse textEnv sampleBuf Flags.any with | .ok (_, p) => p | _ => 0) = 19 := by decide +kernel

/-- 21 nested arrays are one too many: `Err(MaxDepth)`, not a deeper recursion -/
example : outTag (parse textEnv (Array.replicate 21 91) Flags.any) = 1 := by decide +kernel
example : outTag (parse textEnv (Array.replicate 20 91 ++ Array.replicate 20 93) Flags.any) = 0 := by decide +kernel

/-- hostile little inputs: every one is `err`, none is `panic` or `oof` -/
example : outTag (parse textEnv #[] Flags.any) = 1 := by decide +kernel
example : outTag (parse textEnv #[40, 92] Flags.any) = 1 := by decide +kernel
example : outTag (parse textEnv #[60, 60, 47] Flags.any) = 1 := by decide +kernel
example : outTag (parse textEnv #[37] Flags.any) = 1 := by decide +kernel
example : outTag (parse textEnv #[49, 32, 48, 32] Flags.any) = 0 := by decide +kernel

/-- five line continuations in a row are skipped by the loop of `next_lexeme` in one call -/
example : (match nextLexeme #[92, 10, 92, 13, 10, 92, 13, 92, 10, 92, 10, 120, 41] 14 0 0 with
    | .ok (some b, p, _) => (b, p) | _ => (0, 0)) = (120, 12) := by decide +kernel

/-- the searches: found, not found, and the cursor afterwards -/
example : seekSubstr #[97, 10, 69, 10, 69, 73, 98] 0 kwLfEI = .ok (some (0, 3), 6) := by decide +kernel
example : seekSubstr #[97, 98] 1 kwLfEI = .ok (none, 2) := by decide +kernel
example : seekSubstrBack #[120, 97, 98, 97, 98, 121] 6 [97, 98] = .ok ((5, 6), 5) := by decide +kernel
example : readN #[] 0 5 = .ok ((0, 0), 0) := by decide +kernel

/-- a content stream whose only operator is unknown, in tolerant mode: the loop ends at the end of the data -/
def noOracle : Oracle := { isEof := fun _ _ => false, opOk := fun _ _ => false, imgOk := fun _ => true }
example : parseOps textEnv #[49, 32, 50, 32, 120, 120] noOracle true = .ok 6 := by decide +kernel
example : parseOps textEnv #[49, 32, 50, 32, 120, 120] noOracle false = .err := by decide +kernel

/-- `BI /W 1 ID x LF EI`: the data range of the image is `11 .. 12` -/
example : (match inlineImage textEnv #[66, 73, 32, 47, 87, 32, 49, 32, 73, 68, 32, 120, 10, 69, 73] noOracle 2 with
    | .ok ((true, p), some s) => (p, s) | _ => (0, (0, 0))) = (15, (11, 12)) := by decide +kernel

/-- a classic table with two subsections is read; an entry count of 4294967295 ends in `Err`, not in a long loop -/
def xrefSample : Buf :=
  "xref\n0 1\n0000000000 65535 f \n3 1\n0000000017 00000 n \ntrailer\n<</Size 4>>".toUTF8.data

def noTyped : Dict (List UInt8) → Out XrefTable.XInfo := fun _ => .err
def noData : Dict (List UInt8) → StreamInner → Out (List UInt8) := fun _ _ => .err

example : (match XrefTable.readXrefAt textEnv noTyped noData false xrefSample 0 with
    | .ok (secs, _) => secs | _ => []) = [⟨0, [.free 0 65535]⟩, ⟨3, [.raw 17 0]⟩] := by decide +kernel

example : outTag (XrefTable.readXrefAt textEnv noTyped noData false
    "xref\n0 4294967295\n0000000000 65535 f \ntrailer\n<<>>".toUTF8.data 0) = 1 := by
  decide +kernel

/-- a cross-reference stream section: `/W [1 1 1]`, two rows (`Free 0 255`, `Raw 16 0`), the typed entries and the
    data supplied the way the typed loader and `Resolve::stream_data` would -/
def xrefStmSample : Buf :=
  "5 0 obj\n<</Type/XRef/Size 2/W[1 1 1]/Length 6>>\nstream\nabcdef\nendstream\nendobj\nstartxref".toUTF8.data

example : (match XrefTable.readXrefAt textEnv (fun _ => .ok ⟨[1, 1, 1], [0, 2]⟩) (fun _ _ => .ok [0, 0, 255, 1, 16, 0]) false
      xrefStmSample 0 with
    | .ok (secs, _) => secs | _ => []) = [⟨0, [.free 0 255, .raw 16 0]⟩] := by decide +kernel

/-- the recovery scan on `1 0 obj 5 endobj` + junk: one object, then an error item; every item returns -/
example : (ScanLoop.scanItemsOf textEnv [49, 32, 48, 32, 111, 98, 106, 32, 53, 32, 101, 110, 100, 111, 98, 106, 32, 63]).map Out.tag
    = ["ok", "err"] := by decide +kernel

end C01

/-! ## Tie to the source: constants and byte classes (appended by the translator package)

`Generated/Lexical.lean` is re-extracted from `pdf/src` by `./check` before this file is built. -/

namespace C01

/-- the lexical classes of the lexer model, the parser's nesting bound, the object-number bound and the bound on nested typed loads are the ones of the source (`is_whitespace`, `is_delimiter`, `MAX_DEPTH`, `MAX_ID`, `MAX_NESTED_GETS`) -/
theorem constants_match_source :
    ((List.range 256).filter (fun n => PdfLex.isWhitespace (UInt8.ofNat n)) = Generated.lexWhitespace) ∧
    ((List.range 256).filter (fun n => PdfLex.isDelimiter (UInt8.ofNat n)) = Generated.lexDelimiters) ∧
    ((List.range 256).filter (fun n => PdfLex.isRegular (UInt8.ofNat n)) =
      (List.range 256).filter (fun n => !Generated.lexWhitespace.contains n && !Generated.lexDelimiters.contains n)) ∧
    (PdfLex.maxDepth = Generated.parserMaxDepth) ∧
    (Offsets.maxId = Generated.maxId) ∧
    (TypedLoad.maxNest = Generated.maxNestedGets) := by
  refine ⟨?_, ?_, ?_, ?_, ?_, ?_⟩
  · first | decide +kernel | fail "constants_match_source (C01): the model's PdfLex.isWhitespace does not match the source (Generated.lexWhitespace, re-extracted from pdf/src)"
  · first | decide +kernel | fail "constants_match_source (C01): the model's PdfLex.isDelimiter does not match the source (Generated.lexDelimiters, re-extracted from pdf/src)"
  · first | decide +kernel | fail "constants_match_source (C01): the model's PdfLex.isRegular does not match the source (Generated.lexDelimiters, Generated.lexWhitespace, re-extracted from pdf/src)"
  · first | decide +kernel | fail "constants_match_source (C01): the model's PdfLex.maxDepth does not match the source (Generated.parserMaxDepth, re-extracted from pdf/src)"
  · first | decide +kernel | fail "constants_match_source (C01): the model's Offsets.maxId does not match the source (Generated.maxId, re-extracted from pdf/src)"
  · first | decide +kernel | fail "constants_match_source (C01): the model's TypedLoad.maxNest does not match the source (Generated.maxNestedGets, re-extracted from pdf/src)"

end C01
