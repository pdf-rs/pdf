import PdfModel.Lemmas.StorageRun
import PdfModel.Lemmas.StoragePrefix
import PdfModel.Lemmas.StorageLoad
import PdfModel.Lemmas.HistBytes
import PdfModel.Lemmas.BuildBytes

/-!
# C09 — a reload sees exactly the saved modifications and nothing else changes

The theorems are about the model in `Model/Storage.lean` (`run` over arbitrary operation histories of
`create / update / promise / fulfil / get / resolve / save`, saves that fail included) and the abstract
map of `Spec/Storage.lean` (`specRun`: reference ↦ last value written through it). They hold for every
value type `V`, every serialisability predicate `P.ok`, every record layout with positive lengths and
every base document `d0` that satisfies `BaseOK` (what a freshly loaded well-formed file satisfies: see
the non-vacuity examples at the end). The correspondence check for C09 ties `step`, `save` and `reload`
to `Storage::{create, update, promise, fulfill, save}`, `StorageResolver::{resolve, get}` and
`load_storage_and_trailer` of the current source tree.
-/

namespace Storage
open Xref

variable {V : Type}

/-- every save of the history lays its records out with positive lengths -/
def HistOK (ops : List (Op V)) : Prop := ∀ op ∈ ops, OpOK op

/-- **C09, "for every loadable file"**: the hypothesis `BaseOK` of the theorems below is what opening a
    well-formed file gives. `FileWF` speaks about the bytes only: the newest cross-reference section and
    the sections `/Prev` reaches mention numbers below `/Size`, offsets inside the file, and generations
    that never increase towards older sections (the well-formedness of C02, in its strong form). -/
theorem loaded_file_is_base (s : St V) (s0 : Sec) (chain : List (List Sub)) (wf : FileWF s s0 chain) (c : Bool)
    (d0 : Doc V) (h : reload s c = .ok d0) : BaseOK d0 chain :=
  load_baseOK s s0 chain wf c d0 h

/-- **C09, "before any save every read through the same open document already reflects each write"**
    (and after saves, failed or not): whatever the history, a reference that was written — the very
    reference the caller was handed — resolves to the last value written, through `resolve` and through
    the caching `get`. -/
theorem read_your_writes (P : Params V) (d0 : Doc V) (chain0) (hb : BaseOK d0 chain0) (ops : List (Op V))
    (hops : HistOK ops) (id : Nat) (v : V)
    (hw : specRun AMap.empty ops (run P d0 ops).2 id = some v) :
    resolve (run P d0 ops).1.st id = .val v ∧ (get (run P d0 ops).1.st id).2 = .val v := by
  have hi := run_inv P d0 chain0 hb ops d0 (inv_base d0 chain0 hb) hops
  have hm := run_log P d0 chain0 hb ops d0 AMap.empty (inv_base d0 chain0 hb) (logInv_base d0 chain0 hb) hops
  obtain ⟨g, hg⟩ := hm.written id v hw
  have hr := resolve_changed _ id v g hg
  refine ⟨hr, ?_⟩
  unfold get
  split
  · split
    · rename_i r hc
      exact ((hi.cache_ok id r hc v).mpr hr)
    · exact hr
  · exact hr

/-- **C09, D22**: when `update` / `fulfil` hand back a reference, its *number* is the number they were given (the
    statement is about the number only; that the generation is the one of the table entry, or 0 for a compressed or
    promised one, is in the model's `update` and is compared by the correspondence `c09.hist`). -/
theorem update_keeps_reference (P : Params V) (d : Doc V) (id : Nat) (v : V) (i g : Nat)
    (h : (step P d (.update id v)).2 = .ref i g ∨ (step P d (.fulfil id v)).2 = .ref i g) : i = id := by
  rw [step_fulfil_eq, or_self] at h
  rcases step_update_cases P d id v with ⟨g', h'⟩ | ⟨o, h'⟩
  · rw [h'] at h; simp only [Res.ref.injEq] at h; exact h.1.symm
  · rw [h'] at h; cases h

/-- **C09, untouched objects, in the open document**: a number of the loaded table that the history
    never wrote (nor the object stream holding it) reads exactly as it did after loading. -/
theorem untouched_reads_unchanged (P : Params V) (d0 : Doc V) (chain0) (hb : BaseOK d0 chain0) (ops : List (Op V))
    (hops : HistOK ops) (id : Nat) (hid : id < d0.st.refs.length)
    (hu : specRun AMap.empty ops (run P d0 ops).2 id = none)
    (hcont : ∀ sid idx, d0.st.refs[id]? = some (.stream sid idx) →
      specRun AMap.empty ops (run P d0 ops).2 sid = none) :
    resolve (run P d0 ops).1.st id = resolve d0.st id := by
  have hi := run_inv P d0 chain0 hb ops d0 (inv_base d0 chain0 hb) hops
  have hm := run_log P d0 chain0 hb ops d0 AMap.empty (inv_base d0 chain0 hb) (logInv_base d0 chain0 hb) hops
  apply resolve_untouched d0 _ chain0 hb hi id hid (hm.untouched id hu hid)
  intro sid idx he
  exact hm.untouched sid (hcont sid idx he) (hb.stream_lt id sid idx he)

/-- **C09, reload.** After any history — several saves, failed saves, retries — a successful save
    produces bytes that load again, with the same trailer, and in which
    * every written reference (the one the caller passed or was handed) resolves to the last value written;
    * every untouched number of the loaded table resolves as before (an undefined number may now read as
      free: both are null objects), stream objects and compressed objects included. -/
theorem reload_sees_saved (P : Params V) (d0 : Doc V) (chain0) (hb : BaseOK d0 chain0) (ops : List (Op V))
    (hops : HistOK ops) (L : Layout) (hL : L.Pos) (d' : Doc V) (i : SaveInfo)
    (hs : save P L (run P d0 ops).1 = (d', .ok i)) (c : Bool) :
    ∃ dr, reload d'.st c = .ok dr ∧ dr.tr = d0.tr ∧
      (∀ id v, specRun AMap.empty ops (run P d0 ops).2 id = some v → resolve dr.st id = .val v) ∧
      (∀ id, id < d0.st.refs.length → specRun AMap.empty ops (run P d0 ops).2 id = none →
        (∀ sid idx, d0.st.refs[id]? = some (.stream sid idx) →
          specRun AMap.empty ops (run P d0 ops).2 sid = none) →
        sameRd (resolve dr.st id) (resolve d0.st id)) := by
  have hi := run_inv P d0 chain0 hb ops d0 (inv_base d0 chain0 hb) hops
  have hm := run_log P d0 chain0 hb ops d0 AMap.empty (inv_base d0 chain0 hb) (logInv_base d0 chain0 hb) hops
  have pf := prep_facts d0 _ chain0 hb hi
  obtain ⟨t, hr, facts⟩ := reload_after_save P L hL d0 _ d' chain0 i hb hi hs c
  refine ⟨_, hr, hi.tr_eq, ?_, ?_⟩
  · intro id v hw
    obtain ⟨g, hg⟩ := hm.written id v hw
    exact facts.pending id v g (pf.ch_sup id _ hg) c
  · intro id hid hu hcont
    have hlt : ∀ j, j < d0.st.refs.length → j < (run P d0 ops).1.st.refs.length := by
      intro j hj; have := hi.refs_len; omega
    apply facts.old id hid
    · rw [pf.ch_sub id (hlt id hid)]; exact hm.untouched id hu hid
    · intro sid idx he
      have hsid := hb.stream_lt id sid idx he
      rw [pf.ch_sub sid (hlt sid hsid)]
      exact hm.untouched sid (hcont sid idx he) hsid

/-- a *successful* `save` has written a `/Size` within the reader's limit (`MAX_ID` = 1 000 000) — what the statement
    says. That a save over the limit fails and leaves the document as it was (D46) is `Storage.save_too_big`
    (Lemmas/StorageSave.lean: `MAX_ID < refs.length + 2 → save P L d = (d, .err)`), not this theorem. -/
theorem save_respects_reader_limit (P : Params V) (L : Layout) (d d' : Doc V) (i : SaveInfo)
    (hs : save P L d = (d', .ok i)) : i.size ≤ MAX_ID ∧ d.st.refs.length + 2 ≤ MAX_ID := by
  obtain ⟨_, _, _, _, _, _, _, _, h3, _, h5⟩ := save_ok_spec P L d d' i hs
  refine ⟨?_, h5⟩
  rw [h3]; simp only [prep]; exact h5

theorem run_append (P : Params V) : ∀ (a b : List (Op V)) (d : Doc V),
    (run P d (a ++ b)).1 = (run P (run P d a).1 b).1 := by
  intro a
  induction a with
  | nil => intro b d; rfl
  | cons x xs ih => intro b d; simp only [List.cons_append, run]; exact ih b _

theorem run_save (P : Params V) (L : Layout) (d : Doc V) : (run P d [.save L]).1 = (save P L d).1 :=
  step_save_fst P d L

/-- **C09, "the bytes of the previous revision remain an unmodified prefix"**: one more operation —
    whatever it is, whether it succeeds or fails — leaves every object and section of the backend at its
    offset and only adds records at or after the old end of the file. No hypothesis at all. -/
theorem prefix_preserved (P : Params V) (d : Doc V) (ops : List (Op V)) (op : Op V) :
    Extends (run P d ops).1.st (run P d (ops ++ [op])).1.st := by
  rw [run_append]
  exact step_extends P _ op

/-- the same over a whole history -/
theorem history_prefix_preserved (P : Params V) (d : Doc V) (ops : List (Op V)) :
    Extends d.st (run P d ops).1.st := run_extends P ops d

/-- **C09, "a save that fails and is retried after the offending object is replaced"**: for a document
    reached by any history (failed saves included), `save` succeeds as soon as every pending value is
    serialisable, no promise is open, the catalog resolves and the table is within the reader's limit —
    the failed attempts leave nothing behind that could stop it — and the reload theorem applies.
    Hypothesis `ht : L.typed = true`: the typed reload of the trailer at the end of this save succeeds (the catalog loads as
    a catalog: an input of the model, see `Layout.typed`); without it the save fails after writing
    (`late_failure_keeps_revision`). `Savable`: pending values and the info dictionary serialisable, no promise open, the
    catalog resolves; the reader's limit is the separate hypothesis `hsize`. -/
theorem save_retry_after_failure (P : Params V) (d0 : Doc V) (chain0) (hb : BaseOK d0 chain0) (ops : List (Op V))
    (hops : HistOK ops) (L : Layout) (hL : L.Pos) (ht : L.typed = true) (hsv : Savable P (run P d0 ops).1)
    (hsize : (run P d0 ops).1.st.refs.length + 2 ≤ MAX_ID) (c : Bool) :
    ∃ d' i dr, save P L (run P d0 ops).1 = (d', .ok i) ∧ reload d'.st c = .ok dr ∧
      ∀ id v, specRun AMap.empty ops (run P d0 ops).2 id = some v → resolve dr.st id = .val v := by
  have hi := run_inv P d0 chain0 hb ops d0 (inv_base d0 chain0 hb) hops
  obtain ⟨d', i, hs⟩ := save_succeeds P L hL ht d0 _ chain0 hb hi hsv hsize
  obtain ⟨dr, h1, _, h2, _⟩ := reload_sees_saved P d0 chain0 hb ops hops L hL d' i hs c
  exact ⟨d', i, dr, hs, h1, h2⟩

/-- a save is an `ok` or an `err`, never a panic (first conjunct: this is the content, through `inv_save`). The second
    conjunct — the abstract map after `ops ++ [save]` is the map after `ops` — holds *by construction* of the
    specification (`specStep` records writes of `create / update / fulfil` only and ignores `save`; it needs none of the
    hypotheses). What makes a failed save invisible is that `read_your_writes` and `untouched_reads_unchanged` hold for the
    history *including* the failed save (they are stated for every history): every written reference still reads its last
    value, every untouched number what it read before. -/
theorem failed_save_is_clean (P : Params V) (d0 : Doc V) (chain0) (hb : BaseOK d0 chain0) (ops : List (Op V))
    (hops : HistOK ops) (L : Layout) (hL : L.Pos) :
    ((∃ i, (save P L (run P d0 ops).1).2 = .ok i) ∨ (save P L (run P d0 ops).1).2 = .err) ∧
    specRun AMap.empty (ops ++ [.save L]) (run P d0 (ops ++ [.save L])).2
      = specRun AMap.empty ops (run P d0 ops).2 := by
  have hi := run_inv P d0 chain0 hb ops d0 (inv_base d0 chain0 hb) hops
  refine ⟨(inv_save P L hL d0 _ chain0 hb hi).2, ?_⟩
  have key : ∀ (a : List (Op V)) (d : Doc V) (m : AMap V),
      specRun m (a ++ [.save L]) (run P d (a ++ [.save L])).2 = specRun m a (run P d a).2 := by
    intro a
    induction a with
    | nil =>
      intro d m
      simp only [List.nil_append, run, specRun, step]
      split <;> rfl
    | cons x xs ih => intro d m; simp only [List.cons_append, run, specRun]; exact ih _ _
  exact key ops d0 _

/-- **C09, a save that fails after its revision was appended** (`Trailer::from_dict` at the end of `save`: the
    catalog — or whatever else the typed trailer loads — no longer reads back as what it must be; `write_revision`
    had succeeded). The save is an `Err`; the caller's trailer is untouched; the backend has grown by one complete
    revision and nothing in front of it has moved; that revision's table is the table of a completed save (every
    pending number at its record, every untouched number as before: `ReloadFacts`); in the open document every
    written reference still reads the last value written. -/
theorem late_failure_keeps_revision (P : Params V) (d0 : Doc V) (chain0) (hb : BaseOK d0 chain0) (ops : List (Op V))
    (hops : HistOK ops) (L : Layout) (hL : L.Pos) (i : SaveInfo)
    (hc : commitInfo P L (run P d0 ops).1 = some i)
    (hfail : ∀ i', (save P L (run P d0 ops).1).2 ≠ .ok i') :
    (save P L (run P d0 ops).1).2 = .err ∧
    (save P L (run P d0 ops).1).1.tr = (run P d0 ops).1.tr ∧
    Extends (run P d0 ops).1.st (save P L (run P d0 ops).1).1.st ∧
    (run P d0 ops).1.st.len < (save P L (run P d0 ops).1).1.st.len ∧
    (∃ t, mergeAll (newTable (prep (run P d0 ops).1).size) ([⟨0, i.rows⟩] :: chain0) = .ok t ∧
      ReloadFacts P d0 (run P d0 ops).1 (save P L (run P d0 ops).1).1 i t) ∧
    (∀ id v, specRun AMap.empty ops (run P d0 ops).2 id = some v →
      resolve (save P L (run P d0 ops).1).1.st id = .val v) := by
  have hi := run_inv P d0 chain0 hb ops d0 (inv_base d0 chain0 hb) hops
  have hm := run_log P d0 chain0 hb ops d0 AMap.empty (inv_base d0 chain0 hb) (logInv_base d0 chain0 hb) hops
  obtain ⟨hcm, htr⟩ := commitInfo_some P L d0 _ chain0 hb hi i hc
  have htr' : (save P L (run P d0 ops).1).1.tr = (run P d0 ops).1.tr := htr.resolve_right fun ⟨i', h⟩ => hfail i' h
  obtain ⟨_, rv⟩ := revision_facts P L hL d0 _ _ chain0 i hb hi hcm
  refine ⟨((inv_save P L hL d0 _ chain0 hb hi).2.resolve_left fun ⟨i', h⟩ => hfail i' h), htr',
    save_extends P L _, ?_, reload_table_facts_c P L hL d0 _ _ chain0 i hb hi hcm htr', fun id v hw => ?_⟩
  · rw [rv.len]; have := rv.behind; have := hL.2 i; omega
  · obtain ⟨g, hg⟩ := hm.written id v hw
    exact resolve_changed _ id v g (by rw [save_changes_old P L d0 _ chain0 hb hi id (hi.ch_lt id _ hg)]; exact hg)

/-- **C09, "a save that fails and is retried after the offending object is replaced", for the failure after the
    write**: the history goes on after the late failure (`ops'`: the repair — e.g. `update` of the catalog — and
    anything else), then a save under which the typed trailer loads again. It succeeds as soon as the document is
    savable; the reload of its output sees every write of the whole history (before and after the failed save) at its
    last value; and the backend of the failed save — previous revisions *and* the revision the failed save left
    behind — is an unmodified prefix of the output; the failed save (hypotheses `hc`, `hfail`: it wrote its revision and
    did not return `Ok`) really did lengthen the backend, so the output is longer than the file before it by more than the
    last revision. -/
theorem save_retry_after_late_failure (P : Params V) (d0 : Doc V) (chain0) (hb : BaseOK d0 chain0) (ops : List (Op V))
    (hops : HistOK ops) (L : Layout) (hL : L.Pos) (i : SaveInfo)
    (hc : commitInfo P L (run P d0 ops).1 = some i)
    (hfail : ∀ i', (save P L (run P d0 ops).1).2 ≠ .ok i')
    (ops' : List (Op V)) (hops' : HistOK ops') (L' : Layout) (hL' : L'.Pos) (ht' : L'.typed = true)
    (hsv : Savable P (run P d0 (ops ++ [.save L] ++ ops')).1)
    (hsize : (run P d0 (ops ++ [.save L] ++ ops')).1.st.refs.length + 2 ≤ MAX_ID) (c : Bool) :
    ∃ d' i' dr, save P L' (run P d0 (ops ++ [.save L] ++ ops')).1 = (d', .ok i') ∧ reload d'.st c = .ok dr ∧
      (∀ id v, specRun AMap.empty (ops ++ [.save L] ++ ops') (run P d0 (ops ++ [.save L] ++ ops')).2 id = some v →
        resolve dr.st id = .val v) ∧
      Extends (save P L (run P d0 ops).1).1.st d'.st ∧
      (run P d0 ops).1.st.len < (save P L (run P d0 ops).1).1.st.len ∧ (run P d0 ops).1.st.len < d'.st.len := by
  have hall : HistOK (ops ++ [.save L] ++ ops') := by
    intro op hop
    simp only [List.mem_append, List.mem_singleton] at hop
    rcases hop with (hop | rfl) | hop
    · exact hops op hop
    · exact hL
    · exact hops' op hop
  obtain ⟨d', i', dr, h1, h2, h3⟩ := save_retry_after_failure P d0 chain0 hb _ hall L' hL' ht' hsv hsize c
  obtain ⟨_, _, _, hlate, _, _⟩ := late_failure_keeps_revision P d0 chain0 hb ops hops L hL i hc hfail
  have e1 : (run P d0 (ops ++ [.save L] ++ ops')).1 = (run P (save P L (run P d0 ops).1).1 ops').1 := by
    rw [run_append, run_append, run_save]
  have hext : Extends (save P L (run P d0 ops).1).1.st d'.st :=
    (e1 ▸ run_extends P ops' _).trans (by have := save_extends P L' (run P d0 (ops ++ [.save L] ++ ops')).1; rwa [h1] at this)
  exact ⟨d', i', dr, h1, h2, h3, hext, hlate, Nat.lt_of_lt_of_le hlate hext.len⟩

/-- **C09, "several saves in a row"**: from a savable document any number of saves in a row all
    succeed, as long as the table stays within the reader's limit (each save allocates at most two numbers).
    Hypotheses that are easy to overlook: `hx` — the cross-reference stream value a save leaves pending is itself
    serialisable (`P.ok (P.xrefVal i)`: true of `SaveBytes.params` under `Bounds`, an assumption about `P` here); every
    layout has `L.typed = true` (the typed reload of the trailer succeeds each time). -/
theorem saves_in_a_row (P : Params V) (hx : ∀ i, P.ok (P.xrefVal i) = true) (d0 : Doc V) (chain0) (hb : BaseOK d0 chain0) :
    ∀ (Ls : List Layout), (∀ L ∈ Ls, L.Pos ∧ L.typed = true) → ∀ (d : Doc V), Inv d0 d → Savable P d →
      d.st.refs.length + 2 * Ls.length ≤ MAX_ID →
      ∀ r ∈ (run P d (Ls.map Op.save)).2, ∃ i, r = Res.saved i := by
  intro Ls
  induction Ls with
  | nil => intro _ d _ _ _ r hr; simp [run] at hr
  | cons L Ls ih =>
    intro hpos d hi hsv hsz r hr
    simp only [List.length_cons] at hsz
    obtain ⟨d', i, hs⟩ := save_succeeds P L (hpos L (by simp)).1 (hpos L (by simp)).2 d0 d chain0 hb hi hsv (by omega)
    have hi' := inv_save_ok P L (hpos L (by simp)).1 d0 d d' chain0 i hb hi hs
    have hsv' := savable_after_save P L (hpos L (by simp)).1 d0 d d' chain0 i hb hi hx hsv hs
    have hg := save_grows P L d0 d d' chain0 i hb hi hs
    simp only [List.map_cons, run, step, hs, List.mem_cons] at hr
    rcases hr with rfl | hr
    · exact ⟨i, rfl⟩
    · exact ih (fun L' hL' => hpos L' (by simp [hL'])) d' hi' hsv' (by omega) r hr

/-! ## The rules before the repairs did not satisfy the property

A six-number document: 1 catalog (100), 2 a direct object (200), 3 compressed in object stream 4 (300),
5 undefined although below /Size. Values are numbers; `P.ok v` is `v ≠ 13`. -/

def tiny : Doc Nat :=
  ⟨⟨[.free 0 65535, .raw 10 0, .raw 20 0, .stream 4 0, .raw 30 0, .invalid, .free 0 65535], [], [], true,
     [⟨10, 1, 0, 100, []⟩, ⟨20, 2, 0, 200, []⟩, ⟨30, 4, 0, 400, [300]⟩],
     [⟨50, [⟨0, [.free 0 65535, .raw 10 0, .raw 20 0, .stream 4 0, .raw 30 0]⟩], 6, none, (1, 0), none⟩],
     80, 0, 50⟩, ⟨(1, 0), none, none⟩⟩

def PN : Params Nat := ⟨fun v => v != 13, fun _ => 0, fun _ _ _ => 0⟩
def L5 : Layout := ⟨fun _ => 5, fun _ => 7, fun _ => 3, true⟩

/-- `tiny` is what loading its own bytes gives -/
example : (match reload tiny.st true with
    | .ok d => d.st.refs == tiny.st.refs && d.tr.root == tiny.tr.root
    | _ => false) = true := by decide

/-- D22: the old `update` of compressed object 3 hands back a new reference (7) and 3 keeps reading 300 -/
example : (updateOld (fun _ _ => none) tiny.st 3 777).2 = .ok (7, 0) ∧
    resolve (updateOld (fun _ _ => none) tiny.st 3 777).1 3 = .val 300 := by decide
example : (update tiny.st 3 777).2 = .ok (3, 0) ∧ resolve (update tiny.st 3 777).1 3 = .val 777 := by decide

/-- D44: a second old `update` merges (here: adds) instead of replacing -/
example : resolve (updateOld (fun a b => some (a + b)) (updateOld (fun a b => some (a + b)) tiny.st 2 1).1 2 5).1 2
    = .val 6 := by decide
example : resolve (update (update tiny.st 2 1).1 2 5).1 2 = .val 5 := by decide

/-- D24: `get` after the old `update` serves the cached old value -/
example : (get (updateOld (fun _ _ => none) (get tiny.st 2).1 2 999).1 2).2 = .val 200 := by decide
example : (get (update (get tiny.st 2).1 2 999).1 2).2 = .val 999 := by decide

/-- D24 (create): a lookup of the next number that failed is cached; `create` must drop it -/
example : (get (create (get tiny.st 7).1 55).1 7).2 = .val 55 := by decide

/-- D45: the old `save` refuses `tiny` because number 5 is undefined; the repaired one writes it as free -/
example : (saveOld PN L5 ⟨(update tiny.st 2 1).1, tiny.tr⟩).2 = .err := by decide
example : (save PN L5 ⟨(update tiny.st 2 1).1, tiny.tr⟩).2.isOk = true := by decide

/-- D25: after a failed old `save` (value 13 is not serialisable) the promise stays and the retry fails
    although the offender was replaced; the repaired `save` rolls back and the retry succeeds -/
example : (saveOld PN L5 ⟨(update (saveOld PN L5 ⟨(update (update tiny.st 5 0).1 2 13).1, tiny.tr⟩).1.st 2 14).1, tiny.tr⟩).2
    = .err := by decide

def tinyFixed : Doc Nat := { tiny with st := { tiny.st with refs := tiny.st.refs.set 5 (.free 0 0) } }

example : (saveOld PN L5 ⟨(update tinyFixed.st 2 13).1, tinyFixed.tr⟩).2 = .err ∧
    (saveOld PN L5 ⟨(update (saveOld PN L5 ⟨(update tinyFixed.st 2 13).1, tinyFixed.tr⟩).1.st 2 14).1, tinyFixed.tr⟩).2
      = .err := by decide
example : (save PN L5 ⟨(update tinyFixed.st 2 13).1, tinyFixed.tr⟩).2 = .err ∧
    (save PN L5 ⟨(update (save PN L5 ⟨(update tinyFixed.st 2 13).1, tinyFixed.tr⟩).1.st 2 14).1, tinyFixed.tr⟩).2.isOk
      = true := by decide

/-- D23: the same document behind 7 bytes of junk: the old `save` records absolute positions and the
    saved bytes do not load; the repaired one records positions relative to the header -/
def shifted : Doc Nat :=
  ⟨⟨[.free 0 65535, .raw 10 0, .raw 20 0, .stream 4 0, .raw 30 0, .free 0 0, .free 0 65535], [], [], false,
     [⟨17, 1, 0, 100, []⟩, ⟨27, 2, 0, 200, []⟩, ⟨37, 4, 0, 400, [300]⟩],
     [⟨57, [⟨0, [.free 0 65535, .raw 10 0, .raw 20 0, .stream 4 0, .raw 30 0, .free 0 0]⟩], 6, none, (1, 0), none⟩],
     87, 7, 50⟩, ⟨(1, 0), none, none⟩⟩

example : (match reload (saveOld PN L5 ⟨(update shifted.st 2 1).1, shifted.tr⟩).1.st false with
    | .ok _ => true | _ => false) = false := by decide
example : (match reload (save PN L5 ⟨(update shifted.st 2 1).1, shifted.tr⟩).1.st false with
    | .ok d => resolve d.st 2 == .val 1 && resolve d.st 3 == .val 300 && resolve d.st 1 == .val 100
    | _ => false) = true := by decide

/-- the bytes of `tinyFixed` are a well-formed file in the sense of `loaded_file_is_base` -/
example : FileWF tinyFixed.st
    ⟨50, [⟨0, [.free 0 65535, .raw 10 0, .raw 20 0, .stream 4 0, .raw 30 0]⟩], 6, none, (1, 0), none⟩ [] where
  start_le := by decide
  pos_lt := by decide
  sec0 := rfl
  size_ok := by decide
  walk := rfl
  entries := by intro p hp; simp [allPairs, secPairs, subPairs, pairsFrom] at hp; rcases hp with rfl | rfl | rfl | rfl | rfl <;> rfl
  ids_lt := by intro p hp; simp [allPairs, secPairs, subPairs, pairsFrom] at hp; rcases hp with rfl | rfl | rfl | rfl | rfl <;> decide
  newest_dominates := by
    intro j e older h m hm
    rcases j with _ | _ | _ | _ | _ | j <;>
      simp [mentions, allPairs, secPairs, subPairs, pairsFrom] at h
    all_goals (try (obtain ⟨_, rfl⟩ := h; cases hm))
  raw_in_file := by
    intro p hp pos g h
    simp [allPairs, secPairs, subPairs, pairsFrom] at hp
    rcases hp with rfl | rfl | rfl | rfl | rfl <;> simp at h <;> (obtain ⟨rfl, rfl⟩ := h; decide)
  stream_in_table := by
    intro p hp sid idx h
    simp [allPairs, secPairs, subPairs, pairsFrom] at hp
    rcases hp with rfl | rfl | rfl | rfl | rfl <;> simp at h
    obtain ⟨rfl, rfl⟩ := h; decide
  objs_lt := by intro o ho; simp [tinyFixed, tiny] at ho; rcases ho with rfl | rfl | rfl <;> decide
  secs_lt := by intro x hx; simp [tinyFixed, tiny] at hx; subst hx; decide

/-! ## Non-vacuity: `tinyFixed` satisfies the hypotheses, a history with a failed save and a retry runs -/

/-- `tinyFixed` is a base document in the sense of the theorems -/
example : BaseOK tinyFixed [] where
  start_le := by decide
  chain := rfl
  pairs_entry := by intro p hp; simp [allPairs] at hp
  pairs_dom := by intro p hp; simp [allPairs] at hp
  objs_lt := by intro o ho; simp [tinyFixed, tiny] at ho; rcases ho with rfl | rfl | rfl <;> decide
  secs_lt := by intro s hs; simp [tinyFixed, tiny] at hs; subst hs; decide
  raw_lt := by
    intro j pos g h
    rcases j with _ | _ | _ | _ | _ | _ | _ | j <;> simp [tinyFixed, tiny] at h <;>
      (simp [tinyFixed, tiny]; omega)
  stream_lt := by
    intro j sid idx h
    rcases j with _ | _ | _ | _ | _ | _ | _ | j <;> simp [tinyFixed, tiny] at h
    simp [tinyFixed, tiny]; omega
  no_prom := by
    intro e he
    simp [tinyFixed, tiny] at he
    rcases he with rfl | rfl | rfl | rfl | rfl | rfl | rfl <;> simp
  changes_nil := rfl
  cache_nil := rfl

def sampleOps : List (Op Nat) :=
  [.update 3 13, .create 41, .promise, .get 3, .save L5,        -- fails: 13 is not serialisable, a promise is open
   .update 3 31, .fulfil 8 42, .save L5, .update 2 21, .save L5]  -- retry succeeds; one more revision

example : HistOK sampleOps := by
  intro op hop
  simp only [sampleOps, List.mem_cons, List.mem_nil_iff, or_false] at hop
  rcases hop with rfl | rfl | rfl | rfl | rfl | rfl | rfl | rfl | rfl | rfl <;>
    first | trivial | exact ⟨fun _ => (by show 0 < 5; decide), (by intro i; show 0 < 7; decide)⟩

/-- the history runs as described: the first save fails, the other two succeed, and reloading the last
    revision reads every written reference at its last value and the untouched ones as before -/
example : ((run PN tinyFixed sampleOps).2.map fun r => match r with
      | .saved _ => 1 | .failed _ => 2 | _ => 0) = [0, 0, 0, 0, 2, 0, 0, 1, 0, 1] := by decide

example : (match reload (run PN tinyFixed sampleOps).1.st false with
    | .ok d => [resolve d.st 1, resolve d.st 2, resolve d.st 3, resolve d.st 4, resolve d.st 7, resolve d.st 8]
    | _ => []) = [.val 100, .val 21, .val 31, .val 400, .val 41, .val 42] := by decide

/-- a late failure and its retry: with a layout under which the typed reload of the trailer fails, the save is an
    `Err` although its revision (3 records, section, 7 + 3 bytes of trailer) was appended; the next save — typed load
    succeeding — succeeds, and its reload reads the writes made before and after the failed save -/
def L5late : Layout := ⟨fun _ => 5, fun _ => 7, fun _ => 3, false⟩

example : (commitInfo PN L5late (run PN tinyFixed [.update 2 21]).1).isSome = true ∧
    ((run PN tinyFixed [.update 2 21, .save L5late, .update 3 31, .save L5]).2.map fun r => match r with
      | .saved _ => 1 | .failed .err => 2 | .failed _ => 3 | _ => 0) = [0, 2, 0, 1] ∧
    (run PN tinyFixed [.update 2 21]).1.st.len < (run PN tinyFixed [.update 2 21, .save L5late]).1.st.len ∧
    (match reload (run PN tinyFixed [.update 2 21, .save L5late, .update 3 31, .save L5]).1.st false with
      | .ok d => [resolve d.st 1, resolve d.st 2, resolve d.st 3, resolve d.st 4]
      | _ => []) = [.val 100, .val 21, .val 31, .val 400] := by decide

end Storage

/-!
## C09 at byte level (L2): the abstraction discharged

`SaveBytes.saveB` is `save` with every record rendered by the writer model (`Model/Serialize.lean`) — the
correspondence stream `c09.bytes` compares its output with the bytes `Storage::save` appends, byte for byte.
`OpenBytes.openB` / `resolveB` are the byte-level open path (`locate_start_offset`, `locate_xref_offset`,
`read_xref_and_trailer_at` with the cross-reference stream reader `Xref.parseSections`, the `/Prev` walk and merge of
`Offsets.loadTable`) and `Storage::resolve_ref` (`parse_indirect_object` at `start + offset`, object streams) — the
stream `c09.open` compares the table they build with `read_xref_table_and_trailer`.

The theorems below say about the *bytes* what `reload_sees_saved` says about the abstract backend.  The base file is
given as bytes `b0.bytes` that represent the loaded document (`RepBytes.Rep`: every record and section of the
abstract backend is what the byte-level parsers read at its offset, whatever is appended behind) — the
"well-formed table" hypothesis; for a file built from scratch it holds trivially (Props/C10).

Explicit hypotheses (third-party or out of model):
* `env.parseReal` (`f32::from_str`) and `fmt` (`f32` `Display`) only through `Serialisable` (a real is written as a
  token that reads back as the same real), `env.decrypt = none`;
* `NoFilter dec`: a stream dictionary without `/Filter` is decoded to its raw bytes (the filter chain — Flate, … — is
  never entered for what `save` writes);
* sizes: the output stays below 2³¹ bytes (`fileMax`, the range of the lexer theorems), parser fuel `pfuel` at least
  three times the file length (the driver's `3·len + 64`);
* `GoodHist`: the values written are within the limits of `C04.parse_serialize_indirect` / `parse_serialize_stream`
  (`OKVal`). Nothing is asked of the saves of the history: a save may succeed, fail before anything is written
  (truncated away), or fail *after* its revision was appended (`Trailer::from_dict`: the catalog no longer loads) — the
  backend keeps that revision, `saveB` appends it, and the bytes keep representing the document
  (`late_failure_keeps_revision_bytes`); whether the typed reload succeeds is the input `typed` of `OpB.save`
  (typed readers: C15).
-/

namespace C09Bytes
open Storage PdfLex Xref OpenBytes SaveBytes RepBytes

variable {R : Type}

/-- **C09 at byte level, the save itself.** A successful `saveB` appends to the file exactly: the frames
    `id gen obj … endobj` of the pending values in number order, each at the offset its cross-reference row names;
    the cross-reference stream object, at the offset its own row and `startxref` name; `startxref`, the offset,
    `%%EOF`. The length of the new file is the length the abstract model computes from its `Layout` — the measured
    record lengths of the abstract correspondence are a consequence of the values. -/
theorem save_bytes_layout (fmt : R → List UInt8) (pr : List UInt8 → Option R) (d0 : Doc (Prim R)) (chain0)
    (b b' : BDoc R) (i : SaveInfo) (hb : BaseOK d0 chain0) (hi : Inv d0 b.doc) (hlen : b.bytes.length = b.doc.st.len)
    (typed : Bool) (h : saveB fmt typed b = (b', .ok i)) (hbd : Bounds b.doc.tr (prep b.doc).infoRef i) :
    SavedBytes fmt typed b b' i :=
  saveB_spec fmt pr d0 chain0 b b' i hb hi hlen typed (committedB_of_ok fmt typed b b' i h) hbd

/-- **C09 at byte level, reload.** After any history of `create / update / promise / fulfil / get / resolve /
    save` at byte level (saves that fail before writing, and saves that fail after their revision was appended,
    included) on a base file given as bytes, a successful save
    produces bytes which the byte-level open path opens — header found at the same `start`, table rebuilt from the
    new cross-reference stream and the `/Prev` chain — and in which the byte-level resolver returns
    * for every written reference the last value written (streams: the dictionary written and a `file_range` that
      covers exactly the data written);
    * for every untouched number of the base table the value it had in the base document. -/
theorem reload_sees_saved_bytes (fmt : R → List UInt8) (env : Env R) (hd : env.decrypt = none) (pfuel : Nat)
    (dec : Dict R → List UInt8 → Out (List UInt8)) (hdec : NoFilter dec) (b0 : BDoc R) (chain0)
    (hb : BaseOK b0.doc chain0) (hv : BaseVals fmt env.parseReal b0.doc)
    (hrep : Rep (parsers env pfuel dec) b0.bytes b0.doc.st)
    (ops : List (OpB R)) (hgood : GoodHist fmt env.parseReal b0 ops) (b' : BDoc R) (i : SaveInfo) (typed : Bool)
    (hs : saveB fmt typed (runB fmt b0 ops).1 = (b', .ok i))
    (hsmall : b'.bytes.length ≤ fileMax) (hpf : 3 * b'.bytes.length ≤ pfuel)
    (fuel : Nat) (hfuel : b'.doc.st.secs.length + 1 ≤ fuel) (rfuel : Nat) :
    ∃ t T, openB env pfuel dec fuel b'.bytes = .ok (b0.doc.st.start, t, T) ∧
      dictGet T SaveBytes.kRoot = some (.ref b0.doc.tr.root.1 b0.doc.tr.root.2) ∧
      (∀ id v, specRun AMap.empty (liftOps fmt b0 ops) (runB fmt b0 ops).2 id = some v →
        ∃ o, resolveB env pfuel dec (rfuel + 2) b'.bytes b0.doc.st.start t id = .ok o ∧ Denotes b'.bytes o v) ∧
      (∀ id, id < b0.doc.st.refs.length → specRun AMap.empty (liftOps fmt b0 ops) (runB fmt b0 ops).2 id = none →
        (∀ sid idx, b0.doc.st.refs[id]? = some (.stream sid idx) →
          specRun AMap.empty (liftOps fmt b0 ops) (runB fmt b0 ops).2 sid = none) →
        ∀ v, resolve b0.doc.st id = .val v →
          ∃ o, resolveB env pfuel dec (rfuel + 2) b'.bytes b0.doc.st.start t id = .ok o ∧ Denotes b'.bytes o v) := by
  have hmono : (runB fmt b0 ops).1.bytes.length ≤ b'.bytes.length := by
    rw [(saveB_ok_iff fmt typed _ _ i hs).2.2]; simp
  have h1 := hinv_runB fmt env hd pfuel dec hdec b0 chain0 hb hv ops b0 (hinv_base fmt env pfuel dec b0 chain0 hb hrep)
    hgood (by omega) (by omega)
  -- the abstract theorem on the lifted history
  obtain ⟨r1, r2, r3⟩ := runB_run fmt ops b0
  obtain ⟨s1, _, _⟩ := saveB_ok_iff fmt typed _ _ i hs
  rw [r3, r1] at s1
  obtain ⟨dr, hrl, htr, hw, ho⟩ := reload_sees_saved (params fmt b0.ids) b0.doc chain0 hb (liftOps fmt b0 ops)
    (liftOps_ok fmt ops b0) (layoutOf fmt typed (runB fmt b0 ops).1) (layoutOf_pos fmt _ _) b'.doc i s1 false
  rw [← r2] at hw ho
  obtain ⟨T, hopen, hroot, hres⟩ := open_saved fmt env hd pfuel dec hdec b0 _ chain0 hb hv h1 b' i typed hs hsmall hpf
    dr hrl fuel hfuel rfuel
  exact ⟨dr.st.refs, T, hopen, htr ▸ hroot, fun id v hsp => hres id v (hw id v hsp),
    fun id hid hsp hcont v hval => hres id v (sameRd_val _ _ (hval ▸ ho id hid hsp hcont))⟩

/-- **C09 at byte level, reload, in terms of the state.** Whatever state a byte-level history has reached
    (`HInv`: the bytes represent it), a successful save produces bytes which the byte-level open path opens and in
    which the byte-level resolver returns, for every number with a pending value (the info dictionary of the
    trailer included), that value. -/
theorem reload_sees_pending_bytes (fmt : R → List UInt8) (env : Env R) (hd : env.decrypt = none) (pfuel : Nat)
    (dec : Dict R → List UInt8 → Out (List UInt8)) (hdec : NoFilter dec) (b0 b : BDoc R) (chain0)
    (hb : BaseOK b0.doc chain0) (hv : BaseVals fmt env.parseReal b0.doc) (h1 : HInv fmt env pfuel dec b0 b)
    (b' : BDoc R) (i : SaveInfo) (typed : Bool) (hs : saveB fmt typed b = (b', .ok i))
    (hsmall : b'.bytes.length ≤ fileMax) (hpf : 3 * b'.bytes.length ≤ pfuel)
    (fuel : Nat) (hfuel : b'.doc.st.secs.length + 1 ≤ fuel) (rfuel : Nat) :
    ∃ t T, openB env pfuel dec fuel b'.bytes = .ok (b0.doc.st.start, t, T) ∧ t.length = i.size + 1 ∧
      dictGet T SaveBytes.kRoot = some (.ref b0.doc.tr.root.1 b0.doc.tr.root.2) ∧
      (∀ id v g, chLookup (prep b.doc).st2.changes id = some (v, g) →
        ∃ o, resolveB env pfuel dec (rfuel + 2) b'.bytes b0.doc.st.start t id = .ok o ∧ Denotes b'.bytes o v) := by
  obtain ⟨s1, _, _⟩ := saveB_ok_iff fmt typed _ _ i hs
  obtain ⟨t, hrl, facts⟩ := reload_after_save _ _ (layoutOf_pos fmt typed b) b0.doc b.doc b'.doc chain0 i hb h1.inv s1 false
  obtain ⟨T, hopen, hroot, hres⟩ := open_saved fmt env hd pfuel dec hdec b0 b chain0 hb hv h1 b' i typed hs hsmall hpf
    _ hrl fuel hfuel rfuel
  obtain ⟨_, _, _, _, _, _, _, _, hsize, _, _⟩ := save_ok_spec _ _ _ _ _ s1
  exact ⟨t, T, hopen, by rw [facts.len, hsize], h1.inv.tr_eq ▸ hroot,
    fun id v g hc => hres id v (facts.pending id v g hc false)⟩

/-- **C09 at byte level, a save whose revision was written** — successful or failing afterwards in the typed reload of
    the trailer (`typed = false`, or the root no longer resolving): the bytes grow by exactly that revision, every
    record of it lies where its cross-reference row says (`SavedBytes`), and the bytes keep representing the state of
    the open document (`HInv`), so that the history can go on — repair, retry — and `reload_sees_saved_bytes` applies to
    the final successful save with the failed revision in between. -/
theorem late_failure_keeps_revision_bytes (fmt : R → List UInt8) (env : Env R) (hd : env.decrypt = none) (pfuel : Nat)
    (dec : Dict R → List UInt8 → Out (List UInt8)) (hdec : NoFilter dec) (b0 b : BDoc R) (chain0)
    (hb : BaseOK b0.doc chain0) (hv : BaseVals fmt env.parseReal b0.doc) (h1 : HInv fmt env pfuel dec b0 b)
    (typed : Bool) (i : SaveInfo)
    (hc : commitInfo (params fmt b.ids) (layoutOf fmt typed b) b.doc = some i)
    (hsmall : (saveB fmt typed b).1.bytes.length ≤ fileMax) (hpf : 3 * (saveB fmt typed b).1.bytes.length ≤ pfuel) :
    (saveB fmt typed b).1.bytes = b.bytes ++ revisionBytes fmt b i ∧
    SavedBytes fmt typed b (saveB fmt typed b).1 i ∧
    HInv fmt env pfuel dec b0 (saveB fmt typed b).1 := by
  generalize hs : saveB fmt typed b = res at hsmall hpf ⊢
  obtain ⟨b', o⟩ := res
  have hstep : (stepB fmt b (.save typed)).1 = b' := by simp only [stepB, hs]; cases o <;> rfl
  have h2 := hinv_stepB fmt env hd pfuel dec hdec b0 b chain0 hb hv h1 (.save typed) trivial
    (by rw [hstep]; exact hsmall) (by rw [hstep]; exact hpf)
  rw [hstep] at h2
  obtain ⟨e1, e2, e3⟩ := saveB_cases fmt typed b b' o hs
  have hbytes : b'.bytes = b.bytes ++ revisionBytes fmt b i := by
    rcases e3 with ⟨i', hi', hb'⟩ | ⟨hn, _⟩
    · rw [hc] at hi'; cases hi'; exact hb'
    · rw [hc] at hn; cases hn
  obtain ⟨hcm, _⟩ := commitInfo_some _ _ b0.doc b.doc chain0 hb h1.inv i hc
  rw [e1] at hcm
  have hcb : CommittedB fmt typed b b' i := ⟨hcm, e2, hbytes⟩
  have bk := saveB_backend fmt b0.doc chain0 b b' i hb h1.inv h1.rep.len typed hcb
  have htr : b'.doc.tr = b.doc.tr := by rw [h2.inv.tr_eq, h1.inv.tr_eq]
  have hbd := bounds_of_save fmt env.parseReal _ _ (layoutOf_pos fmt typed b) b0.doc b.doc b'.doc chain0 i hb h1.inv hcm htr hv
    (by have := bk.xpos_le; simp only at hsmall; omega)
  exact ⟨hbytes, saveB_spec fmt env.parseReal b0.doc chain0 b b' i hb h1.inv h1.rep.len typed hcb hbd, h2⟩

/-! ### Non-vacuity at byte level: a second save on a file that already holds objects

`Rep` for a file with content is *derived*, not assumed: the history below starts from the bare header (the only base
whose `Rep` is immediate), its first `save` writes a page tree and a catalog, and `rep_saveB` (inside `hinv_stepB`)
establishes `Rep` for the resulting 2-object file; the update and the final save then run on that file, and
`reload_sees_saved_bytes` is applied with every hypothesis discharged. (A base *document* in the sense of `BaseOK` must
have nothing pending, i.e. be a reloaded one; `BaseOK` for the reload of a saved state is `load_baseOK` + `FileWF`, which
Props/C09 instantiates abstractly only — `tinyFixed` — not for this byte-level state: left open.) -/

open BuildBytes in
/-- the bytes after one save on the empty storage represent a state that holds objects -/
theorem rep_nontrivial (fmt : R → List UInt8) (env : Env R) (hd : env.decrypt = none) (pfuel : Nat)
    (dec : Dict R → List UInt8 → Out (List UInt8)) (hdec : NoFilter dec) (b1 : BDoc R) (i : SaveInfo)
    (hs : saveB fmt true (prepared fmt [] none) = (b1, .ok i))
    (hsmall : b1.bytes.length ≤ fileMax) (hpf : 3 * b1.bytes.length ≤ pfuel) :
    Rep (parsers env pfuel dec) b1.bytes b1.doc.st ∧ b1.doc.st.objs ≠ [] ∧ b1.doc.st.secs ≠ [] := by
  have hb0 := baseOK_empty (R := R) none 0
  have hv0 := baseVals_empty fmt env.parseReal (none : Option (Prim R)) 0 (by intro v h; cases h) (by omega)
  have hmono : (prepared fmt ([] : List (PageB R)) none).bytes.length ≤ b1.bytes.length := by
    rw [(saveB_ok_iff fmt true _ _ i hs).2.2]; simp
  have h1 : HInv fmt env pfuel dec (emptyB none 0) (prepared fmt [] none) :=
    hinv_runB fmt env hd pfuel dec hdec _ [] hb0 hv0 (buildOps []) _ (hinv_base fmt env pfuel dec _ [] hb0 (rep_empty _ none 0))
      (goodHist_buildOps fmt env.parseReal [] (by simp) (by intro p hp; simp at hp) _)
      (by show (prepared fmt [] none).bytes.length ≤ fileMax; omega)
      (by show 3 * (prepared fmt [] none).bytes.length ≤ pfuel; omega)
  have hstep : stepB fmt (prepared fmt [] none) (.save true) = (b1, .saved i) := by simp [stepB, hs]
  have h2 := hinv_stepB fmt env hd pfuel dec hdec _ _ [] hb0 hv0 h1 (.save true) trivial
    (by rw [hstep]; exact hsmall) (by rw [hstep]; exact hpf)
  rw [hstep] at h2
  have bk := saveB_backend fmt _ [] _ b1 i hb0 h1.inv h1.rep.len true (committedB_of_ok fmt true _ _ i hs)
  refine ⟨h2.rep, ?_, by rw [bk.secs]; simp⟩
  obtain ⟨ext, e1, _⟩ := bk.objs
  rw [e1]; simp

def nvEnv : Env (List UInt8) :=
  { parseReal := fun t => some t, resolveLen := fun _ _ => .err, allowMissingEndobj := false, decrypt := none, fileOffset := 0 }

def nvDec : Dict (List UInt8) → List UInt8 → Out (List UInt8) :=
  fun d raw => match dictGet d kFilter with | none => .ok raw | some _ => .err

open BuildBytes in
/-- the history: the builder's operations for a document without pages (page tree 1, catalog 2), a save — from here on
    the file holds objects —, then the page tree is replaced -/
def nvOps : List (OpB (List UInt8)) :=
  buildOps [] ++ [.save true, .update 1 (treeVal [])]

open BuildBytes in
/-- every hypothesis of `reload_sees_saved_bytes` holds for this history and its final save (the success of the save and
    the size of the output are computed by the kernel), so its conclusion does: the 2-revision file opens and object 1
    reads the page tree written by the update -/
example : ∃ b' i t T,
    saveB id true (runB id (emptyB none 0) nvOps).1 = (b', .ok i) ∧
    openB nvEnv (3 * b'.bytes.length) nvDec 3 b'.bytes = .ok (0, t, T) ∧
    ∃ o, resolveB nvEnv (3 * b'.bytes.length) nvDec 2 b'.bytes 0 t 1 = .ok o ∧ Denotes b'.bytes o (treeVal []) := by
  have hok : (saveB id true (runB id (emptyB none 0) nvOps).1).2.isOk = true := by decide +kernel
  have hsm : (saveB id true (runB id (emptyB none 0) nvOps).1).1.bytes.length ≤ fileMax := by decide +kernel
  have hsecs : (saveB id true (runB id (emptyB none 0) nvOps).1).1.doc.st.secs.length + 1 ≤ 3 := by decide +kernel
  generalize hs : saveB id true (runB id (emptyB none 0) nvOps).1 = res at hok hsm hsecs
  obtain ⟨b', o⟩ := res
  cases o with
  | ok i =>
    have hb0 := baseOK_empty (R := List UInt8) none 0
    have hv0 := baseVals_empty id nvEnv.parseReal (none : Option (Prim (List UInt8))) 0 (by intro v h; cases h) (by omega)
    have hgood : GoodHist id nvEnv.parseReal (emptyB none 0) nvOps := by
      apply goodHist_of_vals
      intro op hop b
      simp only [nvOps, buildOps, pageOps, List.length_nil, List.replicate_zero, List.nil_append, List.append_nil,
        List.cons_append, List.mem_cons, List.not_mem_nil, or_false] at hop
      rcases hop with rfl | rfl | rfl | rfl
      · exact okVal_tree id nvEnv.parseReal _ (by intro k hk; simp at hk) (by simp)
      · exact okVal_catalog id nvEnv.parseReal _ (by omega)
      · trivial
      · exact okVal_tree id nvEnv.parseReal _ (by intro k hk; simp at hk) (by simp)
    obtain ⟨t, T, hopen, _, hw, _⟩ := reload_sees_saved_bytes id nvEnv rfl (3 * b'.bytes.length) nvDec
      (by intro d raw h; simp [nvDec, h]) (emptyB none 0) [] hb0 hv0 (rep_empty _ none 0) nvOps hgood b' i true hs
      hsm (Nat.le_refl _) 3 hsecs 0
    refine ⟨b', i, t, T, rfl, hopen, hw 1 (treeVal []) ?_⟩
    rfl
  | err => simp [Out.isOk] at hok
  | panic => simp [Out.isOk] at hok
  | oof => simp [Out.isOk] at hok

end C09Bytes
