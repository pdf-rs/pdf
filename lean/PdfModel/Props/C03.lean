import PdfModel.Lemmas.Indirect
import PdfModel.Lemmas.Sequence
import PdfModel.Lemmas.Render
import PdfModel.Lemmas.ParserCursor
import PdfModel.Lemmas.RenderTail
import PdfModel.Lemmas.ParserFlags
import PdfModel.Lemmas.ParserEnc
import PdfModel.Generated.Lexical

/-!
  C03 — every spec-conformant spelling of an object parses to the value it denotes.

  Statement side: `Spec/Syntax` defines, independently of the reader, which byte strings the PDF syntax
  permits as spellings of a value (`Spells`, `SpellsStream`; gaps of white-space and comments `Gap`,
  integers with sign and leading zeros, reals `d.`, `.d`, `d.d`, names with `#xx`, literal strings with
  all escapes, octal codes, line continuations, balanced parentheses and EOL normalisation, hexadecimal
  strings with white-space and an odd digit count, references, arrays, dictionaries, omitted separators
  where a delimiter follows, streams with LF or CR LF after the keyword).
  Model side: `Model/Lexer`, `Model/StrLexer`, `Model/Parser` (the code after the `fix:` commits).

  All theorems quantify over every value, every conformant spelling, every buffer and position.
  Explicit hypotheses: the buffer is shorter than 2 GiB (`nested: i32`, `usize` arithmetic), the parser's
  `MAX_DEPTH`, dictionaries have distinct keys, no decryption context, and `pr` = `f32::from_str`
  (third-party; `Spells` only says that the real token is converted by it).
  Known finding kept open (DESIGN D7): names that are not UTF-8 — hypothesis `namesUtf8`, `C03_full`,
  `C03_counterexample`.
-/

namespace C03
open PdfLex
open PdfSyntax (Gap Bnd Spells SpellsStream SpellsEntries needsBnd WF WFE vdepth vdepthE need needE keysOf
  KeysDistinct KeysDistinctE namesUtf8 namesUtf8E wf_of wfE_of)

variable {R : Type}

/-- **Character classes**: the reader's white-space set is NUL HT LF FF CR SP and its delimiter set is
    `( ) < > [ ] { } / %` (tables 1 and 2 of the specification), for all 256 bytes. -/
theorem character_classes :
    (∀ b, isWhitespace b = PdfSyntax.isWs b) ∧ (∀ b, isDelimiter b = PdfSyntax.isDelim b) ∧
    (∀ b, isHexWs b = PdfSyntax.isWs b) :=
  ⟨isWhitespace_eq, isDelimiter_eq, isHexWs_eq⟩

/-- **White-space and comments between tokens are skipped**: after any gap the lexer is at the next lexeme. -/
theorem gap_skipped {buf : Buf} (g s : List UInt8) (hg : Gap g) (hs : StartsTok s) (pos : Nat)
    (h : Suffix buf pos (g ++ s)) : nextWord buf pos = lexemeAt buf (pos + g.length) :=
  nextWord_gap g s hg hs pos h

/-- **Literal strings**: every conformant body (escapes, octal codes with high-order overflow ignored, ignored
    backslashes, line continuations, balanced parentheses, CR / CR LF read as LF) is read as the bytes it
    denotes; the string lexer stops right after the closing parenthesis. -/
theorem literal_string_read {buf : Buf} (body s rest : List UInt8) (h : PdfSyntax.LitBody body 0 s) (pos : Nat)
    (hs : Suffix buf pos (body ++ rest)) (hsz : buf.size ≤ 2147483647) :
    collectString buf (buf.size - pos + 2) pos 0 [] = .ok (s, pos + body.length) := by
  have hl := hs.size_eq
  have := collectString_lit s body 0 h buf pos rest [] (buf.size - pos + 2) hs (by simp at hl; omega) (by simp at hl ⊢; omega)
  simpa using this

/-- **Hexadecimal strings**: white-space between digits, either digit case, odd number of digits. -/
theorem hex_string_read {buf : Buf} (body s rest : List UInt8) (h : PdfSyntax.HexBody body s) (pos : Nat)
    (hs : Suffix buf pos (body ++ rest)) :
    collectHex buf pos (buf.size - pos + 2) pos [] = .ok (s, pos + body.length) := by
  have hl := hs.size_eq
  have := collectHex_hex body s h buf pos pos rest [] (buf.size - pos + 2) hs (Nat.le_refl _) (by simp at hl; omega)
  simpa using this

/-- **Main theorem** (partial: names must be UTF-8, see `C03_full`).  `flags`: any `ParseFlags` set that admits
    the kind of the value (`flagOf`); the values nested inside are parsed with `ANY` by the code itself.  Every conformant spelling `txt` of a
    value `v`, anywhere in a buffer, after any gap `g`, followed by anything (`rest`) that does not merge
    with it (`Bnd`: a regular token needs a separator or delimiter after it; `Ahead`: not `<int> <int> R`
    / `<dict> stream`), is parsed by `parse_with_lexer_ctx` to exactly `v`, and the cursor rests right
    after `txt`. -/
theorem parse_spelling_partial (env : Env R) (hd : env.decrypt = none) (v : Prim R) (txt : List UInt8)
    (hsp : Spells env.parseReal v txt) (hk : KeysDistinct v) (hu : namesUtf8 v = true) (hdepth : vdepth v ≤ maxDepth)
    {buf : Buf} (hsz : buf.size ≤ 2147483647) (g rest : List UInt8) (pos fuel : Nat) (ctx : Option (Nat × Nat))
    (hg : Gap g) (hs : Suffix buf pos (g ++ txt ++ rest)) (hb : needsBnd v = true → Bnd rest)
    (hah : Ahead buf (pos + g.length + txt.length)) (hfuel : need v ≤ fuel)
    (flags : Nat) (hfl : flags &&& flagOf v ≠ 0) :
    parseCtx env buf fuel pos ctx flags maxDepth = .ok (v, pos + g.length + txt.length) :=
  parseCtx_spells env hd v txt hsp (wf_of v hk hu) hsz g rest pos fuel ctx maxDepth flags hg hfl hs hb hah hfuel hdepth

/-- The same for the public entry point `parse(data, resolve, flags)` with the model's default fuel:
    the whole buffer is the spelling plus a tail. -/
theorem parse_api_partial (env : Env R) (hd : env.decrypt = none) (v : Prim R) (txt : List UInt8)
    (hsp : Spells env.parseReal v txt) (hk : KeysDistinct v) (hu : namesUtf8 v = true) (hdepth : vdepth v ≤ maxDepth)
    (rest : List UInt8) (hsz : (txt ++ rest).length ≤ 2147483647) (hb : needsBnd v = true → Bnd rest)
    (hah : Ahead (txt ++ rest).toArray txt.length) (flags : Nat) (hfl : flags &&& flagOf v ≠ 0) :
    parse env (txt ++ rest).toArray flags = .ok (v, txt.length) := by
  have hs : Suffix (txt ++ rest).toArray 0 ([] ++ txt ++ rest) := by simpa using suffix_zero (txt ++ rest)
  have hn := need_bound env.parseReal v txt hsp
  have := parse_spelling_partial env hd v txt hsp hk hu hdepth (buf := (txt ++ rest).toArray) (by simpa using hsz) [] rest 0
    (defaultFuel (txt ++ rest).toArray) none Gap.nil hs hb (by simpa using hah) (by simp [defaultFuel]; omega) flags hfl
  simpa [parse, parseWithLexer] using this

/-- **Indirect objects** `n g obj … endobj` with any gaps (also none where a delimiter makes it legal:
    `1 0 obj<<>>endobj`): `parse_indirect_object` returns the reference and the value, the cursor rests
    right after `endobj`, with and without `allow_missing_endobj`. -/
theorem parse_indirect_spelling_partial (env : Env R) (hd : env.decrypt = none) (v : Prim R) (txt : List UInt8)
    (hsp : Spells env.parseReal v txt) (hk : KeysDistinct v) (hu : namesUtf8 v = true) (hdepth : vdepth v ≤ maxDepth)
    {buf : Buf} (hsz : buf.size ≤ 2147483647)
    (g0 a g1 b g2 g3 g4 rest : List UInt8) (id gen pos fuel : Nat) (hg0 : Gap g0)
    (ha : PdfSyntax.NatTok a id) (hb : PdfSyntax.NatTok b gen) (hg1 : Gap g1) (hg1ne : g1 ≠ []) (hg2 : Gap g2)
    (hg2ne : g2 ≠ []) (hid : id ≤ 18446744073709551615) (hgen : gen ≤ 18446744073709551615) (hg3 : Gap g3) (hg4 : Gap g4)
    (h : Suffix buf pos (g0 ++ a ++ g1 ++ b ++ g2 ++ kwObj ++ g3 ++ txt ++ g4 ++ kwEndobj ++ rest))
    (hb3 : Bnd (g3 ++ txt)) (hb4 : needsBnd v = true → g4 ≠ []) (hbnd : Bnd rest) (hfuel : need v ≤ fuel)
    (flags : Nat) (hfl : flags &&& flagOf v ≠ 0) :
    parseIndirectObject env buf fuel pos flags =
      .ok (((id, gen), v), pos + (g0 ++ a ++ g1 ++ b ++ g2 ++ kwObj ++ g3 ++ txt ++ g4 ++ kwEndobj).length) :=
  parseIndirectObject_spells env hd v txt hsp (wf_of v hk hu) hsz g0 a g1 b g2 g3 g4 rest id gen pos fuel hg0 ha hb hg1 hg1ne
    hg2 hg2ne hid hgen hg3 hg4 h hb3 hb4 hbnd hfuel hdepth flags hfl

/-- **Stream objects**: dictionary, any gap (comments included), `stream`, LF or CR LF, the data, any gap,
    `endstream`, inside `n g obj … endobj`; `/Length` direct or indirect (resolver).  The returned stream has the
    spelled dictionary and a `file_range` that covers exactly the data (`dataPos` existential, characterised by the
    slice equation; see `parse_render_stream_partial`). -/
theorem parse_stream_spelling_partial (env : Env R) (hd : env.decrypt = none) (info : Dict R) (data txt : List UInt8)
    (hsp : SpellsStream env.parseReal info data txt) (hk : KeysDistinctE info) (hnd : (keysOf info).Nodup)
    (hu : namesUtf8E info = true) (hlen : LengthIs env info data.length) {buf : Buf} (hsz : buf.size ≤ 2147483647)
    (g0 a g1 b g2 g3 g4 rest : List UInt8) (id gen pos fuel : Nat) (hg0 : Gap g0)
    (ha : PdfSyntax.NatTok a id) (hb : PdfSyntax.NatTok b gen) (hg1 : Gap g1) (hg1ne : g1 ≠ []) (hg2 : Gap g2)
    (hg2ne : g2 ≠ []) (hid : id ≤ 18446744073709551615) (hgen : gen ≤ 18446744073709551615) (hg3 : Gap g3) (hg4 : Gap g4)
    (hg4ne : g4 ≠ [])
    (h : Suffix buf pos (g0 ++ a ++ g1 ++ b ++ g2 ++ kwObj ++ g3 ++ txt ++ g4 ++ kwEndobj ++ rest))
    (hbnd : Bnd rest) (hfuel : 2 + needE info ≤ fuel) (hdepth : 1 + vdepthE info ≤ maxDepth)
    (flags : Nat) (hfl : flags &&& Flags.dict ≠ 0) :
    ∃ dataPos, parseIndirectObject env buf fuel pos flags =
        .ok (((id, gen), streamAt env info (id, gen) dataPos data.length),
          pos + (g0 ++ a ++ g1 ++ b ++ g2 ++ kwObj ++ g3 ++ txt ++ g4 ++ kwEndobj).length) ∧
      slice buf dataPos (dataPos + data.length) = data :=
  parseIndirectObject_stream env hd info data txt hsp (wfE_of info hk hu) hnd hlen hsz g0 a g1 b g2 g3 g4 rest id gen pos fuel
    hg0 ha hb hg1 hg1ne hg2 hg2ne hid hgen hg3 hg4 hg4ne h hbnd hfuel hdepth flags hfl

/-- **Sequences: each parse consumes exactly its own text.**  `n` consecutive calls of `parse_with_lexer` on a
    conformant sequence of `n` objects return the `n` values, each time with the cursor right after that
    object's own text. -/
theorem parse_sequence_partial (env : Env R) (hd : env.decrypt = none) (items : List (Item R))
    {buf : Buf} (hsz : buf.size ≤ 2147483647) (g0 rest : List UInt8) (pos fuel : Nat)
    (hok : SeqOK env.parseReal rest items) (hg0 : Gap g0) (hs : Suffix buf pos (g0 ++ seqText items ++ rest))
    (hah : Ahead buf (pos + g0.length + (seqText items).length)) (hfuel : seqNeed items ≤ fuel) :
    parseSeq env buf fuel items.length pos = .ok (seqExpected (pos + g0.length) items) :=
  parseSeq_spells env hd items hsz g0 rest pos fuel hok hg0 hs hah hfuel

/-- **The randomized printer is specification-conformant**: whatever the tape of random choices, the text
    `Spec/Render.render` produces for a value is a conformant spelling of that value (so every rendering the
    harness generates — the Rust twin is compared with this printer byte for byte on every case — lies in
    the domain of the theorems above).  `Renderable`: 32-bit integers, object numbers within `u64`, no
    stream below the top level, and for reals the third-party hypothesis that every variant text the
    printer derives from `f32::to_string` is a real token that `f32::from_str` maps back to the same value. -/
theorem printer_conformant (fmt : R → List UInt8) (pr : List UInt8 → Option R) (v : Prim R)
    (h : PdfSpec.Renderable fmt pr v) (tape : List Nat) : Spells pr v (PdfSpec.render fmt v tape).1 :=
  PdfSpec.render_spells fmt pr v h tape

/-- the same for stream objects -/
theorem printer_stream_conformant (fmt : R → List UInt8) (pr : List UInt8 → Option R) (info : Dict R) (data : List UInt8)
    (h : PdfSpec.RenderableE fmt pr info) (tape : List Nat) :
    SpellsStream pr info data (PdfSpec.render fmt (.stream info (.pending data)) tape).1 :=
  PdfSpec.render_stream_spells fmt pr info data h tape

/-- and for a value followed by a tail: the printer inserts a separator exactly where one is needed -/
theorem printer_tail_conformant (fmt : R → List UInt8) (pr : List UInt8 → Option R) (v : Prim R) (tail : List UInt8)
    (h : PdfSpec.Renderable fmt pr v) (tape : List Nat) :
    ∃ txt g, (PdfSpec.renderWithTail fmt v tail tape).1 = txt ++ g ++ tail ∧ Spells pr v txt ∧ Gap g ∧
      (needsBnd v = true → Bnd (g ++ tail)) :=
  PdfSpec.renderWithTail_spec fmt pr v tail h tape

theorem suffix_of_toList {buf : Buf} {pre s : List UInt8} (h : buf.toList = pre ++ s) : Suffix buf pre.length s :=
  PdfLex.suffix_of_toList h

/-- **Headline: parse ∘ render = id.**  For every value the printer can spell, every tape of random choices and
    every tail: the rendering is `txt ++ g ++ tail` with `g` a gap, and wherever it is placed in a buffer the
    parser returns exactly the value and stops right after `txt` — provided what follows does not merge with
    it (`Ahead`; the harness never appends `<int> R` to an integer or `stream` to a dictionary). -/
theorem parse_render_partial (env : Env R) (hd : env.decrypt = none) (fmt : R → List UInt8) (v : Prim R) (tail : List UInt8)
    (tape : List Nat) (hr : PdfSpec.Renderable fmt env.parseReal v) (hk : KeysDistinct v) (hu : namesUtf8 v = true)
    (hdepth : vdepth v ≤ maxDepth) :
    ∃ txt g, (PdfSpec.renderWithTail fmt v tail tape).1 = txt ++ g ++ tail ∧ Gap g ∧
      ∀ {buf : Buf}, buf.size ≤ 2147483647 → ∀ (pre : List UInt8) (fuel : Nat) (ctx : Option (Nat × Nat)),
        buf.toList = pre ++ (PdfSpec.renderWithTail fmt v tail tape).1 → need v ≤ fuel →
        Ahead buf (pre.length + txt.length) →
        parseCtx env buf fuel pre.length ctx Flags.any maxDepth = .ok (v, pre.length + txt.length) := by
  obtain ⟨txt, g, e, hsp, hg, hb⟩ := PdfSpec.renderWithTail_spec fmt env.parseReal v tail hr tape
  refine ⟨txt, g, e, hg, ?_⟩
  intro buf hsz pre fuel ctx hbuf hfuel hah
  have hs : Suffix buf pre.length ([] ++ txt ++ (g ++ tail)) := by
    rw [e] at hbuf
    have := suffix_of_toList hbuf
    simpa using this
  have := parse_spelling_partial env hd v txt hsp hk hu hdepth hsz [] (g ++ tail) pre.length fuel ctx Gap.nil hs hb
    (by simpa using hah) hfuel Flags.any (any_allows v)
  simpa using this

/-- **What `objText` is**: the rendering of an indirect object is `head ++ "endobj" ++ g ++ tail` with `g` a gap (never
    empty in front of a tail that starts with a regular character), and the parser stops exactly behind that `endobj`. -/
theorem parse_render_indirect_shape (env : Env R) (hd : env.decrypt = none) (fmt : R → List UInt8) (v : Prim R)
    (id gen : Nat) (tail : List UInt8) (tape : List Nat) (hr : PdfSpec.Renderable fmt env.parseReal v) (hk : KeysDistinct v)
    (hu : namesUtf8 v = true) (hdepth : vdepth v ≤ maxDepth) (hid : id ≤ 18446744073709551615)
    (hgen : gen ≤ 18446744073709551615) :
    ∃ head g, (PdfSpec.renderIndirect fmt id gen v tail tape).1 = head ++ kwEndobj ++ (g ++ tail) ∧ Gap g ∧ Bnd (g ++ tail) ∧
      ∀ {buf : Buf}, buf.size ≤ 2147483647 → ∀ (pre : List UInt8) (fuel : Nat),
        buf.toList = pre ++ (PdfSpec.renderIndirect fmt id gen v tail tape).1 → need v ≤ fuel →
        parseIndirectObject env buf fuel pre.length Flags.any =
          .ok (((id, gen), v), pre.length + (head ++ kwEndobj).length) := by
  obtain ⟨a, g1, b, g2, g3, tv, g4, g5, e, h1, h2, h3, h4, h5, h6, h7, h8, h9, h10, h11, h12, h13⟩ :=
    PdfSpec.renderIndirect_spec fmt env.parseReal id gen v tail hr tape
  refine ⟨[] ++ a ++ g1 ++ b ++ g2 ++ kwObj ++ g3 ++ tv ++ g4, g5, by rw [e], h10, h13, ?_⟩
  intro buf hsz pre fuel hbuf hfuel
  have hs : Suffix buf pre.length ([] ++ a ++ g1 ++ b ++ g2 ++ kwObj ++ g3 ++ tv ++ g4 ++ kwEndobj ++ (g5 ++ tail)) := by
    rw [e] at hbuf
    exact suffix_of_toList hbuf
  exact parse_indirect_spelling_partial env hd v tv h8 hk hu hdepth hsz [] a g1 b g2 g3 g4 (g5 ++ tail) id gen pre.length fuel
    Gap.nil h1 h2 h3 h4 h5 h6 hid hgen h7 h9 hs h11 h12 h13 hfuel Flags.any (any_allows v)

/-- **Headline for indirect objects**: `parse_indirect_object ∘ renderIndirect = id`, no side condition on what
    follows: the rendering is `objText ++ rest`, the parser returns the reference and the value and stops at the
    end of `objText`.  `objText` and `rest` are existential in THIS statement (only their concatenation is fixed);
    `parse_render_indirect_shape` says what they are: `objText` ends with the keyword `endobj`, `rest` is a gap
    followed by the tail. -/
theorem parse_render_indirect_partial (env : Env R) (hd : env.decrypt = none) (fmt : R → List UInt8) (v : Prim R)
    (id gen : Nat) (tail : List UInt8) (tape : List Nat) (hr : PdfSpec.Renderable fmt env.parseReal v) (hk : KeysDistinct v)
    (hu : namesUtf8 v = true) (hdepth : vdepth v ≤ maxDepth) (hid : id ≤ 18446744073709551615)
    (hgen : gen ≤ 18446744073709551615) :
    ∃ objText rest, (PdfSpec.renderIndirect fmt id gen v tail tape).1 = objText ++ rest ∧
      ∀ {buf : Buf}, buf.size ≤ 2147483647 → ∀ (pre : List UInt8) (fuel : Nat),
        buf.toList = pre ++ (PdfSpec.renderIndirect fmt id gen v tail tape).1 → need v ≤ fuel →
        parseIndirectObject env buf fuel pre.length Flags.any = .ok (((id, gen), v), pre.length + objText.length) := by
  obtain ⟨head, g, e, _, _, h⟩ := parse_render_indirect_shape env hd fmt v id gen tail tape hr hk hu hdepth hid hgen
  exact ⟨head ++ kwEndobj, g ++ tail, e, h⟩

/-- **What `items` and `rest` are**: the rendering of a sequence is the concatenation of (a conformant spelling of the
    i-th value, a gap) for the values in order — the last object without a gap of its own — followed by a gap and the
    tail (`SeqOK`: every text spells its value, gaps are gaps, regular tokens are separated). -/
theorem render_sequence_shape (fmt : R → List UInt8) (pr : List UInt8 → Option R) (xs : List (Prim R)) (tail : List UInt8)
    (tape : List Nat) (hr : PdfSpec.RenderableL fmt pr xs) (hw : ∀ x ∈ xs, WF x ∧ vdepth x ≤ maxDepth) :
    ∃ items g, (PdfSpec.renderSeq fmt xs tail tape).1 = seqText items ++ (g ++ tail) ∧ Gap g ∧
      SeqOK pr (g ++ tail) items ∧ items.map (·.1) = xs := by
  obtain ⟨items, rest, e, hok, hmap, g, hg, erest⟩ := PdfSpec.renderSeq_spec fmt pr xs tail hr hw tape
  subst erest
  exact ⟨items, g, e, hg, hok, hmap⟩

/-- **Headline for stream objects**: `parse_indirect_object ∘ renderIndirect = id` for `n g obj << … >> stream … endstream
    endobj` as the printer writes it (any gaps and comments, LF or CR LF after the keyword): the dictionary is read back
    exactly and the returned `file_range` covers exactly the data.  `dataPos` is existential: it is characterised by the
    slice equation only (`buf[dataPos .. dataPos + len] = data`; the returned range is that range shifted by the lexer's
    file offset) — where a data string occurs more than once in the buffer the statement does not say which occurrence
    (the underlying lemma `parseIndirectObject_stream` computes it: right after the EOL that follows `stream`);
    `objText` / `rest` as in `parse_render_indirect_partial`. -/
theorem parse_render_stream_partial (env : Env R) (hd : env.decrypt = none) (fmt : R → List UInt8) (info : Dict R)
    (data : List UInt8) (id gen : Nat) (tail : List UInt8) (tape : List Nat) (hr : PdfSpec.RenderableE fmt env.parseReal info)
    (hk : KeysDistinctE info) (hnd : (keysOf info).Nodup) (hu : namesUtf8E info = true) (hlen : LengthIs env info data.length)
    (hdepth : 1 + vdepthE info ≤ maxDepth) (hid : id ≤ 18446744073709551615) (hgen : gen ≤ 18446744073709551615) :
    ∃ objText rest, (PdfSpec.renderIndirect fmt id gen (.stream info (.pending data)) tail tape).1 = objText ++ rest ∧
      ∀ {buf : Buf}, buf.size ≤ 2147483647 → ∀ (pre : List UInt8) (fuel : Nat),
        buf.toList = pre ++ (PdfSpec.renderIndirect fmt id gen (.stream info (.pending data)) tail tape).1 →
        2 + needE info ≤ fuel →
        ∃ dataPos, parseIndirectObject env buf fuel pre.length Flags.any =
            .ok (((id, gen), streamAt env info (id, gen) dataPos data.length), pre.length + objText.length) ∧
          slice buf dataPos (dataPos + data.length) = data := by
  obtain ⟨a, g1, b, g2, g3, tv, g4, g5, e, h1, h2, h3, h4, h5, h6, h7, h8, h9, h10, h11, h13⟩ :=
    PdfSpec.renderIndirect_stream_spec fmt env.parseReal id gen info data tail hr tape
  refine ⟨[] ++ a ++ g1 ++ b ++ g2 ++ kwObj ++ g3 ++ tv ++ g4 ++ kwEndobj, g5 ++ tail, e, ?_⟩
  intro buf hsz pre fuel hbuf hfuel
  have hs : Suffix buf pre.length ([] ++ a ++ g1 ++ b ++ g2 ++ kwObj ++ g3 ++ tv ++ g4 ++ kwEndobj ++ (g5 ++ tail)) := by
    rw [e] at hbuf
    exact suffix_of_toList hbuf
  exact parse_stream_spelling_partial env hd info data tv h8 hk hnd hu hlen hsz [] a g1 b g2 g3 g4 (g5 ++ tail) id gen pre.length
    fuel Gap.nil h1 h2 h3 h4 h5 h6 hid hgen h7 h9 h10 hs h13 hfuel hdepth Flags.any (by decide)

/-- **Headline for sequences**: a sequence of objects as the printer writes it (`renderSeq`) is parsed back, by as
    many consecutive `parse_with_lexer` calls as there are objects, to exactly these values, each call stopping
    right after its own object's text.  `items` (value, its text, the gap after it) and `rest` are existential here, tied
    to the input by `items.map (·.1) = xs` and the text equation; `render_sequence_shape` above adds that every item's text
    is a conformant spelling of its value, the gaps are gaps, and `rest` is a gap followed by the tail. -/
theorem parse_render_sequence_partial (env : Env R) (hd : env.decrypt = none) (fmt : R → List UInt8) (xs : List (Prim R))
    (tail : List UInt8) (tape : List Nat) (hr : PdfSpec.RenderableL fmt env.parseReal xs)
    (hw : ∀ x ∈ xs, KeysDistinct x ∧ namesUtf8 x = true ∧ vdepth x ≤ maxDepth) :
    ∃ items rest, (PdfSpec.renderSeq fmt xs tail tape).1 = seqText items ++ rest ∧ items.map (·.1) = xs ∧
      ∀ {buf : Buf}, buf.size ≤ 2147483647 → ∀ (pre : List UInt8) (fuel : Nat),
        buf.toList = pre ++ (PdfSpec.renderSeq fmt xs tail tape).1 → seqNeed items ≤ fuel →
        Ahead buf (pre.length + (seqText items).length) →
        parseSeq env buf fuel xs.length pre.length = .ok (seqExpected pre.length items) := by
  obtain ⟨items, g, e, _, hmap, h⟩ := parse_render_sequence_gap env hd fmt xs tail tape hr hw
  exact ⟨items, g ++ tail, e, hmap, h⟩

/-- **`ParseFlags`: the exact acceptance condition.**  For every conformant spelling of `v` (same hypotheses as
    `parse_spelling_partial`) and *every* flag set: `parse_with_lexer_ctx` returns the value iff the set contains the bit of
    `v`'s kind (`flagOf`: NULL, INTEGER, NUMBER, BOOL, STRING, NAME, ARRAY, DICT, REF), and otherwise returns `Err`
    (`PrimitiveNotAllowed`).  The look-ahead cases are included: an integer is accepted under INTEGER (alone or with REF)
    and rejected under REF alone — after the look-ahead has run and been rolled back —, `n g R` is accepted under REF and
    rejected under INTEGER alone. -/
theorem parse_flags_exact (env : Env R) (hd : env.decrypt = none) (v : Prim R) (txt : List UInt8)
    (hsp : Spells env.parseReal v txt) (hk : KeysDistinct v) (hu : namesUtf8 v = true) (hdepth : vdepth v ≤ maxDepth)
    {buf : Buf} (hsz : buf.size ≤ 2147483647) (g rest : List UInt8) (pos fuel : Nat) (ctx : Option (Nat × Nat))
    (hg : Gap g) (hs : Suffix buf pos (g ++ txt ++ rest)) (hb : needsBnd v = true → Bnd rest)
    (hah : Ahead buf (pos + g.length + txt.length)) (hfuel : need v ≤ fuel) (hf2 : 2 ≤ fuel) (flags : Nat) :
    parseCtx env buf fuel pos ctx flags maxDepth =
      if flags &&& flagOf v = 0 then .err else .ok (v, pos + g.length + txt.length) := by
  by_cases hfl : flags &&& flagOf v = 0
  · rw [if_pos hfl]
    exact parseCtx_reject env v txt hsp g rest pos fuel ctx flags maxDepth hg hfl hs hb hah hf2
  · rw [if_neg hfl]
    exact parse_spelling_partial env hd v txt hsp hk hu hdepth hsz g rest pos fuel ctx hg hs hb hah hfuel flags hfl

/-- **… and a rejected parse restores the cursor**: under a flag set that does not admit the value the lexer ends where
    it started (`parse_err_restores_pos` applied to the rejection). -/
theorem parse_flags_reject (env : Env R) (v : Prim R) (txt : List UInt8) (hsp : Spells env.parseReal v txt)
    {buf : Buf} (g rest : List UInt8) (pos fuel : Nat) (ctx : Option (Nat × Nat)) (flags depth : Nat) (hg : Gap g)
    (hfl : flags &&& flagOf v = 0) (hs : Suffix buf pos (g ++ txt ++ rest)) (hb : needsBnd v = true → Bnd rest)
    (hah : Ahead buf (pos + g.length + txt.length)) (hfuel : 2 ≤ fuel) :
    parseCtx env buf fuel pos ctx flags depth = .err ∧ parseCtxC env buf fuel pos ctx flags depth = (.err, pos) := by
  have h1 := parseCtx_reject env v txt hsp g rest pos fuel ctx flags depth hg hfl hs hb hah hfuel
  have h2 : (parseCtxC env buf fuel pos ctx flags depth).1 = .err := by
    rw [parseCtxC_fst env buf fuel pos ctx flags depth hs.le]; exact h1
  exact ⟨h1, Prod.ext h2 (parseCtxC_err env buf fuel pos ctx flags depth hs.le h2)⟩

/-- **Encrypted spellings** (`Spec/SyntaxEnc`: every string of `v` replaced by its ciphertext under the key of the
    object `id gen`, then spelled — literal or hexadecimal, any layout).  Parsing in the context of that object with a
    decryptor `d` that inverts the encryptor `e` on that key returns the plaintext value `v`, for every value, layout,
    object number and generation.  `e`, `d` are parameters (RC4 / AES are third-party code); the inverse law is the
    explicit hypothesis. -/
theorem parse_spelling_encrypted (env : Env R) (d e : Nat → Nat → List UInt8 → List UInt8) (id gen : Nat)
    (hinv : ∀ s, d id gen (e id gen s) = s) (v : Prim R) (txt : List UInt8)
    (hsp : PdfSyntax.SpellsEnc env.parseReal e id gen v txt)
    (hk : KeysDistinct v) (hu : namesUtf8 v = true) (hdepth : vdepth v ≤ maxDepth) {buf : Buf} (hsz : buf.size ≤ 2147483647)
    (g rest : List UInt8) (pos fuel : Nat) (hg : Gap g) (hs : Suffix buf pos (g ++ txt ++ rest))
    (hb : needsBnd v = true → Bnd rest) (hah : Ahead buf (pos + g.length + txt.length)) (hfuel : need v ≤ fuel)
    (flags : Nat) (hfl : flags &&& flagOf v ≠ 0) :
    parseCtx (PdfShift.withDec env d) buf fuel pos (some (id, gen)) flags maxDepth = .ok (v, pos + g.length + txt.length) :=
  parseCtx_enc env d e id gen hinv v txt hsp hk hu hdepth hsz g rest pos fuel hg hs hb hah hfuel flags hfl

/-- **Headline for encrypted indirect objects**: `parse_indirect_object` with a decoder ∘ `renderIndirect` of the encrypted
    value = the plaintext value, for every tape of layout choices, every tail, every object number and generation; the
    cursor rests right after `endobj`. -/
theorem parse_render_indirect_encrypted (env : Env R) (d e : Nat → Nat → List UInt8 → List UInt8) (fmt : R → List UInt8)
    (v : Prim R) (id gen : Nat) (hinv : ∀ s, d id gen (e id gen s) = s) (tail : List UInt8) (tape : List Nat)
    (hr : PdfSpec.Renderable fmt env.parseReal v) (hk : KeysDistinct v) (hu : namesUtf8 v = true) (hdepth : vdepth v ≤ maxDepth)
    (hid : id ≤ 18446744073709551615) (hgen : gen ≤ 18446744073709551615) :
    ∃ objText rest, (PdfSpec.renderIndirect fmt id gen (PdfSyntax.encrypted e id gen v) tail tape).1 = objText ++ rest ∧
      ∀ {buf : Buf}, buf.size ≤ 2147483647 → ∀ (pre : List UInt8) (fuel : Nat),
        buf.toList = pre ++ (PdfSpec.renderIndirect fmt id gen (PdfSyntax.encrypted e id gen v) tail tape).1 → need v ≤ fuel →
        parseIndirectObject (PdfShift.withDec env d) buf fuel pre.length Flags.any =
          .ok (((id, gen), v), pre.length + objText.length) := by
  have hr' : PdfSpec.Renderable fmt env.parseReal (PdfSyntax.encrypted e id gen v) :=
    renderable_mapStrings fmt env.parseReal (e id gen) v hr
  obtain ⟨a, g1, b, g2, g3, tv, g4, g5, eq, h1, h2, h3, h4, h5, h6, h7, h8, h9, h10, h11, h12, h13⟩ :=
    PdfSpec.renderIndirect_spec fmt env.parseReal id gen (PdfSyntax.encrypted e id gen v) tail hr' tape
  refine ⟨[] ++ a ++ g1 ++ b ++ g2 ++ kwObj ++ g3 ++ tv ++ g4 ++ kwEndobj, g5 ++ tail, eq, ?_⟩
  intro buf hsz pre fuel hbuf hfuel
  have hs : Suffix buf pre.length ([] ++ a ++ g1 ++ b ++ g2 ++ kwObj ++ g3 ++ tv ++ g4 ++ kwEndobj ++ (g5 ++ tail)) := by
    rw [eq] at hbuf
    exact suffix_of_toList hbuf
  have sh := sameShape_mapStrings (e id gen) v
  exact parseIndirectObject_enc env d e id gen hinv v tv h8 hk hu hdepth hsz [] a g1 b g2 g3 g4 (g5 ++ tail) pre.length fuel
    Gap.nil h1 h2 h3 h4 h5 h6 hid hgen h7 h9 hs h11 (fun hb => h12 (by rw [PdfSyntax.encrypted, sh.nb]; exact hb)) h13 hfuel
    Flags.any (any_allows v)

/-- **Encrypted stream objects**: the strings of the stream dictionary are decrypted with the object key, the `file_range`
    covers exactly the (still encrypted) data: decrypting the data is the business of the stream layer, not of the parser. -/
theorem parse_stream_encrypted (env : Env R) (d e : Nat → Nat → List UInt8 → List UInt8) (id gen : Nat)
    (hinv : ∀ s, d id gen (e id gen s) = s) (info : Dict R) (data txt : List UInt8)
    (hsp : PdfSyntax.SpellsStreamEnc env.parseReal e id gen info data txt) (hk : KeysDistinctE info)
    (hnd : (keysOf info).Nodup) (hu : namesUtf8E info = true) (hlen : LengthIs env info data.length)
    {buf : Buf} (hsz : buf.size ≤ 2147483647)
    (g0 a g1 b g2 g3 g4 rest : List UInt8) (pos fuel : Nat) (hg0 : Gap g0)
    (ha : PdfSyntax.NatTok a id) (hb : PdfSyntax.NatTok b gen) (hg1 : Gap g1) (hg1ne : g1 ≠ []) (hg2 : Gap g2)
    (hg2ne : g2 ≠ []) (hid : id ≤ 18446744073709551615) (hgen : gen ≤ 18446744073709551615) (hg3 : Gap g3) (hg4 : Gap g4)
    (hg4ne : g4 ≠ [])
    (h : Suffix buf pos (g0 ++ a ++ g1 ++ b ++ g2 ++ kwObj ++ g3 ++ txt ++ g4 ++ kwEndobj ++ rest))
    (hbnd : Bnd rest) (hfuel : 2 + needE info ≤ fuel) (hdepth : 1 + vdepthE info ≤ maxDepth) :
    ∃ dataPos, parseIndirectObject (PdfShift.withDec env d) buf fuel pos Flags.any =
        .ok (((id, gen), streamAt env info (id, gen) dataPos data.length),
          pos + (g0 ++ a ++ g1 ++ b ++ g2 ++ kwObj ++ g3 ++ txt ++ g4 ++ kwEndobj).length) ∧
      slice buf dataPos (dataPos + data.length) = data :=
  parseIndirectObject_stream_enc env d e id gen hinv info data txt hsp hk hnd hu hlen hsz g0 a g1 b g2 g3 g4 rest pos fuel
    hg0 ha hb hg1 hg1ne hg2 hg2ne hid hgen hg3 hg4 hg4ne h hbnd hfuel hdepth

/-- **A failing decryptor ⇒ `Err`**: a string object whose ciphertext the decryptor rejects is not read as garbage, the
    parse fails (and, by `parse_err_restores_pos`, the cursor is put back). -/
theorem parse_string_decrypt_fails (env : Env R) (f : Nat → Nat → List UInt8 → Out (List UInt8)) (hdec : env.decrypt = some f)
    (id gen : Nat) (c : List UInt8) (hfail : f id gen c = .err) (txt : List UInt8) (hsp : Spells env.parseReal (.str c) txt)
    {buf : Buf} (hsz : buf.size ≤ 2147483647) (g rest : List UInt8) (pos fuel : Nat) (depth flags : Nat)
    (hfl : flags &&& Flags.string ≠ 0) (hg : Gap g) (hs : Suffix buf pos (g ++ txt ++ rest)) (hfuel : 2 ≤ fuel) :
    parseCtx env buf fuel pos (some (id, gen)) flags depth = .err :=
  parseCtx_str_decrypt_fails env f hdec id gen c hfail txt hsp hsz g rest pos fuel depth flags hfl hg hs hfuel

/-- **What may follow an object**: the decidable criterion `safeTail` (`Spec/Tail`: after white-space and comments
    the tail is empty, or starts a lexeme that is not `R` / `stream` and, if it is an integer, is not followed by `R`)
    guarantees the side condition `Ahead` of the theorems above, whatever gap precedes the tail; and every tail the
    harness appends (`Spec/Render.tails`, compared with the harness' own list on every run) satisfies it. -/
theorem safe_tail_never_merges {buf : Buf} (tail g : List UInt8) (q : Nat) (hs : PdfSpec.safeTail tail = true) (hg : Gap g)
    (h : Suffix buf q (g ++ tail)) : Ahead buf q :=
  ahead_of_safeTail tail g q hs hg h

theorem printer_tails_safe : ∀ t ∈ PdfSpec.tails, PdfSpec.safeTail t = true := tails_safe

/-- **Headline without side condition**: value + safe tail.  Nothing is assumed beyond conformance of the rendering
    (and the known-finding exclusion `namesUtf8`): the rendering placed behind any prefix, up to the end of the
    buffer, parses to the value and the cursor rests right after its text. -/
theorem parse_render (env : Env R) (hd : env.decrypt = none) (fmt : R → List UInt8) (v : Prim R) (tail : List UInt8)
    (tape : List Nat) (hr : PdfSpec.Renderable fmt env.parseReal v) (hk : KeysDistinct v) (hu : namesUtf8 v = true)
    (hdepth : vdepth v ≤ maxDepth) (ht : PdfSpec.safeTail tail = true) :
    ∃ txt g, (PdfSpec.renderWithTail fmt v tail tape).1 = txt ++ g ++ tail ∧ Gap g ∧
      ∀ {buf : Buf}, buf.size ≤ 2147483647 → ∀ (pre : List UInt8) (fuel : Nat) (ctx : Option (Nat × Nat)),
        buf.toList = pre ++ (PdfSpec.renderWithTail fmt v tail tape).1 → need v ≤ fuel →
        parseCtx env buf fuel pre.length ctx Flags.any maxDepth = .ok (v, pre.length + txt.length) := by
  obtain ⟨txt, g, e, hg, hp⟩ := parse_render_partial env hd fmt v tail tape hr hk hu hdepth
  refine ⟨txt, g, e, hg, ?_⟩
  intro buf hsz pre fuel ctx hbuf hfuel
  apply hp hsz pre fuel ctx hbuf hfuel
  have hs : Suffix buf (pre.length + txt.length) (g ++ tail) := by
    rw [e] at hbuf
    have := Suffix.drop (a := txt) (s := g ++ tail) (by simpa using suffix_of_toList hbuf)
    simpa using this
  exact ahead_of_safeTail tail g _ ht hg hs

/-- **The sequence clause at full strength**: a sequence of objects as the printer writes it, followed by any safe
    tail (in particular each of `Spec/Render.tails`), is parsed back by as many consecutive `parse_with_lexer`
    calls as there are objects to exactly these values, each call consuming exactly its own object's text.  No
    side condition is left beyond conformance (and `namesUtf8`).  (`items` / `rest`: see `render_sequence_shape`.) -/
theorem parse_render_sequence (env : Env R) (hd : env.decrypt = none) (fmt : R → List UInt8) (xs : List (Prim R))
    (tail : List UInt8) (tape : List Nat) (hr : PdfSpec.RenderableL fmt env.parseReal xs)
    (hw : ∀ x ∈ xs, KeysDistinct x ∧ namesUtf8 x = true ∧ vdepth x ≤ maxDepth) (ht : PdfSpec.safeTail tail = true) :
    ∃ items rest, (PdfSpec.renderSeq fmt xs tail tape).1 = seqText items ++ rest ∧ items.map (·.1) = xs ∧
      ∀ {buf : Buf}, buf.size ≤ 2147483647 → ∀ (pre : List UInt8) (fuel : Nat),
        buf.toList = pre ++ (PdfSpec.renderSeq fmt xs tail tape).1 → seqNeed items ≤ fuel →
        parseSeq env buf fuel xs.length pre.length = .ok (seqExpected pre.length items) := by
  obtain ⟨items, g, e, hg, hmap, h⟩ := parse_render_sequence_gap env hd fmt xs tail tape hr hw
  refine ⟨items, g ++ tail, e, hmap, fun hsz pre fuel hbuf hfuel => h hsz pre fuel hbuf hfuel ?_⟩
  rw [e] at hbuf
  exact ahead_of_safeTail tail g _ ht hg (suffix_of_toList hbuf).drop

/-- **The cursor is restored after a failed parse** (`Lexer.pos`, anchor of the property): for every buffer, every
    start position inside it, every context, flag set, depth budget and fuel, if `parse_with_lexer_ctx` returns
    `Err` then the lexer stands where the call started.  `parseCtxC` (`Model/ParserCursor`) is the parser with the
    cursor tracked on every path — also the failing ones, where the inner functions leave it wherever the error
    struck; `cursor_model_refines` ties it to the model all other theorems are about. -/
theorem parse_err_restores_pos (env : Env R) (buf : Buf) (fuel pos : Nat) (ctx : Option (Nat × Nat)) (flags depth : Nat)
    (h : pos ≤ buf.size) (herr : (parseCtxC env buf fuel pos ctx flags depth).1 = .err) :
    (parseCtxC env buf fuel pos ctx flags depth).2 = pos :=
  parseCtxC_err env buf fuel pos ctx flags depth h herr

/-- the cursor-tracking parser returns exactly what the parser model returns, for all inputs; and after `Ok` its
    cursor is the returned position (so "the cursor rests right after the text" in the theorems above is a
    statement about `Lexer.pos`) -/
theorem cursor_model_refines (env : Env R) (buf : Buf) (fuel pos : Nat) (ctx : Option (Nat × Nat)) (flags depth : Nat)
    (h : pos ≤ buf.size) :
    (parseCtxC env buf fuel pos ctx flags depth).1 = parseCtx env buf fuel pos ctx flags depth ∧
    ∀ v p, parseCtx env buf fuel pos ctx flags depth = .ok (v, p) →
      (parseCtxC env buf fuel pos ctx flags depth).2 = p ∧ p ≤ buf.size :=
  ⟨parseCtxC_fst env buf fuel pos ctx flags depth h, fun v p hok => parseCtxC_ok env buf fuel pos ctx flags depth h v p hok⟩

/-- The full-strength statement: as `parse_spelling_partial` but for *all* names the syntax can spell
    (`/#ff` is a legal name), i.e. without `namesUtf8`. -/
def C03_full : Prop :=
  ∀ (R : Type) (env : Env R) (v : Prim R) (txt : List UInt8) (buf : Buf) (g rest : List UInt8) (pos fuel : Nat)
    (ctx : Option (Nat × Nat)),
    env.decrypt = none → Spells env.parseReal v txt → KeysDistinct v → vdepth v ≤ maxDepth → buf.size ≤ 2147483647 →
    Gap g → Suffix buf pos (g ++ txt ++ rest) → (needsBnd v = true → Bnd rest) → Ahead buf (pos + g.length + txt.length) →
    need v ≤ fuel → parseCtx env buf fuel pos ctx Flags.any maxDepth = .ok (v, pos + g.length + txt.length)

def unitEnv : Env Unit :=
  { parseReal := fun _ => some (), resolveLen := fun _ _ => .err, allowMissingEndobj := false, decrypt := none, fileOffset := 0 }

def isErr {α : Type} : Out α → Bool
  | .err => true
  | _ => false

/-- non-vacuity of `parse_err_restores_pos`: `[1 2 (a` fails after the lexer has advanced to the end of the buffer, and
    the cursor is back at the start (position 2, behind a prefix) -/
example : (match parseCtxC unitEnv (#[120, 120, 91, 49, 32, 50, 32, 40, 97] : Buf) 40 2 none Flags.any maxDepth with
    | (.err, 2) => true
    | _ => false) = true := by
  decide +kernel

/-- **Counter-example (known finding, DESIGN D7)**: `/#ff` spells the name whose only byte is 0xFF; the
    reader rejects it because `Name` is a `SmallString` (UTF-8). -/
theorem C03_counterexample : ¬ C03_full := by
  intro h
  have hsp : Spells unitEnv.parseReal (.name [255]) [47, 35, 102, 102] := by
    simp only [Spells]
    exact ⟨[35, 102, 102], rfl, PdfSyntax.NameBody.esc 102 102 15 15 [] [] (by decide) (by decide) PdfSyntax.NameBody.nil⟩
  have hah : Ahead (#[47, 35, 102, 102] : Buf) (0 + ([] : List UInt8).length + [47, 35, 102, 102].length) := by
    left; decide +kernel
  have := h Unit unitEnv (.name [255]) [47, 35, 102, 102] #[47, 35, 102, 102] [] [] 0 10 none rfl hsp (by simp [KeysDistinct])
    (by simp [vdepth]) (by simp) Gap.nil (by simp [Suffix]) (fun _ => by simp [Bnd]) hah (by simp [need])
  have e : isErr (parseCtx unitEnv (#[47, 35, 102, 102] : Buf) 10 0 none Flags.any maxDepth) = true := by decide +kernel
  rw [this] at e
  simp [isErr] at e

/-! ### non-vacuity -/

/-- `[ 1%c␍/A#20B(a\)\053\␊b)<4 1>-.5 ]`: an array with a comment ended by CR, a name with `#20`, a literal
    string with an escaped parenthesis, an octal code and a line continuation, a hexadecimal string with
    white-space, a fraction-only real; every hypothesis of `parse_spelling_partial` holds for it. -/
def sampleValue : Prim Unit :=
  .arr [.int 1, .name [65, 32, 66], .str [97, 41, 43, 98], .str [65], .real ()]

def sampleText : List UInt8 :=
  [91, 32, 49, 37, 99, 13, 47, 65, 35, 50, 48, 66, 40, 97, 92, 41, 92, 48, 53, 51, 92, 10, 98, 41, 60, 52, 32, 49, 62,
   45, 46, 53, 32, 93]

theorem sample_conformant : Spells unitEnv.parseReal sampleValue sampleText ∧ KeysDistinct sampleValue ∧
    namesUtf8 sampleValue = true ∧ vdepth sampleValue ≤ maxDepth := by
  refine ⟨?_, by simp [sampleValue, KeysDistinct, PdfSyntax.KeysDistinctL], by decide, by decide⟩
  simp only [sampleValue, sampleText, Spells]
  refine ⟨[32], _, rfl, Gap.ws 32 [] (by decide) Gap.nil, ?_⟩
  -- 1 %c<CR>
  refine ⟨[49], [37, 99, 13], _, rfl, ?_, Gap.comment [99] 13 [] (by intro b hb; simp at hb; subst hb; decide) (Or.inr rfl) Gap.nil, ?_, fun _ => by simp [Bnd]; decide⟩
  · simp only [Spells]; exact ⟨⟨[49], by simp, by simp [PdfSyntax.Digits, PdfSyntax.isDig], Or.inl ⟨rfl, by decide⟩⟩, by decide, by decide⟩
  -- /A#20B
  refine ⟨[47, 65, 35, 50, 48, 66], [], _, rfl, ?_, Gap.nil, ?_, fun _ => by simp [Bnd]; decide⟩
  · simp only [Spells]
    exact ⟨_, rfl, PdfSyntax.NameBody.raw 65 _ _ (by decide) (by decide)
      (PdfSyntax.NameBody.esc 50 48 2 0 _ _ (by decide) (by decide)
        (PdfSyntax.NameBody.raw 66 _ _ (by decide) (by decide) PdfSyntax.NameBody.nil))⟩
  -- (a\)\053\<LF>b)
  refine ⟨[40, 97, 92, 41, 92, 48, 53, 51, 92, 10, 98, 41], [], _, rfl, ?_, Gap.nil, ?_, fun h => by simp [needsBnd] at h⟩
  · simp only [Spells]
    left
    exact ⟨_, rfl, PdfSyntax.LitBody.plain 97 _ _ _ (by decide) (by decide) (by decide) (by decide)
      (PdfSyntax.LitBody.named 41 41 _ _ _ (by decide)
        (PdfSyntax.LitBody.oct3 48 53 51 _ _ _ (by decide) (by decide) (by decide)
          (PdfSyntax.LitBody.contLf _ _ _
            (PdfSyntax.LitBody.plain 98 _ _ _ (by decide) (by decide) (by decide) (by decide) PdfSyntax.LitBody.close))))⟩
  -- <4 1>
  refine ⟨[60, 52, 32, 49, 62], [], _, rfl, ?_, Gap.nil, ?_, fun h => by simp [needsBnd] at h⟩
  · simp only [Spells]
    right
    exact ⟨_, rfl, PdfSyntax.HexBody.byte [] [32] 52 49 4 1 _ _ (by simp [PdfSyntax.HexWs]) (by simp [PdfSyntax.HexWs]; decide)
      (by decide) (by decide) (PdfSyntax.HexBody.close [] (by simp [PdfSyntax.HexWs]))⟩
  -- -.5
  refine ⟨[45, 46, 53], [32], _, rfl, ?_, Gap.ws 32 [] (by decide) Gap.nil, by simp [PdfSyntax.SpellsElems], fun _ => by simp [Bnd]; decide⟩
  simp only [Spells]
  exact ⟨⟨[45], [], [53], rfl, Or.inr (Or.inr rfl), by simp [PdfSyntax.Digits], by simp [PdfSyntax.Digits, PdfSyntax.isDig], Or.inr (by simp)⟩, rfl⟩

/-- the main theorem applies to it: all hypotheses (including `Ahead` at the end of the buffer) are met -/
example : parse unitEnv (sampleText ++ []).toArray Flags.any = .ok (sampleValue, sampleText.length) :=
  parse_api_partial unitEnv rfl sampleValue sampleText sample_conformant.1 sample_conformant.2.1 sample_conformant.2.2.1
    sample_conformant.2.2.2 [] (by decide) (fun _ => by simp [Bnd]) (Or.inl (by decide +kernel)) Flags.any (by decide)

/-- and the model computes that value from that text (kernel evaluation) -/
example :
    (match parse unitEnv sampleText.toArray Flags.any with
     | .ok (.arr [.int 1, .name [65, 32, 66], .str [97, 41, 43, 98], .str [65], .real ()], 34) => true
     | _ => false) = true := by decide +kernel

/-! ### non-vacuity of the encrypted-spelling theorems: a toy cipher (reversal, its own inverse) -/

def revCipher : Nat → Nat → List UInt8 → List UInt8 := fun _ _ s => s.reverse

/-- `[(abc) 7]` stored in object `7 0` as `[(cba) 7]`: `SpellsEnc` holds and the theorem gives back `abc` -/
example : parseCtx (PdfShift.withDec unitEnv revCipher) (#[91, 40, 99, 98, 97, 41, 32, 55, 93] : Buf) 20 0 (some (7, 0)) Flags.any maxDepth
    = .ok (.arr [.str [97, 98, 99], .int 7], 9) := by
  have hsp : PdfSyntax.SpellsEnc unitEnv.parseReal revCipher 7 0 (.arr [.str [97, 98, 99], .int 7] : Prim Unit)
      [91, 40, 99, 98, 97, 41, 32, 55, 93] := by
    simp only [PdfSyntax.SpellsEnc, PdfSyntax.encrypted, PdfSyntax.mapStrings, PdfSyntax.mapStringsL, revCipher, Spells]
    refine ⟨[], _, rfl, Gap.nil, ?_⟩
    refine ⟨[40, 99, 98, 97, 41], [32], _, rfl, ?_, Gap.ws 32 [] (by decide) Gap.nil, ?_, fun h => by simp [needsBnd] at h⟩
    · simp only [Spells]; left
      exact ⟨_, rfl, PdfSyntax.LitBody.plain 99 _ _ _ (by decide) (by decide) (by decide) (by decide)
        (PdfSyntax.LitBody.plain 98 _ _ _ (by decide) (by decide) (by decide) (by decide)
          (PdfSyntax.LitBody.plain 97 _ _ _ (by decide) (by decide) (by decide) (by decide) PdfSyntax.LitBody.close))⟩
    · refine ⟨[55], [], _, rfl, ?_, Gap.nil, by simp [PdfSyntax.SpellsElems], fun _ => by simp [Bnd]; decide⟩
      simp only [Spells]
      exact ⟨⟨[55], by simp, by simp [PdfSyntax.Digits, PdfSyntax.isDig], Or.inl ⟨rfl, by decide⟩⟩, by decide, by decide⟩
  have := parse_spelling_encrypted unitEnv revCipher revCipher 7 0 (fun s => by simp [revCipher]) _ _ hsp
    (by simp [KeysDistinct, PdfSyntax.KeysDistinctL]) (by decide) (by decide) (buf := #[91, 40, 99, 98, 97, 41, 32, 55, 93])
    (by decide) [] [] 0 20 Gap.nil (by simp [Suffix]) (fun h => by simp [needsBnd] at h) (Or.inl (by decide +kernel)) (by decide)
    Flags.any (by decide)
  simpa using this

/-- and the model computes it (kernel evaluation of `7 0 obj[(cba) 7]endobj` with the decoder) -/
example :
    (match parseIndirectObject (PdfShift.withDec unitEnv revCipher)
        (#[55, 32, 48, 32, 111, 98, 106, 91, 40, 99, 98, 97, 41, 32, 55, 93, 101, 110, 100, 111, 98, 106] : Buf) 60 0 Flags.any with
     | .ok (((7, 0), .arr [.str [97, 98, 99], .int 7]), 22) => true
     | _ => false) = true := by decide +kernel

/-! ### non-vacuity of the indirect-object, stream-object and sequence headlines (printer output, theorems applied) -/

def exTape : List Nat := [3, 1, 4, 1, 5, 9, 2, 6, 5, 3, 5, 8, 9, 7, 9, 3, 2, 3, 8, 4, 6, 2, 6, 4, 3, 3, 8, 3, 2, 7, 9, 5]

def exValue : Prim Unit := .arr [.int 1, .name [65, 32], .str [120, 40]]

/-- `parse_render_indirect_partial` applied: object `7 0` holding `[1 /A#20 (x\()]` in the layout drawn from `exTape` -/
example : ∃ p, parseIndirectObject unitEnv (PdfSpec.renderIndirect (fun _ => []) 7 0 exValue [] exTape).1.toArray 200 0 Flags.any =
    .ok (((7, 0), exValue), p) := by
  obtain ⟨objText, rest, e, h⟩ := parse_render_indirect_partial unitEnv rfl (fun _ => []) exValue 7 0 [] exTape
    (by simp [exValue, PdfSpec.Renderable, PdfSpec.RenderableL]) (by simp [exValue, KeysDistinct, PdfSyntax.KeysDistinctL])
    (by decide) (by decide) (by decide) (by decide)
  have hl : (PdfSpec.renderIndirect (fun _ => ([] : List UInt8)) 7 0 exValue [] exTape).1.length ≤ 200 := by decide +kernel
  exact ⟨_, h (by simp; omega) [] 200 (by simp) (by decide)⟩

/-- `parse_render_stream_partial` applied: a stream object with `/Length 3` and the data `abc` -/
example : ∃ dataPos p, parseIndirectObject unitEnv
      (PdfSpec.renderIndirect (fun _ => []) 7 0 (.stream [(kwLength, .int 3)] (.pending [97, 98, 99]) : Prim Unit) [] exTape).1.toArray
      200 0 Flags.any = .ok (((7, 0), streamAt unitEnv [(kwLength, .int 3)] (7, 0) dataPos 3), p) ∧
    slice (PdfSpec.renderIndirect (fun _ => []) 7 0 (.stream [(kwLength, .int 3)] (.pending [97, 98, 99]) : Prim Unit) [] exTape).1.toArray
      dataPos (dataPos + 3) = [97, 98, 99] := by
  obtain ⟨objText, rest, e, h⟩ := parse_render_stream_partial unitEnv rfl (fun _ => []) [(kwLength, .int 3)] [97, 98, 99] 7 0 [] exTape
    (by simp [PdfSpec.RenderableE, PdfSpec.Renderable]) (by simp [KeysDistinctE, KeysDistinct]) (by simp [keysOf]) (by decide)
    (Or.inl (by simp [dictGet, kwLength])) (by decide) (by decide) (by decide)
  have hl : (PdfSpec.renderIndirect (fun _ => ([] : List UInt8)) 7 0
      (.stream [(kwLength, .int 3)] (.pending [97, 98, 99]) : Prim Unit) [] exTape).1.length ≤ 200 := by decide +kernel
  obtain ⟨dataPos, hp, hd⟩ := h (buf := (PdfSpec.renderIndirect (fun _ => ([] : List UInt8)) 7 0
      (.stream [(kwLength, .int 3)] (.pending [97, 98, 99]) : Prim Unit) [] exTape).1.toArray) (by simp; omega) [] 200 (by simp) (by decide)
  exact ⟨dataPos, _, hp, hd⟩

/-- `parse_render_sequence` applied: `1 2 /A` in the layout drawn from `exTape`, followed by the tail `]` -/
example : ∃ items, items.map (·.1) = [.int 1, .int 2, (.name [65] : Prim Unit)] ∧
    parseSeq unitEnv (PdfSpec.renderSeq (fun _ => []) [.int 1, .int 2, (.name [65] : Prim Unit)] [93] exTape).1.toArray 100 3 0 =
      .ok (seqExpected 0 items) := by
  obtain ⟨items, rest, e, hmap, h⟩ := parse_render_sequence unitEnv rfl (fun _ => []) [.int 1, .int 2, (.name [65] : Prim Unit)] [93]
    exTape (by simp [PdfSpec.RenderableL, PdfSpec.Renderable])
    (by intro x hx; simp at hx; rcases hx with rfl | rfl | rfl <;> (refine ⟨by simp [KeysDistinct], by decide, by decide⟩))
    (by decide +kernel)
  have hl : (PdfSpec.renderSeq (fun _ => ([] : List UInt8)) [.int 1, .int 2, (.name [65] : Prim Unit)] [93] exTape).1.length ≤ 200 := by
    decide +kernel
  refine ⟨items, hmap, ?_⟩
  have := h (buf := (PdfSpec.renderSeq (fun _ => ([] : List UInt8)) [.int 1, .int 2, (.name [65] : Prim Unit)] [93] exTape).1.toArray)
    (by simp; omega) [] 100 (by simp)
    (seqNeed_le items 100 (by rw [hmap]; intro x hx; simp at hx; rcases hx with rfl | rfl | rfl <;> decide))
  simpa using this

/-! ### the look-ahead cases of `parse_flags_exact`, evaluated (flags: INTEGER = 1, REF = 512) -/

def outcome {α : Type} : Out (Prim α × Nat) → Nat
  | .ok (.int _, p) => 100 + p
  | .ok (.ref _ _, p) => 200 + p
  | .ok _ => 300
  | .err => 0
  | _ => 999

/-- `12` (end of buffer: the member of an object stream, the D42-style restricted request for an indirect `/Length`
    asks with INTEGER only): accepted under INTEGER and INTEGER|REF, rejected under REF alone and under NAME -/
example : (outcome (parseWithLexer unitEnv #[49, 50] 20 0 1), outcome (parseWithLexer unitEnv #[49, 50] 20 0 513),
    outcome (parseWithLexer unitEnv #[49, 50] 20 0 512), outcome (parseWithLexer unitEnv #[49, 50] 20 0 16)) = (102, 102, 0, 0) := by
  decide +kernel

/-- `12 0 R`: a reference under REF and INTEGER|REF; under INTEGER alone it is rejected (not read as the integer 12) -/
example : (outcome (parseWithLexer unitEnv #[49, 50, 32, 48, 32, 82] 20 0 512),
    outcome (parseWithLexer unitEnv #[49, 50, 32, 48, 32, 82] 20 0 513),
    outcome (parseWithLexer unitEnv #[49, 50, 32, 48, 32, 82] 20 0 1)) = (206, 206, 0) := by
  decide +kernel

/-- `12 0 obj`: the look-ahead reads `0` and `obj`, rolls back: the integer 12 under INTEGER; rejected under REF alone with
    the cursor back at the start -/
example : outcome (parseWithLexer unitEnv #[49, 50, 32, 48, 32, 111, 98, 106] 20 0 1) = 102 ∧
    (match parseWithLexerC unitEnv #[49, 50, 32, 48, 32, 111, 98, 106] 20 0 512 with | (.err, 0) => true | _ => false) = true := by
  decide +kernel

end C03

/-! ## Tie to the source: constants and byte classes (appended by the translator package)

`Generated/Lexical.lean` is re-extracted from `pdf/src` by `./check` before this file is built. -/

namespace C03

/-- white-space, delimiter and regular characters of the lexer model and the parser's nesting bound are the ones of the source -/
theorem constants_match_source :
    ((List.range 256).filter (fun n => PdfLex.isWhitespace (UInt8.ofNat n)) = Generated.lexWhitespace) ∧
    ((List.range 256).filter (fun n => PdfLex.isDelimiter (UInt8.ofNat n)) = Generated.lexDelimiters) ∧
    ((List.range 256).filter (fun n => PdfLex.isRegular (UInt8.ofNat n)) =
      (List.range 256).filter (fun n => !Generated.lexWhitespace.contains n && !Generated.lexDelimiters.contains n)) ∧
    (PdfLex.maxDepth = Generated.parserMaxDepth) := by
  have ws : (List.range 256).filter (fun n => PdfLex.isWhitespace (UInt8.ofNat n)) = Generated.lexWhitespace := by
    first | decide +kernel | fail "constants_match_source (C03): the model's PdfLex.isWhitespace does not match the source (Generated.lexWhitespace, re-extracted from pdf/src)"
  have dl : (List.range 256).filter (fun n => PdfLex.isDelimiter (UInt8.ofNat n)) = Generated.lexDelimiters := by
    first | decide +kernel | fail "constants_match_source (C03): the model's PdfLex.isDelimiter does not match the source (Generated.lexDelimiters, re-extracted from pdf/src)"
  refine ⟨ws, dl, ?_, ?_⟩
  -- a byte is regular when it is in neither class, and the two lists are those classes
  · first
      | exact List.filter_congr fun n hn => by
          rw [contains_filter_range ws hn, contains_filter_range dl hn]; rfl
      | fail "constants_match_source (C03): the model's PdfLex.isRegular does not match the source (Generated.lexDelimiters, Generated.lexWhitespace, re-extracted from pdf/src)"
  · first | decide +kernel | fail "constants_match_source (C03): the model's PdfLex.maxDepth does not match the source (Generated.parserMaxDepth, re-extracted from pdf/src)"

end C03
