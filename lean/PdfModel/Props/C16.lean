import PdfModel.Lemmas.EncEncode
import PdfModel.Props.C05

/-!
# C16 — every encoder is inverted by its decoder and emits the standard format

`encode_hex` and `encode_85` are modelled completely (`encodeHex`, `encode85` in `Model/Enc.lean`). The
Flate encoder is a call into libflate and appears as the parameter `X.zlibEncode` with the assumed
round-trip property as an explicit hypothesis (`hflate`); weezl's LZW encoder enters through the conformance hypothesis `hlzw` below.
LZW: the decoder is modelled (`Model/Lzw.lean`) and proved to invert every conforming encoding (C05); the
greedy encoder of `Spec/Lzw.lean` is proved to conform (`lzw_decode_encode`); for weezl's own encoder
(`X.lzwEncode`) the hypothesis `hlzw` is a *conformance obligation* — its output lies in the encoder
relation — which the stream `c16.lzw.encode` checks on the real crate with the sound membership test.
"Emits the standard format" is membership in the C05 relations (`EncodesToHex`, `EncodesTo85`,
`EncodesToLzw`: the set of all texts a conforming encoder may produce), EOD markers included; by the C05
theorems anything in those relations is decoded to the original bytes — by this decoder and by any other
conforming one.
-/

namespace Enc
open Codecs

/-- **ASCIIHex encoder conforms**: two digits per byte and the EOD marker `>` -/
theorem encodeHex_conforms (bs : Bytes) :
    ∃ t, encodeHex bs = .ok t ∧ EncodesToHex bs t ∧ t.getLast? = some 62 := by
  obtain ⟨body, h1, h2⟩ := encodeHexGo_spec bs
  refine ⟨body ++ [62], h1, ⟨body, body ++ [62], [], h2, Sprinkled.refl _, by simp⟩, by simp⟩

/-- **ASCIIHex round trip** -/
theorem decodeHex_encodeHex (bs : Bytes) : ∃ t, encodeHex bs = .ok t ∧ decodeHex t = .ok bs := by
  obtain ⟨t, h1, h2, _⟩ := encodeHex_conforms bs
  exact ⟨t, h1, decodeHex_of_encodes h2⟩

/-- **ASCII85 encoder conforms**: five digits per group, `z` for a zero group, n + 1 digits for a final
    group of n bytes, the EOD marker `~>` -/
theorem encode85_conforms (bs : Bytes) :
    ∃ body, encode85 bs = .ok (body ++ [126, 62]) ∧ EncodesTo85 bs (body ++ [126, 62]) := by
  obtain ⟨body, h1, h2⟩ := encode85Go_spec bs
  exact ⟨body, h1, body, h2, Sprinkled.refl _⟩

/-- **ASCII85 round trip** -/
theorem decode85_encode85 (bs : Bytes) : ∃ t, encode85 bs = .ok t ∧ decode85 t = .ok bs := by
  obtain ⟨body, h1, h2⟩ := encode85_conforms bs
  exact ⟨_, h1, decode85_of_encodes h2⟩

/-- the zero-group shorthand is used: four zero bytes become the single character `z` -/
theorem encode85_zero_group (rest : Bytes) :
    ∃ t, encode85 rest = .ok t ∧ encode85 (0 :: 0 :: 0 :: 0 :: rest) = .ok (122 :: t) := by
  obtain ⟨body, h1, _⟩ := encode85Go_spec rest
  refine ⟨_, h1, ?_⟩
  show encode85Go (0 :: 0 :: 0 :: 0 :: rest) = _
  simp [encode85Go, h1]

/-- **Every encodable filter**: whenever `encode` succeeds, `decode` with the same filter returns the
    input — for the ASCII filters unconditionally; for LZW provided weezl's encoder emits a conforming
    stream (`hlzw`: membership in the relation, checked on the crate by `c16.lzw.encode`; the decoder side
    is a theorem); for Flate under the hypothesis that libflate's inflate inverts its deflate. A requested
    predictor or EarlyChange ≠ 0 is refused by `encode` (an error), never silently ignored. -/
theorem decode_encode (X : Ext)
    (hflate : ∀ x, X.inflateZlib (X.zlibEncode x) = some x)
    (hlzw : ∀ x y, X.lzwEncode x = some y → LzwSpec.EncodesToLzw false x y)
    (f : Filter) (x y : Bytes) (h : encode X x f = .ok y) : decode X y f = .ok x := by
  cases f with
  | asciiHex =>
    obtain ⟨t, h1, h2⟩ := decodeHex_encodeHex x
    simp only [encode] at h
    rw [h1] at h; cases h; exact h2
  | ascii85 =>
    obtain ⟨t, h1, h2⟩ := decode85_encode85 x
    simp only [encode] at h
    rw [h1] at h; cases h; exact h2
  | flate p =>
    simp only [encode] at h
    by_cases hp : p.predictor > 1
    · rw [if_pos hp] at h; cases h
    · rw [if_neg hp] at h; cases h
      exact decode_of_encodes (.flateZlib (.none (by omega) (by omega)) (hflate x))
  | lzw p =>
    simp only [encode] at h
    by_cases he : p.earlyChange ≠ 0
    · rw [if_pos he] at h; cases h
    · by_cases hp : p.predictor > 1
      · rw [if_neg he, if_pos hp] at h; cases h
      · rw [if_neg he, if_neg hp] at h
        cases hx : X.lzwEncode x with
        | none => rw [hx] at h; cases h
        | some d =>
          rw [hx] at h; cases h
          exact decode_of_encodes (.lzw (.none (by omega) (by omega)) (by rw [decide_eq_false he]; exact hlzw x y hx))
  | runLength | jpx | dct | ccittFax | jbig2 | crypt => cases h

/-- **LZW round trip for the executable greedy encoder** (clear-table first, longest match, clear-table
    when the table is full, EOD, zero padding), both EarlyChange values: its output conforms and the
    decoder returns the input -/
theorem lzw_decode_encode (early : Bool) (bs : Bytes) :
    LzwSpec.EncodesToLzw early bs (LzwSpec.encodeGreedy early bs) ∧
    Lzw.decode early (LzwSpec.encodeGreedy early bs) = .ok bs :=
  ⟨LzwSpec.encodeGreedy_conforms early bs, Lzw.decode_of_encodesToLzw early (LzwSpec.encodeGreedy_conforms early bs)⟩

/-- the greedy encoder reproduces the example of ISO 32000-1 §7.4.4.2 bit for bit -/
example : LzwSpec.encodeGreedy true [45, 45, 45, 45, 45, 65, 45, 45, 45, 66]
    = [0x80, 0x0B, 0x60, 0x50, 0x22, 0x0C, 0x0C, 0x85, 0x01] := by decide +kernel

/-- the two modelled encoders never panic (`encode_nibble`'s `unreachable!()` and the `u8` addition in
    `a85` cannot be reached) -/
theorem encode_ascii_total (bs : Bytes) : (∃ t, encodeHex bs = .ok t) ∧ (∃ t, encode85 bs = .ok t) := by
  obtain ⟨t, h, _⟩ := decodeHex_encodeHex bs
  obtain ⟨u, h', _⟩ := decode85_encode85 bs
  exact ⟨⟨t, h⟩, ⟨u, h'⟩⟩

/-! ## Before the repairs -/

/-- D16: the hex encoder wrote the digits only -/
def encodeHexOld : Bytes → Bytes
  | [] => []
  | b :: bs => (if b >>> 4 < 10 then (48 : UInt8) + (b >>> 4) else (87 : UInt8) + (b >>> 4)) ::
      (if b &&& 15 < 10 then (48 : UInt8) + (b &&& 15) else (87 : UInt8) + (b &&& 15)) :: encodeHexOld bs

/-- every conforming ASCIIHex text contains the EOD marker -/
theorem encodesToHex_has_eod {bs text : Bytes} (h : EncodesToHex bs text) : 62 ∈ text := by
  obtain ⟨body, marked, rest, _, hs, rfl⟩ := h
  obtain ⟨t1, t2, rfl, _, _⟩ := hs.split
  simp

/-- the old encoder's output has no EOD marker, so no reader is obliged to accept it -/
example : encodeHexOld [0x4a, 0xff] = [52, 97, 102, 102] := by decide
example : ¬ EncodesToHex [0x4a, 0xff] (encodeHexOld [0x4a, 0xff]) := by
  intro h; have := encodesToHex_has_eod h; revert this; decide
example : encodeHex [0x4a, 0xff] = .ok [52, 97, 102, 102, 62] := by decide

/-! ## Non-vacuity -/

example : encode85 [104, 101, 108, 108, 111, 32, 119, 111, 114, 108, 100, 33]
    = .ok [66, 79, 117, 33, 114, 68, 93, 106, 55, 66, 69, 98, 111, 56, 48, 126, 62] := by decide +kernel
example : encode85 [0, 0, 0, 0, 0] = .ok [122, 33, 33, 126, 62] := by decide
example : (match encode85 [1, 2, 3, 4, 5, 6, 7] with | .ok t => decode85 t | o => o) = .ok [1, 2, 3, 4, 5, 6, 7] := by decide +kernel

end Enc
