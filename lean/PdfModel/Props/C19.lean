import PdfModel.Lemmas.Widths
import PdfModel.Lemmas.CMapWrite
import PdfModel.Lemmas.CMapTotal
import PdfModel.Lemmas.CMapSpell
import PdfModel.Lemmas.CMapSpellCheck
import PdfModel.Lemmas.FontEncoding
import PdfModel.Generated.Lexical

/-!
  C19 — "Glyph widths and Unicode maps follow the font dictionaries exactly".

  Widths: `Widths.Widths α` is the table `{values, default, first_char}`, `set` is `_set` with its five growth
  cases, `interp` the /W interpreter of `Font::widths` (after the D33 repairs), `Group`/`render` a well-formed
  /W array, `lastAssign` what such an array assigns to a code.  Width values are opaque (`α`).
  Character maps: `CMap.parseCMap` / `CMap.writeCMap` are `parse_cmap` / `write_cmap` (after the D39 repair) on
  bytes; `CMap.Ent`/`render`/`denote` a conformant bfchar/bfrange program and what the specification says it
  maps.  No hypothesis about third-party code is used.
-/

namespace C19
open Widths

variable {α : Type}

/-- Clause "the width table is an offset vector grown at both ends by insertion order": whatever the table looks
    like (empty, code just past the end, before the start, beyond a gap, inside), setting code `c` changes the
    answer for `c` and for no other code. -/
theorem get_set (w : Widths α) (c : Nat) (x : α) (c' : Nat) :
    (w.set c x).get c' = if c' = c then x else w.get c' := Widths.get_set w c x c'

/-- the `debug_assert_eq!(self.get(cid), width)` at the end of `Widths::set` cannot fire (for a width equal to
    itself, i.e. anything but NaN) -/
theorem get_set_same (w : Widths α) (c : Nat) (x : α) : (w.set c x).get c = x := by
  rw [Widths.get_set]; simp

/-- Clause "for every well-formed composite-font width array (any mix and order of `first [w ...]` and
    `first last w` groups …) and default width, the width reported for every character code is the one the array
    assigns and the default elsewhere" — here for *any* groups, overlapping or not: the last group mentioning a
    code wins; for the disjoint ranges of the property at most one group mentions it. -/
theorem widths_last_assignment (dw cx : α) (gs : List (Group α)) (wf : ∀ g ∈ gs, g.wf = true) :
    ∃ w, cidWidths dw (render cx gs) = .ok w ∧ ∀ c, w.get c = (lastAssign gs c).getD dw := by
  obtain ⟨w, h1, _, h3⟩ := interp_spec cx gs (Widths.new dw) wf
  refine ⟨w, h1, fun c => ?_⟩
  rw [h3 c, assignFrom_eq_lastAssign]
  simp [Widths.new, Widths.get]

/-- "… and the default elsewhere": a code no group covers has the default width -/
theorem widths_uncovered_default (dw cx : α) (gs : List (Group α)) (wf : ∀ g ∈ gs, g.wf = true) (c : Nat)
    (hc : ∀ g ∈ gs, g.covers c = false) :
    ∃ w, cidWidths dw (render cx gs) = .ok w ∧ w.get c = dw := by
  obtain ⟨w, h1, h2⟩ := widths_last_assignment dw cx gs wf
  refine ⟨w, h1, ?_⟩
  rw [h2 c]
  have : lastAssign gs c = none :=
    List.findSome?_eq_none_iff.mpr fun g hg => Group.assign_of_not_covers (hc g (List.mem_reverse.mp hg))
  simp [this]

/-- "… the one the array assigns": with pairwise disjoint groups, a code covered by group `g` has the width `g`
    gives it, wherever `g` stands in the array -/
theorem widths_disjoint_assigned (dw cx : α) (gs : List (Group α)) (wf : ∀ g ∈ gs, g.wf = true)
    (hd : gs.Pairwise (fun a b => ∀ c, ¬ (a.covers c = true ∧ b.covers c = true)))
    (g : Group α) (hg : g ∈ gs) (c : Nat) (hc : g.covers c = true) :
    ∃ w, cidWidths dw (render cx gs) = .ok w ∧ some (w.get c) = g.assign c := by
  obtain ⟨w, h1, h2⟩ := widths_last_assignment dw cx gs wf
  refine ⟨w, h1, ?_⟩
  rw [h2 c]
  obtain ⟨v, hv⟩ := Group.assign_of_covers (wf g hg) hc
  have : lastAssign gs c = some v := by
    unfold lastAssign
    clear h1 h2 wf
    induction gs with
    | nil => simp at hg
    | cons a r ih =>
      rw [List.pairwise_cons] at hd
      simp only [List.reverse_cons, List.findSome?_append, List.findSome?_cons, List.findSome?_nil]
      rcases List.mem_cons.mp hg with rfl | hg'
      · -- g is the head: nobody in the tail covers c
        have : r.reverse.findSome? (·.assign c) = none := by
          rw [List.findSome?_eq_none_iff]
          intro g' hg'
          apply Group.assign_of_not_covers
          have := hd.1 g' (List.mem_reverse.mp hg') c
          cases h : g'.covers c with
          | false => rfl
          | true => exact absurd ⟨hc, h⟩ this
        simp [this, hv]
      · rw [ih hd.2 hg']
        simp
  rw [this, hv]
  rfl

/-- The interpreter returns a table or an error on *every* array (no panic, no unbounded loop): the model-level
    content of the D33 repairs. -/
theorem interp_total (w : Widths α) (items : List (WP α)) : interp w items ≠ .panic ∧ interp w items ≠ .oof :=
  interp_returns w items

/-- Clause "for simple fonts it is the entry at code minus first-character inside the table and the default
    outside" (`FirstChar ≥ 0`; a negative one is cast to a huge `usize`, then every code is "outside"). -/
theorem simple_font_width (zero : α) (first : Nat) (ws : Option (List α)) (c : Nat) :
    (simpleWidths zero (first : Int) ws).get c =
      if first ≤ c then ((ws.getD [])[c - first]?).getD zero else zero := by
  have h : ¬ ((first : Int) < 0) := by omega
  simp only [simpleWidths, h, if_false, Widths.get, Int.toNat_natCast]
  by_cases hc : c < first
  · have : ¬ first ≤ c := by omega
    simp [hc, this]
  · have : first ≤ c := by omega
    simp [hc, this]

/-- A negative `FirstChar` (an `i32`, so at least −2^31) is cast by `as usize` to `2^64 − |first|`: every code below
    `2^64 − 2^31 = 18446744071562067968` lies before the table and has the default width. -/
theorem simple_font_width_negative (zero : α) (first : Int) (hf : first < 0) (hb : -2147483648 ≤ first)
    (ws : Option (List α)) (c : Nat) (hc : c < 18446744071562067968) :
    (simpleWidths zero first ws).get c = zero := by
  have : c < 18446744073709551616 - first.natAbs := by omega
  simp [simpleWidths, hf, Widths.get, this]

/-- Simple fonts through `Font::widths` with the descriptor's /MissingWidth: inside the table the entry at
    code − FirstChar, outside the table (before FirstChar, after the last entry, or no /Widths at all) the
    /MissingWidth, `0` when the font has no descriptor. (After the `fix:` commit: the table used to default to 0.) -/
theorem simple_font_missing_width (zero : α) (first : Nat) (ws : Option (List α)) (missing : Option α) (c : Nat) :
    ∃ w, widthsOf zero (.simple (some (first : Int)) ws missing) = .ok (some w) ∧
      w.get c = if first ≤ c then ((ws.getD [])[c - first]?).getD (missing.getD zero) else missing.getD zero :=
  ⟨_, rfl, simple_font_width (missing.getD zero) first ws c⟩

/-- What `Font::widths` reports for each of the seven subtypes the library distinguishes: Type1 / TrueType → the
    table above when /FirstChar is present, nothing otherwise; MMType1 / Type3 (kept as raw dictionaries) → nothing;
    Type0 → what its first descendant reports, nothing without a descendant; CIDFontType0 / CIDFontType2 → the /W
    interpreter's table or its error. -/
theorem widths_by_subtype (zero : α) :
    (widthsOf zero (.other : FontM α) = .ok none) ∧
    (∀ ws mw, widthsOf zero (.simple none ws mw : FontM α) = .ok none) ∧
    (widthsOf zero (.type0 [] : FontM α) = .ok none) ∧
    (∀ d ds, widthsOf zero (.type0 (d :: ds) : FontM α) = widthsOf zero d) ∧
    (∀ dw w t, cidWidths dw w = .ok t → widthsOf zero (.cid dw w : FontM α) = .ok (some t)) ∧
    (∀ dw w, cidWidths dw w = .err → widthsOf zero (.cid dw w : FontM α) = .err) := by
  refine ⟨rfl, fun _ _ => rfl, rfl, fun _ _ => rfl, ?_, ?_⟩
  · intro dw w t h; simp [widthsOf, h]
  · intro dw w h; simp [widthsOf, h]

/-- a composite font over a CID font with a well-formed /W array reports exactly what the array assigns -/
theorem type0_widths (zero dw cx : α) (gs : List (Group α)) (wf : ∀ g ∈ gs, g.wf = true) (ds : List (FontM α)) :
    ∃ w, widthsOf zero (.type0 (.cid dw (render cx gs) :: ds)) = .ok (some w) ∧
      ∀ c, w.get c = (lastAssign gs c).getD dw := by
  obtain ⟨w, h1, h2⟩ := widths_last_assignment dw cx gs wf
  exact ⟨w, by simp [widthsOf, h1], h2⟩

/-! ### encoding differences: which glyph name a code of a simple font selects -/

open FontEncoding in
/-- For every well-formed /Differences array — groups `code name₀ name₁ …`, any number and order, overlapping or
    not — the encoding maps `code + i` to `nameᵢ` of the last group mentioning it (and leaves every other code to
    the base encoding). -/
theorem differences_spec {ν : Type} (gs : List (Nat × List ν)) (h : ∀ g ∈ gs, g.1 + g.2.length < 4294967296) :
    ∃ m, readDiffs 0 (renderGroups gs) [] = .ok m ∧
      ∀ code, m.get code = ((groupPairs gs).reverse.find? (·.1 == code)).map (·.2) :=
  ⟨(groupPairs gs).reverse, by simpa using readDiffs_groups gs 0 [] h, fun _ => rfl⟩

open FontEncoding in
/-- `Encoding::to_primitive` then `Encoding::from_primitive`: the /Differences array written for any map (sorted
    entries, codes below 2^32 − 1) reads back as the same map, and the writer's `n + 1` never overflows. -/
theorem differences_roundtrip {ν : Type} (l : List (Nat × ν)) (hs : sortedFrom 0 l) :
    ∃ items m, writeDiffs none l = .ok items ∧ readDiffs 0 items [] = .ok m ∧
      ∀ code, m.get code = (l.find? (·.1 == code)).map (·.2) := by
  obtain ⟨items, h1, h2⟩ := write_read l none 0 [] hs (fun p hp => by cases hp)
  refine ⟨items, l.reverse, h1, by simpa using h2, fun code => ?_⟩
  simp only [DMap.get]
  rw [find_reverse_sorted code l 0 hs]

/-! ### character maps -/

open CMap

/-- Clause "every well-formed map using single-code entries and both range forms assigns each code the text the
    specification defines": the reader on a conformant program yields, for every code, the text of the last
    entry defining it (`denote`), for single codes, string-form ranges (last byte incremented) and array-form
    ranges, BMP and supplementary planes alike. -/
theorem cmap_spec (es : List Ent) (wf : ∀ e ∈ es, e.wf = true) :
    ∃ m, parseCMap (CMap.render none es) = .ok m ∧ ∀ cid, m.get cid = denote es cid :=
  ⟨(pairs es).reverse, parseCMap_render es wf, fun _ => rfl⟩

/-- Clause "every well-formed map using single-code entries and both range forms assigns each code the text the
    specification defines", for *every conformant spelling* of the program, not only the writer's layout:
    any white space (NUL, TAB, LF, FF, CR, SP) and comments between tokens, upper- or lower-case hexadecimal digits
    with white space between them, one- or two-byte codes, any number and order of `beginbfchar` / `beginbfrange`
    blocks, and between the blocks anything made of tokens other than the three keywords the reader reacts to
    (PostScript header and trailer, `begincodespacerange … endcodespacerange`, `usecmap`, counts, dictionaries,
    names, literal strings), up to `endcmap` or the end of the text. Single codes, string-form ranges, array-form
    ranges, supplementary planes (surrogate pairs) and multi-character (ligature) destinations alike. -/
theorem cmap_reads_spelling (es : List Ent) (text : Bytes) (h : CMapSpells es text) :
    ∃ m, parseCMap text = .ok m ∧ ∀ cid, m.get cid = denote es cid :=
  ⟨(pairs es).reverse, parseCMap_spelling h, fun _ => rfl⟩

/-- The domain certificate the driver hands to the harness is sound: the executable recogniser
    `spellsCheck` (run on every conformant CMap text the harness generates, with the entries the generator meant)
    only accepts members of `CMapSpells`, hence texts on which the reader yields `denote`. -/
theorem certificates_sound (es : List Ent) (text : Bytes) (h : spellsCheck es text = true) :
    CMapSpells es text ∧ ∃ m, parseCMap text = .ok m ∧ ∀ cid, m.get cid = denote es cid :=
  ⟨spellsCheck_sound h, cmap_reads_spelling es text (spellsCheck_sound h)⟩

/-- Clause "for every code-to-text map, the character-map text produced by the writer reads back as the same
    map": for the sorted entry list of any map `u16 → Unicode string` (keys strictly increasing below 65536,
    strings of scalar values — BMP or supplementary, empty strings included) `write_cmap` does not overflow its
    `u16` run arithmetic and `parse_cmap` of its text maps every code to exactly the map's text. -/
theorem parse_write_cmap (list : List Entry) (hs : strictFrom 0 list) (hsc : ∀ e ∈ list, e.2.all isScalar = true) :
    ∃ text m, writeCMap list = .ok text ∧ parseCMap text = .ok m ∧
      ∀ cid, m.get cid = (list.find? (·.1 == cid)).map (·.2) := by
  obtain ⟨es, h1, h2, h3⟩ := writeCMap_render list hs hsc
  refine ⟨CMap.render none es, (pairs es).reverse, h1, parseCMap_render es h2, fun cid => ?_⟩
  rw [h3]
  simp only [Map.get]
  rw [find_reverse_sorted cid list 0 hs]

/-- The reader model answers on *every* byte string (a map, `Err`, or "outside the modelled fragment"): every
    step of the lexer, the hexadecimal-string reader, the array loop and the three loops consumes input, so the
    fuel `len + 1` is never the reason for an answer. -/
theorem parse_cmap_total (bs : Bytes) : parseCMap bs ≠ .oof := parseCMap_ne_oof bs

/-! ### non-vacuity and regression examples -/

/-- a program with a single code, a supplementary-plane text (U+1F600), both range forms -/
def exProgram : List Ent :=
  [.char 65535 [0x1F600, 0x41], .rstr 0x10 [[0x41], [0x42]], .rarr 0x20 [[0x61], [0x10FFFF]]]

example : ∀ e ∈ exProgram, e.wf = true := by decide
example : parseCMap (CMap.render none exProgram) =
    .ok [(0x21, [0x10FFFF]), (0x20, [0x61]), (0x11, [0x42]), (0x10, [0x41]), (65535, [0x1F600, 0x41])] := by decide +kernel

/-- a spelling with everything the layout allows: a `%!PS` comment ended by CR, header junk with a dictionary, a
    literal string and names, a codespace range, form feed / NUL / TAB white space, a one-byte code, lower-case
    digits, a space inside a hexadecimal string, a comment between the strings of an entry, two blocks, text after
    `endcmap` -/
def exSpelling : Bytes :=
  "%!PS\r/CIDInit /ProcSet findresource begin << /Registry (Adobe) >> def\n1 begincodespacerange <00> <ffff> endcodespacerange /X usecmap\n2\x0cbeginbfchar\x00<03>\t<00 20>% c <0001>\r<ffff><d83dDE00 0041>endbfchar 2 beginbfrange <0010><0012> % x\n <0041>\n<0020> <0021> [<0061><DBFF dfff>]\rendbfrange\nendcmap x beginbfchar".toUTF8.toList

def exSpellingEntries : List Ent :=
  [.char 3 [0x20], .char 65535 [0x1F600, 0x41], .rstr 0x10 [[0x41], [0x42], [0x43]], .rarr 0x20 [[0x61], [0x10FFFF]]]

theorem exSpelling_certified : spellsCheck exSpellingEntries exSpelling = true := by
  rw [exSpelling, ByteArray.toList_eq_data]
  decide +kernel
/-- hence (no second evaluation) the reader maps every code of that text as the specification says -/
example : ∃ m, parseCMap exSpelling = .ok m ∧ ∀ cid, m.get cid = denote exSpellingEntries cid :=
  (certificates_sound _ _ exSpelling_certified).2
/-- the checker refuses a text that is not a spelling of the entries (here: a wrong destination) -/
example : spellsCheck [.char 3 [0x21]] "1 beginbfchar <03> <0020> endbfchar".toUTF8.toList = false := by
  rw [ByteArray.toList_eq_data]
  decide +kernel

/-- a sorted map with a run at the very end of the code range (no `u16` overflow), singletons and a run -/
def exMap : List Entry := [(1, [0x41]), (2, [0x1F600]), (3, [0x43]), (9, [0x44]), (65534, [0x45]), (65535, [0x46])]
example : strictFrom 0 exMap := by simp [exMap, strictFrom]
example : (match writeCMap exMap with | .ok t => parseCMap t | .panic => .err) = .ok exMap.reverse := by decide +kernel

/-- D39 (repaired): the range form with `", "` between the strings, as `write_cmap` used to write it, is
    unreadable: the reader drops the whole section -/
def d39Text : Bytes :=
  strBfrangeBegin ++ writeCid 1 ++ 32 :: writeCid 2 ++ [32, 91] ++ writeUnicode [0x41] ++ [44, 32] ++ writeUnicode [0x42]
    ++ [93, 10] ++ strBfrangeEnd
example : parseCMap d39Text = .ok [] := by decide +kernel

/-- D33 (repaired): `0 []`, a negative last code, a last code beyond the CID range -/
example : (cidWidths 1000 [.int 0 0, .arr []]).isOk = true := by decide
example : cidWidths 1000 [.int 0 0, .int (-1) 0, .int 500 500] = .err := by decide
example : cidWidths 1000 [.int 0 0, .int 2147483647 0, .int 500 500] = .err := by decide

/-- simple fonts: a table at FirstChar 32 with /MissingWidth 500; no descriptor; MMType1 / Type3 -/
example : (match widthsOf 0 (.simple (some 32) (some [600, 700]) (some 500) : FontM Nat) with
           | .ok (some w) => [w.get 31, w.get 32, w.get 33, w.get 34] | _ => []) = [500, 600, 700, 500] := by decide
example : (match widthsOf 0 (.simple (some 32) (some [600]) none : FontM Nat) with
           | .ok (some w) => [w.get 31, w.get 32, w.get 33] | _ => []) = [0, 600, 0] := by decide
/-- /Differences [39 /quotesingle 96 /grave /a 39 /x]: the later `39` wins -/
example : (match FontEncoding.readDiffs 0 [.int 39, .name "quotesingle", .int 96, .name "grave", .name "a", .int 39, .name "x"] [] with
           | .ok m => [m.get 39, m.get 96, m.get 97, m.get 98] | _ => []) = [some "x", some "grave", some "a", none] := by decide
example : FontEncoding.readDiffs 0 [FontEncoding.DP.int (-1), .name "a"] ([] : FontEncoding.DMap String) = .err := by decide

/-- a /W array in the property's domain, groups out of order, runs and ranges, by reference and in place -/
def exGroups : List (Group Nat) :=
  [.range 100 102 (.int 7 7), .run 3 false [.int 5 5, .real 6], .run 65535 true [.real 9], .run 50 false []]
example : ∀ g ∈ exGroups, g.wf = true := by decide
example : (match cidWidths 1000 (Widths.render 0 exGroups) with
           | .ok w => [w.get 2, w.get 3, w.get 4, w.get 5, w.get 99, w.get 100, w.get 102, w.get 103, w.get 65535]
           | _ => []) = [1000, 5, 6, 1000, 1000, 7, 7, 1000, 9] := by
  -- the table itself has 65536 entries: read the widths off the groups
  obtain ⟨w, h1, h2⟩ := widths_last_assignment 1000 0 exGroups (by decide)
  rw [h1]
  simp only [h2]
  decide

end C19

/-! ## Tie to the source: constants and byte classes (appended by the translator package)

`Generated/Lexical.lean` is re-extracted from `pdf/src` by `./check` before this file is built. -/

namespace C19

/-- the largest character code of the width table and the lexical classes of the CMap reader are the ones of the source (`MAX_CID`, `is_whitespace`, `is_delimiter`) -/
theorem constants_match_source :
    (Widths.maxCid = Generated.maxCid) ∧
    ((List.range 256).filter (fun n => CMap.isWs (UInt8.ofNat n)) = Generated.lexWhitespace) ∧
    ((List.range 256).filter (fun n => CMap.isDelim (UInt8.ofNat n)) = Generated.lexDelimiters) := by
  refine ⟨?_, ?_, ?_⟩
  · first | decide +kernel | fail "constants_match_source (C19): the model's Widths.maxCid does not match the source (Generated.maxCid, re-extracted from pdf/src)"
  · first | decide +kernel | fail "constants_match_source (C19): the model's CMap.isWs does not match the source (Generated.lexWhitespace, re-extracted from pdf/src)"
  · first | decide +kernel | fail "constants_match_source (C19): the model's CMap.isDelim does not match the source (Generated.lexDelimiters, re-extracted from pdf/src)"

end C19
