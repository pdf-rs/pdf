import PdfModel.Lemmas.Serialize
import PdfModel.Lemmas.Indirect
import PdfModel.Lemmas.SerializeS
import PdfModel.Generated.Lexical

/-!
  C04 — serialised objects parse back to the same value.

  Model: `Model/Serialize` (writer: `Primitive::serialize`, `serialize_list`, `serialize_name`,
  `Dictionary::serialize`, `PdfString::serialize`, `PdfStream::serialize`, framing of `save`) and
  `Model/Lexer`, `Model/StrLexer`, `Model/Parser` (reader), all after the `fix:` commits listed in notes/C04.md.

  Shape of the proof: the writer only produces *conformant spellings* (`Spec/Syntax.Spells`,
  `serialize_conformant`), and the reader reads every conformant spelling as the value it denotes
  (`PdfLex.parseCtx_spells`, the engine of C03).  All statements are for every value, every buffer, every
  position; no bound on size or depth other than the parser's own `MAX_DEPTH` and a buffer below 2 GiB.

  Hypotheses about third-party code (`f32` ↔ text), explicit in `Serialisable`: for every real `r` in the
  value, `f32::to_string` (+ `.` when it has none) is a real token and converts back to `r`.  They are
  validated on the implementation by the harness stream `c04.f32`.
-/

namespace C04
open PdfLex
open PdfSyntax (Gap Bnd Spells SpellsStream SpellsEntries needsBnd WF WFE WFL vdepth vdepthE vdepthL need needE keysOf)

variable {R : Type}

theorem suffix_of_toList {buf : Buf} {pre s : List UInt8} (h : buf.toList = pre ++ s) : Suffix buf pre.length s :=
  PdfLex.suffix_of_toList h

/-- **Serialising never panics** (and the model needs no fuel): every value, including `InFile` streams
    (`unimplemented!()`, an `Err` in this crate), non-UTF-8 byte strings as names, any reals. -/
theorem serialize_total (fmt : R → List UInt8) (v : Prim R) :
    serialize fmt v ≠ .panic ∧ serialize fmt v ≠ .oof :=
  serialize_returns fmt v

/-- **The writer emits conformant PDF syntax**: the output is a spelling of the value (`Spells`), followed by
    at most one line feed (after `>>`). -/
theorem serialize_conformant (fmt : R → List UInt8) (pr : List UInt8 → Option R) (v : Prim R)
    (h : Serialisable fmt pr v) :
    ∃ txt trail, serialize fmt v = .ok (txt ++ trail) ∧ Spells pr v txt ∧ (trail = [] ∨ trail = [10]) ∧
      (needsBnd v = true → trail = []) :=
  serialize_spells fmt pr v h

/-- **Round trip, any placement** (the general form; the four placements of the property are the corollaries
    below).  The serialisation of `v`, placed anywhere in a buffer (`pre` before it, `rest` after it), is read
    back by `parse_with_lexer_ctx` as exactly `v` (reals with the same value, not merely an equal integer) and
    the cursor rests right after the value's text.  `Ahead`: what follows does not merge with the value
    into another object (`<int> <int> R`, `<dict> stream`): true of everything the writer places there.
    Streams below the top level are outside `Serialisable` here; `parse_serialize_full` covers them. -/
theorem parse_serialize_partial (env : Env R) (hd : env.decrypt = none) (fmt : R → List UInt8) (v : Prim R)
    (hser : Serialisable fmt env.parseReal v) (hwf : WF v) (hdepth : vdepth v ≤ maxDepth) :
    ∃ txt trail, serialize fmt v = .ok (txt ++ trail) ∧ (trail = [] ∨ trail = [10]) ∧
      ∀ {buf : Buf}, buf.size ≤ 2147483647 → ∀ (pre rest : List UInt8) (fuel : Nat) (ctx : Option (Nat × Nat)),
        buf.toList = pre ++ (txt ++ trail ++ rest) → need v ≤ fuel →
        (needsBnd v = true → Bnd rest) → Ahead buf (pre.length + txt.length) →
        parseCtx env buf fuel pre.length ctx Flags.any maxDepth = .ok (v, pre.length + txt.length) := by
  obtain ⟨txt, trail, h1, h2, h3, h4⟩ := serialize_spells fmt env.parseReal v hser
  refine ⟨txt, trail, h1, h3, ?_⟩
  intro buf hsz pre rest fuel ctx hbuf hfuel hb hah
  have hs : Suffix buf pre.length ([] ++ txt ++ (trail ++ rest)) := by
    have := suffix_of_toList hbuf; simpa using this
  have := parseCtx_spells env hd v txt h2 hwf hsz [] (trail ++ rest) pre.length fuel ctx maxDepth Flags.any Gap.nil
    (any_allows v) hs
    (fun hbv => by rw [h4 hbv]; simpa using hb hbv) (by simpa using hah) hfuel hdepth
  simpa using this

/-- **Placement: content-stream operand.**  `<value> <operator>`: the value is read back and the cursor rests
    right after it, so the next lexeme is the operator (`op`: any keyword that is not a number, `R` or
    `stream`). -/
theorem parse_serialize_operand (env : Env R) (hd : env.decrypt = none) (fmt : R → List UInt8) (v : Prim R)
    (hser : Serialisable fmt env.parseReal v) (hwf : WF v) (hdepth : vdepth v ≤ maxDepth) :
    ∃ txt trail, serialize fmt v = .ok (txt ++ trail) ∧
      ∀ {buf : Buf}, buf.size ≤ 2147483647 → ∀ (pre op post : List UInt8) (fuel : Nat),
        buf.toList = pre ++ (txt ++ trail ++ (32 :: op ++ post)) → need v ≤ fuel →
        op ≠ [] → (∀ b ∈ op, isRegular b = true) → isInteger op = false → op ≠ [82] → op ≠ kwStream → Bnd post →
        parseWithLexer env buf fuel pre.length Flags.any = .ok (v, pre.length + txt.length) ∧
        next buf (pre.length + txt.length) =
          .ok (pre.length + txt.length + trail.length + 1, pre.length + txt.length + trail.length + 1 + op.length) := by
  obtain ⟨txt, trail, h1, h3, h5⟩ := parse_serialize_partial env hd fmt v hser hwf hdepth
  refine ⟨txt, trail, h1, ?_⟩
  intro buf hsz pre op post fuel hbuf hfuel hne hreg hint hR hS hpost
  have hs : Suffix buf (pre.length + txt.length) ((trail ++ [32]) ++ op ++ post) := by
    have h0 := suffix_of_toList hbuf
    have := Suffix.drop (a := txt) (s := trail ++ (32 :: op ++ post)) (by simpa using h0)
    simpa using this
  have hgap : Gap (trail ++ [32]) := gap_append (gap_trail h3) (Gap.ws 32 [] (by decide) Gap.nil)
  obtain ⟨hn, hsl⟩ := next_regular (trail ++ [32]) op post _ hgap hs hne hreg hpost
  have hah : Ahead buf (pre.length + txt.length) :=
    ahead_of_lexeme _ op hn hsl hR hS (fun hi => by rw [hint] at hi; simp at hi)
  refine ⟨?_, by simpa [Nat.add_assoc] using hn⟩
  exact h5 hsz pre (32 :: op ++ post) fuel none hbuf hfuel (fun _ => by simp [Bnd]; decide) hah

/-- **Placements: dictionary value and array element** are instances of the theorems above, because the
    class of serialisable values is closed under wrapping: `<< /k v >>` and `[v w]` are serialisable,
    well-formed values again (one level deeper). -/
theorem placements_closed (fmt : R → List UInt8) (pr : List UInt8 → Option R) (k : List UInt8) (v w : Prim R)
    (hk : utf8Valid k = true) (hv : Serialisable fmt pr v) (hw : Serialisable fmt pr w) (wv : WF v) (ww : WF w) :
    (Serialisable fmt pr (.dict [(k, v)]) ∧ WF (.dict [(k, v)]) ∧ vdepth (.dict [(k, v)]) = 1 + vdepth v) ∧
    (Serialisable fmt pr (.arr [v, w]) ∧ WF (.arr [v, w]) ∧ vdepth (.arr [v, w]) = 1 + max (vdepth v) (vdepth w)) := by
  refine ⟨⟨?_, ?_, ?_⟩, ⟨?_, ?_, ?_⟩⟩
  · simp [Serialisable, SerialisableE, hv]
  · simp [WF, WFE, hk, wv, keysOf]
  · simp [vdepth, vdepthE]
  · simp [Serialisable, SerialisableL, hv, hw]
  · simp [WF, WFL, wv, ww]
  · simp [vdepth, vdepthL]

/-- what `PdfStream::serialize` writes is a conformant stream object followed by a line feed -/
theorem serialize_stream_conformant (fmt : R → List UInt8) (pr : List UInt8 → Option R) (info : Dict R)
    (data : List UInt8) (h : SerialisableE fmt pr info) :
    ∃ txt, serialize fmt (.stream info (.pending data)) = .ok (txt ++ [10]) ∧ SpellsStream pr info data txt :=
  serialize_stream_ok fmt pr info data h

/-- **The full-strength statement** of the property at model level: *every* value the object model can hold —
    32-bit integers, object numbers within `u64`, UTF-8 names and distinct keys (the invariants of the Rust types:
    `Storable`, `WF`), reals satisfying the `f32` text hypotheses, nesting within `MAX_DEPTH`, and **stream objects
    anywhere**, also nested inside arrays, dictionaries and other streams' dictionaries (constructible, though not
    legal PDF), `Pending` with a `/Length` that is the length of their data — serialises, and its serialisation framed
    as `save` frames it is read back by `parse_indirect_object`, anywhere in a buffer, as the same value (`Reads`:
    equal; where the value holds a `Pending` stream the result holds the `InFile` stream of this object with the same
    dictionary whose `file_range` covers exactly the data), the cursor right after `endobj`. -/
def C04_full : Prop :=
  ∀ (R : Type) (env : Env R) (fmt : R → List UInt8) (v : Prim R) (id gen : Nat),
    env.decrypt = none → Storable fmt env v → WF v → vdepth v ≤ maxDepth →
    id ≤ 18446744073709551615 → gen ≤ 18446744073709551615 →
    ∃ body, serialize fmt v = .ok body ∧
      ∀ (buf : Buf) (pre post : List UInt8) (fuel : Nat), buf.size ≤ 2147483647 →
        buf.toList = pre ++ (objFrame id gen body ++ post) → need v ≤ fuel →
        ∃ p, parseIndirectObject env buf fuel pre.length Flags.any =
            .ok (((id, gen), p), pre.length + (objFrame id gen body).length - 1) ∧
          PdfSyntax.Reads env buf (id, gen) p v

/-- **C04 at full strength holds** (nested stream objects included; the implementation agrees: harness witnesses
    `[ <stream> 7 ]`, `<< /S <stream> >>`, a stream inside a stream's dictionary, through hand framing and through the
    real `Storage::save`). -/
theorem parse_serialize_full : C04_full := by
  intro R env fmt v id gen hd hst hwf hdepth hid hgen
  obtain ⟨txt, trail, h1, h2, h3⟩ := serialize_spellsS fmt env v hst
  refine ⟨txt ++ trail, h1, ?_⟩
  intro buf pre post fuel hsz hbuf hfuel
  obtain ⟨hs, hend⟩ := suffix_objFrame id gen txt trail hbuf
  have hsp1 : Gap [32] := Gap.ws 32 [] (by decide) Gap.nil
  have hnl : Gap [10] := Gap.ws 10 [] (by decide) Gap.nil
  obtain ⟨p, hp, hr⟩ := parseIndirectObject_spellsS env hd v txt h2 hwf hsz [] (fmtNat id) [32] (fmtNat gen) [32] [10] (trail ++ [10])
    ([10] ++ post) id gen pre.length fuel Gap.nil (fmtNat_spec id) (fmtNat_spec gen) hsp1 (by simp) hsp1 (by simp) hid hgen hnl
    (gap_append (gap_trail h3) hnl) hs (by simp [Bnd]; decide) (fun _ => by simp) (by simp [Bnd]; decide) hfuel hdepth
    Flags.any (any_allows v)
  exact ⟨p, by rw [hp, hend], hr⟩

/-- **Streams** (`Pending`, `/Length` = length of the data, directly or through the resolver), framed by
    `save`: `parse_indirect_object` returns a stream with the same dictionary whose `file_range`
    (`dataPos`, shifted by the lexer's file offset) covers exactly the data bytes. -/
theorem parse_serialize_stream (env : Env R) (hd : env.decrypt = none) (fmt : R → List UInt8) (info : Dict R)
    (data : List UInt8) (hser : SerialisableE fmt env.parseReal info) (hwf : WFE info) (hnd : (keysOf info).Nodup)
    (hlen : LengthIs env info data.length) (hdepth : 1 + vdepthE info ≤ maxDepth) (id gen : Nat)
    (hid : id ≤ 18446744073709551615) (hgen : gen ≤ 18446744073709551615) :
    ∃ body, serialize fmt (.stream info (.pending data)) = .ok body ∧
      ∀ {buf : Buf}, buf.size ≤ 2147483647 → ∀ (pre post : List UInt8) (fuel : Nat),
        buf.toList = pre ++ (objFrame id gen body ++ post) → 2 + needE info ≤ fuel →
        ∃ dataPos, parseIndirectObject env buf fuel pre.length Flags.any =
            .ok (((id, gen), streamAt env info (id, gen) dataPos data.length),
              pre.length + (objFrame id gen body).length - 1) ∧
          slice buf dataPos (dataPos + data.length) = data := by
  obtain ⟨hst, hns⟩ := storableE_of_serialisable fmt env info hser
  obtain ⟨body, h1, h2⟩ := parse_serialize_full R env fmt (.stream info (.pending data)) id gen hd
    (by simp only [Storable]; exact ⟨data, rfl, hst, hlen⟩) (by simp only [WF]; exact ⟨hwf, hnd⟩) hdepth hid hgen
  refine ⟨body, h1, ?_⟩
  intro buf hsz pre post fuel hbuf hfuel
  obtain ⟨p, hp, hr⟩ := h2 buf pre post fuel hsz hbuf hfuel
  simp only [PdfSyntax.Reads] at hr
  obtain ⟨_, e, info', lo, rfl, hri, hdata⟩ := hr
  cases e
  cases readsE_eq_of_noStreams env buf (id, gen) info info' hri hns
  exact ⟨lo, hp, hdata⟩

/-- `Reads` at an integer is equality (the single-constructor instance; the general statement is `reads_eq`) -/
theorem reads_atom_eq (env : Env R) (buf : Buf) (id : Nat × Nat) (p : Prim R) (i : Int) :
    PdfSyntax.Reads env buf id p (.int i) ↔ p = .int i := by
  simp [PdfSyntax.Reads]

/-- **For values without stream objects `Reads` is equality** (every constructor, by induction over the value):
    the relational conclusion of `parse_serialize_full` is literal equality on the stream-free part of the domain. -/
theorem reads_eq (env : Env R) (buf : Buf) (id : Nat × Nat) (v p : Prim R)
    (h : PdfSyntax.Reads env buf id p v) (hn : noStreams v = true) : p = v :=
  reads_eq_of_noStreams env buf id v p h hn

/-- **Placement: indirect-object body, as `save` frames it** (`"{id} {gen} obj\n" body "\nendobj\n"`).
    `parse_indirect_object` returns the reference and exactly `v`; the cursor rests right after `endobj`. -/
theorem parse_serialize_indirect (env : Env R) (hd : env.decrypt = none) (fmt : R → List UInt8) (v : Prim R)
    (hser : Serialisable fmt env.parseReal v) (hwf : WF v) (hdepth : vdepth v ≤ maxDepth) (id gen : Nat)
    (hid : id ≤ 18446744073709551615) (hgen : gen ≤ 18446744073709551615) :
    ∃ body, serialize fmt v = .ok body ∧
      ∀ {buf : Buf}, buf.size ≤ 2147483647 → ∀ (pre post : List UInt8) (fuel : Nat),
        buf.toList = pre ++ (objFrame id gen body ++ post) → need v ≤ fuel →
        parseIndirectObject env buf fuel pre.length Flags.any =
          .ok (((id, gen), v), pre.length + (objFrame id gen body).length - 1) := by
  obtain ⟨hst, hns⟩ := storable_of_serialisable fmt env v hser
  obtain ⟨body, h1, h2⟩ := parse_serialize_full R env fmt v id gen hd hst hwf hdepth hid hgen
  refine ⟨body, h1, ?_⟩
  intro buf hsz pre post fuel hbuf hfuel
  obtain ⟨p, hp, hr⟩ := h2 buf pre post fuel hsz hbuf hfuel
  rw [hp, reads_eq env buf (id, gen) v p hr hns]

/-- **The full theorem contains `parse_serialize_indirect`**: every `Serialisable` value is a `Storable` value without
    streams, so `C04_full` specialises to the literal round trip (the value read back *equals* `v`). Derived from
    `parse_serialize_full` alone, not from the stream-free development. -/
theorem parse_serialize_indirect_of_full (env : Env R) (hd : env.decrypt = none) (fmt : R → List UInt8) (v : Prim R)
    (hser : Serialisable fmt env.parseReal v) (hwf : WF v) (hdepth : vdepth v ≤ maxDepth) (id gen : Nat)
    (hid : id ≤ 18446744073709551615) (hgen : gen ≤ 18446744073709551615) :
    ∃ body, serialize fmt v = .ok body ∧
      ∀ {buf : Buf}, buf.size ≤ 2147483647 → ∀ (pre post : List UInt8) (fuel : Nat),
        buf.toList = pre ++ (objFrame id gen body ++ post) → need v ≤ fuel →
        parseIndirectObject env buf fuel pre.length Flags.any =
          .ok (((id, gen), v), pre.length + (objFrame id gen body).length - 1) :=
  parse_serialize_indirect env hd fmt v hser hwf hdepth id gen hid hgen

/-! ### non-vacuity: the hypotheses are satisfiable by non-trivial values, and the conclusions compute -/

/-- a carrier for reals: decimal text; `to_string` is the text, conversion back drops a trailing `.` -/
def txtEnv : Env (List UInt8) :=
  { parseReal := fun t => some (if t.getLast? == some 46 then t.dropLast else t)
    resolveLen := fun _ _ => .err, allowMissingEndobj := false, decrypt := none, fileOffset := 0 }

/-- `<< /A [5 (a\(b) /x#20y 3 0 R 2.5 7.] /B#23 << >> >>`-like value: integer, string with a parenthesis,
    name with a space, reference, reals with and without fraction, key with `#`, nested dictionary -/
def sample : Prim (List UInt8) :=
  .dict [([65], .arr [.int 5, .str [97, 40, 98], .name [120, 32, 121], .ref 3 0, .real [50, 46, 53], .real [55]]),
         ([66, 35], .dict [])]

theorem sample_serialisable : Serialisable id txtEnv.parseReal sample ∧ WF sample ∧ vdepth sample ≤ maxDepth := by
  refine ⟨?_, ?_, by decide⟩
  · simp only [sample, Serialisable, SerialisableE, SerialisableL, and_true, true_and]
    refine ⟨by decide, by decide, ⟨?_, by decide⟩, ?_, by decide⟩
    · exact ⟨[], [50], [53], rfl, Or.inl rfl, by simp [PdfSyntax.Digits, PdfSyntax.isDig], by simp [PdfSyntax.Digits, PdfSyntax.isDig], Or.inl (by simp)⟩
    · exact ⟨[], [55], [], rfl, Or.inl rfl, by simp [PdfSyntax.Digits, PdfSyntax.isDig], by simp [PdfSyntax.Digits], Or.inl (by simp)⟩
  · simp [sample, WF, WFE, WFL, keysOf, utf8Valid]

/-- the round-trip theorem applies to it -/
example : ∃ body, serialize id sample = .ok body ∧
    parseIndirectObject txtEnv (objFrame 12 0 body).toArray 1000 0 Flags.any =
      .ok (((12, 0), sample), (objFrame 12 0 body).length - 1) := by
  obtain ⟨body, h1, h2⟩ := parse_serialize_indirect txtEnv rfl id sample sample_serialisable.1 sample_serialisable.2.1
    sample_serialisable.2.2 12 0 (by decide) (by decide)
  refine ⟨body, h1, ?_⟩
  have hsz : (objFrame 12 0 body).toArray.size ≤ 2147483647 := by
    have : serialize id sample = .ok body := h1
    have hb : body.length ≤ 200 := by
      have e : (match serialize id sample with | .ok b => decide (b.length ≤ 200) | _ => false) = true := by decide +kernel
      rw [this] at e; simpa using e
    simp [objFrame, fmtNat, natDigitsAux, kwObj, kwEndobj]; omega
  have := h2 hsz [] [] 1000 (by simp) (by decide)
  simpa using this

/-- the framed serialisation of `sample` is read back as `sample` by the model (evaluated by the kernel) -/
example :
    (match serialize id sample with
     | .ok body =>
       (match parseIndirectObject txtEnv (objFrame 12 0 body).toArray 400 0 Flags.any with
        | .ok (((12, 0), v), p) => p + 1 == (objFrame 12 0 body).length &&
            (match v with
             | .dict [(_, .arr [.int 5, .str [97, 40, 98], .name [120, 32, 121], .ref 3 0, .real [50, 46, 53], .real [55]]),
                      (_, .dict [])] => true
             | _ => false)
        | _ => false)
     | _ => false) = true := by decide +kernel


/-- `[ <stream /Length 3, data "abc"> 7 ]`: a stream object nested inside an array -/
def nested : Prim (List UInt8) :=
  .arr [.stream [([76, 101, 110, 103, 116, 104], .int 3)] (.pending [97, 98, 99]), .int 7]

theorem nested_storable : Storable id txtEnv nested ∧ WF nested ∧ vdepth nested ≤ maxDepth := by
  refine ⟨?_, ?_, by decide⟩
  · simp only [nested, Storable, StorableL, StorableE, and_true]
    refine ⟨⟨[97, 98, 99], rfl, by decide, Or.inl ?_⟩, by decide, by decide⟩
    simp [dictGet, kwLength]
  · simp [nested, WF, WFL, WFE, keysOf, utf8Valid]

/-- the full theorem applies to it: read back from its frame, the array holds the stream of object `12 0` with the
    same dictionary, a `file_range` of three bytes that are `abc`, and the integer 7 -/
example : ∃ body p, serialize id nested = .ok body ∧
    parseIndirectObject txtEnv (objFrame 12 0 body).toArray 1000 0 Flags.any =
      .ok (((12, 0), p), (objFrame 12 0 body).length - 1) ∧
    PdfSyntax.Reads txtEnv (objFrame 12 0 body).toArray (12, 0) p nested := by
  obtain ⟨body, h1, h2⟩ := parse_serialize_full _ txtEnv id nested 12 0 rfl nested_storable.1 nested_storable.2.1
    nested_storable.2.2 (by decide) (by decide)
  have hb : body.length ≤ 200 := by
    have e : (match serialize id nested with | .ok b => decide (b.length ≤ 200) | _ => false) = true := by decide +kernel
    rw [h1] at e; simpa using e
  have hsz : (objFrame 12 0 body).toArray.size ≤ 2147483647 := by
    simp [objFrame, fmtNat, natDigitsAux, kwObj, kwEndobj]; omega
  obtain ⟨p, hp, hr⟩ := h2 (objFrame 12 0 body).toArray [] [] 1000 hsz (by simp) (by decide)
  exact ⟨body, p, h1, by simpa using hp, hr⟩

/-- and the model computes exactly that (kernel evaluation): `[<<\n/Length 3\n>>\nstream\nabc\nendstream\n 7]` -/
example :
    (match serialize id nested with
     | .ok body =>
       (match parseIndirectObject txtEnv (objFrame 12 0 body).toArray 400 0 Flags.any with
        | .ok (((12, 0), .arr [.stream [(_, .int 3)] (.inFile 12 0 lo hi), .int 7]), _) =>
            slice (objFrame 12 0 body).toArray lo hi == [97, 98, 99]
        | _ => false)
     | _ => false) = true := by decide +kernel

end C04

/-! ## Tie to the source: constants and byte classes (appended by the translator package)

`Generated/Lexical.lean` is re-extracted from `pdf/src` by `./check` before this file is built. -/

namespace C04

/-- the bytes `serialize_name` writes verbatim (all others become `#xx`) are the ones of the source, and so are the delimiters the reader splits names at -/
theorem constants_match_source :
    ((List.range 256).filter (fun n => PdfLex.nameVerbatim (UInt8.ofNat n)) =
      (List.range 256).filter (fun n => decide (Generated.nameVerbatimLo ≤ n) && decide (n ≤ Generated.nameVerbatimHi)
        && !Generated.nameVerbatimExcept.contains n)) ∧
    ((List.range 256).filter (fun n => PdfLex.isDelimiter (UInt8.ofNat n)) = Generated.lexDelimiters) := by
  refine ⟨?_, ?_⟩
  · first | decide +kernel | fail "constants_match_source (C04): the model's PdfLex.nameVerbatim does not match the source (Generated.nameVerbatimExcept, Generated.nameVerbatimHi, Generated.nameVerbatimLo, re-extracted from pdf/src)"
  · first | decide +kernel | fail "constants_match_source (C04): the model's PdfLex.isDelimiter does not match the source (Generated.lexDelimiters, re-extracted from pdf/src)"

end C04
