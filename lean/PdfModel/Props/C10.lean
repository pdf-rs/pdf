import PdfModel.Lemmas.Build
import PdfModel.Lemmas.XrefWidths
import PdfModel.Lemmas.BuildBytes
import PdfModel.Props.C09

/-!
# C10 — documents built from scratch reload with the same pages and are valid PDF

The theorems are about the model in `Model/Build.lean` (`CatalogBuilder::build` and `PdfBuilder::build`:
the order of promises, creations and fulfilments, then `save`) on top of `Model/Storage.lean`. They hold
for every page list and every info dictionary, for all payload types (page attributes, resources,
operations, information entries are abstract: their dictionary / operator form is C15 / C08) and every
record layout with positive lengths. The correspondence check for C10 ties `build` to
`PdfBuilder::build` of the current source tree: object numbers handed out, rows, widths, offsets and the
bytes of the cross-reference stream.
-/

namespace Build
open Storage Xref

variable {A R C I : Type}

/-- **C10, `byte_len`**: `byte_len n` bytes hold `n` (and for `n ≥ 256` no fewer do) — a statement about the function
    `byteLen` alone. That the `/W` of a save *is* `byteLen` of the largest field of each column is `save_ok_widths`
    (Lemmas/SaveShape.lean; `rows_fit_widths` below rests on it through `width_fits`, Lemmas/XrefWidths.lean); the two together say that the widths announced are the
    exact number of base-256 digits. -/
theorem byteLen_bounds (n : Nat) :
    1 ≤ byteLen n ∧ n < 256 ^ byteLen n ∧ (256 ≤ n → 256 ^ (byteLen n - 1) ≤ n) :=
  ⟨byteLen_pos n, lt_pow_byteLen n, pow_byteLen_le n⟩

/-- **C10, /W at the boundaries**: at every power of 256 the width steps exactly there — `256^k − 1` still
    takes `k` bytes, `256^k` and `256^k + 1` take `k + 1` (so an offset of exactly 256, 65536, 16777216, …
    gets the extra byte). -/
theorem byteLen_at_powers (k : Nat) (hk : 1 ≤ k) :
    byteLen (256 ^ k - 1) = k ∧ byteLen (256 ^ k) = k + 1 ∧ byteLen (256 ^ k + 1) = k + 1 := by
  have hpos : 1 ≤ 256 ^ (k - 1) := Nat.pow_pos (by decide)
  have hstep : 256 ^ k = 256 ^ (k - 1) * 256 := by rw [← Nat.pow_succ]; congr 1; omega
  have hnext : 256 ^ (k + 1) = 256 ^ k * 256 := Nat.pow_succ ..
  refine ⟨?_, ?_, ?_⟩
  · have := byteLen_unique (256 ^ k - 1) (k - 1) (by omega) (by
      have : k - 1 + 1 = k := by omega
      rw [this]; omega)
    omega
  · exact byteLen_unique (256 ^ k) k (Nat.le_refl _) (by omega)
  · exact byteLen_unique (256 ^ k + 1) k (by omega) (by omega)

/-- **C10, /W, rows**: in every successful save of a document reached from a base document — so in every
    build — each field of each row fits its column and the bytes written for the row
    (`type, field₁ big-endian, field₂ big-endian`) decode to the row. -/
theorem rows_fit_widths {V : Type} (P : Params V) (L : Layout) (hL : L.Pos) (d0 d d' : Doc V) (chain0) (i : SaveInfo)
    (hb : BaseOK d0 chain0) (hi : Inv d0 d) (h : save P L d = (d', .ok i)) :
    ∀ r ∈ i.rows, ∀ ty a b, Storage.fieldsOf r = some (ty, a, b) →
      a < 256 ^ i.aw ∧ b < 256 ^ i.bw ∧
      rowBytes i.aw i.bw r = ty :: (beBytes i.aw a ++ beBytes i.bw b) ∧
      (beBytes i.aw a).length = i.aw ∧ (beBytes i.bw b).length = i.bw ∧
      decodeBE (beBytes i.aw a) = a ∧ decodeBE (beBytes i.bw b) = b := by
  intro r hr ty a b hf
  obtain ⟨_, _, hw⟩ := width_fits P L hL d0 d d' chain0 i hb hi h
  obtain ⟨h1, h2, h3, h4, h5⟩ := hw r hr ty a b hf
  exact ⟨h1, h2, h3, beBytes_length _ _, beBytes_length _ _, h4, h5⟩

/-- **C10, the builder never fails** on a page list that fits the reader's object limit (and whose catalog reads
    back as a catalog: `L.typed`, the typed reload of the trailer at the end of `save`):
    no promise stays open, every value is serialisable, the catalog is there. -/
theorem build_total (L : Layout) (hL : L.Pos) (ht : L.typed = true) (cached : Bool) (pages : List (PageSpec A R C)) (info : Option I)
    (hsize : 3 * pages.length + 5 ≤ MAX_ID) : ∃ d' i, build L cached pages info = .ok (d', i) := by
  obtain ⟨d, hp, hpr⟩ := prepare_spec cached pages info
  have hb := emptyDoc_ok (A := A) (R := R) (C := C) (I := I) cached d.tr hpr.tr_prev
  have hsv : Savable params d := by
    refine ⟨?_, fun _ _ => rfl, ?_, ?_⟩
    · simp [allOk, params]
    · intro j hj
      have hlt : j < d.st.refs.length := (List.getElem?_eq_some_iff.mp hj).1
      by_cases h0 : j = 0
      · subst h0
        have := hpr.inv.refs_old 0 (by simp [emptySt])
        intro hc
        rw [this hc] at hj
        simp [emptySt] at hj
      · exact hpr.all_pending j (by omega) hlt
    · obtain ⟨t, ht⟩ := hpr.root_pending
      exact ⟨_, resolve_changed _ _ _ 0 ht⟩
  obtain ⟨d', i, hs⟩ := save_succeeds params L hL ht _ d [] hb hpr.inv hsv (by rw [hpr.refs_len]; omega)
  exact ⟨d', i, by simp [build, hp, hs]⟩

/-- **C10, "the same number of pages in the same order with equal … "** in the document the builder
    holds: reading catalog → page tree root → kids gives back exactly the page list that went in (each
    page with its attributes, its resources and its operations, under a /Count that matches). -/
theorem build_pages (L : Layout) (cached : Bool) (pages : List (PageSpec A R C)) (info : Option I)
    (d' : Doc (BV A R C I)) (i : SaveInfo) (h : build L cached pages info = .ok (d', i)) (hL : L.Pos) :
    pagesOf (resolve d'.st) d'.tr.root.1 = some pages := by
  obtain ⟨d, hp, hpr, hs⟩ := build_of_ok L cached pages info d' i h
  have hb := emptyDoc_ok (A := A) (R := R) (C := C) (I := I) cached d.tr hpr.tr_prev
  have htr := save_tr_eq params L _ d d' [] i hb hpr.inv hs
  rw [htr]
  apply hpr.pages_ok
  intro j v g hc
  have hlt := hpr.inv.ch_lt j _ hc
  have := save_changes_old params L _ d [] hb hpr.inv j hlt
  rw [hs] at this
  exact resolve_changed _ _ v g (by rw [this]; exact hc)

/-- **C10, reload**: the bytes the builder returns open again (cached or not), with the catalog the
    trailer names and the information dictionary that was given, and reading catalog → page tree →
    leaves in the reloaded document gives back exactly the page list: same number, same order, same
    attributes, resources and operations. In particular every reference on those paths
    (trailer → catalog → tree → kid → resources / contents, trailer → info) is to a defined object. -/
theorem build_reload (L : Layout) (cached : Bool) (pages : List (PageSpec A R C)) (info : Option I)
    (d' : Doc (BV A R C I)) (i : SaveInfo) (h : build L cached pages info = .ok (d', i)) (hL : L.Pos) (c : Bool) :
    ∃ dr, reload d'.st c = .ok dr ∧ dr.tr.root = d'.tr.root ∧ dr.tr.info = info.map .info ∧
      pagesOf (resolve dr.st) dr.tr.root.1 = some pages := by
  obtain ⟨d, hp, hpr, hs⟩ := build_of_ok L cached pages info d' i h
  have hb := emptyDoc_ok (A := A) (R := R) (C := C) (I := I) cached d.tr hpr.tr_prev
  have htr := save_tr_eq params L _ d d' [] i hb hpr.inv hs
  have pf := prep_facts _ d [] hb hpr.inv
  obtain ⟨t, hr, facts⟩ := reload_after_save params L hL _ d d' [] i hb hpr.inv hs c
  refine ⟨_, hr, by rw [htr], hpr.tr_info, ?_⟩
  apply hpr.pages_ok
  intro j v g hc
  exact facts.pending j v g (pf.ch_sup j _ hc) c

/-- **C10, structural validity of the built file** (model level; the same facts are checked on the real
    bytes by the independent reader): the header is at offset 0; at offset `i.xpos` (the `SaveInfo` field the model
    writes after `startxref`: that the *bytes* end with it is `build_bytes_valid`) stands a
    cross-reference section with `/Index [0 n]`, the rows of the theorem, `/Size` = `i.size`, no `/Prev`;
    `/Size` is above every row and above the number of every object in the file; row 0 is the head of
    the free list; every other row is in use, has generation 0 and is the offset of the record
    `j 0 obj` of exactly that number. -/
theorem build_valid (L : Layout) (cached : Bool) (pages : List (PageSpec A R C)) (info : Option I)
    (d' : Doc (BV A R C I)) (i : SaveInfo) (h : build L cached pages info = .ok (d', i)) (hL : L.Pos) :
    d'.st.start = 0 ∧
    (∃ s, secAt d'.st.secs i.xpos = some s ∧ s.subs = [⟨0, i.rows⟩] ∧ s.size = i.size ∧ s.prev = none ∧
      s.root = d'.tr.root) ∧
    i.rows.length ≤ i.size ∧ i.size ≤ MAX_ID ∧ (∀ o ∈ d'.st.objs, o.id < i.size) ∧
    i.rows[0]? = some (.free 0 65535) ∧
    (∀ j : Nat, 1 ≤ j → j < i.rows.length →
      ∃ pos o, i.rows[j]? = some (.raw pos 0) ∧ objAt d'.st.objs pos = some o ∧ o.off = pos ∧ o.id = j ∧ o.gen = 0) := by
  obtain ⟨d, hp, hpr, hs⟩ := build_of_ok L cached pages info d' i h
  have hb := emptyDoc_ok (A := A) (R := R) (C := C) (I := I) cached d.tr hpr.tr_prev
  have htr := save_tr_eq params L _ d d' [] i hb hpr.inv hs
  have hi' := inv_save_ok params L hL _ d d' [] i hb hpr.inv hs
  have pf := prep_facts _ d [] hb hpr.inv
  have hc := committed_of_ok params L d d' i hs
  obtain ⟨sh, rf⟩ := revision_facts params L hL _ d d' [] i hb hpr.inv hc
  obtain ⟨_, _, _, _, _, hxid, _, hsz, _, hmax⟩ := hc.spec'
  have hstart : d'.st.start = 0 := by rw [hi'.start_eq]; rfl
  obtain ⟨ext, e1, e2⟩ := sh.ids_lt
  refine ⟨hstart, ⟨_, by simpa [hstart] using rf.sec, rfl, rfl, hpr.tr_prev, congrArg Trailer.root htr.symm⟩,
    by have := sh.rows_len; omega, by rw [hsz, pf.size_eq]; exact hmax, ?_, ?_, ?_⟩
  · intro o ho
    rw [e1, hpr.backend.1] at ho
    exact e2 o (by simpa using ho)
  · -- row 0: the table still starts with the head of the free list
    have h0 : chLookup d'.st.changes 0 = none := by
      rcases Option.eq_none_or_eq_some (chLookup d'.st.changes 0) with hc | ⟨⟨v, g⟩, hc⟩
      · exact hc
      · obtain ⟨e, a, b, _⟩ := hi'.ch_old 0 v g hc (by simp [emptySt])
        simp [emptySt] at a; subst a; simp [rawOrStream] at b
    have hr0 := hi'.refs_old 0 (by simp [emptySt]) h0
    obtain ⟨r, a1, a2⟩ := sh.rows_of_table 0 (.free 0 65535) (by rw [hr0]; simp [emptySt])
    cases a1
    exact a2
  · intro j h1 h2
    -- every number from 1 on has a pending value
    obtain ⟨v, g, hcj⟩ : ∃ v g, chLookup d'.st.changes j = some (v, g) := by
      rw [hc.changes]
      split
      · exact ⟨_, _, rfl⟩
      · rename_i hx
        have hne : chLookup (prep d).st2.changes j ≠ none := by
          rcases Nat.lt_or_ge j d.st.refs.length with hjl | hjl
          · rcases Option.eq_none_or_eq_some (chLookup d.st.changes j) with hn | ⟨x, hx⟩
            · exact absurd hn (hpr.all_pending j h1 hjl)
            · rw [pf.ch_sup j x hx]; nofun
          · exact pf.ch_mid j hjl (by have := sh.rows_len.1; omega)
        rcases Option.eq_none_or_eq_some (chLookup (prep d).st2.changes j) with hn | ⟨⟨v, g⟩, hx⟩
        · exact absurd hn hne
        · exact ⟨v, g, hx⟩
    obtain rfl : g = 0 := (hi'.ch_new j v g hcj (by simp [emptySt]; omega)).1
    obtain ⟨off, _, b, ho⟩ := rf.records j v 0 hcj
    exact ⟨off, _, by simpa [hstart] using b, by simpa [hstart] using ho, rfl, rfl, rfl⟩

/-! ## Non-vacuity: a two-page document with an info dictionary -/

def samplePages : List (PageSpec Nat Nat Nat) := [⟨10, 20, 30⟩, ⟨11, 21, 31⟩]
def L9 : Layout := ⟨fun id => 40 + id, fun _ => 90, fun _ => 25, true⟩

example : (match build L9 false samplePages (some 5) with
    | .ok (d, i) =>
      i.size == 11 && i.rows.length == 11 && d.st.objs.length == 10 &&
      pagesOf (resolve d.st) d.tr.root.1 == some samplePages &&
      (match reload d.st true with
        | .ok dr => pagesOf (resolve dr.st) dr.tr.root.1 == some samplePages && dr.tr.info == some (.info 5)
        | _ => false)
    | _ => false) = true := by decide

/-- no pages at all is a document too -/
example : (match build L9 true ([] : List (PageSpec Nat Nat Nat)) (none : Option Nat) with
    | .ok (d, _) => pagesOf (resolve d.st) d.tr.root.1 == some []
    | _ => false) = true := by decide

end Build

/-!
## C10 at byte level (L2)

`BuildBytes.buildB` is `PdfBuilder::build` with every object a primitive and the file rendered by `SaveBytes.saveB`
(Model/BuildBytes.lean) — the correspondence stream `c10.bytes` compares its output with the bytes `PdfBuilder::build`
returns, byte for byte. The theorems below are about those bytes: they load again through the byte-level open path
and every object the builder wrote is read back with its value (`build_bytes_reload`), and they are structurally valid
(`build_bytes_valid`). The base is the empty storage, whose bytes (the header line) represent it trivially: no
hypothesis about a base file remains. What remains explicit: the page payloads are within the limits of the
round-trip theorems (`PageOK`, `OKVal`), `f32` text only through `Serialisable`, no filter, no encryption, the output
below 2³¹ bytes.
-/

namespace C10Bytes
open Storage PdfLex Xref OpenBytes SaveBytes RepBytes BuildBytes
open PdfSyntax (SpellsStream)

variable {R : Type}

/-- the state in which the builder calls `save` satisfies the invariant of byte-level histories -/
theorem hinv_prepared (fmt : R → List UInt8) (env : Env R) (hd : env.decrypt = none) (pfuel : Nat)
    (dec : Dict R → List UInt8 → Out (List UInt8)) (hdec : NoFilter dec) (pages : List (PageB R)) (info : Option (Prim R))
    (hn : pages.length ≤ 1000000) (hp : ∀ p ∈ pages, PageOK fmt env.parseReal p)
    (hinfo : ∀ v, info = some v → OKVal fmt env.parseReal v)
    (hsmall : (prepared fmt pages info).bytes.length ≤ fileMax) (hpf : 3 * (prepared fmt pages info).bytes.length ≤ pfuel) :
    HInv fmt env pfuel dec (emptyB info pages.length) (prepared fmt pages info) :=
  hinv_runB fmt env hd pfuel dec hdec _ [] (baseOK_empty info _) (baseVals_empty fmt env.parseReal info _ hinfo hn)
    (buildOps pages) _ (hinv_base fmt env pfuel dec _ [] (baseOK_empty info _) (rep_empty _ info _))
    (goodHist_buildOps fmt env.parseReal pages hn hp _) hsmall hpf

/-- a value within the limits of the round-trip theorems is accepted by the writer model -/
theorem okVal_serialize (fmt : R → List UInt8) (pr : List UInt8 → Option R) (v : Prim R) (h : OKVal fmt pr v) :
    (serialize fmt v).isOk = true := by
  cases h with
  | direct v hs _ _ =>
    obtain ⟨txt, trail, h1, _⟩ := serialize_spells fmt pr v hs
    rw [h1]; rfl
  | stream info data hs _ _ _ _ =>
    obtain ⟨txt, h1, _⟩ := serialize_stream_ok fmt pr info data hs
    rw [h1]; rfl

/-- **C10 at byte level, the builder's save succeeds**: for page payloads within the limits (`PageOK`, `OKVal` for the
    info dictionary) and at most 333 331 pages (the reader's `MAX_ID` of 10⁶ numbers: three per page and five more),
    `saveB` on the state the builder has prepared returns `Ok` — every pending value is accepted by the writer model, no
    promise is open (every number `1 … 3n+2` has its value pending: `prepared_pending`), the catalog is pending under the
    number the trailer names. So the hypothesis `hs` of `build_bytes_reload` / `build_bytes_pages` / `build_bytes_valid`
    can always be discharged; `buildB` returns the bytes. (`typed = true`: the catalog the builder made loads as a
    catalog — the typed readers are C15's. `27 ≤ pfuel`: three times the nine bytes of the header line, the file on
    which the invariant `hinv_prepared` is stated before the save.) -/
theorem build_bytes_total (fmt : R → List UInt8) (env : Env R) (hd : env.decrypt = none) (pfuel : Nat)
    (dec : Dict R → List UInt8 → Out (List UInt8)) (hdec : NoFilter dec) (pages : List (PageB R)) (info : Option (Prim R))
    (hn : 3 * pages.length + 5 ≤ 1000000) (hp : ∀ p ∈ pages, PageOK fmt env.parseReal p)
    (hinfo : ∀ v, info = some v → OKVal fmt env.parseReal v) (hpf : 27 ≤ pfuel) :
    ∃ b' i, saveB fmt true (prepared fmt pages info) = (b', .ok i) ∧ buildB fmt pages info = .ok b'.bytes := by
  have hb0 := baseOK_empty info pages.length
  obtain ⟨hbytes, _, _, _, _⟩ := prepared_backend fmt pages info
  have h1 := hinv_prepared fmt env hd pfuel dec hdec pages info (by omega) hp hinfo
    (by rw [hbytes]; simp [headerBytes, fileMax]) (by rw [hbytes]; simp [headerBytes]; omega)
  obtain ⟨hlen, c1, c2, c3⟩ := prepared_changes fmt pages info
  have htr : (prepared fmt pages info).doc.tr = (emptyB info pages.length).doc.tr := h1.inv.tr_eq
  have hsv : Savable (params fmt (prepared fmt pages info).ids) (prepared fmt pages info).doc := by
    refine ⟨?_, ?_, ?_, ?_⟩
    · unfold allOk
      rw [List.all_eq_true]
      intro c hc
      obtain ⟨j, v, g⟩ := c
      have hl := chLookup_of_mem_sorted _ h1.inv.sorted _ hc
      exact okVal_serialize fmt env.parseReal v (h1.ch j v g hl)
    · intro v hv
      rw [htr] at hv
      exact okVal_serialize fmt env.parseReal v (hinfo v hv)
    · intro j hj hnone
      have hjl : j < 3 * pages.length + 3 := by rw [← hlen]; exact (List.getElem?_eq_some_iff.mp hj).1
      by_cases h0 : j = 0
      · subst h0
        have := h1.inv.refs_old 0 (by simp [emptyB]) hnone
        rw [hj] at this; simp [emptyB] at this
      exact prepared_pending fmt pages info j (by omega) hjl hnone
    · refine ⟨catalogVal (pages.length + 1), ?_⟩
      rw [htr]
      exact resolve_changed _ _ _ 0 c1
  obtain ⟨d', i, hs⟩ := save_succeeds _ (layoutOf fmt true (prepared fmt pages info)) (layoutOf_pos fmt true _) rfl
    _ _ [] hb0 h1.inv hsv (by rw [hlen]; unfold MAX_ID; omega)
  have h2 : (saveB fmt true (prepared fmt pages info)).2 = .ok i := by
    unfold saveB; simp only [hs]; split <;> rfl
  refine ⟨(saveB fmt true (prepared fmt pages info)).1, i, by rw [← h2], ?_⟩
  unfold buildB
  rw [show saveB fmt true (prepared fmt pages info) = ((saveB fmt true (prepared fmt pages info)).1, .ok i) from by rw [← h2]]

/-- **C10 at byte level, reload.** The file `PdfBuilder::build` returns opens through the byte-level open path
    (header at 0, table of `/Size + 1` slots from the cross-reference stream), and every object the builder wrote —
    catalog, page tree, leaves, resources, content streams, the info dictionary — is read back by the byte-level
    resolver with the value written (streams: same dictionary, a `file_range` covering exactly the data).
    (`hs`: the save succeeded — always the case for these inputs up to 333 331 pages: `build_bytes_total`.) -/
theorem build_bytes_reload (fmt : R → List UInt8) (env : Env R) (hd : env.decrypt = none) (pfuel : Nat)
    (dec : Dict R → List UInt8 → Out (List UInt8)) (hdec : NoFilter dec) (pages : List (PageB R)) (info : Option (Prim R))
    (hn : pages.length ≤ 1000000) (hp : ∀ p ∈ pages, PageOK fmt env.parseReal p)
    (hinfo : ∀ v, info = some v → OKVal fmt env.parseReal v)
    (b' : BDoc R) (i : SaveInfo) (hs : saveB fmt true (prepared fmt pages info) = (b', .ok i))
    (hsmall : b'.bytes.length ≤ fileMax) (hpf : 3 * b'.bytes.length ≤ pfuel) (rfuel : Nat) :
    buildB fmt pages info = .ok b'.bytes ∧
    ∃ t T, openB env pfuel dec 2 b'.bytes = .ok (0, t, T) ∧ t.length = i.size + 1 ∧
      dictGet T kRoot = some (.ref (3 * pages.length + 2) 0) ∧
      (∀ id v g, chLookup (prep (prepared fmt pages info).doc).st2.changes id = some (v, g) →
        ∃ o, resolveB env pfuel dec (rfuel + 2) b'.bytes 0 t id = .ok o ∧ Denotes b'.bytes o v) := by
  have hmono : (prepared fmt pages info).bytes.length ≤ b'.bytes.length := by
    rw [(saveB_ok_iff fmt true _ _ i hs).2.2]; simp
  have h1 := hinv_prepared fmt env hd pfuel dec hdec pages info hn hp hinfo (by omega) (by omega)
  have bk := saveB_backend fmt _ [] _ b' i (baseOK_empty info _) h1.inv h1.rep.len true (committedB_of_ok fmt true _ _ i hs)
  have hsecs : b'.doc.st.secs.length + 1 ≤ 2 := by
    rw [bk.secs, (prepared_backend fmt pages info).2.1]; simp
  refine ⟨by simp [buildB, hs], ?_⟩
  exact C09Bytes.reload_sees_pending_bytes fmt env hd pfuel dec hdec _ _ [] (baseOK_empty info _)
    (baseVals_empty fmt env.parseReal info _ hinfo hn) h1 b' i true hs hsmall hpf 2 hsecs rfuel

/-- **C10 at byte level, "reload with the same pages".** In the file `PdfBuilder::build` returns, read through the
    byte-level open path and resolver: `/Root` of the trailer (object `3n + 2`) is the catalog, whose `/Pages` (object
    `n + 1`) is the page tree with `/Kids [1 0 R … n 0 R]` and `/Count n`; leaf `k + 1` is page `k` — its dictionary as
    built, `/Parent` the tree, `/Resources` object `n + 2 + 2k` = the resources given, `/Contents` object `n + 3 + 2k` =
    a stream whose data are exactly the content bytes given. Same number of pages, same order, same payloads. -/
theorem build_bytes_pages (fmt : R → List UInt8) (env : Env R) (hd : env.decrypt = none) (pfuel : Nat)
    (dec : Dict R → List UInt8 → Out (List UInt8)) (hdec : NoFilter dec) (pages : List (PageB R)) (info : Option (Prim R))
    (hn : pages.length ≤ 1000000) (hp : ∀ p ∈ pages, PageOK fmt env.parseReal p)
    (hinfo : ∀ v, info = some v → OKVal fmt env.parseReal v)
    (b' : BDoc R) (i : SaveInfo) (hs : saveB fmt true (prepared fmt pages info) = (b', .ok i))
    (hsmall : b'.bytes.length ≤ fileMax) (hpf : 3 * b'.bytes.length ≤ pfuel) (rfuel : Nat) :
    ∃ t T, openB env pfuel dec 2 b'.bytes = .ok (0, t, T) ∧
      dictGet T kRoot = some (.ref (3 * pages.length + 2) 0) ∧
      (∃ o, resolveB env pfuel dec (rfuel + 2) b'.bytes 0 t (3 * pages.length + 2) = .ok o ∧
        Denotes b'.bytes o (catalogVal (pages.length + 1))) ∧
      (∃ o, resolveB env pfuel dec (rfuel + 2) b'.bytes 0 t (pages.length + 1) = .ok o ∧
        Denotes b'.bytes o (treeVal (List.range' 1 pages.length))) ∧
      ∀ k p, pages[k]? = some p →
        (∃ o, resolveB env pfuel dec (rfuel + 2) b'.bytes 0 t (k + 1) = .ok o ∧
          Denotes b'.bytes o (pageVal (pages.length + 1) (pages.length + 2 + 2 * k) (pages.length + 3 + 2 * k) p)) ∧
        (∃ o, resolveB env pfuel dec (rfuel + 2) b'.bytes 0 t (pages.length + 2 + 2 * k) = .ok o ∧ Denotes b'.bytes o p.res) ∧
        (∃ o, resolveB env pfuel dec (rfuel + 2) b'.bytes 0 t (pages.length + 3 + 2 * k) = .ok o ∧
          Denotes b'.bytes o (contentVal p.content)) := by
  have hmono : (prepared fmt pages info).bytes.length ≤ b'.bytes.length := by
    rw [(saveB_ok_iff fmt true _ _ i hs).2.2]; simp
  have hb0 := baseOK_empty info pages.length
  have h1 := hinv_prepared fmt env hd pfuel dec hdec pages info hn hp hinfo (by omega) (by omega)
  have pf := prep_facts _ (prepared fmt pages info).doc [] hb0 h1.inv
  obtain ⟨_, c1, c2, c3⟩ := prepared_changes fmt pages info
  obtain ⟨_, t, T, hopen, _, hroot, hres⟩ := build_bytes_reload fmt env hd pfuel dec hdec pages info hn hp hinfo b' i hs hsmall hpf rfuel
  refine ⟨t, T, hopen, hroot, hres _ _ _ (pf.ch_sup _ _ c1), hres _ _ _ (pf.ch_sup _ _ c2), fun k p hk => ?_⟩
  obtain ⟨d1, d2, d3⟩ := c3 k p hk
  exact ⟨hres _ _ _ (pf.ch_sup _ _ d1), hres _ _ _ (pf.ch_sup _ _ d2), hres _ _ _ (pf.ch_sup _ _ d3)⟩

/-- **C10 at byte level, end to end without assuming that the save succeeds**: for payloads within the limits the
    builder returns a file (`build_bytes_total`), and — provided that file is below 2³¹ bytes and the parser fuel at least
    three times its length — reading it back gives the pages that went in (`build_bytes_pages`). -/
theorem build_bytes_pages_total (fmt : R → List UInt8) (env : Env R) (hd : env.decrypt = none) (pfuel : Nat)
    (dec : Dict R → List UInt8 → Out (List UInt8)) (hdec : NoFilter dec) (pages : List (PageB R)) (info : Option (Prim R))
    (hn : 3 * pages.length + 5 ≤ 1000000) (hp : ∀ p ∈ pages, PageOK fmt env.parseReal p)
    (hinfo : ∀ v, info = some v → OKVal fmt env.parseReal v) (hpf0 : 27 ≤ pfuel) :
    ∃ bytes, buildB fmt pages info = .ok bytes ∧
      (bytes.length ≤ fileMax → 3 * bytes.length ≤ pfuel → ∀ rfuel,
        ∃ t T, openB env pfuel dec 2 bytes = .ok (0, t, T) ∧
          dictGet T kRoot = some (.ref (3 * pages.length + 2) 0) ∧
          (∃ o, resolveB env pfuel dec (rfuel + 2) bytes 0 t (3 * pages.length + 2) = .ok o ∧
            Denotes bytes o (catalogVal (pages.length + 1))) ∧
          (∃ o, resolveB env pfuel dec (rfuel + 2) bytes 0 t (pages.length + 1) = .ok o ∧
            Denotes bytes o (treeVal (List.range' 1 pages.length))) ∧
          ∀ k p, pages[k]? = some p →
            (∃ o, resolveB env pfuel dec (rfuel + 2) bytes 0 t (k + 1) = .ok o ∧
              Denotes bytes o (pageVal (pages.length + 1) (pages.length + 2 + 2 * k) (pages.length + 3 + 2 * k) p)) ∧
            (∃ o, resolveB env pfuel dec (rfuel + 2) bytes 0 t (pages.length + 2 + 2 * k) = .ok o ∧ Denotes bytes o p.res) ∧
            (∃ o, resolveB env pfuel dec (rfuel + 2) bytes 0 t (pages.length + 3 + 2 * k) = .ok o ∧
              Denotes bytes o (contentVal p.content))) := by
  obtain ⟨b', i, hs, hbuild⟩ := build_bytes_total fmt env hd pfuel dec hdec pages info hn hp hinfo hpf0
  refine ⟨b'.bytes, hbuild, ?_⟩
  intro hsmall hpf rfuel
  exact build_bytes_pages fmt env hd pfuel dec hdec pages info (by omega) hp hinfo b' i hs hsmall hpf rfuel

/-- **C10 at byte level, structural validity** of the file `PdfBuilder::build` returns, as statements about its bytes:
    * it is the header line followed by one revision;
    * the cross-reference stream has one row for every number `0 ..= xid`, all below `/Size`;
    * every in-use row points at `n g obj` of that number and generation;
    * the file ends with `startxref`, the offset of the cross-reference stream object and `%%EOF`; that object stands
      at this offset and its dictionary announces `/Size`, the `/Length` of the rows' bytes and `/Root`;
    * every stream the builder wrote carries a `/Length` equal to the number of bytes between `stream\n` and
      `\nendstream` of the record that the stream's own cross-reference row points at (`off`). -/
theorem build_bytes_valid (fmt : R → List UInt8) (env : Env R) (hd : env.decrypt = none) (pfuel : Nat)
    (dec : Dict R → List UInt8 → Out (List UInt8)) (hdec : NoFilter dec) (pages : List (PageB R)) (info : Option (Prim R))
    (hn : pages.length ≤ 1000000) (hp : ∀ p ∈ pages, PageOK fmt env.parseReal p)
    (hinfo : ∀ v, info = some v → OKVal fmt env.parseReal v)
    (b' : BDoc R) (i : SaveInfo) (hs : saveB fmt true (prepared fmt pages info) = (b', .ok i))
    (hsmall : b'.bytes.length ≤ fileMax) (hpf : 3 * b'.bytes.length ≤ pfuel) :
    (∃ rev, b'.bytes = headerBytes ++ rev) ∧
    (i.rows.length = i.xid + 1 ∧ i.xid + 1 ≤ i.size) ∧
    (∀ j pos g, i.rows[j]? = some (.raw pos g) →
      ∃ rest, b'.bytes.drop pos = fmtNat j ++ [32] ++ fmtNat g ++ [32] ++ kwObj ++ [10] ++ rest) ∧
    (∃ body D, D = xrefDict (prepared fmt pages info).doc.tr builderIds (prep (prepared fmt pages info).doc).infoRef i ∧
      serialize fmt (.stream D (.pending (rowsData i))) = .ok body ∧
      b'.bytes.drop i.xpos = (fmtNat i.xid ++ [32, 48, 32] ++ kwObj ++ [10] ++ body ++ kwEndobj ++ [10]) ++ tailBytes i ∧
      dictGet D SaveBytes.kSize = some (.int i.size) ∧ dictGet D kwLength = some (.int (rowsData i).length) ∧
      dictGet D kRoot = some (.ref (3 * pages.length + 2) 0)) ∧
    (∀ j info' data g,
      chLookup (prep (prepared fmt pages info).doc).st2.changes j = some (.stream info' (.pending data), g) →
      dictGet info' kwLength = some (.int (data.length : Int)) ∧
      ∃ off txt rest, i.rows[j]? = some (.raw off g) ∧ SpellsStream env.parseReal info' data txt ∧
        b'.bytes.drop off = objFrame j g (txt ++ [10]) ++ rest) := by
  have hmono : (prepared fmt pages info).bytes.length ≤ b'.bytes.length := by
    rw [(saveB_ok_iff fmt true _ _ i hs).2.2]; simp
  have hb0 := baseOK_empty info pages.length
  have hv0 := baseVals_empty fmt env.parseReal info pages.length hinfo hn
  have h1 := hinv_prepared fmt env hd pfuel dec hdec pages info hn hp hinfo (by omega) (by omega)
  obtain ⟨hpb, _, _, hstart, _⟩ := prepared_backend fmt pages info
  obtain ⟨s1, hids, _⟩ := saveB_ok_iff fmt true _ _ i hs
  have hLpos := layoutOf_pos fmt true (prepared fmt pages info)
  have bk := saveB_backend fmt _ [] _ b' i hb0 h1.inv h1.rep.len true (committedB_of_ok fmt true _ _ i hs)
  have hbd := bounds_of_save fmt env.parseReal _ _ hLpos _ _ b'.doc [] i hb0 h1.inv (committed_of_ok _ _ _ _ _ s1)
    (save_tr_eq _ _ _ _ _ [] i hb0 h1.inv s1) hv0 (by have := bk.xpos_le; omega)
  have sb := saveB_spec fmt env.parseReal _ [] _ b' i hb0 h1.inv h1.rep.len true (committedB_of_ok fmt true _ _ i hs) hbd
  have sh := save_shape _ _ hLpos _ _ b'.doc [] i hb0 h1.inv s1
  have hi' := inv_save_ok _ _ hLpos _ _ b'.doc [] i hb0 h1.inv s1
  have hidsP : (prepared fmt pages info).ids = builderIds := h1.ids
  have htr : (prepared fmt pages info).doc.tr = (emptyB info pages.length).doc.tr := h1.inv.tr_eq
  obtain ⟨_, _, _, _, _, _, hxid, _, _, _, hmax⟩ := save_ok_spec _ _ _ _ _ s1
  have hvals := prep_vals fmt env pfuel dec _ _ [] hb0 hv0 h1 hmax
  have pf := prep_facts _ (prepared fmt pages info).doc [] hb0 h1.inv
  refine ⟨⟨_, by rw [sb.bytes, hpb]⟩, sh.rows_len, ?_, ?_, ?_⟩
  · -- every in-use row is a row of this revision
    intro j pos g hrow
    have hjl : j < i.rows.length := (List.getElem?_eq_some_iff.mp hrow).1
    have hjt : j < b'.doc.st.refs.length := by rw [sh.table_len]; have := sh.rows_len.1; omega
    obtain ⟨r, hr1, hr2⟩ := sh.rows_of_table j b'.doc.st.refs[j] (by simp [hjt])
    rw [hrow] at hr2; simp only [Option.some.injEq] at hr2; subst hr2
    have he : b'.doc.st.refs[j]? = some (.raw pos g) := by rw [List.getElem?_eq_getElem hjt, rowOf_raw _ _ _ hr1]
    -- the base table holds only the head of the free list: an in-use entry has its value pending
    have hne : chLookup b'.doc.st.changes j ≠ none := fun hc => by
      rcases Nat.lt_or_ge j 1 with hj0 | hj0
      · rw [hi'.refs_old j hj0 hc, Nat.lt_one_iff.mp hj0] at he; cases he
      · rw [hi'.refs_new j hj0 hjt hc] at he; cases he
    have hcm := committed_of_ok _ _ _ _ _ s1
    rw [hcm.changes] at hne
    split at hne
    · rename_i hjx
      obtain rfl : j = i.xid := hjx.trans hxid.symm
      rw [sb.xrow] at hrow
      cases hrow
      obtain ⟨body, _, hdrop⟩ := sb.xbody
      rw [hstart, Nat.zero_add] at hdrop
      exact ⟨body ++ kwEndobj ++ [10] ++ tailBytes i, by rw [hdrop, fmtNat_zero]; simp⟩
    · obtain ⟨⟨v, g'⟩, hc2⟩ := Option.ne_none_iff_exists'.mp hne
      obtain ⟨off, rest, body, _, hrw, _, hdrop⟩ := sb.frames j v g' hc2
      rw [hrow, hstart, Nat.sub_zero] at hrw
      cases hrw
      exact ⟨body ++ [10] ++ kwEndobj ++ [10] ++ rest, by rw [hdrop]; simp [objFrame]⟩
  · obtain ⟨body, hbody, hdrop⟩ := sb.xbody
    have hf := xrefDict_facts fmt env.parseReal _ _ (prepared fmt pages info).ids i hbd
    rw [hidsP] at hbody hf
    rw [hstart, Nat.zero_add] at hdrop
    refine ⟨body, _, rfl, hbody, hdrop, hf.size, hf.length, ?_⟩
    rw [hf.root, htr]; rfl
  · intro j info' data g hc
    have hmem : (j, Prim.stream info' (.pending data), g) ∈ (prep (prepared fmt pages info).doc).st2.changes := by
      exact chLookup_mem _ _ _ hc
    obtain ⟨hok, _, _⟩ := hvals _ hmem
    simp only at hok
    generalize hov : Prim.stream info' (StreamInner.pending data) = ov at hok
    cases hok with
    | direct v hsr _ _ => rw [← hov] at hsr; exact absurd hsr (by simp [Serialisable])
    | stream info2 data2 hs2 _ _ hl2 _ =>
      cases hov
      obtain ⟨off, rest, body, _, hrow, hser, hdrop⟩ := sb.frames j _ g hc
      rw [hstart, Nat.sub_zero] at hrow
      obtain ⟨txt, hser2, hsp⟩ := serialize_stream_ok fmt env.parseReal info' data hs2
      rw [hser2] at hser
      simp only [Out.ok.injEq] at hser
      subst hser
      exact ⟨hl2, off, txt, rest, hrow, hsp, hdrop⟩

/-! ### Non-vacuity: a one-page document, built, opened and resolved by the model inside the kernel -/

/-- a page with a media box, a rotation, empty resources and the content stream `BT ET` -/
def samplePage : PageB (List UInt8) :=
  ⟨[], [([77, 101, 100, 105, 97, 66, 111, 120], .arr [.int 0, .int 0, .int 612, .int 792])], [([82, 111, 116, 97, 116, 101], .int 90)],
   .dict [], [66, 84, 10, 69, 84, 10]⟩

def sampleEnv : Env (List UInt8) :=
  { parseReal := fun t => some t, resolveLen := fun _ _ => .err, allowMissingEndobj := false, decrypt := none, fileOffset := 0 }

def sampleDec : Dict (List UInt8) → List UInt8 → Out (List UInt8) :=
  fun d raw => match dictGet d kFilter with | none => .ok raw | some _ => .err

example : NoFilter sampleDec := by intro d raw h; simp [sampleDec, h]

/-- the payload hypotheses of the theorems hold for it -/
example : PageOK id sampleEnv.parseReal samplePage where
  other_ser := by simp [samplePage, SerialisableE]
  other_wf := by simp [samplePage, PdfSyntax.WFE]
  other_nd := by simp [samplePage, PdfSyntax.keysOf]
  other_depth := by simp [samplePage, PdfSyntax.vdepthE]
  boxes_ser := by simp [samplePage, SerialisableE, Serialisable, SerialisableL]
  boxes_wf := by simp only [samplePage, PdfSyntax.WFE, PdfSyntax.WF, PdfSyntax.WFL, and_true]; decide
  boxes_depth := by simp [samplePage, PdfSyntax.vdepthE, PdfSyntax.vdepth, PdfSyntax.vdepthL]
  rest_ser := by simp [samplePage, SerialisableE, Serialisable]
  rest_wf := by simp only [samplePage, PdfSyntax.WFE, PdfSyntax.WF, and_true]; decide
  rest_depth := by simp [samplePage, PdfSyntax.vdepthE, PdfSyntax.vdepth]
  res := .direct _ (by simp [samplePage, Serialisable, SerialisableE]) (by simp [samplePage, PdfSyntax.WF, PdfSyntax.WFE, PdfSyntax.keysOf])
    (by simp [samplePage, PdfSyntax.vdepth, PdfSyntax.vdepthE, maxDepth])
  content := by simp [samplePage]

/-- the model builds the 504-byte file, opens it (header at 0, table of 9 slots) and resolves the content stream of
    the page (object 4) to a stream whose `file_range` is the six bytes `BT\nET\n`, and the catalog (object 5) to a
    dictionary of three entries -/
example : (match buildB id [samplePage] none with
    | .ok bs =>
      bs.length == 504 &&
      (match openB sampleEnv 1600 sampleDec 2 bs with
        | .ok (st, t, _) => st == 0 && t.length == 9 &&
          (match resolveB sampleEnv 1600 sampleDec 3 bs st t 4 with
            | .ok (.stream _ a b) => (bs.drop a).take (b - a) == [66, 84, 10, 69, 84, 10]
            | _ => false) &&
          (match resolveB sampleEnv 1600 sampleDec 3 bs st t 5 with
            | .ok (.plain (.dict d)) => d.length == 3
            | _ => false)
        | _ => false)
    | _ => false) = true := by decide +kernel

end C10Bytes
