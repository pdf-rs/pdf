import PdfModel.Lemmas.ObjStm
import PdfModel.Lemmas.Offsets
import PdfModel.Lemmas.SuffixConcrete
import PdfModel.Lemmas.ShiftDecrypt
import PdfModel.Lemmas.Serialize
import PdfModel.Lemmas.ParserS

/-!
# C11 — an object's value does not depend on how it is stored

Reader side: `Model/ObjStm.lean` (`parseHeader`, `getObjectSlice`, `memberSlice`, `member`) and the
compressed / direct branches of `Offsets.resolveRef` (`Model/Offsets.lean`). Writer side (the
specification): `Spec/ObjStm.lean` — members `(id, text, sep)` are concatenated as `text ++ sep`, the
header records every text's offset, `/N` = number of members, `/First` = length of the header.

The value parser is the parameter `P.parseMember`
(`parser::parse(slice, resolve, flags)`) — and `P.objAt` for the direct path — and what is needed from it
is stated as explicit hypotheses: it ignores trailing white-space (`IgnoresTrailingWs`; this is what D6
broke for integers), and the object parser reads, at a place where `text` is written, what the value
parser reads from `text` (`DirectHolds`). Filters are third-party code: the hypothesis is that decoding
the stored bytes gives the packed bytes (`hdec`), whatever the filter chain.
-/

namespace C11
open OffLex ObjStm ObjStmSpec Offsets

/-- everything fits the machine integers the reader computes with -/
def WellSized (ms : List Member) : Prop :=
  (pack ms).data.length ≤ usizeMax ∧ ∀ m ∈ ms, m.id ≤ usizeMax

/-- **Header.** The reader's loop recovers exactly the offsets the writer recorded, for any number of
    members (also none) and any member texts. -/
theorem objstm_header (ms : List Member) (hw : WellSized ms) :
    parseHeader (pack ms).n (pack ms).data = .ok (offsetsFrom 0 ms) := by
  obtain ⟨hlen, hids⟩ := hw
  have hb : ∀ pr ∈ pairs ms, pr.1 ≤ usizeMax ∧ pr.2 ≤ usizeMax := by
    intro pr hpr
    obtain ⟨h1, h2⟩ := List.of_mem_zip hpr
    constructor
    · simp only [List.mem_map] at h1
      obtain ⟨m, hm, heq⟩ := h1
      rw [← heq]; exact hids m hm
    · have := offsetsFrom_le ms 0 _ h2
      simp [pack] at hlen
      omega
  have := parseHeader_header (pairs ms) [] (body ms) (by simp) hb
  rw [pairs_length, pairs_snd] at this
  simpa [pack] using this

/-- (Scope: the *canonical* layout of the specification's writer `pack` — header numbers separated by single
    spaces, members back to back. An object stream with another legal header layout (several spaces, line breaks,
    comments) is covered by `member_total` (no panic) and by the correspondence streams `c11.member(.outside)`, not
    by this theorem; likewise every theorem below that assumes `decode … = (pack ms).data`.)

    **`objstm_slice`.** For every member `i` of a packed stream — first, middle or last, with or without
    white-space behind it — the reader's slice is exactly that member's text followed by its separator. -/
theorem objstm_slice (ms : List Member) (i : Nat) (hi : i < ms.length) (hw : WellSized ms) :
    member (pack ms).n (pack ms).first (pack ms).data i = .ok (ms[i].text ++ ms[i].sep) := by
  unfold member
  rw [objstm_header ms hw]
  obtain ⟨hlen, _⟩ := hw
  have hsplit := body_split ms i hi
  have hoi := offsetsFrom_get ms 0 i hi
  simp only [Nat.zero_add] at hoi
  have hdata : (pack ms).data = (header (pairs ms) ++ body (ms.take i)) ++ ((ms[i].text ++ ms[i].sep) ++ body (ms.drop (i + 1))) := by
    simp only [pack]; rw [hsplit]; simp [List.append_assoc]
  have hfirst : (pack ms).first = (header (pairs ms)).length := rfl
  have hdl : (pack ms).data.length = (header (pairs ms)).length + (body (ms.take i)).length
      + (ms[i].text ++ ms[i].sep).length + (body (ms.drop (i + 1))).length := by
    rw [hdata]; simp only [List.length_append]; omega
  unfold getObjectSlice
  simp only [offsetsFrom_length, hoi]
  have h1 : ¬ i ≥ ms.length := by omega
  have h2 : ¬ (pack ms).first + (body (ms.take i)).length > usizeMax := by rw [hfirst]; omega
  simp only [h1, h2, if_false]
  have hcut : ∀ stop, stop = (pack ms).first + (body (ms.take i)).length + (ms[i].text ++ ms[i].sep).length →
      memberSlice (pack ms).data ((pack ms).first + (body (ms.take i)).length) stop = .ok (ms[i].text ++ ms[i].sep) := by
    intro stop hs
    unfold memberSlice
    have hc : (pack ms).first + (body (ms.take i)).length ≤ stop ∧ stop ≤ (pack ms).data.length := by
      rw [hfirst] at hs ⊢; omega
    simp only [hc, and_self, if_true]
    have : stop - ((pack ms).first + (body (ms.take i)).length) = (ms[i].text ++ ms[i].sep).length := by omega
    rw [this, hdata, hfirst]
    have := slice_mid (header (pairs ms) ++ body (ms.take i)) (ms[i].text ++ ms[i].sep) (body (ms.drop (i + 1)))
    simpa [List.length_append] using this
  by_cases hlast : i = ms.length - 1
  · rw [if_pos hlast]
    apply hcut
    have : ms.drop (i + 1) = [] := by apply List.drop_eq_nil_of_le; omega
    rw [this] at hdl
    simp only [body, List.length_nil, Nat.add_zero] at hdl
    rw [hdl, hfirst]
  · rw [if_neg hlast]
    have hoi1 := offsetsFrom_get ms 0 (i + 1) (by omega)
    simp only [Nat.zero_add] at hoi1
    have htake : body (ms.take (i + 1)) = body (ms.take i) ++ (ms[i].text ++ ms[i].sep) := by
      have h3 := body_split (ms.take (i + 1)) i (by simp; omega)
      have e1 : (ms.take (i + 1)).take i = ms.take i := by simp [List.take_take]
      have e2 : (ms.take (i + 1)).drop (i + 1) = [] := by
        apply List.drop_eq_nil_of_le; exact List.length_take_le _ _
      have e3 : (ms.take (i + 1))[i]'(by simp; omega) = ms[i] := by simp
      rw [e1, e2, e3] at h3
      simpa [body] using h3
    simp only [hoi1]
    have h4 : ¬ (pack ms).first + (body (ms.take (i + 1))).length > usizeMax := by
      rw [htake, hfirst]; simp only [List.length_append] at hdl ⊢; omega
    simp only [h4, if_false]
    apply hcut
    rw [htake]; simp only [List.length_append]; omega

/-- … and beyond the last member the reader reports an error (never a panic). -/
theorem objstm_index_out_of_range (ms : List Member) (i : Nat) (hi : ms.length ≤ i) (hw : WellSized ms) :
    member (pack ms).n (pack ms).first (pack ms).data i = .err := by
  unfold member
  rw [objstm_header ms hw]
  simp [getObjectSlice, offsetsFrom_length, hi]

/-- **No panic.** Whatever the header, `/N`, `/First`, the data and the index are: looking a member up
    ends in a slice or an error — the index expressions `offsets[index]`, `offsets[index + 1]` are
    guarded and the additions are checked. -/
theorem member_total (n first : Nat) (data : Bytes) (i : Nat) : (member n first data i).Returns := by
  unfold member
  rcases (parseHeader_returns n data).cases with e | ⟨offsets, e⟩ <;> simp only [e]
  · exact .err
  rcases (getObjectSlice_returns offsets first data i).cases with e | ⟨r, e⟩ <;> simp only [e]
  · exact .err
  · unfold memberSlice; split
    · exact .ok _
    · exact .err

example : addOld 19 (usizeMax - 3) = .panic := by decide

variable {V T : Type}

def allWs (ws : Bytes) : Prop := ∀ b ∈ ws, isWs b = true

/-- what is assumed of the value parser (D6 broke it for an integer that ends the slice) -/
def IgnoresTrailingWs (P : Parsers V T) : Prop :=
  ∀ (fl : Flags) (t ws : Bytes), allWs ws → P.parseMember fl (t ++ ws) = P.parseMember fl t

def plainOf : Out V → Out (Obj V)
  | .ok v => .ok (.plain v)
  | .err => .err | .panic => .panic | .oof => .oof

/-- the object parser, at a suffix where `n g obj text endobj` is written, reads what the value parser
    reads from `text` -/
def DirectHolds (P : Parsers V T) (fl : Flags) (sfx text : Bytes) : Prop :=
  P.objAt fl sfx = match P.parseMember fl text with
    | .ok v => .ok (.plain v)
    | .err => .err | .panic => .panic | .oof => .oof

/-- **`stored_equal`, compressed side.** Resolving a number whose entry is compressed — in any object
    stream that resolves to a stream object, under any filter chain that decodes to the packed bytes, at
    any index, with *any* flags — calls the value parser on exactly `text ++ sep` of that member. -/
theorem compressed_reads_member (P : Parsers V T) (buf : Bytes) (start : Nat) (t : Xref.Table)
    (fuel : Nat) (chain : List Nat) (flags : Flags) (id sid idx : Nat) (info : V) (a b : Nat) (raw : Bytes)
    (ms : List Member)
    (hlook : Xref.lookup t id = .compressed sid idx)
    (hchain : chain.contains sid = false)
    (hstm : resolveRef P buf start t fuel (sid :: chain) .any sid = .ok (.stream info a b))
    (hhead : P.stmHead info = .ok ((pack ms).n, (pack ms).first))
    (hraw : readRange buf a b = .ok raw)
    (hdec : P.decode info raw = .ok (pack ms).data)
    (hi : idx < ms.length) (hw : WellSized ms) :
    resolveRef P buf start t (fuel + 1) chain flags id
      = plainOf (P.parseMember flags (ms[idx].text ++ ms[idx].sep)) := by
  have hm := objstm_slice ms idx hi hw
  unfold member at hm
  simp only [resolveRef, hlook, hchain, Bool.false_eq_true, if_false, compressedBody, hstm, hhead, hraw, hdec]
  cases hh : parseHeader (pack ms).n (pack ms).data with
  | ok offsets =>
    simp only [hh] at hm ⊢
    cases hg : getObjectSlice offsets (pack ms).first (.ok (pack ms).data) idx with
    | ok dse =>
      obtain ⟨d, s, e⟩ := dse
      simp only [hg] at hm ⊢
      simp only [hm]
      cases P.parseMember flags (ms[idx].text ++ ms[idx].sep) <;> rfl
    | err => simp [hg] at hm
    | panic => simp [hg] at hm
    | oof => simp [hg] at hm
  | err => simp [hh] at hm
  | panic => simp [hh] at hm
  | oof => simp [hh] at hm

/-- **`stored_equal`.** Twins: number `id₁` stored as an ordinary indirect object holding `text`, number
    `id₂` stored as member `idx` of an object stream with the same `text` (and any white-space or none
    behind it). If the value parser ignores trailing white-space, both resolve to the same outcome, for
    every flag set. -/
theorem stored_equal (P : Parsers V T) (buf : Bytes) (start : Nat) (t : Xref.Table)
    (fuel : Nat) (chain : List Nat) (flags : Flags) (id₁ pos q : Nat) (sfx : Bytes)
    (id₂ sid idx : Nat) (info : V) (a b : Nat) (raw : Bytes) (ms : List Member)
    (hws : IgnoresTrailingWs P)
    -- the direct twin
    (hlook₁ : Xref.lookup t id₁ = .direct pos)
    (hsfx : suffixAt buf start pos = .ok (q, sfx))
    (hi : idx < ms.length)
    (hdirect : DirectHolds P flags sfx ms[idx].text)
    -- the compressed twin
    (hlook₂ : Xref.lookup t id₂ = .compressed sid idx)
    (hchain : chain.contains sid = false)
    (hstm : resolveRef P buf start t fuel (sid :: chain) .any sid = .ok (.stream info a b))
    (hhead : P.stmHead info = .ok ((pack ms).n, (pack ms).first))
    (hraw : readRange buf a b = .ok raw)
    (hdec : P.decode info raw = .ok (pack ms).data)
    (hsep : allWs ms[idx].sep) (hw : WellSized ms) :
    resolveRef P buf start t (fuel + 1) chain flags id₁ = resolveRef P buf start t (fuel + 1) chain flags id₂ := by
  rw [compressed_reads_member P buf start t fuel chain flags id₂ sid idx info a b raw ms hlook₂ hchain hstm hhead hraw hdec hi hw]
  rw [hws flags _ _ hsep]
  simp only [resolveRef, hlook₁, directBody, hsfx]
  unfold DirectHolds at hdirect
  rw [hdirect]
  cases P.parseMember flags ms[idx].text <;> rfl

/-- **`length_direct_eq_indirect`.** A stream whose `/Length` is a reference to an integer `n` — wherever
    that integer is stored — is read exactly like the stream with `/Length n` written directly.

    Scope: this is the *parametric* layer (`Offsets.streamWithLen`, the object parser reports a length that is still
    to be resolved). The concrete parser of `Model/Parser.lean` never reports `.indirect`: it resolves the reference
    itself through `env.resolveLen`, i.e. it takes the resolver's answer as a parameter. The concrete statement is
    `length_direct_eq_indirect_concrete` + `model_resolver_answers_compressed_length` (section `Concrete`); the
    comparison of the twin streams on the real library is the oracle `c11.twins`. -/
theorem length_direct_eq_indirect (P : Parsers V T) (resolveLen : Nat → Out (Obj V)) (sfx : Bytes) (q : Nat)
    (info : V) (rel lid : Nat) (v : V) (n : Nat)
    (hres : resolveLen lid = .ok (.plain v)) (hlen : P.asLen v = .ok n) :
    streamWithLen P resolveLen sfx q info rel (.indirect lid)
      = streamWithLen P resolveLen sfx q info rel (.direct n) := by
  simp [streamWithLen, hres, hlen]

/-- … in particular when the integer is a member of an object stream: the length request carries
    `ParseFlags::INTEGER`, and the compressed branch answers it like any other request. -/
theorem length_compressed (P : Parsers V T) (buf : Bytes) (start : Nat) (t : Xref.Table)
    (fuel : Nat) (chain : List Nat) (lid sid idx : Nat) (info : V) (a b : Nat) (raw : Bytes) (ms : List Member)
    (sfx : Bytes) (q : Nat) (sinfo : V) (rel : Nat) (v : V) (n : Nat)
    (hlook : Xref.lookup t lid = .compressed sid idx)
    (hchain : chain.contains sid = false)
    (hstm : resolveRef P buf start t fuel (sid :: chain) .any sid = .ok (.stream info a b))
    (hhead : P.stmHead info = .ok ((pack ms).n, (pack ms).first))
    (hraw : readRange buf a b = .ok raw)
    (hdec : P.decode info raw = .ok (pack ms).data)
    (hi : idx < ms.length) (hw : WellSized ms)
    (hval : P.parseMember .integer (ms[idx].text ++ ms[idx].sep) = .ok v) (hlen : P.asLen v = .ok n) :
    streamWithLen P (fun l => resolveRef P buf start t (fuel + 1) chain .integer l) sfx q sinfo rel (.indirect lid)
      = finishStream P sfx q sinfo rel n := by
  have h := compressed_reads_member P buf start t fuel chain .integer lid sid idx info a b raw ms hlook hchain hstm hhead hraw hdec hi hw
  rw [hval] at h
  simp [streamWithLen, h, plainOf, hlen]

/-! ## The gate that was removed (D42)

`if !flags.contains(ParseFlags::STREAM) { return Err(..) }` at the head of the compressed branch turned
every restricted request into an error: the `/Length` request (`INTEGER`) for a compressed integer could
not succeed, whatever the member was. -/

def compressedOld (flags : Flags) (r : Out (Obj V)) : Out (Obj V) := if gateOld flags then r else .err

example : compressedOld (V := Nat) .integer (.ok (.plain 5)) = .err := by decide
example : compressedOld (V := Nat) .any (.ok (.plain 5)) = .ok (.plain 5) := by decide

/-- `compressedOld` is a function *local to this file* that restates the removed gate
    (`if !flags.contains(STREAM) { return Err }`); the theorem says that this local function refuses every request
    carrying `INTEGER`. It is an illustration of D42, not a statement about `Model/Offsets.lean` (which describes the
    repaired code); the regression itself is held by the oracle `c11.twins` (`length-twin:indirect-compressed`). -/
theorem gateOld_refuses_lengths (r : Out (Obj Nat)) : compressedOld .integer r = .err := by
  simp [compressedOld, gateOld]

/-! ## The parser parameters discharged against the parser model (`Model/Parser.lean`)

`Offsets.concreteP env …` instantiates the token-level parsers with the concrete lexer / parser models:
members are read by `parse(slice, flags)`, indirect objects by `parse_indirect_object`. For every value `v`
and every conformant spelling `text` of it (`Spells`, `Spec/Syntax.lean`; by `C03.printer_conformant` every
text of the C03 printer `Spec/Render.lean` is one, and the serializer's output is covered by C04) the
hypotheses `IgnoresTrailingWs` / `DirectHolds` of `stored_equal` become theorems. What remains a parameter is
third-party: `env.parseReal` (`f32::from_str`) and the filter chain `dec`. -/

section Concrete
open PdfLex PdfShift

/-- an environment for the evaluated examples -/
def cEnvC : PdfLex.Env Unit :=
  { parseReal := fun _ => some (), resolveLen := fun _ _ => .err, allowMissingEndobj := false, decrypt := none, fileOffset := 0 }
open PdfSyntax (Gap Bnd Spells needsBnd KeysDistinct namesUtf8 vdepth need wf_of NatTok)

variable {R : Type}

/-- **Trailing white-space within the slice is irrelevant** (the hypothesis `IgnoresTrailingWs`, for the parser
    model): with any white-space or none behind it, up to the end of the buffer, the spelling parses to its
    value — in particular an integer that ends the buffer (D6). -/
theorem slice_parse_ignores_trailing_ws (env : Env R) (hd : env.decrypt = none) (v : Prim R) (text : List UInt8)
    (hsp : Spells env.parseReal v text) (hk : KeysDistinct v) (hu : namesUtf8 v = true) (hdepth : vdepth v ≤ maxDepth)
    (sep : List UInt8) (hsep : AllWs sep) (hsz : (text ++ sep).length ≤ 2147483647)
    (flags : Nat) (hfl : flags &&& flagOf v ≠ 0) :
    omap Prod.fst (parse env (text ++ sep).toArray flags) = .ok v ∧
    omap Prod.fst (parse env text.toArray flags) = .ok v := by
  constructor
  · rw [parse_member_slice env hd v text hsp hk hu hdepth sep hsep hsz flags hfl]; rfl
  · have := parse_member_slice env hd v text hsp hk hu hdepth [] (by intro b hb; cases hb) (by simp at hsz ⊢; omega) flags hfl
    simp only [List.append_nil] at this
    rw [this]; rfl

/-- **End of buffer = followed by a delimiter or white-space.** The value read from a member slice
    (`text ++ sep`, buffer ends) is the value read from the same text anywhere inside a larger buffer
    behind a gap and in front of anything that does not merge with it. -/
theorem slice_parse_eq_embedded (env : Env R) (hd : env.decrypt = none) (v : Prim R) (text : List UInt8)
    (hsp : Spells env.parseReal v text) (hk : KeysDistinct v) (hu : namesUtf8 v = true) (hdepth : vdepth v ≤ maxDepth)
    (sep : List UInt8) (hsep : AllWs sep) (hsz : (text ++ sep).length ≤ 2147483647)
    {buf : Buf} (hbsz : buf.size ≤ 2147483647) (g rest : List UInt8) (pos fuel : Nat) (ctx : Option (Nat × Nat))
    (hg : Gap g) (hs : Suffix buf pos (g ++ text ++ rest)) (hb : needsBnd v = true → Bnd rest)
    (hah : Ahead buf (pos + g.length + text.length)) (hfuel : need v ≤ fuel)
    (flags : Nat) (hfl : flags &&& flagOf v ≠ 0) :
    omap Prod.fst (parse env (text ++ sep).toArray flags)
      = omap Prod.fst (parseCtx env buf fuel pos ctx flags maxDepth) := by
  rw [parse_member_slice env hd v text hsp hk hu hdepth sep hsep hsz flags hfl,
    parseCtx_spells env hd v text hsp (wf_of v hk hu) hbsz g rest pos fuel ctx maxDepth flags hg hfl hs hb hah hfuel hdepth]
  rfl

/-- **`compressed_reads_member`, concrete.** With the parser model in place of the parameter: resolving a
    compressed entry whose member `idx` spells `v` yields `v` — any position, any white-space behind it or
    none, any filter chain that decodes to the packed bytes, any flag set that admits `v`'s kind. -/
theorem compressed_reads_member_concrete (env : Env R) (hd : env.decrypt = none) (pfuel : Nat)
    (dec : Dict R → OffLex.Bytes → Out OffLex.Bytes) (X : OffLex.Bytes → Out (List Xref.Sub × Dict R))
    (S : OffLex.Bytes → List (Out (Obj (Prim R))))
    (buf : OffLex.Bytes) (start : Nat) (t : Xref.Table) (fuel : Nat) (chain : List Nat) (flags : Offsets.Flags)
    (id sid idx : Nat) (info : Prim R) (a b : Nat) (raw : OffLex.Bytes) (ms : List Member) (v : Prim R)
    (hlook : Xref.lookup t id = .compressed sid idx)
    (hchain : chain.contains sid = false)
    (hstm : resolveRef (concreteP env pfuel dec X S) buf start t fuel (sid :: chain) .any sid = .ok (.stream info a b))
    (hhead : (concreteP env pfuel dec X S).stmHead info = .ok ((pack ms).n, (pack ms).first))
    (hraw : readRange buf a b = .ok raw)
    (hdec : (concreteP env pfuel dec X S).decode info raw = .ok (pack ms).data)
    (hi : idx < ms.length) (hw : WellSized ms)
    (hsp : Spells env.parseReal v ms[idx].text) (hk : KeysDistinct v) (hu : namesUtf8 v = true)
    (hdepth : vdepth v ≤ maxDepth) (hsep : AllWs ms[idx].sep)
    (hsz : (ms[idx].text ++ ms[idx].sep).length ≤ 2147483647)
    (hfl : flagsNat flags &&& flagOf v ≠ 0) :
    resolveRef (concreteP env pfuel dec X S) buf start t (fuel + 1) chain flags id = .ok (.plain v) := by
  rw [compressed_reads_member (concreteP env pfuel dec X S) buf start t fuel chain flags id sid idx info a b raw ms
    hlook hchain hstm hhead hraw hdec hi hw]
  have : (concreteP env pfuel dec X S).parseMember flags (ms[idx].text ++ ms[idx].sep) = .ok v := by
    show omap Prod.fst (parse { env with fileOffset := 0 } (ms[idx].text ++ ms[idx].sep).toArray (flagsNat flags)) = .ok v
    rw [parse_member_slice { env with fileOffset := 0 } hd v _ hsp hk hu hdepth _ hsep hsz _ hfl]; rfl
  rw [this]; rfl

/-- the direct twin: `n g obj text endobj` (any gaps the syntax allows) read through
    `Lexer::with_offset(read(start + pos ..), start + pos)` + `parse_indirect_object` -/
theorem direct_reads_text_concrete (env : Env R) (hd : env.decrypt = none) (pfuel : Nat)
    (dec : Dict R → OffLex.Bytes → Out OffLex.Bytes) (X : OffLex.Bytes → Out (List Xref.Sub × Dict R))
    (S : OffLex.Bytes → List (Out (Obj (Prim R))))
    (buf : OffLex.Bytes) (start : Nat) (t : Xref.Table) (fuel : Nat) (chain : List Nat) (flags : Offsets.Flags)
    (id pos q : Nat) (v : Prim R) (text g0 na g1 nb g2 g3 g4 rest : List UInt8) (oid ogen : Nat)
    (hlook : Xref.lookup t id = .direct pos)
    (hsfx : suffixAt buf start pos = .ok (q, g0 ++ na ++ g1 ++ nb ++ g2 ++ kwObj ++ g3 ++ text ++ g4 ++ kwEndobj ++ rest))
    (hsp : Spells env.parseReal v text) (hk : KeysDistinct v) (hu : namesUtf8 v = true) (hdepth : vdepth v ≤ maxDepth)
    (hsz : (g0 ++ na ++ g1 ++ nb ++ g2 ++ kwObj ++ g3 ++ text ++ g4 ++ kwEndobj ++ rest).length ≤ 2147483647)
    (hg0 : Gap g0) (ha : NatTok na oid) (hb : NatTok nb ogen) (hg1 : Gap g1) (hg1ne : g1 ≠ []) (hg2 : Gap g2)
    (hg2ne : g2 ≠ []) (hid : oid ≤ 18446744073709551615) (hgen : ogen ≤ 18446744073709551615) (hg3 : Gap g3) (hg4 : Gap g4)
    (hb3 : Bnd (g3 ++ text)) (hb4 : needsBnd v = true → g4 ≠ []) (hbnd : Bnd rest) (hfuel : need v ≤ pfuel)
    (hfl : flagsNat flags &&& flagOf v ≠ 0) :
    resolveRef (concreteP env pfuel dec X S) buf start t (fuel + 1) chain flags id = .ok (.plain v) := by
  refine direct_reads _ buf start t fuel chain flags id pos q _ v hlook hsfx ?_
  have hp := parseIndirectObject_spells { env with fileOffset := 0 } hd v text hsp (wf_of v hk hu)
    (buf := (g0 ++ na ++ g1 ++ nb ++ g2 ++ kwObj ++ g3 ++ text ++ g4 ++ kwEndobj ++ rest).toArray) hsz
    g0 na g1 nb g2 g3 g4 rest oid ogen 0 pfuel hg0 ha hb hg1 hg1ne hg2 hg2ne hid hgen hg3 hg4 (suffix_zero _) hb3 hb4 hbnd
    hfuel hdepth (flagsNat flags) hfl
  rw [concreteP_objAt, hp]
  exact toObjParse_plain v (by rintro info inner rfl; exact hsp) _ _

/-- **`stored_equal`, concrete.** A value stored as an ordinary indirect object and the same spelling stored
    as a member of an object stream resolve to the same value, for every value the syntax can spell. -/
theorem stored_equal_concrete (env : Env R) (hd : env.decrypt = none) (pfuel : Nat)
    (dec : Dict R → OffLex.Bytes → Out OffLex.Bytes) (X : OffLex.Bytes → Out (List Xref.Sub × Dict R))
    (S : OffLex.Bytes → List (Out (Obj (Prim R))))
    (buf : OffLex.Bytes) (start : Nat) (t : Xref.Table) (fuel : Nat) (chain : List Nat) (flags : Offsets.Flags)
    (v : Prim R) (hk : KeysDistinct v) (hu : namesUtf8 v = true) (hdepth : vdepth v ≤ maxDepth)
    (hfl : flagsNat flags &&& flagOf v ≠ 0)
    -- the direct twin
    (id₁ pos q : Nat) (text g0 na g1 nb g2 g3 g4 rest : List UInt8) (oid ogen : Nat)
    (hlook₁ : Xref.lookup t id₁ = .direct pos)
    (hsfx : suffixAt buf start pos = .ok (q, g0 ++ na ++ g1 ++ nb ++ g2 ++ kwObj ++ g3 ++ text ++ g4 ++ kwEndobj ++ rest))
    (hsp : Spells env.parseReal v text)
    (hsz : (g0 ++ na ++ g1 ++ nb ++ g2 ++ kwObj ++ g3 ++ text ++ g4 ++ kwEndobj ++ rest).length ≤ 2147483647)
    (hg0 : Gap g0) (ha : NatTok na oid) (hb : NatTok nb ogen) (hg1 : Gap g1) (hg1ne : g1 ≠ []) (hg2 : Gap g2)
    (hg2ne : g2 ≠ []) (hid : oid ≤ 18446744073709551615) (hgen : ogen ≤ 18446744073709551615) (hg3 : Gap g3) (hg4 : Gap g4)
    (hb3 : Bnd (g3 ++ text)) (hb4 : needsBnd v = true → g4 ≠ []) (hbnd : Bnd rest) (hfuel : need v ≤ pfuel)
    -- the compressed twin (possibly another conformant spelling of the same value)
    (id₂ sid idx : Nat) (info : Prim R) (a b : Nat) (raw : OffLex.Bytes) (ms : List Member)
    (hlook₂ : Xref.lookup t id₂ = .compressed sid idx)
    (hchain : chain.contains sid = false)
    (hstm : resolveRef (concreteP env pfuel dec X S) buf start t fuel (sid :: chain) .any sid = .ok (.stream info a b))
    (hhead : (concreteP env pfuel dec X S).stmHead info = .ok ((pack ms).n, (pack ms).first))
    (hraw : readRange buf a b = .ok raw)
    (hdec : (concreteP env pfuel dec X S).decode info raw = .ok (pack ms).data)
    (hi : idx < ms.length) (hw : WellSized ms)
    (hsp₂ : Spells env.parseReal v ms[idx].text) (hsep : AllWs ms[idx].sep)
    (hsz₂ : (ms[idx].text ++ ms[idx].sep).length ≤ 2147483647) :
    resolveRef (concreteP env pfuel dec X S) buf start t (fuel + 1) chain flags id₁
      = resolveRef (concreteP env pfuel dec X S) buf start t (fuel + 1) chain flags id₂ := by
  rw [direct_reads_text_concrete env hd pfuel dec X S buf start t fuel chain flags id₁ pos q v text g0 na g1 nb g2 g3 g4 rest
      oid ogen hlook₁ hsfx hsp hk hu hdepth hsz hg0 ha hb hg1 hg1ne hg2 hg2ne hid hgen hg3 hg4 hb3 hb4 hbnd hfuel hfl,
    compressed_reads_member_concrete env hd pfuel dec X S buf start t fuel chain flags id₂ sid idx info a b raw ms v
      hlook₂ hchain hstm hhead hraw hdec hi hw hsp₂ hk hu hdepth hsep hsz₂ hfl]

/-- **`length_compressed`, concrete.** The request `resolve_flags(r, INTEGER)` that `parse_stream_object` issues
    for an indirect `/Length` whose integer `n` is a member of an object stream is answered with `n`
    (`as_usize`): after the D42 repair the compressed branch serves restricted flag sets. -/
theorem length_compressed_concrete (env : Env R) (hd : env.decrypt = none) (pfuel : Nat)
    (dec : Dict R → OffLex.Bytes → Out OffLex.Bytes) (X : OffLex.Bytes → Out (List Xref.Sub × Dict R))
    (S : OffLex.Bytes → List (Out (Obj (Prim R))))
    (buf : OffLex.Bytes) (start : Nat) (t : Xref.Table) (fuel : Nat) (chain : List Nat)
    (lid sid idx : Nat) (info : Prim R) (a b : Nat) (raw : OffLex.Bytes) (ms : List Member) (n : Nat)
    (hlook : Xref.lookup t lid = .compressed sid idx)
    (hchain : chain.contains sid = false)
    (hstm : resolveRef (concreteP env pfuel dec X S) buf start t fuel (sid :: chain) .any sid = .ok (.stream info a b))
    (hhead : (concreteP env pfuel dec X S).stmHead info = .ok ((pack ms).n, (pack ms).first))
    (hraw : readRange buf a b = .ok raw)
    (hdec : (concreteP env pfuel dec X S).decode info raw = .ok (pack ms).data)
    (hi : idx < ms.length) (hw : WellSized ms)
    (hsp : Spells env.parseReal (.int (n : Int)) ms[idx].text) (hsep : AllWs ms[idx].sep)
    (hsz : (ms[idx].text ++ ms[idx].sep).length ≤ 2147483647) :
    (resolveRef (concreteP env pfuel dec X S) buf start t (fuel + 1) chain .integer lid).bind
        (fun o => match o with
          | .plain v => (concreteP env pfuel dec X S).asLen v
          | .stream _ _ _ => .err)
      = .ok n := by
  rw [compressed_reads_member_concrete env hd pfuel dec X S buf start t fuel chain .integer lid sid idx info a b raw ms (.int n)
    hlook hchain hstm hhead hraw hdec hi hw hsp (by simp [KeysDistinct]) (by simp [namesUtf8]) (by simp [vdepth]) hsep hsz
    (by simp only [flagsNat, flagOf]; decide)]
  simp [concreteP, asNat]

/-- … for every value as the C03 printer spells it (`Spec/Render.lean`, any tape of random layout choices) -/
theorem rendered_member_concrete (env : Env R) (hd : env.decrypt = none) (fmt : R → List UInt8) (v : Prim R)
    (tape : List Nat) (hr : PdfSpec.Renderable fmt env.parseReal v) (hk : KeysDistinct v) (hu : namesUtf8 v = true)
    (hdepth : vdepth v ≤ maxDepth) (sep : List UInt8) (hsep : AllWs sep)
    (hsz : ((PdfSpec.render fmt v tape).1 ++ sep).length ≤ 2147483647) (flags : Nat) (hfl : flags &&& flagOf v ≠ 0) :
    omap Prod.fst (parse env ((PdfSpec.render fmt v tape).1 ++ sep).toArray flags) = .ok v :=
  (slice_parse_ignores_trailing_ws env hd v _ (PdfSpec.render_spells fmt env.parseReal v hr tape) hk hu hdepth sep hsep hsz
    flags hfl).1

/-- … and as the library's own serializer writes it (`Model/Serialize.lean`) -/
theorem serialized_member_concrete (env : Env R) (hd : env.decrypt = none) (fmt : R → List UInt8) (v : Prim R)
    (out : List UInt8) (hs : Serialisable fmt env.parseReal v) (hout : serialize fmt v = .ok out)
    (hk : KeysDistinct v) (hu : namesUtf8 v = true) (hdepth : vdepth v ≤ maxDepth) (sep : List UInt8) (hsep : AllWs sep)
    (hsz : (out ++ sep).length ≤ 2147483647) (flags : Nat) (hfl : flags &&& flagOf v ≠ 0) :
    omap Prod.fst (parse env (out ++ sep).toArray flags) = .ok v := by
  obtain ⟨txt, trail, he, hsp, htr, _⟩ := serialize_spells fmt env.parseReal v hs
  rw [he] at hout
  cases hout
  have hws : AllWs (trail ++ sep) := by
    intro b hb
    rcases List.mem_append.mp hb with h | h
    · rcases htr with rfl | rfl
      · cases h
      · simp at h; subst h; decide
    · exact hsep b h
  have := (slice_parse_ignores_trailing_ws env hd v txt hsp hk hu hdepth (trail ++ sep) hws (by simpa using hsz) flags hfl).1
  simpa using this

/-! ### encrypted documents

In an encrypted document the strings of an ordinary indirect object are encrypted with the key of that object
(number, generation); the strings of a member of an object stream are *not* encrypted individually — the
stream's data is, as a whole, and `Stream::data` has already decrypted it.  In the model the difference is the
decryption context of the parser: `parse_indirect_object` runs with `Some(Context { id, .. })`
(`concreteP.objAt`), `parse(slice, resolve, flags)` of the compressed branch with none
(`concreteP.parseMember`).  `e` is the writer's encryptor, `d` the reader's decryptor (third party: RC4 / AES
with the object key), the hypothesis is that `d` inverts `e` for the direct twin's key. -/

theorem flagOf_mapStr (f : List UInt8 → List UInt8) (v : Prim R) : flagOf (mapStr f v) = flagOf v := by
  cases v <;> rfl

/-- the compressed branch does not consult the decryptor: a member reads as its plaintext value -/
theorem compressed_reads_member_encrypted (env : Env R) (hd : env.decrypt = none)
    (d : Nat → Nat → List UInt8 → List UInt8) (pfuel : Nat)
    (dec : Dict R → OffLex.Bytes → Out OffLex.Bytes) (X : OffLex.Bytes → Out (List Xref.Sub × Dict R))
    (S : OffLex.Bytes → List (Out (Obj (Prim R))))
    (buf : OffLex.Bytes) (start : Nat) (t : Xref.Table) (fuel : Nat) (chain : List Nat) (flags : Offsets.Flags)
    (id sid idx : Nat) (info : Prim R) (a b : Nat) (raw : OffLex.Bytes) (ms : List Member) (v : Prim R)
    (hlook : Xref.lookup t id = .compressed sid idx)
    (hchain : chain.contains sid = false)
    (hstm : resolveRef (concreteP (withDec env d) pfuel dec X S) buf start t fuel (sid :: chain) .any sid = .ok (.stream info a b))
    (hhead : (concreteP (withDec env d) pfuel dec X S).stmHead info = .ok ((pack ms).n, (pack ms).first))
    (hraw : readRange buf a b = .ok raw)
    (hdec : (concreteP (withDec env d) pfuel dec X S).decode info raw = .ok (pack ms).data)
    (hi : idx < ms.length) (hw : WellSized ms)
    (hsp : Spells env.parseReal v ms[idx].text) (hk : KeysDistinct v) (hu : namesUtf8 v = true)
    (hdepth : vdepth v ≤ maxDepth) (hsep : AllWs ms[idx].sep)
    (hsz : (ms[idx].text ++ ms[idx].sep).length ≤ 2147483647)
    (hfl : flagsNat flags &&& flagOf v ≠ 0) :
    resolveRef (concreteP (withDec env d) pfuel dec X S) buf start t (fuel + 1) chain flags id = .ok (.plain v) := by
  rw [compressed_reads_member (concreteP (withDec env d) pfuel dec X S) buf start t fuel chain flags id sid idx info a b raw ms
    hlook hchain hstm hhead hraw hdec hi hw]
  have : (concreteP (withDec env d) pfuel dec X S).parseMember flags (ms[idx].text ++ ms[idx].sep) = .ok v := by
    show omap Prod.fst (parse (withDec { env with fileOffset := 0 } d) (ms[idx].text ++ ms[idx].sep).toArray (flagsNat flags)) = .ok v
    rw [parse_ignores_decryptor]
    rw [parse_member_slice (noDec { env with fileOffset := 0 }) rfl v _ hsp hk hu hdepth _ hsep hsz _ hfl]; rfl
  rw [this]; rfl

/-- the direct branch decrypts the strings with the object's own key -/
theorem direct_reads_text_encrypted (env : Env R) (e d : Nat → Nat → List UInt8 → List UInt8) (pfuel : Nat)
    (dec : Dict R → OffLex.Bytes → Out OffLex.Bytes) (X : OffLex.Bytes → Out (List Xref.Sub × Dict R))
    (S : OffLex.Bytes → List (Out (Obj (Prim R))))
    (buf : OffLex.Bytes) (start : Nat) (t : Xref.Table) (fuel : Nat) (chain : List Nat) (flags : Offsets.Flags)
    (id pos q : Nat) (v : Prim R) (text g0 na g1 nb g2 g3 g4 rest : List UInt8) (oid ogen : Nat)
    (hinv : ∀ s, d oid ogen (e oid ogen s) = s)
    (hlook : Xref.lookup t id = .direct pos)
    (hsfx : suffixAt buf start pos = .ok (q, g0 ++ na ++ g1 ++ nb ++ g2 ++ kwObj ++ g3 ++ text ++ g4 ++ kwEndobj ++ rest))
    (hsp : Spells env.parseReal (mapStr (e oid ogen) v) text) (hk : KeysDistinct (mapStr (e oid ogen) v))
    (hu : namesUtf8 (mapStr (e oid ogen) v) = true) (hdepth : vdepth (mapStr (e oid ogen) v) ≤ maxDepth)
    (hsz : (g0 ++ na ++ g1 ++ nb ++ g2 ++ kwObj ++ g3 ++ text ++ g4 ++ kwEndobj ++ rest).length ≤ 2147483647)
    (hg0 : Gap g0) (ha : NatTok na oid) (hb : NatTok nb ogen) (hg1 : Gap g1) (hg1ne : g1 ≠ []) (hg2 : Gap g2)
    (hg2ne : g2 ≠ []) (hid : oid ≤ 18446744073709551615) (hgen : ogen ≤ 18446744073709551615) (hg3 : Gap g3) (hg4 : Gap g4)
    (hb3 : Bnd (g3 ++ text)) (hb4 : needsBnd (mapStr (e oid ogen) v) = true → g4 ≠ []) (hbnd : Bnd rest)
    (hfuel : need (mapStr (e oid ogen) v) ≤ pfuel)
    (hfl : flagsNat flags &&& flagOf v ≠ 0) :
    resolveRef (concreteP (withDec env d) pfuel dec X S) buf start t (fuel + 1) chain flags id = .ok (.plain v) := by
  refine direct_reads _ buf start t fuel chain flags id pos q _ v hlook hsfx ?_
  have hp := parseIndirectObject_spells (noDec { env with fileOffset := 0 }) rfl (mapStr (e oid ogen) v) text hsp
    (wf_of _ hk hu)
    (buf := (g0 ++ na ++ g1 ++ nb ++ g2 ++ kwObj ++ g3 ++ text ++ g4 ++ kwEndobj ++ rest).toArray) hsz
    g0 na g1 nb g2 g3 g4 rest oid ogen 0 pfuel hg0 ha hb hg1 hg1ne hg2 hg2ne hid hgen hg3 hg4 (suffix_zero _) hb3 hb4 hbnd
    hfuel hdepth (flagsNat flags) (by rw [flagOf_mapStr]; exact hfl)
  rw [concreteP_objAt]
  show toObjParse (parseIndirectObject (withDec { env with fileOffset := 0 } d) _ _ _ _) = _
  rw [parseIndirectObject_dec, hp]
  simp only [omap, mapStr_inverts (e oid ogen) (d oid ogen) hinv v]
  exact toObjParse_plain v (by rintro info inner rfl; exact hsp) _ _

/-- **`stored_equal_encrypted`.** In an encrypted document a value stored as an ordinary indirect object (its
    strings encrypted with the object's key by `e`) and the same value stored as a member of an object stream
    (strings in clear inside the encrypted stream) resolve to the same — the plaintext — value, under any
    decryptor `d` that inverts the writer's encryptor for the direct object's key.  The direct branch passes the
    object's key to the parser, the compressed branch passes none; passing one there would decrypt the
    member's strings a second time. -/
theorem stored_equal_encrypted (env : Env R) (hd : env.decrypt = none) (e d : Nat → Nat → List UInt8 → List UInt8)
    (pfuel : Nat) (dec : Dict R → OffLex.Bytes → Out OffLex.Bytes) (X : OffLex.Bytes → Out (List Xref.Sub × Dict R))
    (S : OffLex.Bytes → List (Out (Obj (Prim R))))
    (buf : OffLex.Bytes) (start : Nat) (t : Xref.Table) (fuel : Nat) (chain : List Nat) (flags : Offsets.Flags)
    (v : Prim R) (hfl : flagsNat flags &&& flagOf v ≠ 0)
    -- the direct twin: `oid ogen obj <v with encrypted strings> endobj`
    (id₁ pos q : Nat) (text g0 na g1 nb g2 g3 g4 rest : List UInt8) (oid ogen : Nat)
    (hinv : ∀ s, d oid ogen (e oid ogen s) = s)
    (hlook₁ : Xref.lookup t id₁ = .direct pos)
    (hsfx : suffixAt buf start pos = .ok (q, g0 ++ na ++ g1 ++ nb ++ g2 ++ kwObj ++ g3 ++ text ++ g4 ++ kwEndobj ++ rest))
    (hsp : Spells env.parseReal (mapStr (e oid ogen) v) text) (hkE : KeysDistinct (mapStr (e oid ogen) v))
    (huE : namesUtf8 (mapStr (e oid ogen) v) = true) (hdepthE : vdepth (mapStr (e oid ogen) v) ≤ maxDepth)
    (hsz : (g0 ++ na ++ g1 ++ nb ++ g2 ++ kwObj ++ g3 ++ text ++ g4 ++ kwEndobj ++ rest).length ≤ 2147483647)
    (hg0 : Gap g0) (ha : NatTok na oid) (hb : NatTok nb ogen) (hg1 : Gap g1) (hg1ne : g1 ≠ []) (hg2 : Gap g2)
    (hg2ne : g2 ≠ []) (hid : oid ≤ 18446744073709551615) (hgen : ogen ≤ 18446744073709551615) (hg3 : Gap g3) (hg4 : Gap g4)
    (hb3 : Bnd (g3 ++ text)) (hb4 : needsBnd (mapStr (e oid ogen) v) = true → g4 ≠ []) (hbnd : Bnd rest)
    (hfuel : need (mapStr (e oid ogen) v) ≤ pfuel)
    -- the compressed twin: the plaintext spelling as a member
    (id₂ sid idx : Nat) (info : Prim R) (a b : Nat) (raw : OffLex.Bytes) (ms : List Member)
    (hlook₂ : Xref.lookup t id₂ = .compressed sid idx)
    (hchain : chain.contains sid = false)
    (hstm : resolveRef (concreteP (withDec env d) pfuel dec X S) buf start t fuel (sid :: chain) .any sid = .ok (.stream info a b))
    (hhead : (concreteP (withDec env d) pfuel dec X S).stmHead info = .ok ((pack ms).n, (pack ms).first))
    (hraw : readRange buf a b = .ok raw)
    (hdec : (concreteP (withDec env d) pfuel dec X S).decode info raw = .ok (pack ms).data)
    (hi : idx < ms.length) (hw : WellSized ms)
    (hsp₂ : Spells env.parseReal v ms[idx].text) (hk : KeysDistinct v) (hu : namesUtf8 v = true)
    (hdepth : vdepth v ≤ maxDepth) (hsep : AllWs ms[idx].sep)
    (hsz₂ : (ms[idx].text ++ ms[idx].sep).length ≤ 2147483647) :
    resolveRef (concreteP (withDec env d) pfuel dec X S) buf start t (fuel + 1) chain flags id₁ = .ok (.plain v) ∧
    resolveRef (concreteP (withDec env d) pfuel dec X S) buf start t (fuel + 1) chain flags id₂ = .ok (.plain v) :=
  ⟨direct_reads_text_encrypted env e d pfuel dec X S buf start t fuel chain flags id₁ pos q v text g0 na g1 nb g2 g3 g4 rest
      oid ogen hinv hlook₁ hsfx hsp hkE huE hdepthE hsz hg0 ha hb hg1 hg1ne hg2 hg2ne hid hgen hg3 hg4 hb3 hb4 hbnd hfuel hfl,
   compressed_reads_member_encrypted env hd d pfuel dec X S buf start t fuel chain flags id₂ sid idx info a b raw ms v
      hlook₂ hchain hstm hhead hraw hdec hi hw hsp₂ hk hu hdepth hsep hsz₂ hfl⟩

def isStrC (bs : List UInt8) : Out (PdfLex.Prim Unit × Nat) → Bool
  | .ok (.str s, _) => s == bs
  | _ => false

/-- **The variant that decrypts members too is wrong.** A parser run *with* a context on a member slice applies
    the decryptor to the member's strings: with `d` = "flip every byte" the plaintext string `(a)` stored in an
    object stream would read as the byte 0x9E; `parse` (no context) reads `a`. -/
theorem member_with_context_decrypts_twice :
    isStrC [158] (parseCtx (withDec cEnvC (fun _ _ s => s.map (fun b => b ^^^ 255))) #[40, 97, 41] 10 0 (some (7, 0)) 1023 maxDepth)
      = true ∧
    isStrC [97] (parse (withDec cEnvC (fun _ _ s => s.map (fun b => b ^^^ 255))) #[40, 97, 41] 1023) = true := by
  decide +kernel

/-! ### the stream half at the concrete layer

Under the concrete parser the `.indirect` branch of `Offsets.streamWithLen` is not used: `parse_stream_object` of
`Model/Parser.lean` resolves `/Length i g R` itself, through `env.resolveLen` (`concreteP.objAt` then reports the
stream with a direct length). The two theorems below are the concrete counterpart of `length_direct_eq_indirect`:
the data read does not depend on how `/Length` is written, provided the resolver answers the data's length — and the
resolver instantiated with the model's own `resolveRef … .integer` does answer it for an integer stored in an object
stream (`model_resolver_answers_compressed_length`). The end-to-end comparison on the real library (all three forms,
raw and decoded data, unencrypted and encrypted) is the oracle `c11.twins` / `c11.twins.encrypted`. -/

open PdfSyntax (SpellsStream WFE keysOf needE vdepthE) in
/-- `id gen obj << … >> stream … endstream endobj` laid out at `pos` of `buf`, any gaps the syntax allows -/
structure StreamObjectAt (env : Env R) (info : Dict R) (data : List UInt8) (buf : Buf) (pos id gen : Nat) : Prop where
  layout : ∃ txt g0 a g1 b g2 g3 g4 rest, SpellsStream env.parseReal info data txt ∧ Gap g0 ∧ NatTok a id ∧ NatTok b gen ∧
    Gap g1 ∧ g1 ≠ [] ∧ Gap g2 ∧ g2 ≠ [] ∧ Gap g3 ∧ Gap g4 ∧ g4 ≠ [] ∧
    Suffix buf pos (g0 ++ a ++ g1 ++ b ++ g2 ++ kwObj ++ g3 ++ txt ++ g4 ++ kwEndobj ++ rest) ∧ Bnd rest
  wf : WFE info
  nodup : (keysOf info).Nodup
  size : buf.size ≤ 2147483647
  idOk : id ≤ 18446744073709551615
  genOk : gen ≤ 18446744073709551615
  depth : 1 + vdepthE info ≤ maxDepth

open PdfSyntax (needE) in
/-- a stream object whose `/Length` — written either way — is the length of its data is read with exactly that data -/
theorem stream_object_reads_data_concrete (env : Env R) (hd : env.decrypt = none) (info : Dict R) (data : List UInt8)
    (buf : Buf) (pos id gen fuel : Nat) (h : StreamObjectAt env info data buf pos id gen)
    (hlen : LengthIs env info data.length) (hfuel : 2 + needE info ≤ fuel) :
    ∃ dataPos q, parseIndirectObject env buf fuel pos 1023
        = .ok (((id, gen), streamAt env info (id, gen) dataPos data.length), q) ∧
      slice buf dataPos (dataPos + data.length) = data := by
  obtain ⟨txt, g0, a, g1, b, g2, g3, g4, rest, hsp, hg0, ha, hb, hg1, hg1ne, hg2, hg2ne, hg3, hg4, hg4ne, hs, hbnd⟩ := h.layout
  obtain ⟨dp, h1, h2⟩ := parseIndirectObject_stream env hd info data txt hsp h.wf h.nodup hlen h.size g0 a g1 b g2 g3 g4 rest
    id gen pos fuel hg0 ha hb hg1 hg1ne hg2 hg2ne h.idOk h.genOk hg3 hg4 hg4ne hs hbnd hfuel h.depth 1023 (by decide)
  exact ⟨dp, _, h1, h2⟩

open PdfSyntax (needE) in
/-- **`length_direct_eq_indirect`, concrete.** The same stream written once with `/Length n` and once with
    `/Length i g R`, where the resolver answers `n` for `i g`, is read through `parse_indirect_object` of
    `Model/Parser.lean` with the SAME data (and a `file_range` of the same length). The resolver's answer is the
    hypothesis `hres`; `model_resolver_answers_compressed_length` discharges it for the model's own resolve. -/
theorem length_direct_eq_indirect_concrete (env : Env R) (hd : env.decrypt = none) (data : List UInt8)
    (info₁ info₂ : Dict R) (buf₁ buf₂ : Buf) (pos₁ id₁ gen₁ pos₂ id₂ gen₂ fuel li lg : Nat)
    (h₁ : StreamObjectAt env info₁ data buf₁ pos₁ id₁ gen₁) (h₂ : StreamObjectAt env info₂ data buf₂ pos₂ id₂ gen₂)
    (hl₁ : dictGet info₁ kwLength = some (.int (data.length : Int)))
    (hl₂ : dictGet info₂ kwLength = some (.ref li lg)) (hres : env.resolveLen li lg = .ok data.length)
    (hf₁ : 2 + needE info₁ ≤ fuel) (hf₂ : 2 + needE info₂ ≤ fuel) :
    ∃ p₁ q₁ p₂ q₂,
      parseIndirectObject env buf₁ fuel pos₁ 1023 = .ok (((id₁, gen₁), streamAt env info₁ (id₁, gen₁) p₁ data.length), q₁) ∧
      parseIndirectObject env buf₂ fuel pos₂ 1023 = .ok (((id₂, gen₂), streamAt env info₂ (id₂, gen₂) p₂ data.length), q₂) ∧
      slice buf₁ p₁ (p₁ + data.length) = data ∧ slice buf₂ p₂ (p₂ + data.length) = data := by
  obtain ⟨p₁, q₁, e₁, d₁⟩ := stream_object_reads_data_concrete env hd info₁ data buf₁ pos₁ id₁ gen₁ fuel h₁ (Or.inl hl₁) hf₁
  obtain ⟨p₂, q₂, e₂, d₂⟩ := stream_object_reads_data_concrete env hd info₂ data buf₂ pos₂ id₂ gen₂ fuel h₂
    (Or.inr ⟨li, lg, hl₂, hres⟩) hf₂
  exact ⟨p₁, q₁, p₂, q₂, e₁, e₂, d₁, d₂⟩

/-- `r.resolve_flags(reference, INTEGER, 1)?.as_usize()` instantiated with the model's own resolve: the length
    resolver that `parse_stream_object` would be handed by `Storage` (the objects it resolves are integers, so the
    inner environment `env₀` needs no length resolver of its own) -/
def modelLenResolver (env₀ : Env R) (pfuel : Nat) (dec : Dict R → OffLex.Bytes → Out OffLex.Bytes)
    (X : OffLex.Bytes → Out (List Xref.Sub × Dict R)) (S : OffLex.Bytes → List (Out (Obj (Prim R))))
    (buf : OffLex.Bytes) (start : Nat) (t : Xref.Table) (fuel : Nat) (chain : List Nat) : Nat → Nat → Out Nat :=
  fun i _ =>
    (resolveRef (concreteP env₀ pfuel dec X S) buf start t fuel chain .integer i).bind
      (fun o => match o with
        | .plain v => (concreteP env₀ pfuel dec X S).asLen v
        | .stream _ _ _ => .err)

/-- **`env.resolveLen` tied to `resolveRef … .integer`.** With the environment's length resolver instantiated by the
    model's own resolve, a `/Length` reference to an integer `n` that is a member of an object stream is answered
    with `n` (this is `length_compressed_concrete` read as a fact about the resolver): the hypothesis `hres` of
    `length_direct_eq_indirect_concrete` for the compressed storage form. -/
theorem model_resolver_answers_compressed_length (env₀ : Env R) (hd : env₀.decrypt = none) (pfuel : Nat)
    (dec : Dict R → OffLex.Bytes → Out OffLex.Bytes) (X : OffLex.Bytes → Out (List Xref.Sub × Dict R))
    (S : OffLex.Bytes → List (Out (Obj (Prim R))))
    (buf : OffLex.Bytes) (start : Nat) (t : Xref.Table) (fuel : Nat) (chain : List Nat)
    (lid lg sid idx : Nat) (info : Prim R) (a b : Nat) (raw : OffLex.Bytes) (ms : List Member) (n : Nat)
    (hlook : Xref.lookup t lid = .compressed sid idx)
    (hchain : chain.contains sid = false)
    (hstm : resolveRef (concreteP env₀ pfuel dec X S) buf start t fuel (sid :: chain) .any sid = .ok (.stream info a b))
    (hhead : (concreteP env₀ pfuel dec X S).stmHead info = .ok ((pack ms).n, (pack ms).first))
    (hraw : readRange buf a b = .ok raw)
    (hdec : (concreteP env₀ pfuel dec X S).decode info raw = .ok (pack ms).data)
    (hi : idx < ms.length) (hw : WellSized ms)
    (hsp : Spells env₀.parseReal (.int (n : Int)) ms[idx].text) (hsep : AllWs ms[idx].sep)
    (hsz : (ms[idx].text ++ ms[idx].sep).length ≤ 2147483647) :
    ({ env₀ with resolveLen := modelLenResolver env₀ pfuel dec X S buf start t (fuel + 1) chain } : Env R).resolveLen lid lg
      = .ok n :=
  length_compressed_concrete env₀ hd pfuel dec X S buf start t fuel chain lid sid idx info a b raw ms n
    hlook hchain hstm hhead hraw hdec hi hw hsp hsep hsz

end Concrete

/-! ## Non-vacuity: a concrete stream with an integer first, a name in the middle without separator, a
string, and `null` last without anything behind it -/

def sample : List Member :=
  [⟨7, [49, 50], [32]⟩,                       -- `12` + space
   ⟨9, [47, 65, 98], []⟩,                     -- `/Ab`, nothing behind it
   ⟨11, [40, 120, 41], [13, 10]⟩,             -- `(x)` + CR LF
   ⟨12, [110, 117, 108, 108], []⟩]            -- `null`, last, nothing behind it

example : WellSized sample := by unfold WellSized; decide
/-- `7 0 9 3 11 6 12 11 12 /Ab(x)\r\nnull` -/
example : (pack sample).data =
    [55, 32, 48, 32, 57, 32, 51, 32, 49, 49, 32, 54, 32, 49, 50, 32, 49, 49, 32,
     49, 50, 32, 47, 65, 98, 40, 120, 41, 13, 10, 110, 117, 108, 108] := by decide
example : (pack sample).first = 19 ∧ (pack sample).n = 4 := by decide
example : member 4 19 (pack sample).data 0 = .ok [49, 50, 32] := by decide
example : member 4 19 (pack sample).data 1 = .ok [47, 65, 98] := by decide
example : member 4 19 (pack sample).data 3 = .ok [110, 117, 108, 108] := by decide
example : member 4 19 (pack sample).data 4 = .err := by decide

/-! ## Witness: the hypotheses of `compressed_reads_member_concrete` and `stored_equal_concrete` are satisfiable

A complete little file: object 8 is an object stream holding `12` (object 2) and `/A` (object 3); object 9 is the
integer `12` stored as an ordinary indirect object. Every hypothesis of the two theorems is discharged below, so
their conclusions hold of an actual document (the hypotheses about the resolved object stream are read off the
model's own evaluation of `resolveRef` on these bytes). -/

section Witness
open PdfLex PdfShift PdfSyntax

def wMs : List Member := [⟨2, [49, 50], [32]⟩, ⟨3, [47, 65], []⟩]

/-- `%PDF-1.4⏎8 0 obj⏎<</Type/ObjStm/N 2/First 8/Length 13>>⏎stream⏎2 0 3 3 12 /A⏎endstream⏎endobj⏎9 0 obj⏎12⏎endobj⏎` -/
def wBuf : OffLex.Bytes :=
  [37, 80, 68, 70, 45, 49, 46, 52, 10, 56, 32, 48, 32, 111, 98, 106, 10, 60, 60, 47, 84, 121, 112, 101, 47, 79, 98, 106,
   83, 116, 109, 47, 78, 32, 50, 47, 70, 105, 114, 115, 116, 32, 56, 47, 76, 101, 110, 103, 116, 104, 32, 49, 51, 62, 62,
   10, 115, 116, 114, 101, 97, 109, 10, 50, 32, 48, 32, 51, 32, 51, 32, 49, 50, 32, 47, 65, 10, 101, 110, 100, 115, 116,
   114, 101, 97, 109, 10, 101, 110, 100, 111, 98, 106, 10, 57, 32, 48, 32, 111, 98, 106, 10, 49, 50, 10, 101, 110, 100,
   111, 98, 106, 10]

def wTab : Xref.Table :=
  [.free 0 65535, .invalid, .stream 8 0, .stream 8 1, .invalid, .invalid, .invalid, .invalid, .raw 9 0, .raw 94 0]

/-- the concrete parsers with the identity filter (the stream of the witness is stored unfiltered) -/
abbrev wP : Parsers (Prim Unit) (Dict Unit) := concreteP cEnvC 100 (fun _ raw => .ok raw) (fun _ => .err) (fun _ => [])

/-- `Prim` has no decidable equality: the facts about the resolved object stream are checked by a Boolean function -/
def wStmOk : Out (Obj (Prim Unit)) → Bool
  | .ok (.stream info a b) =>
      decide (wP.stmHead info = .ok ((pack wMs).n, (pack wMs).first)) &&
      decide (readRange wBuf a b = .ok (pack wMs).data) &&
      decide (wP.decode info (pack wMs).data = .ok (pack wMs).data)
  | _ => false

theorem wStm : ∃ info a b, resolveRef wP wBuf 0 wTab 1 [8] .any 8 = .ok (.stream info a b) ∧
    wP.stmHead info = .ok ((pack wMs).n, (pack wMs).first) ∧ readRange wBuf a b = .ok (pack wMs).data ∧
    wP.decode info (pack wMs).data = .ok (pack wMs).data := by
  have h : wStmOk (resolveRef wP wBuf 0 wTab 1 [8] .any 8) = true := by decide +kernel
  generalize resolveRef wP wBuf 0 wTab 1 [8] .any 8 = r at h
  match r, h with
  | .ok (.stream info a b), h =>
    simp only [wStmOk, Bool.and_eq_true, decide_eq_true_eq] at h
    exact ⟨info, a, b, rfl, h.1.1, h.1.2, h.2⟩

theorem wSpells12 : Spells cEnvC.parseReal (.int 12 : Prim Unit) [49, 50] :=
  ⟨⟨[49, 50], by simp, by simp [Digits, isDig], Or.inl ⟨rfl, by decide⟩⟩, by decide, by decide⟩

theorem wAllWs : AllWs [32] := by intro b hb; simp at hb; subst hb; decide

/-- every hypothesis of `compressed_reads_member_concrete` holds of the witness -/
example : resolveRef wP wBuf 0 wTab 2 [] .any 2 = .ok (.plain (.int 12)) := by
  obtain ⟨info, a, b, hstm, hhead, hraw, hdec⟩ := wStm
  exact compressed_reads_member_concrete cEnvC rfl 100 _ _ _ wBuf 0 wTab 1 [] .any 2 8 0 info a b _ wMs (.int 12)
    (by decide) (by decide) hstm hhead hraw hdec (by decide) (by unfold WellSized; decide) wSpells12
    (by simp [KeysDistinct]) (by decide) (by decide) wAllWs (by decide) (by decide)

/-- every hypothesis of `stored_equal_concrete` holds of the witness: object 9 (stored directly) and object 2
    (a member of object stream 8) resolve to the same value -/
example : resolveRef wP wBuf 0 wTab 2 [] .any 9 = resolveRef wP wBuf 0 wTab 2 [] .any 2 := by
  obtain ⟨info, a, b, hstm, hhead, hraw, hdec⟩ := wStm
  exact stored_equal_concrete cEnvC rfl 100 _ _ _ wBuf 0 wTab 1 [] .any (.int 12)
    (by simp [KeysDistinct]) (by decide) (by decide) (by decide)
    9 94 94 [49, 50] [] [57] [32] [48] [32] [10] [10] [10] 9 0
    (by decide) (by decide) wSpells12 (by decide)
    .nil ⟨by simp, by simp [Digits, isDig], by decide⟩ ⟨by simp, by simp [Digits, isDig], by decide⟩
    (.ws 32 [] (by decide) .nil) (by simp) (.ws 32 [] (by decide) .nil) (by simp) (by decide) (by decide)
    (.ws 10 [] (by decide) .nil) (.ws 10 [] (by decide) .nil)
    (by show isReg 10 = false; decide) (by intro _; simp) (by show isReg 10 = false; decide) (by decide)
    2 8 0 info a b _ wMs
    (by decide) (by decide) hstm hhead hraw hdec (by decide) (by unfold WellSized; decide) wSpells12 wAllWs (by decide)

/-- the length resolver instantiated with the model's own resolve answers `12` for `/Length 2 0 R` in the witness
    (object 2 is a member of object stream 8): the hypothesis `hres` of `length_direct_eq_indirect_concrete` -/
example : ({ cEnvC with
      resolveLen := modelLenResolver cEnvC 100 (fun _ raw => .ok raw) (fun _ => .err) (fun _ => []) wBuf 0 wTab 2 [] }
      : Env Unit).resolveLen 2 0 = .ok 12 := by
  obtain ⟨info, a, b, hstm, hhead, hraw, hdec⟩ := wStm
  exact model_resolver_answers_compressed_length cEnvC rfl 100 _ _ _ wBuf 0 wTab 1 [] 2 0 8 0 info a b _ wMs 12
    (by decide) (by decide) hstm hhead hraw hdec (by decide) (by unfold WellSized; decide) wSpells12 wAllWs (by decide)

end Witness

end C11
