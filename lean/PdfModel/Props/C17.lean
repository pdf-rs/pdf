import PdfModel.Lemmas.Offsets
import PdfModel.Lemmas.OffLex
import PdfModel.Lemmas.OffsetsFuel
import PdfModel.Lemmas.SuffixConcrete
import PdfModel.Lemmas.ShiftXref
import PdfModel.Lemmas.ShiftScan
import PdfModel.Model.XrefStreamSection
import PdfModel.Generated.Lexical

/-!
# C17 — bytes before the header do not change what is read

`f` is a file, `p` arbitrary bytes put in front of it. The theorems are about the model in
`Model/Offsets.lean` (+ `Model/OffLex.lean`): `locateStart` / `locateXref` are byte-level models of
`Backend::locate_start_offset` / `locate_xref_offset`; `loadTable`, `resolveRef`, `rawData`, `scan` model
the arithmetic of every consumer of a file offset, with the token-level parsers as a parameter `P` that
is handed the suffix of the backend at the computed position — exactly what the Rust parsers are handed.
Because `P` is universally quantified the theorems hold for *whatever* those parsers compute.
The correspondence streams of C17 tie both layers to the current source tree.

Hypotheses that appear below and what they mean:
* `headerMarker <+: f`        the file starts with `%PDF-`                     (general form: `locateStart f = .ok s`)
* `¬ headerMarker <:+: p`     the prefix does not contain the marker
* `p.length + 5 ≤ 1024`       the header stays inside the first kilobyte
* `Fits p f`                  `p.length + f.length ≤ usize::MAX` (true of every buffer that exists)
-/

namespace Offsets
open OffLex

/-! ## The header search -/

/-- **Straddling is impossible.** An occurrence of `%PDF-` that begins in the prefix and ends in a file
    that itself begins with `%PDF-` would need one of `P`, `D`, `F`, `-` to be `%`. Hence "the marker does
    not occur in `p`" is the whole condition. -/
theorem straddle_impossible (p f : Bytes) (hf : headerMarker <+: f) (hp : ¬ headerMarker <:+: p) :
    ∀ j, j < p.length → ¬ headerMarker <+: (p ++ f).drop j :=
  no_occurrence_before p f hf hp

/-- a file that starts with the marker has its header at 0 -/
theorem locateStart_zero (f : Bytes) (hf : headerMarker <+: f) : locateStart f = .ok 0 := by
  obtain ⟨f', rfl⟩ := hf
  simp [locateStart, headerMarker, headerWindow]
  have : min 1024 (f'.length + 1 + 1 + 1 + 1 + 1) = (min 1024 (f'.length + 5) - 5) + 5 := by omega
  rw [this]
  simp [List.take, findFirst, List.isPrefixOf]

/-- **C17, header clause (`find_header_prefix`).** If `f` starts with `%PDF-`, the marker does not occur
    in `p` and the header stays within the first kilobyte, the header of `p ++ f` is found exactly
    `p.length` further on. All prefixes of all lengths `0..1019`, all byte values. -/
theorem find_header_prefix (p f : Bytes) (hf : headerMarker <+: f) (hp : ¬ headerMarker <:+: p)
    (hl : p.length + 5 ≤ 1024) :
    locateStart f = .ok 0 ∧ locateStart (p ++ f) = .ok (p.length + 0) := by
  have h0 := locateStart_zero f hf
  exact ⟨h0, locateStart_append p f 0 h0 (no_occurrence_before p f hf hp) (by simp [headerWindow]; omega)⟩

/-- The same for a file whose own header sits at `s` (a file that already carries leading bytes), with
    the exact condition: no occurrence of the marker *starts* inside the prefix. -/
theorem find_header_prefix_general (p f : Bytes) (s : Nat) (hs : locateStart f = .ok s)
    (hno : ∀ j, j < p.length → ¬ headerMarker <+: (p ++ f).drop j)
    (hl : p.length + s + 5 ≤ 1024) :
    locateStart (p ++ f) = .ok (p.length + s) :=
  locateStart_append p f s hs hno (by simpa [headerWindow] using hl)

/-- The condition is exact: when the marker does occur in `p` the search stops inside `p`. -/
theorem header_found_earlier (p f : Bytes) (hp : headerMarker <:+: p) (hl : p.length ≤ 1024) :
    ∃ i, i < p.length ∧ locateStart (p ++ f) = .ok i := by
  obtain ⟨a, b, rfl⟩ := hp
  -- the occurrence at `a.length` lies in the window
  have hocc : headerMarker <+: ((a ++ headerMarker ++ b ++ f).take (min headerWindow (a ++ headerMarker ++ b ++ f).length)).drop a.length := by
    rw [List.drop_take]
    have : (a ++ headerMarker ++ b ++ f).drop a.length = headerMarker ++ (b ++ f) := by
      simp [List.append_assoc]
    rw [this]
    apply List.prefix_take_iff.2
    refine ⟨List.prefix_append _ _, ?_⟩
    simp [headerMarker, headerWindow] at hl ⊢
    omega
  obtain ⟨i, hi, hfi⟩ := findFirst_le headerMarker _ a.length hocc (by
    simp [headerMarker, headerWindow] at hl ⊢; omega)
  refine ⟨i, by simp [headerMarker]; omega, ?_⟩
  unfold locateStart
  rw [hfi]

/-! ## The backward search for `startxref` -/

/-- **C17, `locate_xref_offset_prefix`.** Whatever `locate_xref_offset` answers for a file that contains
    the keyword, it answers for the prefixed file — for *every* prefix (the prefix may even contain
    `startxref` itself: the search runs backwards and stops at the file's own last occurrence). -/
theorem locate_xref_offset_prefix (p f : Bytes) (k : Nat)
    (hk : findLast startxrefKw (f.take (f.length - 1)) = some k) :
    locateXref (p ++ f) = locateXref f :=
  locateXref_append p f k hk

/-- in particular for every file whose `startxref` can be read at all -/
theorem locate_xref_offset_prefix_ok (p f : Bytes) (x : Nat) (hx : locateXref f = .ok x) :
    locateXref (p ++ f) = .ok x := by
  unfold locateXref at hx
  cases hk : findLast startxrefKw (f.take (f.length - 1)) with
  | none => simp [hk] at hx
  | some k =>
    rw [locateXref_append p f k hk]
    unfold locateXref
    simp only [hk]
    simpa [hk] using hx

/-- Neither search can panic or run out of fuel, on any buffer whatsoever. -/
theorem locate_total (buf : Bytes) : (locateStart buf).Returns ∧ (locateXref buf).Returns := by
  refine ⟨?_, locateXref_returns buf⟩
  unfold locateStart Out.Returns; split <;> simp

variable {V T : Type}

/-! ## Every consumer of an offset -/

/-- **C17, `load_prefix_invariant` (table and trailer).** `read_xref_table_and_trailer` visits the same
    sections in the same order — `startxref`, then every `/Prev` — and merges the same table, for any
    section parser, any `/Prev` chain (loops and broken links included), any fuel. -/
theorem load_prefix_invariant (P : Parsers V T) (p f : Bytes) (s k fuel : Nat) (hfit : Fits p f)
    (hk : findLast startxrefKw (f.take (f.length - 1)) = some k) :
    loadTable P fuel (p ++ f) (p.length + s) = loadTable P fuel f s :=
  loadTable_append P p f s k fuel hfit hk

/-- **C17, `load_prefix_invariant` (objects).** Resolving any object number with any flags from any
    table — direct objects, stream objects with direct or indirect `/Length`, members of object
    streams (any nesting the guard allows) — gives the same outcome for `p ++ f` as for `f`; the only
    difference is that `file_range`s of streams are `p.length` further on. -/
theorem resolve_prefix_invariant (P : Parsers V T) (p f : Bytes) (s : Nat) (t : Xref.Table) (hfit : Fits p f)
    (fuel : Nat) (chain : List Nat) (flags : Flags) (id : Nat) :
    resolveRef P (p ++ f) (p.length + s) t fuel chain flags id
      = shiftOut p.length (resolveRef P f s t fuel chain flags id) :=
  resolveRef_append P p f s t hfit fuel chain flags id

/-- … and the raw bytes of a stream read through the shifted range are the same bytes. -/
theorem raw_data_prefix_invariant (p f : Bytes) (o : Obj V) :
    rawData (p ++ f) (o.shift p.length) = rawData f o :=
  rawData_shift p f o

/-- the version string is read relative to the header too -/
theorem version_prefix_invariant (p f : Bytes) (s : Nat) :
    version (p ++ f) (p.length + s) = version f s := by
  unfold version
  rw [Nat.add_assoc, Nat.add_assoc, readRange_append]

/-- **C17, `scan_prefix_invariant`.** The recovery scan looks at the same slice (header to newest
    cross-reference section) and therefore lists the same items, stream ranges `p.length` further on. -/
theorem scan_prefix_invariant (P : Parsers V T) (p f : Bytes) (s k : Nat) (hfit : Fits p f)
    (hk : findLast startxrefKw (f.take (f.length - 1)) = some k) :
    scan P (p ++ f) (p.length + s) =
      match scan P f s with
      | .ok items => .ok (items.map (shiftOut p.length))
      | .err => .err | .panic => .panic | .oof => .oof :=
  scan_append P p f s k hfit hk

/-- **C17, whole path.** For every loadable file (the model opens it: header at `s`, table `t`, trailer
    `tr`) and every prefix in which no occurrence of the marker starts and which keeps the header within
    the first kilobyte, the prefixed file opens with the header at `p.length + s` and the *same* table
    and trailer; by `resolve_prefix_invariant`, `raw_data_prefix_invariant` and `scan_prefix_invariant`
    every object, every stream's data and the scan listing then read identically. -/
theorem open_prefix_invariant (P : Parsers V T) (p f : Bytes) (fuel s : Nat) (t : Xref.Table) (tr : T)
    (hopen : openFile P fuel f = .ok (s, t, tr))
    (hno : ∀ j, j < p.length → ¬ headerMarker <+: (p ++ f).drop j)
    (hl : p.length + s + 5 ≤ 1024) (hfit : Fits p f) :
    openFile P fuel (p ++ f) = .ok (p.length + s, t, tr) := by
  unfold openFile at hopen ⊢
  cases hs : locateStart f with
  | ok s' =>
    simp only [hs] at hopen
    cases hload : loadTable P fuel f s' with
    | ok r =>
      obtain ⟨t', tr'⟩ := r
      simp only [hload] at hopen
      cases hopen
      -- the file has a `startxref`, otherwise `loadTable` would have failed
      have hk : ∃ k, findLast startxrefKw (f.take (f.length - 1)) = some k := by
        cases hk : findLast startxrefKw (f.take (f.length - 1)) with
        | none => simp [loadTable, locateXref, hk] at hload
        | some k => exact ⟨k, rfl⟩
      obtain ⟨k, hk⟩ := hk
      rw [find_header_prefix_general p f s hs hno hl]
      simp only [loadTable_append P p f s k fuel hfit hk, hload]
    | err => simp [hload] at hopen
    | panic => simp [hload] at hopen
    | oof => simp [hload] at hopen
  | err => simp [hs] at hopen
  | panic => simp [hs] at hopen
  | oof => simp [hs] at hopen

/-- **Fuel is adequate.** The `/Prev` loop of the model cannot run out of fuel once `fuel ≥ len + 2`
    (the code's `seen` list is duplicate-free and only holds offsets that could be read), for parsers
    that — like the Rust functions they stand for — have no fuel of their own. -/
theorem load_never_out_of_fuel (P : Parsers V T) (hP : NoOof P) (buf : Bytes) (start fuel : Nat)
    (hf : buf.length + 2 ≤ fuel) : loadTable P fuel buf start ≠ .oof :=
  loadTable_ne_oof P hP buf start fuel hf

/-- `open_prefix_invariant` with each side running on its own natural fuel `len + 2`. -/
theorem open_prefix_invariant_natural_fuel (P : Parsers V T) (p f : Bytes) (s : Nat) (t : Xref.Table) (tr : T)
    (hopen : openFile P (f.length + 2) f = .ok (s, t, tr))
    (hno : ∀ j, j < p.length → ¬ headerMarker <+: (p ++ f).drop j)
    (hl : p.length + s + 5 ≤ 1024) (hfit : Fits p f) :
    openFile P ((p ++ f).length + 2) (p ++ f) = .ok (p.length + s, t, tr) := by
  have h := open_prefix_invariant P p f (f.length + 2) s t tr hopen hno hl hfit
  unfold openFile at h ⊢
  cases hs : locateStart (p ++ f) with
  | ok s' =>
    simp only [hs] at h ⊢
    have hne : loadTable P (f.length + 2) (p ++ f) s' ≠ .oof := by
      intro hc; simp [hc] at h
    rw [loadTable_fuel_irrelevant P (p ++ f) s' (f.length + 2) ((p ++ f).length + 2) hne (by simp)]
    exact h
  | err => simp [hs] at h
  | panic => simp [hs] at h
  | oof => simp [hs] at h

/-- **C17 as one statement.** Loadable file, admissible prefix: the prefixed file loads, and every object
    number — with any flags, any fuel — every stream's raw data, the version string and the scan listing
    read the same (stream ranges `p.length` further on). -/
theorem prefix_changes_nothing (P : Parsers V T) (p f : Bytes) (fuel s : Nat) (t : Xref.Table) (tr : T)
    (hopen : openFile P fuel f = .ok (s, t, tr))
    (hno : ∀ j, j < p.length → ¬ headerMarker <+: (p ++ f).drop j)
    (hl : p.length + s + 5 ≤ 1024) (hfit : Fits p f) :
    openFile P fuel (p ++ f) = .ok (p.length + s, t, tr) ∧
    (∀ fuel' chain flags id,
      resolveRef P (p ++ f) (p.length + s) t fuel' chain flags id
        = shiftOut p.length (resolveRef P f s t fuel' chain flags id)) ∧
    (∀ o : Obj V, rawData (p ++ f) (o.shift p.length) = rawData f o) ∧
    version (p ++ f) (p.length + s) = version f s ∧
    scan P (p ++ f) (p.length + s) =
      (match scan P f s with
       | .ok items => .ok (items.map (shiftOut p.length))
       | .err => .err | .panic => .panic | .oof => .oof) := by
  refine ⟨open_prefix_invariant P p f fuel s t tr hopen hno hl hfit,
    fun fuel' chain flags id => resolveRef_append P p f s t hfit fuel' chain flags id,
    fun o => rawData_shift p f o, version_prefix_invariant p f s, ?_⟩
  -- the file has a `startxref`, otherwise it would not have opened
  unfold openFile at hopen
  cases hs : locateStart f with
  | ok s' =>
    simp only [hs] at hopen
    cases hload : loadTable P fuel f s' with
    | ok r =>
      cases hk : findLast startxrefKw (f.take (f.length - 1)) with
      | none => simp [loadTable, locateXref, hk] at hload
      | some k => exact scan_append P p f s k hfit hk
    | err => simp [hload] at hopen
    | panic => simp [hload] at hopen
    | oof => simp [hload] at hopen
  | err => simp [hs] at hopen
  | panic => simp [hs] at hopen
  | oof => simp [hs] at hopen

/-! ## The parser parameters discharged against the lexer / parser models

The theorems above hold for *whatever* the token-level parsers compute, under one modelling assumption: a
parser that is handed `Lexer::with_offset(read(pos ..), pos)` is a function of the suffix and uses the
offset only to report `file_range`s. For the concrete models `Model/Lexer.lean`, `Model/StrLexer.lean`,
`Model/Parser.lean` this is a theorem (`file_offset_only_moves_ranges`), together with the shift lemmas
for lexing / parsing `p ++ f` from `p.length + k` (`Lemmas/Shift*.lean`). -/

section Concrete
open PdfLex PdfShift

variable {R : Type}

/-- **Shift lemma, lexer.** `next_word` on `p ++ b` from `p.size + k` is `next_word` on `b` from `k`, the
    lexeme's positions `p.size` further on (also `next`, `peek`, `next_expect`, `next_stream`, `set_pos`,
    `offset_pos`, `read_n`: `Lemmas/ShiftLexer.lean`). -/
theorem next_word_prefix_shift (p b : Buf) (k : Nat) :
    nextWord (p ++ b) (p.size + k) = omap (sh2 p.size) (nextWord b k) :=
  nextWord_shift p b k

/-- **Shift lemma, string lexers.** Literal and hexadecimal strings read from `p.size + k` in `p ++ b` are the
    strings read from `k` in `b`; the cursor behind them is `p.size` further on. -/
theorem string_lexers_prefix_shift (p b : Buf) (fuel k : Nat) (nested : Int) (acc : List UInt8) :
    collectString (p ++ b) fuel (p.size + k) nested acc = omap (shL p.size) (collectString b fuel k nested acc) ∧
    collectHex (p ++ b) (p.size + k) fuel (p.size + k) acc = omap (shL p.size) (collectHex b k fuel k acc) :=
  ⟨collectString_shift p b fuel k nested acc, collectHex_shift p b k fuel k acc⟩

/-- **Shift lemma, parser.** `parse_with_lexer_ctx` on `p ++ b` from `p.size + k` with lexer offset `o` returns
    the value that it returns on `b` from `k` with lexer offset `o + p.size` — the same value, stream ranges
    included — and rests `p.size` further on; for every buffer content, conformant or not (errors, panics
    and fuel exhaustion correspond). Buffers below 2 GiB, resolver lengths are `i32`s. -/
theorem parse_prefix_shift (env : Env R) (p b : Buf) (hsz : (p ++ b).size ≤ 2147483647) (hlen : LenBounded env)
    (fuel k : Nat) (ctx : Option (Nat × Nat)) (flags depth : Nat) :
    parseCtx env (p ++ b) fuel (p.size + k) ctx flags depth
      = omap (shV p.size) (parseCtx (env.shiftOffset p.size) b fuel k ctx flags depth) :=
  parseCtx_shift env p b hsz hlen fuel k ctx flags depth

/-- the same for `parse_indirect_object` -/
theorem parse_indirect_prefix_shift (env : Env R) (p b : Buf) (hsz : (p ++ b).size ≤ 2147483647)
    (hlen : LenBounded env) (fuel k flags : Nat) :
    parseIndirectObject env (p ++ b) fuel (p.size + k) flags
      = omap (shI p.size) (parseIndirectObject (env.shiftOffset p.size) b fuel k flags) :=
  parseIndirectObject_shift env p b hsz hlen fuel k flags

/-- **The lexer's file offset only moves the reported ranges**: the modelling assumption of
    `Model/Offsets.lean`, proved for the parser model. Same buffer, offset `o + k` instead of `o`: the same
    outcome, every `file_range` inside the value `k` further on. No hypothesis. -/
theorem file_offset_only_moves_ranges (env : Env R) (k : Nat) (buf : Buf) (fuel pos flags : Nat) :
    parseIndirectObject (env.shiftOffset k) buf fuel pos flags
      = omap (mapI k) (parseIndirectObject env buf fuel pos flags) :=
  parseIndirectObject_offset env k buf fuel pos flags

/-- **`locate_xref_offset_prefix`, concrete lexer.** -/
theorem locate_xref_offset_prefix_concrete (p f : Bytes) (k : Nat)
    (hk : findLast startxrefKw (f.take (f.length - 1)) = some k) :
    locateXrefC (p ++ f) = locateXrefC f :=
  locateXrefC_append p f k hk

/-- **Reading an object, end to end, no parser parameter.** `resolve_ref`'s direct branch in its literal
    call shape — `start.checked_add(offset)`, `read(pos ..)`, `Lexer::with_offset(.., pos)`,
    `parse_indirect_object` of `Model/Parser.lean` — gives for `p ++ f` (header at `p.length + s`) the value
    it gives for `f` (header at `s`), stream ranges `p.length` further on; for every content at the offset,
    every flag set, every fuel. -/
theorem read_object_prefix_concrete (env : Env R) (fuel : Nat) (p f : Bytes) (s off flags : Nat) (hfit : Fits p f) :
    readObjectAt env fuel (p ++ f) (p.length + s) off flags
      = omap (shiftR p.length) (readObjectAt env fuel f s off flags) :=
  readObjectAt_prefix env fuel p f s off flags hfit

/-- **`prefix_changes_nothing` with the concrete parsers.** Objects, members of object streams, `/Length`
    integers are read by the parser model; what stays a parameter is third-party or not modelled at byte
    level (`f32::from_str`, the filter chain `dec`, the cross-reference section reader `X`, the scan item
    loop `S`; the resolver inside `parse_stream_object` is `env.resolveLen`). -/
theorem prefix_changes_nothing_concrete (env : Env R) (pfuel : Nat) (dec : Dict R → Bytes → Out Bytes)
    (X : Bytes → Out (List Xref.Sub × Dict R)) (S : Bytes → List (Out (Obj (Prim R))))
    (p f : Bytes) (fuel s : Nat) (t : Xref.Table) (tr : Dict R)
    (hopen : openFile (concreteP env pfuel dec X S) fuel f = .ok (s, t, tr))
    (hno : ∀ j, j < p.length → ¬ headerMarker <+: (p ++ f).drop j)
    (hl : p.length + s + 5 ≤ 1024) (hfit : Fits p f) :
    openFile (concreteP env pfuel dec X S) fuel (p ++ f) = .ok (p.length + s, t, tr) ∧
    (∀ fuel' chain flags id,
      resolveRef (concreteP env pfuel dec X S) (p ++ f) (p.length + s) t fuel' chain flags id
        = shiftOut p.length (resolveRef (concreteP env pfuel dec X S) f s t fuel' chain flags id)) ∧
    (∀ o : Obj (Prim R), rawData (p ++ f) (o.shift p.length) = rawData f o) ∧
    version (p ++ f) (p.length + s) = version f s :=
  let h := prefix_changes_nothing (concreteP env pfuel dec X S) p f fuel s t tr hopen hno hl hfit
  ⟨h.1, h.2.1, h.2.2.1, h.2.2.2.1⟩

/-! ### the cross-reference section reader and the scan loop, concrete

`Model/XrefTable.lean` is the classic table reader and the dispatch `read_xref_and_trailer_at`;
`Model/XrefStreamSection.lean` adds `parse_xref_stream_and_trailer`, so that the section reader has no parser
parameter left (`XrefSec.sectionAt`, `XrefSec.loadTableC`); `Model/ScanLoop.lean` is the item loop of
`Storage::scan` on the concrete lexer / parser. What remains a parameter: `f32::from_str`, the filter chain of a
cross-reference stream (`dec`), the decryptor. -/

open XrefTable in
/-- **Shift lemma, classic table reader.** `parse_xref_table_and_trailer` on `p ++ b` from `p.size + k` reads the
    subsections and the trailer dictionary it reads on `b` from `k`, and rests `p.size` further on — any
    content. -/
theorem xref_table_reader_prefix_shift (env : Env R) (p b : Buf) (hsz : (p ++ b).size ≤ 2147483647)
    (hlen : LenBounded env) (fuel pfuel k : Nat) :
    parseXrefTableAndTrailer env (p ++ b) fuel pfuel (p.size + k)
      = omap (shT p.size) (parseXrefTableAndTrailer (env.shiftOffset p.size) b fuel pfuel k) :=
  parseXrefTableAndTrailer_shift env p b hsz hlen fuel pfuel k

open XrefTable in
/-- **Shift lemma, section reader** (`read_xref_and_trailer_at`: `xref` → table, else `lexer.back()` and the stream
    reader). The table branch is unconditional. The stream branch looks *backwards* from the first lexeme:
    exactly when the prefix is empty or ends in white-space (`EndsWs`) the scan back stops where it stops
    without the prefix. (That is why the code hands the reader `read(pos ..)`: a buffer that begins at the
    section. `back_needs_boundary` below is the counter-example.) -/
theorem xref_section_reader_prefix_shift (env : Env R) (stm stm' : Buf → Nat → Out (List Xref.Sub × Dict R)) (p b : Buf)
    (hsz : (p ++ b).size ≤ 2147483647) (hlen : LenBounded env) (hp : EndsWs p)
    (hstm : ∀ q, stm (p ++ b) (p.size + q) = stm' b q) (fuel pfuel k : Nat) :
    readXrefAndTrailerAt env stm (p ++ b) fuel pfuel (p.size + k)
      = readXrefAndTrailerAt (env.shiftOffset p.size) stm' b fuel pfuel k :=
  readXrefAndTrailerAt_shift env stm stm' p b hsz hlen hp hstm fuel pfuel k

/-- without the boundary `lexer.back()` runs into the prefix: `12` behind `x` is found as `x12` -/
theorem back_needs_boundary :
    back (#[120] ++ #[49, 50, 32]) (1 + 2) = .ok (0, 3) ∧ back #[49, 50, 32] 2 = .ok (0, 2) := by
  decide +kernel

/-- **`load_prefix_invariant`, concrete: no section-reader parameter.** The table and the trailer that
    `read_xref_table_and_trailer` builds from `p ++ f` (header at `p.length + s`) are those it builds from `f`
    (header at `s`) — classic tables, cross-reference streams, `/Prev` chains through both, any damage: every
    section is read from the suffix of the file at `start + offset`, and those suffixes are the same. -/
theorem load_prefix_invariant_concrete {V : Type} (env : Env R) (dec : Dict R → List UInt8 → Out (List UInt8))
    (allowErr : Bool) (base : Parsers V (Dict R)) (p f : Bytes) (s k fuel : Nat) (hfit : Fits p f)
    (hk : findLast startxrefKw (f.take (f.length - 1)) = some k) :
    XrefSec.loadTableC env dec allowErr base fuel (p ++ f) (p.length + s)
      = XrefSec.loadTableC env dec allowErr base fuel f s :=
  loadTable_append _ p f s k fuel hfit hk

/-- … composed with the header search: a file that opens, opens behind an admissible prefix with the same
    table and trailer (`Model/XrefFile.lean`'s parsers plugged into `openFile`). -/
theorem open_prefix_invariant_concrete {V : Type} (env : Env R) (dec : Dict R → List UInt8 → Out (List UInt8))
    (allowErr : Bool) (base : Parsers V (Dict R)) (p f : Bytes) (fuel s : Nat) (t : Xref.Table) (tr : Dict R)
    (hopen : openFile (XrefTable.fileParsers { env with fileOffset := 0 } (XrefSec.stmC env dec allowErr) base) fuel f
      = .ok (s, t, tr))
    (hno : ∀ j, j < p.length → ¬ headerMarker <+: (p ++ f).drop j)
    (hl : p.length + s + 5 ≤ 1024) (hfit : Fits p f) :
    openFile (XrefTable.fileParsers { env with fileOffset := 0 } (XrefSec.stmC env dec allowErr) base) fuel (p ++ f)
      = .ok (p.length + s, t, tr) :=
  open_prefix_invariant _ p f fuel s t tr hopen hno hl hfit

/-- **`scan_prefix_invariant`, concrete: no item-loop parameter.** `Storage::scan` on the concrete lexer / parser
    (`parse_indirect_object` until it fails, `xref … trailer` skipped into a trailer item, `startxref n` skipped):
    the prefixed file yields the same items in the same order; the lexer's offset is the header position, so the
    `file_range` of every stream among them is `p.length` further on — relative to the header, as the D26 repair
    made it — and nothing else differs. -/
theorem scan_prefix_invariant_concrete (env : Env R) (p f : Bytes) (s k : Nat) (hfit : Fits p f)
    (hk : findLast startxrefKw (f.take (f.length - 1)) = some k) :
    ScanLoop.scanC env (p ++ f) (p.length + s)
      = omap (List.map (ScanLoop.shiftItem p.length)) (ScanLoop.scanC env f s) :=
  ScanLoop.scanC_append env p f s k hfit hk

end Concrete

/-! ## What the code did before the repairs

`scanOld` (D26) read `start .. xref_offset` — an end that is not relative to the header — numbered the
lexer from 0 and `unwrap`ped. With the trivial item parser "one item per byte of the slice" the file
below (header at 0, `startxref 9`) scans 9 bytes; behind a 4-byte prefix the old code scanned 5, behind a
12-byte prefix it panicked. `directPosOld` is the unchecked `start_offset + pos`. -/

def byteItems : Parsers Nat Nat where
  xrefAt := fun _ => .err
  sizeOf := fun _ => .err
  prevOf := fun _ => none
  objAt := fun _ _ => .err
  streamEnd := fun _ => .err
  asLen := fun _ => .err
  stmHead := fun _ => .err
  decode := fun _ _ => .err
  parseMember := fun _ _ => .err
  scanItems := fun slice => slice.map fun b => .ok (.plain b.toNat)

/-- `%PDF-1.4\nstartxref\n9\n%%EOF\n` -/
def tinyFile : Bytes :=
  [37, 80, 68, 70, 45, 49, 46, 52, 10, 115, 116, 97, 114, 116, 120, 114, 101, 102, 10, 57, 10, 37, 37, 69, 79, 70, 10]

def pad (n : Nat) : Bytes := List.replicate n 32

example : (match scan byteItems tinyFile 0 with | .ok l => l.length | _ => 0) = 9 := by decide
example : (match scan byteItems (pad 4 ++ tinyFile) 4 with | .ok l => l.length | _ => 0) = 9 := by decide
example : (match scanOld byteItems (pad 4 ++ tinyFile) 4 with | .ok l => l.length | _ => 0) = 5 := by decide
example : scanOld byteItems (pad 12 ++ tinyFile) 12 = .panic := by decide
example : scan byteItems (pad 12 ++ tinyFile) 12 = scan byteItems tinyFile 0 := by decide

/-- the old code contradicts `scan_prefix_invariant` -/
theorem scanOld_not_invariant :
    ¬ (∀ (p f : Bytes) (s : Nat), scanOld byteItems (p ++ f) (p.length + s) =
        match scanOld byteItems f s with
        | .ok items => .ok (items.map (shiftOut p.length))
        | .err => .err | .panic => .panic | .oof => .oof) := by
  intro h
  have := h (pad 12) tinyFile 0
  revert this
  decide

example : directPosOld 7 (usizeMax - 2) = .panic := by decide
example : checkedAdd 7 (usizeMax - 2) = .err := by decide
example : checkedAdd 0 (usizeMax - 2) = .ok (usizeMax - 2) := by decide

/-! ## Non-vacuity

A concrete two-section file (`tinyDoc`: header, two bytes standing for objects, an "old" section at 11, a
"new" one at 13 with `/Prev 11`, `startxref 13`) under a concrete toy parser: sections are recognised by
their first byte, objects too. The prefix `junk` holds `%PD`, `startxref` look-alikes and ends in `%PDF`
(a proper prefix of the marker). Every hypothesis of `open_prefix_invariant` is discharged by `decide`,
the file really opens, and the resolved stream has data. -/

def toy : Parsers Nat Nat where
  xrefAt := fun sfx =>
    match sfx with
    | 78 :: _ => .ok ([⟨0, [.free 0 65535, .raw 9 0, .raw 10 0]⟩], 1)     -- `N`: newest section, trailer 1
    | 79 :: _ => .ok ([⟨1, [.raw 9 0]⟩, ⟨3, [.raw 10 0]⟩], 2)             -- `O`: older section, trailer 2
    | _ => .err
  sizeOf := fun tr => if tr = 1 then .ok 4 else .err
  prevOf := fun tr => if tr = 1 then some (.ok 11) else none
  objAt := fun _ sfx =>
    match sfx with
    | 65 :: _ => .ok (.plain 65)                                           -- `A`: a plain object
    | 83 :: _ => .ok (.stream 83 1 (.direct 2))                            -- `S`: a stream, data 1 byte further on, 2 bytes
    | _ => .err
  streamEnd := fun _ => .ok ()
  asLen := fun v => .ok v
  stmHead := fun _ => .err
  decode := fun _ raw => .ok raw
  parseMember := fun _ _ => .err
  scanItems := fun _ => []

/-- `%PDF-1.4\nASONxstartxref\n13\n%%EOF\n` — offsets: `A` 9, `S` 10, `O` 11, `N` 12 … the new section
    is announced at 12 -/
def tinyDoc : Bytes :=
  [37, 80, 68, 70, 45, 49, 46, 52, 10, 65, 83, 79, 78, 120,
   115, 116, 97, 114, 116, 120, 114, 101, 102, 10, 49, 50, 10, 37, 37, 69, 79, 70, 10]

/-- `%PD startxref 99 %PDF` -/
def junk : Bytes :=
  [37, 80, 68, 32, 115, 116, 97, 114, 116, 120, 114, 101, 102, 32, 57, 57, 32, 37, 80, 68, 70]

example : openFile toy 5 tinyDoc = .ok (0, [.free 0 65535, .raw 9 0, .raw 10 0, .raw 10 0, .free 0 65535], 1) := by
  decide
example : headerMarker <+: tinyDoc := ⟨_, rfl⟩
example : ¬ headerMarker <:+: junk := by decide
example : junk.length + 0 + 5 ≤ 1024 := by decide
example : Fits junk tinyDoc := by unfold Fits; decide
example : openFile toy 5 (junk ++ tinyDoc)
    = .ok (21, [.free 0 65535, .raw 9 0, .raw 10 0, .raw 10 0, .free 0 65535], 1) := by decide
example : resolveRef toy tinyDoc 0 [.free 0 65535, .raw 9 0, .raw 10 0] 3 [] .any 2 = .ok (.stream 83 11 13) := by decide
example : resolveRef toy (junk ++ tinyDoc) 21 [.free 0 65535, .raw 9 0, .raw 10 0] 3 [] .any 2
    = .ok (.stream 83 32 34) := by decide
example : rawData (V := Nat) (junk ++ tinyDoc) (.stream 83 32 34) = .ok [79, 78] := by decide

/-! ### non-vacuity of the concrete statements

`%PDF-1.4␊1 0 obj␊<</Length 3/K[1 (a)]>>␊stream␊abc␊endstream␊endobj␊startxref␊9␊%%EOF␊`: the parser model reads
the stream object at offset 9 with its data at 47..50; behind `junk` (21 bytes) the same value at 68..71; the
concrete `locate_xref_offset` answers 9 for both. (Kernel evaluation of the models, independent of the theorems.) -/

def cEnv : PdfLex.Env Unit :=
  { parseReal := fun _ => some (), resolveLen := fun _ _ => .err, allowMissingEndobj := false, decrypt := none, fileOffset := 0 }

def cFile : Bytes :=
  [37, 80, 68, 70, 45, 49, 46, 52, 10, 49, 32, 48, 32, 111, 98, 106, 10, 60, 60, 47, 76, 101, 110, 103, 116, 104, 32, 51,
   47, 75, 91, 49, 32, 40, 97, 41, 93, 62, 62, 10, 115, 116, 114, 101, 97, 109, 10, 97, 98, 99, 10, 101, 110, 100, 115,
   116, 114, 101, 97, 109, 10, 101, 110, 100, 111, 98, 106, 10, 115, 116, 97, 114, 116, 120, 114, 101, 102, 10, 57, 10,
   37, 37, 69, 79, 70, 10]

def isStreamAt (lo hi : Nat) : Out (PdfLex.Prim Unit) → Bool
  | .ok (.stream [(_, .int 3), (_, .arr [.int 1, .str [97]])] (.inFile 1 0 a b)) => a == lo && b == hi
  | _ => false

example : isStreamAt 47 50 (readObjectAt cEnv 40 cFile 0 9 1023) = true := by decide +kernel
example : isStreamAt 68 71 (readObjectAt cEnv 40 (junk ++ cFile) 21 9 1023) = true := by decide +kernel
example : locateXrefC cFile = .ok 9 ∧ locateXrefC (junk ++ cFile) = .ok 9 := by decide +kernel
example : Fits junk cFile := by unfold Fits; decide

/-! ### non-vacuity of the concrete section reader and scan loop

`twoRev`: a two-revision file. Revision 1: objects 1 (a dictionary) and 2 (a stream, data at 62..65), a classic
table at 83. Revision 2: object 3 (a string), a cross-reference *stream* (object 4, `/W [1 2 1] /Index [3 2] /Prev 83`)
at 212. The concrete loader merges both sections through the `/Prev` chain, for the file and for the file behind
`junk` (21 bytes); the concrete scan lists objects 1, 2, the trailer of the classic section and object 3, the
stream's range at 62..65 resp. 83..86; the pre-repair scan loses object 3 behind the prefix. -/

def twoRev : Bytes :=
  [37, 80, 68, 70, 45, 49, 46, 52, 10, 49, 32, 48, 32, 111, 98, 106, 10, 60, 60, 47, 65, 32, 49, 62, 62, 10, 101, 110,
   100, 111, 98, 106, 10, 50, 32, 48, 32, 111, 98, 106, 10, 60, 60, 47, 76, 101, 110, 103, 116, 104, 32, 51, 62, 62, 10, 115,
   116, 114, 101, 97, 109, 10, 97, 98, 99, 10, 101, 110, 100, 115, 116, 114, 101, 97, 109, 10, 101, 110, 100, 111, 98, 106, 10, 120,
   114, 101, 102, 10, 48, 32, 51, 10, 48, 48, 48, 48, 48, 48, 48, 48, 48, 48, 32, 54, 53, 53, 51, 53, 32, 102, 32, 10,
   48, 48, 48, 48, 48, 48, 48, 48, 48, 57, 32, 48, 48, 48, 48, 48, 32, 110, 32, 10, 48, 48, 48, 48, 48, 48, 48, 48,
   51, 51, 32, 48, 48, 48, 48, 48, 32, 110, 32, 10, 116, 114, 97, 105, 108, 101, 114, 10, 60, 60, 47, 83, 105, 122, 101, 32,
   51, 62, 62, 10, 115, 116, 97, 114, 116, 120, 114, 101, 102, 10, 56, 51, 10, 37, 37, 69, 79, 70, 10, 51, 32, 48, 32, 111,
   98, 106, 10, 40, 110, 101, 119, 41, 10, 101, 110, 100, 111, 98, 106, 10, 52, 32, 48, 32, 111, 98, 106, 10, 60, 60, 47, 84,
   121, 112, 101, 47, 88, 82, 101, 102, 47, 83, 105, 122, 101, 32, 53, 47, 80, 114, 101, 118, 32, 56, 51, 47, 87, 91, 49, 32,
   50, 32, 49, 93, 47, 73, 110, 100, 101, 120, 91, 51, 32, 50, 93, 47, 76, 101, 110, 103, 116, 104, 32, 56, 62, 62, 10, 115,
   116, 114, 101, 97, 109, 10, 1, 0, 191, 0, 1, 0, 212, 0, 10, 101, 110, 100, 115, 116, 114, 101, 97, 109, 10, 101, 110, 100,
   111, 98, 106, 10, 115, 116, 97, 114, 116, 120, 114, 101, 102, 10, 50, 49, 50, 10, 37, 37, 69, 79, 70, 10]

def idDec : PdfLex.Dict Unit → List UInt8 → Out (List UInt8) := fun _ raw => .ok raw

def baseP : Parsers (PdfLex.Prim Unit) (PdfLex.Dict Unit) := concreteP cEnv 200 idDec (fun _ => .err) (fun _ => [])

def tableIs (t : Xref.Table) : Out (Xref.Table × PdfLex.Dict Unit) → Bool
  | .ok (t', _) => decide (t' = t)
  | _ => false

def twoRevTable : Xref.Table :=
  [.free 0 65535, .raw 9 0, .raw 33 0, .raw 191 0, .raw 212 0, .free 0 65535]

example : tableIs twoRevTable (XrefSec.loadTableC cEnv idDec false baseP 10 twoRev 0) = true := by decide +kernel
example : tableIs twoRevTable (XrefSec.loadTableC cEnv idDec false baseP 10 (junk ++ twoRev) 21) = true := by decide +kernel

def scanIs (lo hi : Nat) : Out (List (ScanLoop.Item Unit)) → Bool
  | .ok [.obj 1 0 (.dict _), .obj 2 0 (.stream _ (.inFile 2 0 a b)), .trailer _, .obj 3 0 (.str [110, 101, 119])] =>
    a == lo && b == hi
  | _ => false

example : scanIs 62 65 (ScanLoop.scanC cEnv twoRev 0) = true := by decide +kernel
example : scanIs 83 86 (ScanLoop.scanC cEnv (junk ++ twoRev) 21) = true := by decide +kernel
example : scanIs 83 86 (ScanLoop.scanOldC cEnv (junk ++ twoRev) 21) = false := by decide +kernel
example : findLast startxrefKw (twoRev.take (twoRev.length - 1)) = some 312 := by decide +kernel

end Offsets

/-! ## Tie to the source: constants and byte classes (appended by the translator package)

`Generated/Lexical.lean` is re-extracted from `pdf/src` by `./check` before this file is built. -/

namespace Offsets

/-- the header search window, the header marker, the object-number bound and the lexical classes of the offset-level lexer are the ones of the source -/
theorem constants_match_source :
    (Offsets.headerWindow = Generated.headerWindow) ∧
    (Offsets.headerMarker.map UInt8.toNat = Generated.headerMarker) ∧
    (Offsets.maxId = Generated.maxId) ∧
    ((List.range 256).filter (fun n => OffLex.isWs (UInt8.ofNat n)) = Generated.lexWhitespace) ∧
    ((List.range 256).filter (fun n => OffLex.isDelim (UInt8.ofNat n)) = Generated.lexDelimiters) := by
  refine ⟨?_, ?_, ?_, ?_, ?_⟩
  · first | decide +kernel | fail "constants_match_source (C17): the model's Offsets.headerWindow does not match the source (Generated.headerWindow, re-extracted from pdf/src)"
  · first | decide +kernel | fail "constants_match_source (C17): the model's Offsets.headerMarker does not match the source (Generated.headerMarker, re-extracted from pdf/src)"
  · first | decide +kernel | fail "constants_match_source (C17): the model's Offsets.maxId does not match the source (Generated.maxId, re-extracted from pdf/src)"
  · first | decide +kernel | fail "constants_match_source (C17): the model's OffLex.isWs does not match the source (Generated.lexWhitespace, re-extracted from pdf/src)"
  · first | decide +kernel | fail "constants_match_source (C17): the model's OffLex.isDelim does not match the source (Generated.lexDelimiters, re-extracted from pdf/src)"

end Offsets
