import PdfModel.Lemmas.EncEncode
import PdfModel.Lemmas.EncCheck
import PdfModel.Lemmas.LzwCheck
import PdfModel.Generated.Lexical

/-!
# C05 — stream filters decode what standard encoders produce; broken data never panics

Statement side: `Spec/Codecs.lean` (encoders as relations: every text a conforming encoder may emit).
Model side: `Model/Enc.lean` (mirror of `pdf/src/enc.rs` after the `fix:` commits of this package, tied to
the code by the C05 correspondence streams).

Third-party code is the parameter `X : Ext`; only **Flate** (libflate's inflate,
zlib and raw framing) is a hypothesis *inside* `EncodesStep`: "the compressed bytes `y` make the
zlib decoder return `pre`". The LZW decoder weezl runs is modelled (`Model/Lzw.lean`), its encoder side is
the relation `LzwSpec.EncodesToLzw` (`Spec/Lzw.lean`), `lzw_decode_of_encodes` is a theorem, and the tie to
the crate is a correspondence obligation (streams `c05.lzw.decode*`, `c16.lzw.encode`).
-/

namespace Enc
open Codecs

/-! ## ASCIIHex, ASCII85, RunLength: any conforming encoding decodes to the original bytes -/

/-- **ASCIIHex.** Any letter case, white-space anywhere, an omitted final `0`, anything after `>`. -/
theorem decodeHex_of_encodes {bs text : Bytes} (h : EncodesToHex bs text) : decodeHex text = .ok bs := by
  obtain ⟨body, marked, rest, hb, hs, rfl⟩ := h
  obtain ⟨t1, t2, rfl, h1, _⟩ := hs.split
  have hclean := hexBody_clean hb
  have hpre : ∀ c ∈ t1, (c != 62) = true := by
    intro c hc
    rcases h1.mem c hc with h | h
    · exact (hclean c h).2
    · exact ws_not_gt c h
  unfold decodeHex
  have e : t1 ++ 62 :: t2 ++ rest = t1 ++ 62 :: (t2 ++ rest) := by simp
  rw [e, takeWhile_append_stop hpre (by decide), hexWs_eq_isWs, h1.filter_eq (fun c hc => (hclean c hc).1)]
  exact decodeHexDigits_of_body hb

/-- **ASCII85.** Every group of four bytes (with or without the `z` shorthand), every partial final
    group of 1, 2 or 3 bytes, white-space anywhere, `~>`. The arithmetic core is
    `word85 (digits n) = n` for `n < 2^32` and "padding with `u` keeps the top k bytes". -/
theorem decode85_of_encodes {bs text : Bytes} (h : EncodesTo85 bs text) : decode85 text = .ok bs := by
  obtain ⟨body, hb, hs⟩ := h
  have hclean := a85Body_clean hb
  have hf := hs.filter_eq (fun c hc => by
    rcases List.mem_append.mp hc with h | h
    · exact (hclean c h).1
    · simp only [List.mem_cons, List.not_mem_nil, or_false] at h
      rcases h with rfl | rfl <;> decide)
  unfold decode85
  simp only [ws85_eq_isWs, hf]
  rw [show body ++ [126, 62] = body ++ 126 :: [62] from rfl, takeWhile_append_stop (fun c hc => (hclean c hc).2) (by decide),
    dropWhile_append_stop (fun c hc => (hclean c hc).2) (by decide), decode85Groups_of_body hb]
  rfl

/-- **RunLength.** Any segmentation into literal and repeat runs, EOD, anything after it. -/
theorem runLength_of_encodes {bs text : Bytes} (h : EncodesToRL bs text) : runLengthDecode text = .ok bs := by
  obtain ⟨body, rest, hb, rfl⟩ := h
  exact runLengthLoop_of_body hb rest _ (by simp; omega)

/-! ## PNG and TIFF predictors -/

/-- **Row level, all five PNG filter types, any pixel size.** `unfilter` inverts the PNG filter of the
    same type for every distance `bpp` between 1 and the row length, whatever the output buffer held. -/
theorem unfilter_filter_all (t : PredictorType) (bpp : Nat) (prev row out0 : Bytes)
    (hb1 : 1 ≤ bpp) (hbl : bpp ≤ row.length) (hp : prev.length = row.length) (ho : out0.length = row.length) :
    unfilter t bpp prev (pngFilterRow (tagOf t) bpp prev row) out0 = .ok row :=
  unfilter_filter t bpp prev row out0 hb1 hbl hp ho

/-- **Paeth.** `filterPaeth` is the Rust computation in `i16` (each `+`, `-`, `abs` followed by the
    two's-complement `wrap16`); `paethSpec` is the PNG specification's function over the unbounded integers
    (`p = a + b − c`, `pa = |p − a|`, `pb = |p − b|`, `pc = |p − c|`, ties a, then b, then c). The two agree
    on all 2^24 triples because no intermediate value leaves the `i16` range (`paeth_in_i16`), so this is a
    range argument, not a definitional unfolding. -/
theorem paeth_eq_spec (a b c : UInt8) : filterPaeth a b c = paethSpec a b c := filterPaeth_eq_spec a b c

/-- every intermediate value of `filter_paeth` lies in the `i16` range: with overflow checks on, none of its
    additions, subtractions or `abs` calls can panic (the values are in fact within [−510, 510]) -/
theorem paeth_in_i16 (a b c : UInt8) :
    let ia : Int := a.toNat; let ib : Int := b.toNat; let ic : Int := c.toNat
    let p := ia + ib - ic
    (∀ x ∈ [ia + ib, p, p - ia, p - ib, p - ic, ((p - ia).natAbs : Int), ((p - ib).natAbs : Int), ((p - ic).natAbs : Int)],
      -32768 ≤ x ∧ x < 32768) := by
  intro ia ib ic p
  exact paeth_range (toNat_range a) (toNat_range b) (toNat_range c)

/-- the result is one of the three neighbours and none of them is closer to `a + b − c` -/
theorem paeth_nearest (a b c : UInt8) :
    let p : Int := (a.toNat : Int) + b.toNat - c.toNat
    let r := filterPaeth a b c
    (r = a ∨ r = b ∨ r = c) ∧
    (p - r.toNat).natAbs ≤ (p - a.toNat).natAbs ∧ (p - r.toNat).natAbs ≤ (p - b.toNat).natAbs ∧
    (p - r.toNat).natAbs ≤ (p - c.toNat).natAbs := by
  intro p r
  have h := nearest3_min (fun x : UInt8 => (p - x.toNat).natAbs) a b c
  rwa [← paethSpec_eq_nearest3, ← paeth_eq_spec] at h

/-- ties of `filter_paeth` are broken in the order left, above, upper left — stated declaratively, independent of the
    `if` cascade of either definition: left wins when it is weakly nearest; above wins when it is strictly
    nearer than left and weakly nearer than upper left; upper left only when strictly nearer than both.
    Together with `paeth_nearest` this determines the function: the three cases are exhaustive and exclusive. -/
theorem paeth_tie_order (a b c : UInt8) :
    let p : Int := (a.toNat : Int) + b.toNat - c.toNat
    let da := (p - a.toNat).natAbs; let db := (p - b.toNat).natAbs; let dc := (p - c.toNat).natAbs
    (da ≤ db ∧ da ≤ dc → filterPaeth a b c = a) ∧
    (db < da ∧ db ≤ dc → filterPaeth a b c = b) ∧
    (dc < da ∧ dc < db → filterPaeth a b c = c) ∧
    ((da ≤ db ∧ da ≤ dc) ∨ (db < da ∧ db ≤ dc) ∨ (dc < da ∧ dc < db)) := by
  intro p da db dc
  have h := nearest3_ties (fun x : UInt8 => (p - x.toNat).natAbs) a b c
  rwa [← paethSpec_eq_nearest3, ← paeth_eq_spec] at h

/-- non-vacuity of the tie rule: (left 3, above 0, upper-left 2) is a tie between above and upper left,
    above wins; (1, 2, 3) has left nearest -/
example : filterPaeth 3 0 2 = 0 ∧ filterPaeth 1 2 3 = 1 ∧ filterPaeth 10 20 15 = 15 := by decide

/-- the byte distance and the row size computed from Colors / BitsPerComponent / Columns are usable:
    1 ≤ bpp ≤ stride -/
theorem geometry_sound {p : Params} {bpp S : Nat} (h : predictorGeometry p = .ok (bpp, S)) : 1 ≤ bpp ∧ bpp ≤ S :=
  (geometry_spec h).2

/-- **Whole image, PNG predictors 10–15**, any colours / bits per component / columns accepted by
    `predictor_geometry`, any per-row choice of filter types: the row loop (offsets, slices, reference
    row) restores the image and neither panics nor runs out of fuel. -/
theorem unpredict_predict_png (p : Params) (bpp S : Nat) (hp : p.predictor ≥ 10)
    (hg : predictorGeometry p = .ok (bpp, S)) (rs : Rows) (hrows : ∀ r ∈ rs, r.2.length = S) :
    unpredict (encRows bpp (List.replicate S 0) rs) p = .ok (flat rs) :=
  unpredict_png p bpp S hp hg rs hrows

/-- **One row, TIFF predictor 2**, samples of 1, 2, 4, 8 or 16 bits, padding bits preserved. -/
theorem tiffRow_inverts (colors bpc columns : Nat) (hc : 1 ≤ colors) (hb : ValidBpc bpc) (row : Bytes) :
    tiffRow colors bpc columns (tiffDiffRow colors bpc columns row) = row :=
  tiffRow_diffRow colors bpc columns hc hb row

/-- the byte indices `get(row, bpc, k)` / `set(row, bpc, k, _)` of `tiff_unpredict` read and write:
    `row[2*k]`, `row[2*k + 1]` (16 bit), `row[k]` (8 bit), `row[k*bpc / 8]` (1, 2, 4 bit) -/
def tiffIndices (bpc k : Nat) : List Nat :=
  if bpc = 16 then [2 * k, 2 * k + 1] else if bpc = 8 then [k] else [k * bpc / 8]

/-- index safety needs nothing of the sample width: it holds for every `bpc` (for `bpc = 0` there is no sample) -/
theorem tiff_indices_any (colors bpc columns : Nat) (row : Bytes) (k : Nat)
    (hk : k < min (colors * columns) (row.length * 8 / bpc)) :
    (∀ i ∈ tiffIndices bpc k, i < row.length) ∧ (∀ i ∈ tiffIndices bpc (k - colors), i < row.length) := by
  have hk' : k < row.length * 8 / bpc := Nat.lt_of_lt_of_le hk (Nat.min_le_right _ _)
  have hbits : k * bpc < 8 * row.length := Nat.mul_comm 8 _ ▸ Nat.lt_of_lt_of_le
    (Nat.mul_lt_mul_of_pos_right hk' (Nat.pos_of_ne_zero (by rintro rfl; simp at hk'))) (Nat.div_mul_le_self _ _)
  clear hk
  have key : ∀ j, j ≤ k → ∀ i ∈ tiffIndices bpc j, i < row.length := by
    intro j hj i hi
    unfold tiffIndices at hi
    split at hi
    · subst bpc; simp only [List.mem_cons, List.not_mem_nil, or_false] at hi; omega
    · split at hi
      · subst bpc; simp only [List.mem_cons, List.not_mem_nil, or_false] at hi; omega
      · -- any other width: sample `j` starts at bit `j * bpc ≤ k * bpc < 8 * row.length`
        rw [List.mem_singleton] at hi
        subst hi
        exact Nat.div_lt_of_lt_mul (Nat.lt_of_le_of_lt (Nat.mul_le_mul_right _ hj) hbits)
  exact ⟨key k (Nat.le_refl _), key (k - colors) (Nat.sub_le _ _)⟩

/-- **TIFF path, index safety.** The model writes `tiffGet` / `tiffSet` with the total `getD` / `List.set`
    (no `.panic` branch), so `decode_never_panics` says nothing about the Rust slice indexing there. This
    theorem supplies it: the row loop only touches samples `k` and `k − colors` with
    `colors ≤ k < min (colors·columns) (row.len()·8 / bpc)`, and for every such sample, every bit depth the
    geometry guard admits and every row length (also a last row cut short) all indices are inside the row;
    `tiffSet` keeps the row length (`Lens.len_set`), so this holds throughout the loop. -/
theorem tiff_indices_in_range (colors bpc columns : Nat) (hb : ValidBpc bpc) (row : Bytes) (k : Nat)
    (hk : k < min (colors * columns) (row.length * 8 / bpc)) :
    (∀ i ∈ tiffIndices bpc k, i < row.length) ∧ (∀ i ∈ tiffIndices bpc (k - colors), i < row.length) :=
  tiff_indices_any colors bpc columns row k hk

/-- **Whole image, TIFF predictor 2.** -/
theorem unpredict_predict_tiff (p : Params) (bpp S : Nat) (hp : p.predictor = 2)
    (hg : predictorGeometry p = .ok (bpp, S)) (rows : List Bytes) (hrows : ∀ r ∈ rows, r.length = S) :
    unpredict (rows.map (tiffDiffRow p.colors.toNat p.bpc.toNat p.columns.toNat)).flatten p = .ok rows.flatten :=
  unpredict_tiff p bpp S hp hg rows hrows

/-! ## LZW (ISO 32000-1 §7.4.4): the decoder weezl runs, against every conforming encoder -/

/-- **LZW.** For every byte string, both EarlyChange values, every choice of phrases from the encoder's
    table (not only the longest match), clear-table codes anywhere, anything after the EOD code: the decoder
    returns the original bytes. The proof is the classical simulation: the decoder's table is the encoder's
    table delayed by one entry (`Lzw.Sim`), the delayed entry being exactly what the cScSc / KwKwK code
    (`code = next_code`) refers to; weezl's stateful code-size switch equals the closed form of the
    specification (`Lzw.bump_eq`), the table stops growing at entry 4095. -/
theorem lzw_decode_of_encodes (early : Bool) {bs text : Bytes} (h : LzwSpec.EncodesToLzw early bs text) :
    Lzw.decode early text = .ok bs :=
  Lzw.decode_of_encodesToLzw early h

/-- **LZW, error clause.** Arbitrary bytes (invalid codes, missing EOD, truncated codes): an error or a
    value. The model of the code automaton has no `.panic` branch (weezl's automaton has no operation that
    could panic at this level; its buffer mechanics are not modelled), so the content of this theorem is
    `≠ .oof`: the fuel `8·len + 1` always suffices, and every malformed stream is `.err`. That weezl itself
    does not panic on damaged streams is checked by `c05.nopanic` / `c05.lzw.decode.broken`. -/
theorem lzw_decode_never_panics (early : Bool) (data : Bytes) : (Lzw.decode early data).Returns :=
  Lzw.decode_returns early data

/-- the executable membership test the driver runs on LZW streams (the harness's own encoder with random
    clear codes; weezl's encoder output in C16) is sound -/
theorem lzw_certificate_sound (early : Bool) (bs text : Bytes) (h : LzwSpec.checkLzw early bs text = true) :
    Lzw.decode early text = .ok bs :=
  Lzw.decode_of_encodesToLzw early (LzwSpec.checkLzw_sound h)

/-- non-vacuity: the example of ISO 32000-1 §7.4.4.2 is a conforming encoding (EarlyChange 1) -/
example : LzwSpec.checkLzw true [45, 45, 45, 45, 45, 65, 45, 45, 45, 66]
    [0x80, 0x0B, 0x60, 0x50, 0x22, 0x0C, 0x0C, 0x85, 0x01] = true := by decide +kernel
/-- the model decodes that example, with its KwKwK code 258 right after the first `45` -/
example : Lzw.decode true [0x80, 0x0B, 0x60, 0x50, 0x22, 0x0C, 0x0C, 0x85, 0x01]
    = .ok [45, 45, 45, 45, 45, 65, 45, 45, 45, 66] := by decide +kernel
/-- a non-greedy encoding with a clear code in the middle conforms too -/
example : LzwSpec.checkLzw false [7, 7, 7] (LzwSpec.packBits 64 (LzwSpec.bitsOfCodes
    [(9, 256), (9, 7), (9, 7), (9, 256), (9, 7), (9, 257)])) = true := by decide +kernel
/-- damaged LZW streams are errors: a code beyond the table, a missing EOD -/
example : Lzw.decode true [0x80, 0x0B, 0xFF, 0xFF] = .err := by decide +kernel
example : Lzw.decode true [0x80, 0x0B, 0x60] = .err := by decide +kernel

/-! ## One filter, then chains -/

/-- `pre` is what a conforming encoder hands to the compressor for the data `x` under parameters `p` -/
inductive Predicts (p : Params) : Bytes → Bytes → Prop where
  | none {x : Bytes} : p.predictor < 10 → p.predictor ≠ 2 → Predicts p x x
  | png {bpp S : Nat} {rs : Rows} : p.predictor ≥ 10 → predictorGeometry p = .ok (bpp, S) →
      (∀ r ∈ rs, r.2.length = S) → Predicts p (flat rs) (encRows bpp (List.replicate S 0) rs)
  | tiff {bpp S : Nat} {rows : List Bytes} : p.predictor = 2 → predictorGeometry p = .ok (bpp, S) →
      (∀ r ∈ rows, r.length = S) →
      Predicts p rows.flatten (rows.map (tiffDiffRow p.colors.toNat p.bpc.toNat p.columns.toNat)).flatten

theorem unpredict_of_predicts {p : Params} {x pre : Bytes} (h : Predicts p x pre) : unpredict pre p = .ok x := by
  cases h with
  | none h1 h2 => simp [unpredict, show ¬ p.predictor ≥ 10 by omega, h2]
  | png h1 hg hr => exact unpredict_png p _ _ h1 hg _ hr
  | tiff h1 hg hr => exact unpredict_tiff p _ _ h1 hg _ hr

/-- `y` is a conforming encoding of `x` for the filter `f`. For Flate the behaviour of the
    third-party decompressor on `y` is the explicit hypothesis (zlib framing: the zlib decoder returns
    the predicted bytes; raw deflate framing: the zlib decoder rejects `y` and the raw decoder returns
    them). LZW needs no such hypothesis: `y` only has to be a conforming LZW encoding of the predicted
    bytes for the EarlyChange value of the parameters. -/
inductive EncodesStep (X : Ext) : Filter → Bytes → Bytes → Prop where
  | hex {x y : Bytes} : EncodesToHex x y → EncodesStep X .asciiHex x y
  | a85 {x y : Bytes} : EncodesTo85 x y → EncodesStep X .ascii85 x y
  | rl {x y : Bytes} : EncodesToRL x y → EncodesStep X .runLength x y
  | flateZlib {p : Params} {x pre y : Bytes} : Predicts p x pre → X.inflateZlib y = some pre →
      EncodesStep X (.flate p) x y
  | flateRaw {p : Params} {x pre y : Bytes} : Predicts p x pre → X.inflateZlib y = none →
      X.inflateRaw y = some pre → EncodesStep X (.flate p) x y
  | lzw {p : Params} {x pre y : Bytes} : Predicts p x pre →
      LzwSpec.EncodesToLzw (decide (p.earlyChange ≠ 0)) pre y → EncodesStep X (.lzw p) x y

/-- **One filter**: every decode filter of the dispatch returns the original bytes. -/
theorem decode_of_encodes {X : Ext} {f : Filter} {x y : Bytes} (h : EncodesStep X f x y) : decode X y f = .ok x := by
  cases h with
  | hex h => exact decodeHex_of_encodes h
  | a85 h => exact decode85_of_encodes h
  | rl h => exact runLength_of_encodes h
  | flateZlib hp hz => simp [decode, flateDecode, hz, unpredict_of_predicts hp]
  | flateRaw hp hz hr => simp [decode, flateDecode, hz, hr, unpredict_of_predicts hp]
  | lzw hp hl =>
    simp only [decode, lzwDecode]
    rw [Lzw.decode_of_encodesToLzw _ hl]
    exact unpredict_of_predicts hp

/-- `y` is `x` encoded for the chain `fs` (the first filter of the list is the outermost encoding,
    i.e. the first one the reader undoes) -/
inductive EncodesChain (X : Ext) : List Filter → Bytes → Bytes → Prop where
  | nil {x : Bytes} : EncodesChain X [] x x
  | cons {f : Filter} {fs : List Filter} {x mid y : Bytes} :
      EncodesChain X fs x mid → EncodesStep X f mid y → EncodesChain X (f :: fs) x y

/-- **Chains of any length** (`Stream::data` / `Storage::decode` fold the filters in stream order). -/
theorem decodeChain_of_encodes {X : Ext} {fs : List Filter} {x y : Bytes} (h : EncodesChain X fs x y) :
    decodeChain X y fs = .ok x := by
  induction h with
  | nil => rfl
  | cons _ hs ih => simp [decodeChain, decode_of_encodes hs, ih]

/-- **`/Filter`–`/DecodeParms` pairing**: the i-th filter gets the i-th parameter dictionary; a missing
    or `null` entry means the defaults; surplus dictionaries are ignored. -/
theorem pairing_ok {α β : Type} (dflt : β) : ∀ (fs : List α) (ps : List (Option β)),
    (pairFilters dflt fs ps).length = fs.length ∧
    ∀ i (h : i < fs.length), (pairFilters dflt fs ps)[i]? = some (fs[i], (ps[i]?.join).getD dflt) := by
  intro fs
  induction fs with
  | nil => intro ps; exact ⟨rfl, nofun⟩
  | cons f fs ih =>
    intro ps
    -- both equations of `pairFilters` for a non-empty filter list, in one
    have step : pairFilters dflt (f :: fs) ps = (f, (ps[0]?.join).getD dflt) :: pairFilters dflt fs ps.tail := by
      cases ps <;> rfl
    obtain ⟨h1, h2⟩ := ih ps.tail
    rw [step]
    refine ⟨congrArg (· + 1) h1, fun i h => ?_⟩
    cases i with
    | zero => rfl
    | succ i =>
      rw [List.getElem?_cons_succ, h2 i (Nat.lt_of_succ_lt_succ h), List.getElem_cons_succ]
      cases ps <;> rfl

/-! ## Error clause: truncated or corrupted data gives an error or a value, never a panic -/

/-- **Error clause, one filter**: for every byte string, every parameter set and whatever the third-party
    decompressors return, the *model* of `decode` ends in a value or an error (`≠ .panic ∧ ≠ .oof`).
    What that means depends on which Rust panics the model makes explicit:
    * PNG predictor path — real content: `unfilter`'s two `assert_eq!`, every slice of the row loop
      (`inp[in_off]`, `&inp[in_off..in_off+stride]`, `out[out_off..]`, `split_at_mut`, `&prev[last..]`,
      `&mut curr[..stride]`) and `chunks_mut(0)` are `.panic` branches of `pngLoop` / `unfilter` /
      `tiffUnpredict`, and the theorem proves none is reached (`pngLoop_returns`: offset invariants);
      `predictor_geometry` turns bad parameters into `.err`.
    * TIFF predictor path — `tiffGet` / `tiffSet` are written with total `getD` / `List.set`: there is no
      panic branch, index safety is the separate theorem `tiff_indices_in_range` (and the correspondence
      stream `c05.unpredict.*`).
    * ASCIIHex, ASCII85, RunLength (after the D13 repair), LZW — the Rust code has no indexing / arithmetic
      that can panic and the models have no `.panic` branch: for them the content is `≠ .oof` (the fuel handed
      out by the entry points suffices: `runLengthLoop_returns`, `Lzw.loop_returns`) plus "every malformed
      input is `.err`"; the absence of panics in the real functions is what the oracle `c05.nopanic` and the
      out-of-domain correspondence streams check.
    * Flate / DCT — third-party parameters: whatever they return, the code around them does not panic. -/
theorem decode_never_panics (X : Ext) (data : Bytes) (f : Filter) : (decode X data f).Returns :=
  decode_returns X data f

/-- every chain (same reading as `decode_never_panics`; the fold itself has no panic) -/
theorem decodeChain_never_panics (X : Ext) (fs : List Filter) (data : Bytes) : (decodeChain X data fs).Returns :=
  decodeChain_returns X fs data

/-- with its three slices equally long `unfilter` returns a row of that length (one direction; the converse
    is `unfilter_panics_iff`) -/
theorem unfilter_total (t : PredictorType) (bpp : Nat) (prev inp out : Bytes)
    (h1 : inp.length = out.length) (h2 : inp.length = prev.length) :
    ∃ o, unfilter t bpp prev inp out = .ok o ∧ o.length = out.length :=
  unfilter_ok t bpp prev inp out h1 h2

/-- `unfilter` panics **exactly when** its three slices differ in length (the two `assert_eq!`s) -/
theorem unfilter_panics_iff (t : PredictorType) (bpp : Nat) (prev inp out : Bytes) :
    unfilter t bpp prev inp out = .panic ↔ ¬ (inp.length = out.length ∧ inp.length = prev.length) := by
  rcases unfilter_spec t bpp prev inp out with ⟨h1, h2, o, h, _⟩ | ⟨hn, h⟩ <;> rw [h]
  · exact ⟨nofun, fun hn => absurd ⟨h1, h2⟩ hn⟩
  · exact ⟨fun _ => hn, fun _ => rfl⟩

example : unfilter .up 1 [1] [1, 2] [0, 0] = .panic := by decide
example : unfilter .up 1 [1, 1] [1, 2] [0, 0] = .ok [2, 3] := by decide

/-! ## The domain certificates the driver hands to the harness are sound -/

/-- the executable membership tests of `Spec/CodecsCheck.lean` (run by the driver on every conforming
    encoding the harness generates) only accept texts that lie in the encoder relations, hence in the
    domain of the three theorems above -/
theorem certificates_sound (bs text : Bytes) :
    (checkHex bs text = true → decodeHex text = .ok bs) ∧
    (check85 bs text = true → decode85 text = .ok bs) ∧
    (checkRL bs text = true → runLengthDecode text = .ok bs) :=
  ⟨fun h => decodeHex_of_encodes (checkHex_sound h), fun h => decode85_of_encodes (check85_sound h),
   fun h => runLength_of_encodes (checkRL_sound h)⟩

example : checkHex [0x41, 0x40] [52, 49, 32, 52, 62] = true := by decide
example : check85 [0, 0, 0, 0, 1] [122, 32, 33, 60, 126, 62] = true := by decide
example : checkRL [7, 7, 7, 1, 2] [254, 7, 1, 1, 2, 128, 99] = true := by decide
example : checkHex [0x41] [52, 49] = false := by decide          -- no EOD marker

/-! ## The behaviour before the repairs did not satisfy the property (checked counter-examples) -/

/-- D12: `a..=h` / `A..=H` were accepted as digits -/
def decodeNibbleOld (c : UInt8) : Option UInt8 :=
  if 48 ≤ c ∧ c ≤ 57 then some (c - 48)
  else if 97 ≤ c ∧ c ≤ 104 then some (c - 97 + 10)
  else if 65 ≤ c ∧ c ≤ 72 then some (c - 65 + 10)
  else none

/-- D12: `.tuples()` dropped an odd final digit -/
def decodeHexDigitsOld : Bytes → Out Bytes
  | hi :: lo :: rest =>
    match decodeNibbleOld lo, decodeNibbleOld hi with
    | some l, some h =>
      match decodeHexDigitsOld rest with
      | .ok t => .ok ((h <<< 4 ||| l) :: t)
      | o => o
    | _, _ => .err
  | _ => .ok []

/-- `41 4>` is a conforming encoding of the bytes 41 40 -/
theorem d12_witness_conforms : EncodesToHex [0x41, 0x40] [52, 49, 32, 52, 62] := by
  refine ⟨[52, 49, 52], [52, 49, 32, 52, 62], [], ?_, ?_, rfl⟩
  · exact .byte (by unfold IsHexDigit; decide) (by unfold IsHexDigit; decide) (.oddLast (by unfold IsHexDigit; decide) (by decide))
  · exact .keep _ (.keep _ (.ws _ (by decide) (.keep _ (.keep _ .nil))))

/-- on `41 4>` the repaired decoder returns 41 40, the old digit loop lost the last byte, and read `gh` as a byte -/
example : decodeHex [52, 49, 32, 52, 62] = .ok [0x41, 0x40] := decodeHex_of_encodes d12_witness_conforms
example : decodeHexDigitsOld [52, 49, 52] = .ok [0x41] := by decide
example : decodeHexDigitsOld [103, 104] = .ok [0x11] := by decide
example : decodeHex [103, 104, 62] = .err := by decide

/-- D13: the run-length loop indexed past the end (`d[start..end]`, `d[c + 1]`) -/
def runLengthLoopOld : Nat → Bytes → Out Bytes
  | 0, _ => .oof
  | _ + 1, [] => .ok []
  | fuel + 1, len :: rest =>
    if len < 128 then
      let n := len.toNat + 1
      if rest.length < n then .panic
      else match runLengthLoopOld fuel (rest.drop n) with
        | .ok t => .ok (rest.take n ++ t)
        | o => o
    else if len ≥ 129 then
      match rest with
      | [] => .panic
      | b :: rest' => match runLengthLoopOld fuel rest' with
        | .ok t => .ok (List.replicate (257 - len.toNat) b ++ t)
        | o => o
    else .ok []

example : runLengthLoopOld 4 [5, 1, 2] = .panic := by decide
example : runLengthLoopOld 2 [200] = .panic := by decide
example : runLengthDecode [5, 1, 2] = .err := by decide
example : runLengthDecode [200] = .err := by decide

/-- ASCII85: form feed and NUL were not skipped (the old filter knew only SP, LF, CR, HT) -/
def ws85Old (b : UInt8) : Bool := b == 32 || b == 10 || b == 13 || b == 9
example : ws85Old 12 = false ∧ ws85 12 = true ∧ ws85Old 0 = false ∧ ws85 0 = true := by decide

/-- D14: the geometry ignored BitsPerComponent (`stride = columns * colors`, `bpp = colors`). For
    1 bit per component and 16 columns the real row is 2 bytes long, the old code took 16. -/
example : predictorGeometry { predictor := 12, colors := 1, bpc := 1, columns := 16 } = .ok (1, 2) := by decide
example : unpredict [2, 0xff, 0x0f, 2, 0x01, 0x01] { predictor := 12, colors := 1, bpc := 1, columns := 16 }
    = .ok [0xff, 0x0f, 0x00, 0x10] := by decide +kernel

/-! ## Non-vacuity: concrete inputs satisfy the hypotheses -/

/-- `BOu!rD]j7BEbo80~>` with white-space is a conforming ASCII85 encoding of `hello world!` -/
example : decode85 [66, 79, 117, 33, 114, 10, 68, 93, 106, 55, 66, 69, 98, 111, 56, 48, 12, 126, 62]
    = .ok [104, 101, 108, 108, 111, 32, 119, 111, 114, 108, 100, 33] := by decide +kernel

example : EncodesTo85 [0, 0, 0, 0, 1] [122, 32, 33, 60, 126, 62] := by
  refine ⟨[122, 33, 60], .z ?_, ?_⟩
  · have : A85Body [1] ((group85 (Codecs.be32 1 0 0 0)).take 2) := .tail1
    have e : (group85 (Codecs.be32 1 0 0 0)).take 2 = [33, 60] := by decide
    rw [e] at this; exact this
  · exact .keep _ (.ws _ (by decide) (.keep _ (.keep _ (.keep _ (.keep _ .nil)))))

example : EncodesToRL [7, 7, 7, 1, 2] [254, 7, 1, 1, 2, 128, 99] := by
  refine ⟨[254, 7, 1, 1, 2, 128], [99], ?_, rfl⟩
  have h1 : RLBody [1, 2] [1, 1, 2, 128] := RLBody.literal (lit := [1, 2]) (by decide) (by decide) .eod
  exact RLBody.repeat (n := 3) (b := 7) (by decide) (by decide) h1

/-- a 2 × 2 RGB-less image (2 colours, 8 bits, 2 columns) predicted with Sub and Paeth rows -/
def sampleRows : Rows := [(.sub, [1, 2, 3, 4]), (.paeth, [5, 6, 7, 250])]
def sampleParams : Params := { predictor := 15, colors := 2, bpc := 8, columns := 2 }

example : predictorGeometry sampleParams = .ok (2, 4) := by decide
example : ∀ r ∈ sampleRows, r.2.length = 4 := by decide
example : unpredict (encRows 2 (List.replicate 4 0) sampleRows) sampleParams = .ok [1, 2, 3, 4, 5, 6, 7, 250] :=
  unpredict_predict_png sampleParams 2 4 (by decide) (by decide) sampleRows (by decide)

/-- a three-filter chain: ASCIIHex over RunLength over Flate (zlib framing, PNG Up predictor) -/
example (X : Ext) (z : Bytes) (hz : X.inflateZlib z = some [2, 9, 8, 2, 1, 1])
    (rl : Bytes) (hrl : EncodesToRL z rl) (hx : Bytes) (hhx : EncodesToHex rl hx) :
    decodeChain X hx [.asciiHex, .runLength, .flate { predictor := 12, colors := 1, bpc := 8, columns := 2 }]
      = .ok [9, 8, 10, 9] := by
  apply decodeChain_of_encodes
  refine .cons (.cons (.cons .nil (.flateZlib ?_ hz)) (.rl hrl)) (.hex hhx)
  exact Predicts.png (p := { predictor := 12, colors := 1, bpc := 8, columns := 2 }) (bpp := 1) (S := 2)
    (rs := [(.up, [9, 8]), (.up, [10, 9])]) (by decide) (by decide) (by decide)

end Enc

/-! ## Tie to the source: constants and byte classes

`Generated/Lexical.lean` is re-extracted from `pdf/src` by `./check` before this file is built. -/

namespace Enc

/-- the white-space bytes skipped by the ASCIIHex and ASCII85 decoders are the ones of `decode_hex` / `decode_85` -/
theorem constants_match_source :
    ((List.range 256).filter (fun n => Enc.hexWs (UInt8.ofNat n)) = Generated.hexDecodeWhitespace) ∧
    ((List.range 256).filter (fun n => Enc.ws85 (UInt8.ofNat n)) = Generated.a85DecodeWhitespace) := by
  refine ⟨?_, ?_⟩
  · first | decide +kernel | fail "constants_match_source (C05): the model's Enc.hexWs does not match the source (Generated.hexDecodeWhitespace, re-extracted from pdf/src)"
  · first | decide +kernel | fail "constants_match_source (C05): the model's Enc.ws85 does not match the source (Generated.a85DecodeWhitespace, re-extracted from pdf/src)"

end Enc
