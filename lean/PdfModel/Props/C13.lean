import PdfModel.Lemmas.ConcurrentLive
import PdfModel.Lemmas.ConcurrentLazyLive
import PdfModel.Lemmas.ConcurrentLocks
import PdfModel.Props.C12

/-!
# C13 — concurrent readers get the answers sequential readers would

Model: `Model/Concurrent.lean`, a transition system whose atomic steps are exactly the critical sections
of `StorageResolver::get` (recursion guard push / pop) and of `SyncCache::get` (lookup-or-claim, store,
wake-up), for any number of threads, any number of calls per thread, any document (`Cache.Doc`: typed
loads are arbitrary programs that call back into the resolver) and every schedule (`Reachable` is the
reflexive-transitive closure of "some thread takes its next step"). Four cache configurations (`objCache`
on / off, `stmCache` on / off); the recursion guard of the code under test is one stack per thread
(`sharedGuard = false`), which is also the situation of threads that use a resolver each.

Proved, for every reachable state of every schedule:

* `guard_is_own_loads`, `no_spurious_recursive` — a thread's guard holds exactly the references of its own
  unfinished loads, so "Recursive reference" is reported only for a reference the same thread is itself in
  the middle of loading (any document); on a document with well-founded typed loads it is never reported.
* `no_pop_assert_failure` — the `assert_eq!(chain.pop(), Some(key))` of the drop guard never fails, no
  thread panics, no lock is poisoned (any document).
* `results_sequential` — on a document with well-founded typed loads every completed call of every thread
  returned `canon (ans …)`, which by C12 (`Cache.outputs_spec_partial`) is what the same calls return when
  the thread runs alone without caches (`results_sequential_run`).
* `deadlock_free_of_acyclic` — on such a document a state in which somebody is not finished always has an
  enabled thread: no deadlock (stretch goal; wait-for edges descend in rank).

Second layer (`Model/ConcurrentLazy.lean`, second part of this file): the once-initialised fields of shared typed
objects (`Lazy<T>::load` = `OnceCell::get_or_try_init`; cell = empty | loading(by) | full), whose initialisers call
back into the system above. `lazy_no_panic`, `lazy_answers_lone_caller`, `lazy_cell_value` / `lazy_cell_set_once` /
`lazy_one_initialiser` (at most one initialisation visible), `lazy_deadlock_free`, `generated_lazy`; counter-example
for the check / initialise outside / `set().expect()` variant: `lazy_racy_panics`.

Third layer (`Model/ConcurrentLocks.lean`, last part of this file): the callbacks into user code (`Log::log_get`,
`Log::load_object`; `Cfg.cb`) as steps of their own and the mutexes of `get` made explicit (lock / body + unlock).
`callback_holds_no_mutex`, `mutex_holder_can_move`, `mutex_wait_is_short`, `locks_refine`, `deadlock_only_in_user_code`;
counter-example for `log_get` under the chain mutex: `log_under_lock_deadlocks`.

Not true of the code, kept as `C13_full` with counter-examples: with *cyclic* typed loads two threads
that enter the cycle at different objects wait for each other's in-process marker for ever (D30, open;
`d30_deadlock`). The guard before the repair of D29 (one stack for all threads of a resolver) is kept as
`sharedGuard = true` with the counter-example traces `d29_pop_assertion_fails`, `d29_spurious_recursive`.

Assumptions of the progress theorems (`deadlock_free_of_acyclic`, `lazy_deadlock_free`, `deadlock_only_in_user_code`)
that are built into the model, not hypotheses one could discharge: no typed load panics. A load is a `Cache.Prog`, whose
only outcomes are a value, an error, or `oof`; a panic inside `T::from_primitive` / `Storage::decode` (compute closure,
initialiser) has no counterpart. In the code such a panic unwinds through `SyncCache::get` of `globalcache`, which leaves
the in-process marker of that key behind: every later `get` of the key waits for ever (totality of the loads is C01 /
C14's subject). Also outside: the initial object cache holds no in-process marker (`State.init [] …`, `LState.init [] …`).

Nesting bound, a hypothesis of every theorem for well-founded documents (`hN`, `hD`): all ranks are below `N` and
`N ≤ maxNestedGets = 64`, i.e. the typed loads of the document nest fewer than 64 deep, so the `MAX_NESTED_GETS` branch of
`get` is never taken. For a well-founded document that nests deeper the code answers an error where the unguarded
evaluation has a value; the theorems say nothing about it. Generated documents: `d.objs.length + 2 ≤ 64`.
`no_lock_poisoned` states the poison half of `no_pop_assert_failure`; its flag conjunct holds by construction of the
per-thread-guard branch, the content is `anyPanic = false`.

What lives in the runtime and is not exhibited by this model: memory ordering of the real locks, the inside of
`once_cell` (its waiter queue and wake-ups), the real condvar (spurious wake-ups are harmless: `poll` re-checks), OS scheduling and fairness (the theorems
are safety and deadlock-freedom statements; they say nothing about starvation).
-/

namespace Conc
open Cache
variable {V E : Type}

/-- **Guard = own loads.** In every reachable state (any document, any schedule, own guard stacks) the
    guard of every thread is the list of the references that thread is itself loading, innermost first. -/
theorem guard_is_own_loads {d : Doc V E} {cfg : Cfg} (hg : cfg.sharedGuard = false)
    (slots : List (Nat × Slot V E)) (stm : List (Nat × Res V E)) (css : List (List (Prog V E)))
    {s : State V E} (hr : Reachable d cfg (State.init slots stm css) s)
    (i : Nat) (t : Thread V E) (ht : s.threads[i]? = some t) :
    t.chain = ctlKeys t.ctl ++ keys t.stack :=
  (reachable_allChainOK hg (init_allChainOK slots stm css) hr i t ht).1

/-- **No spurious "Recursive reference".** When a thread arrives at the guard check of `get::<T>(r)` and
    finds `r` on its guard, then `r` is one of that thread's own unfinished loads (a genuine recursion,
    which the same calls run alone would hit too) — never a load of another thread. -/
theorem no_spurious_recursive {d : Doc V E} {cfg : Cfg} (hg : cfg.sharedGuard = false)
    (slots : List (Nat × Slot V E)) (stm : List (Nat × Res V E)) (css : List (List (Prog V E)))
    {s : State V E} (hr : Reachable d cfg (State.init slots stm css) s)
    (i : Nat) (t : Thread V E) (ht : s.threads[i]? = some t)
    (T r : Nat) (k : Res V E → Prog V E) (hc : t.ctl = .enter T r k) (hin : r ∈ t.chain) :
    ∃ f ∈ t.stack, f.r = r := by
  have h := guard_is_own_loads hg slots stm css hr i t ht
  rw [h, hc] at hin
  simpa [ctlKeys, keys] using hin

/-- **No panic, no failed pop assertion.** The statement is `anyPanic = false`: no thread is at `Ctl.panicked`, which
    is where the model sends a thread whose `assert_eq!(chain.pop(), Some(key))` fails. That no lock is poisoned is the
    separate corollary `no_lock_poisoned` below. -/
theorem no_pop_assert_failure {d : Doc V E} {cfg : Cfg} (hg : cfg.sharedGuard = false)
    (slots : List (Nat × Slot V E)) (stm : List (Nat × Res V E)) (css : List (List (Prog V E)))
    {s : State V E} (hr : Reachable d cfg (State.init slots stm css) s) :
    s.anyPanic = false :=
  (reachable_allChainOK hg (init_allChainOK slots stm css) hr).anyPanic

/-! ### the poisoned flag -/

theorem advP_poisoned (d : Doc V E) (cfg : Cfg) : ∀ (p : Prog V E) (sh : Shared V E), (advP d cfg sh p).2.poisoned = sh.poisoned :=
  fun p sh => (congrArg Shared.poisoned (advP_frame d cfg p sh) :)

theorem runTo_poisoned (d : Doc V E) (cfg : Cfg) (sh : Shared V E) (t : Thread V E) (p : Prog V E) :
    (runTo d cfg sh t p).1.poisoned = sh.poisoned := advP_poisoned d cfg p sh

theorem startLoad_poisoned (d : Doc V E) (cfg : Cfg) (sh : Shared V E) (t : Thread V E) (r : Nat) (p : Prog V E) :
    (startLoad d cfg sh t r p).1.poisoned = sh.poisoned := by
  unfold startLoad
  split
  · rfl
  · exact runTo_poisoned d cfg sh t p

theorem afterLookup_poisoned (d : Doc V E) (cfg : Cfg) (sh : Shared V E) (t : Thread V E) (T r : Nat) (k : Res V E → Prog V E)
    (T' : Nat) (res : Res V E) : (afterLookup d cfg sh t T r k T' res).1.poisoned = sh.poisoned := by
  unfold afterLookup
  split
  · split
    · rfl
    · exact startLoad_poisoned d cfg sh _ _ _
  · exact startLoad_poisoned d cfg sh _ _ _

/-- with one guard stack per thread no step writes the poisoned flag -/
theorem stepT_poisoned {d : Doc V E} {cfg : Cfg} (hg : cfg.sharedGuard = false) {i : Nat} {sh sh' : Shared V E}
    {t t' : Thread V E} (hs : stepT d cfg i sh t = some (sh', t')) : sh'.poisoned = sh.poisoned := by
  suffices ∀ x, Step d cfg i sh t x → x.1.poisoned = sh.poisoned from this _ (stepT_sound hs)
  have shared : ∀ {P : Prop}, cfg.sharedGuard = true → P := fun h => absurd (hg ▸ h) Bool.false_ne_true
  intro x hx
  cases hx with
  | finished => rfl
  | push => rfl
  | wait => rfl
  | logged => rfl
  | store => rfl
  | popFail => rfl
  | call p ps => exact runTo_poisoned d cfg sh _ p
  | refused T r k => exact runTo_poisoned d cfg sh t _
  | loaded r p => exact runTo_poisoned d cfg sh t p
  | pop T r k res cs => exact runTo_poisoned d cfg sh _ _
  | claim T r k => exact startLoad_poisoned d cfg _ _ r _
  | uncached T r k => exact startLoad_poisoned d cfg sh _ r _
  | hit T r k T' res => exact afterLookup_poisoned d cfg sh t T r k T' res
  | pushShared _ _ _ h => exact shared h
  | poisoned _ _ _ h => exact shared h
  | popShared _ _ _ _ _ h => exact shared h
  | popSharedFail _ _ _ _ _ h => exact shared h

/-- **No lock is poisoned** (the corollary the name of `no_pop_assert_failure` promised). In the system with one guard
    stack per thread (`sharedGuard = false`) the flag `Shared.poisoned` stays `false`, and nobody has panicked. Read with
    care: the first conjunct holds *by construction* of that branch of the model — only the old shared-guard branch ever
    writes the flag (`d29_pop_assertion_fails` shows it written there). What carries the content is the second conjunct,
    `anyPanic = false`, i.e. `no_pop_assert_failure`: a `std::sync::Mutex` is poisoned exactly when a thread panics while
    holding it, the only panic site inside a critical section of `get` is the pop assertion, and that assertion never
    fails. Panics raised by the typed loads themselves are outside the model (`Cache.Prog` has no panic outcome). -/
theorem no_lock_poisoned {d : Doc V E} {cfg : Cfg} (hg : cfg.sharedGuard = false)
    (slots : List (Nat × Slot V E)) (stm : List (Nat × Res V E)) (css : List (List (Prog V E)))
    {s : State V E} (hr : Reachable d cfg (State.init slots stm css) s) :
    s.sh.poisoned = false ∧ s.anyPanic = false := by
  refine ⟨?_, no_pop_assert_failure hg slots stm css hr⟩
  induction hr with
  | init => rfl
  | step i _ hs ih =>
    obtain ⟨_, _, _, _, hst, rfl⟩ := step_inv hs
    exact (stepT_poisoned hg hst).trans ih

section Acyclic
variable {d : Doc V E} {filt : Nat → List Nat} {rank : Nat → Nat} {N : Nat}

/-- **Sequential answers.** Document with well-founded typed loads, caches initially holding only
    sequential answers (e.g. empty, or filled by opening the file), any schedule: what a thread has
    answered so far are the sequential answers of a prefix of its calls; a finished thread has answered
    all its calls. -/
theorem results_sequential (wf : WF d filt rank) (hN : ∀ r, rank r < N) (hD : N ≤ maxNestedGets) {cfg : Cfg} (hg : cfg.sharedGuard = false)
    (slots : List (Nat × Slot V E)) (stm : List (Nat × Res V E)) (css : List (List (Prog V E)))
    (hsh : SInv d filt (ans d rank) ⟨slots, stm, [], false⟩)
    (hcalls : ∀ cs ∈ css, ∀ p ∈ cs, FineCall filt p)
    {s : State V E} (hr : Reachable d cfg (State.init slots stm css) s)
    (i : Nat) (t : Thread V E) (cs : List (Prog V E)) (ht : s.threads[i]? = some t) (hcs : css[i]? = some cs) :
    (∃ done rest, cs = done ++ rest ∧ t.out = done.map (canon (ans d rank) d)) ∧
      (t.ctl.isFinal = true → t.out = cs.map (canon (ans d rank) d)) := by
  obtain ⟨_, done, hout, hm⟩ := (reachable_init_GInv wf hN hD hg hsh hcalls hr).2.2 i t cs ht hcs
  constructor
  · cases hres : resid t.ctl with
    | none => rw [hres] at hm; exact ⟨done, t.todo, hm.2.1, hout⟩
    | some p => rw [hres] at hm; obtain ⟨cur, hc, _⟩ := hm; exact ⟨done, cur :: t.todo, hc, hout⟩
  · intro hfin
    rw [resid_of_isFinal hfin] at hm
    rw [hout, hm.2.1, hm.2.2 hfin, List.append_nil]

/-- the same, against the run of C12: a finished thread answered what its calls answer when they are run
    alone, in order, on a freshly opened document without any cache -/
theorem results_sequential_run (wf : WF d filt rank) (hN : ∀ r, rank r < N) (hD : N ≤ maxNestedGets) {cfg : Cfg} (hg : cfg.sharedGuard = false)
    (css : List (List (Prog V E))) (hcalls : ∀ cs ∈ css, ∀ p ∈ cs, FineCall filt p)
    {s : State V E} (hr : Reachable d cfg (State.init [] [] css) s)
    (i : Nat) (t : Thread V E) (cs : List (Prog V E)) (ht : s.threads[i]? = some t) (hcs : css[i]? = some cs)
    (hfin : t.ctl.isFinal = true) (fuel : Nat) (hf : N ≤ fuel) :
    t.out = Cache.outputs d Cache.Cfg.none fuel cs := by
  rw [(results_sequential wf hN hD hg [] [] css (SInv_empty ..) hcalls hr i t cs ht hcs).2 hfin]
  exact (outputs_spec_partial wf hN hD Cache.Cfg.none rfl fuel hf cs (hcalls cs (List.mem_of_getElem? hcs))).symm

/-- on a document with well-founded typed loads the guard never fires at all -/
theorem no_recursive_error_of_acyclic (wf : WF d filt rank) (hN : ∀ r, rank r < N) (hD : N ≤ maxNestedGets) {cfg : Cfg} (hg : cfg.sharedGuard = false)
    (slots : List (Nat × Slot V E)) (stm : List (Nat × Res V E)) (css : List (List (Prog V E)))
    (hsh : SInv d filt (ans d rank) ⟨slots, stm, [], false⟩)
    (hcalls : ∀ cs ∈ css, ∀ p ∈ cs, FineCall filt p)
    {s : State V E} (hr : Reachable d cfg (State.init slots stm css) s)
    (i : Nat) (t : Thread V E) (cs : List (Prog V E)) (ht : s.threads[i]? = some t) (hcs : css[i]? = some cs)
    (T r : Nat) (k : Res V E → Prog V E) (hc : t.ctl = .enter T r k) : r ∉ t.chain := by
  obtain ⟨⟨hch, _⟩, hT⟩ := (reachable_init_GInv wf hN hD hg hsh hcalls hr).2.2 i t cs ht hcs
  obtain ⟨_, cur, _, _, hp, hst⟩ := hT.running (p := .get T r k) (by rw [hc]; rfl)
  intro hmem
  rw [hch, hc] at hmem
  simp only [ctlKeys, List.nil_append, keys, List.mem_map] at hmem
  obtain ⟨f, hf, rfl⟩ := hmem
  exact Nat.lt_irrefl _ (rank_lt_of_mem hp hst hf)

/-- **No deadlock (stretch goal).** Document with well-founded typed loads, any number of threads and
    calls, object cache on or off, any schedule: whenever some thread is not finished, some thread can
    take a step. (A waiting thread waits for a slot whose owner is loading something of *smaller* rank, so
    a cycle of waiting threads is impossible; every thread that is not waiting is enabled.) -/
theorem deadlock_free_of_acyclic (wf : WF d filt rank) (hN : ∀ r, rank r < N) (hD : N ≤ maxNestedGets) {cfg : Cfg} (hg : cfg.sharedGuard = false)
    (stm : List (Nat × Res V E)) (css : List (List (Prog V E)))
    (hsh : SInv d filt (ans d rank) ⟨[], stm, [], false⟩)
    (hcalls : ∀ cs ∈ css, ∀ p ∈ cs, FineCall filt p)
    {s : State V E} (hr : Reachable d cfg (State.init [] stm css) s) :
    s.deadlocked d cfg = false := by
  have hG := reachable_init_GInv wf hN hD hg hsh hcalls hr
  obtain ⟨hown, hwait⟩ := reachable_ownWait (init_ownWait stm css) hr
  cases hdl : s.deadlocked d cfg with
  | false => rfl
  | true =>
    exfalso
    simp only [State.deadlocked, Bool.and_eq_true, Bool.not_eq_true', List.all_eq_true, List.mem_range] at hdl
    obtain ⟨hnd, hnone⟩ := hdl
    have blocked : ∀ j u, s.threads[j]? = some u → step d cfg s j = none := fun j u hu => by
      simpa [State.enabled] using hnone j (List.getElem?_eq_some_iff.mp hu).1
    obtain ⟨t, htm, hfin⟩ : ∃ t ∈ s.threads, t.ctl.isFinal = false := by simpa [State.allDone] using hnd
    obtain ⟨i, hi, rfl⟩ := List.getElem_of_mem htm
    have ht := List.getElem?_eq_getElem hi
    exact hG.not_stuck hown hwait (fun j u hu _ => blocked j u hu) ht hfin (blocked i _ ht)

end Acyclic

/-! ## The generated documents of the correspondence check lie in the domain of the theorems -/

/-- threads running the property's call kinds on a generated document that passes the decidable domain
    check `CacheDoc.okRanks` (evaluated by the model driver on every generated case): sequential
    answers and no deadlock, for every schedule -/
theorem generated_concurrent (d : CacheDoc.Desc) (h : CacheDoc.okRanks d = true)
    (hD : d.objs.length + 2 ≤ maxNestedGets) {cfg : Cfg} (hg : cfg.sharedGuard = false)
    (root : CacheDoc.R) (calls : List (List CacheDoc.CallK))
    {s : State CacheDoc.Val String}
    (hr : Reachable (CacheDoc.toDoc d) cfg (State.init [] [] (calls.map fun cs => cs.map (·.prog d root))) s) :
    s.deadlocked (CacheDoc.toDoc d) cfg = false ∧ s.anyPanic = false ∧
    ∀ (i : Nat) (t : Thread CacheDoc.Val String) (cs : List CacheDoc.CallK), s.threads[i]? = some t → calls[i]? = some cs →
      t.ctl.isFinal = true →
      t.out = Cache.outputs (CacheDoc.toDoc d) Cache.Cfg.none (d.objs.length + 2) (cs.map (·.prog d root)) := by
  have wf := CacheDoc.wf_of_okRanks h
  have hN := CacheDoc.rk_lt d
  have hcalls : ∀ ps ∈ (calls.map fun cs => cs.map (·.prog d root)), ∀ p ∈ ps, FineCall (CacheDoc.filtersOf d) p := by
    intro ps hps p hp
    simp only [List.mem_map] at hps
    obtain ⟨cs, _, rfl⟩ := hps
    simp only [List.mem_map] at hp
    obtain ⟨c, _, rfl⟩ := hp
    exact CacheDoc.callK_fine h root c
  have hsh := SInv_empty (CacheDoc.toDoc d) (CacheDoc.filtersOf d) (ans (CacheDoc.toDoc d) (CacheDoc.rk d)) [] false
  refine ⟨deadlock_free_of_acyclic wf hN hD hg [] _ hsh hcalls hr, no_pop_assert_failure hg [] [] _ hr, ?_⟩
  intro i t cs ht hcs hfin
  exact results_sequential_run wf hN hD hg _ hcalls hr i t _ ht (by simp [hcs]) hfin _ (Nat.le_refl _)

/-! ## Non-vacuity

The document `Cache.demo` of Props/C12 satisfies `WF` (`Cache.demo_wf`: nested loads, a type mismatch, an
error that is swallowed, an error path that resolves again); two threads load its objects through the
object cache and finish with the sequential answers, whichever of two very different schedules is used. -/

example : ∀ cs ∈ [[getCall (V := Nat) (E := Nat) 1 3, getCall 0 1], [getCall 0 2, getCall 1 3]], ∀ p ∈ cs, FineCall demoFilt p := by
  intro cs hcs p hp
  simp only [List.mem_cons, List.mem_nil_iff, or_false] at hcs
  rcases hcs with rfl | rfl <;>
    (simp only [List.mem_cons, List.mem_nil_iff, or_false] at hp
     rcases hp with rfl | rfl <;> exact getCall_fine _ _ _)

example :
    (fun s : State Nat Nat => (s.allDone, s.threads.map (·.out)))
      (runFirst demo ⟨true, true, false, false⟩ 200 (State.init [] [] [[getCall 1 3, getCall 0 1], [getCall 0 2, getCall 1 3]]))
      = (true, [[.ok 201, .err 7], [.ok 0, .ok 201]]) := by decide +kernel

example : outputs demo Cache.Cfg.none 4 [getCall 1 3, getCall 0 1] = [.ok 201, .err 7] ∧
    outputs demo Cache.Cfg.none 4 [getCall 0 2, getCall 1 3] = [.ok 0, .ok 201] := by decide

/-- an interleaved schedule (thread 1 claims object 2 while thread 0 is inside object 3, thread 0 then waits for it) -/
example :
    ((runSched demo ⟨true, true, false, false⟩ (State.init [] [] [[getCall 1 3], [getCall 1 2]])
        [0, 0, 0, 1, 1, 1, 0, 0]).map fun s => s.threads.map fun t => match t.ctl with
          | .waiting _ r _ => r + 100
          | .enter _ r _ => r
          | .pushed _ r _ => r + 10
          | _ => 0) = some [102, 1] := by decide +kernel

/-! ## Counter-example traces -/

/-- leaf objects 6 and 7 (no nested loads), and two objects 8, 9 that load each other -/
def wBody (T r : Nat) : Prog Nat Nat :=
  match r with
  | 8 => .get T 9 fun x => match x with
      | .ok v => .ret (.ok (v + 10))
      | .err _ => .ret (.ok 1)
      | .oof => .ret .oof
  | 9 => .get T 8 fun x => match x with
      | .ok v => .ret (.ok (v + 10))
      | .err _ => .ret (.ok 1)
      | .oof => .ret .oof
  | _ => .ret (.ok (100 + r))

/-- fields: body, relog, decode, recErr (the error of "Recursive reference" is `5`) -/
def wDoc : Doc Nat Nat := ⟨wBody, fun _ => .ret (.ok 0), fun _ _ => .ok 0, 5⟩

/-- `Cfg` fields in order: objCache, stmCache, sharedGuard, cb -/
def oldGuard : Cfg := ⟨false, false, true, false⟩
def newGuard : Cfg := ⟨false, false, false, false⟩
def cached : Cfg := ⟨true, false, false, false⟩

def twoLoads (a b : Nat) : State Nat Nat := State.init [] [] [[getCall 0 a], [getCall 0 b]]

/-- D29 (repaired), first symptom: thread 0 pushes 6, thread 1 pushes 7 on the *shared* stack, thread 0
    finishes first and pops 7: `assert_eq!` fails, the mutex is poisoned. -/
theorem d29_pop_assertion_fails :
    (runSched wDoc oldGuard (twoLoads 6 7) [0, 0, 1, 1, 0, 0]).map State.anyPanic = some true := by decide +kernel

/-- D29, second symptom: both threads load object 6; the second finds it on the shared stack and gets
    "Recursive reference" although it is not loading 6 itself. -/
theorem d29_spurious_recursive :
    ((runSched wDoc oldGuard (twoLoads 6 6) [0, 0, 1, 1]).bind fun s => s.threads[1]?.map (·.out))
      = some [.err 5] := by decide +kernel

/-- with one stack per thread the same schedules are harmless -/
example : (runSched wDoc newGuard (twoLoads 6 7) [0, 0, 1, 1, 0, 0, 1, 1, 0, 1]).map
    (fun s => (s.anyPanic, s.threads.map (·.out))) = some (false, [[.ok 106], [.ok 107]]) := by decide +kernel
example : ((runSched wDoc newGuard (twoLoads 6 6) [0, 0, 1, 1, 1, 1, 0, 0, 0, 1]).map fun s => s.threads.map (·.out))
    = some [[.ok 106], [.ok 106]] := by decide +kernel

/-- D30 (open): thread 0 loads 8, thread 1 loads 9; each claims its slot, then waits for the other's -/
theorem d30_deadlock :
    (runSched wDoc cached (twoLoads 8 9) [0, 0, 1, 1, 0, 1, 0, 1, 0, 1]).map (State.deadlocked wDoc cached) = some true := by
  decide +kernel

/-- The property for every finite document, cyclic typed loads included: no reachable state is a deadlock. -/
def C13_full : Prop :=
  ∀ (d : Doc Nat Nat) (cfg : Cfg), cfg.sharedGuard = false → ∀ (css : List (List (Prog Nat Nat))) (s : State Nat Nat),
    Reachable d cfg (State.init [] [] css) s → s.deadlocked d cfg = false

theorem reachable_of_runSched {d : Doc V E} {cfg : Cfg} : ∀ (sched : List Nat) (s0 s s' : State V E),
    Reachable d cfg s0 s → runSched d cfg s sched = some s' → Reachable d cfg s0 s' := by
  intro sched
  induction sched with
  | nil => intro s0 s s' hr h; cases h; exact hr
  | cons i is ih =>
    intro s0 s s' hr h
    simp only [runSched] at h
    split at h
    · cases h
    · next s1 hs => exact ih s0 s1 s' (.step i hr hs) h

/-- **D30 (open).** -/
theorem C13_counterexample : ¬ C13_full := by
  intro h
  obtain ⟨s, hrun, hd⟩ := Option.map_eq_some_iff.mp d30_deadlock
  have := h wDoc cached rfl _ s (reachable_of_runSched _ _ _ _ .init hrun)
  rw [hd] at this
  cases this

end Conc

/-! ## Once-initialised fields of shared typed objects (`Lazy<T>`, `Model/ConcurrentLazy.lean`)

Any number of threads, each with any list of items — ordinary calls, `load`s of shared cells, reads of shared
cells —, every schedule. `racy = false` is `OnceCell::get_or_try_init`; the initialisers are arbitrary programs
that call back into the resolver, so their nested `get`s take the steps of the system above. -/

namespace Conc
open Cache
variable {V E : Type}

section Lazy
variable {d : Doc V E} {filt : Nat → List Nat} {rank : Nat → Nat} {N : Nat} {init : Nat → Prog V E}

/-- the hypotheses shared by the theorems of this section, packed: a reachable state satisfies the invariant -/
theorem lazy_invariant (wf : WF d filt rank) (hN : ∀ r, rank r < N) (hD : N ≤ maxNestedGets) {lc : LCfg}
    (hg : lc.cfg.sharedGuard = false) (hr : lc.racy = false) (hinit : ∀ c, FineCall filt (init c))
    (slots : List (Nat × Slot V E)) (stm : List (Nat × Res V E)) (items : List (List (Item V E)))
    (hsh : SInv d filt (ans d rank) ⟨slots, stm, [], false⟩)
    (hcalls : ∀ its ∈ items, ∀ p, Item.call p ∈ its → FineCall filt p)
    {s : LState V E} (hreach : LReachable d init lc (LState.init slots stm items) s) :
    LInv d filt rank N init items s :=
  reachable_LInv wf hD hg hr (fun c => (hinit c).mono fun r _ => hN r)
    (init_LInv slots stm items hsh fun its hi p hp => (hcalls its hi p hp).mono fun r _ => hN r) hreach

/-- **No panic.** The store step of `get_or_try_init` always finds the cell claimed by the storing thread
    itself (the model's store step panics otherwise), and the nested `get`s never fail their pop assertion. -/
theorem lazy_no_panic (wf : WF d filt rank) (hN : ∀ r, rank r < N) (hD : N ≤ maxNestedGets) {lc : LCfg}
    (hg : lc.cfg.sharedGuard = false) (hr : lc.racy = false) (hinit : ∀ c, FineCall filt (init c))
    (slots : List (Nat × Slot V E)) (stm : List (Nat × Res V E)) (items : List (List (Item V E)))
    (hsh : SInv d filt (ans d rank) ⟨slots, stm, [], false⟩)
    (hcalls : ∀ its ∈ items, ∀ p, Item.call p ∈ its → FineCall filt p)
    {s : LState V E} (hreach : LReachable d init lc (LState.init slots stm items) s) :
    s.anyPanic = false := by
  have h := lazy_invariant wf hN hD hg hr hinit slots stm items hsh hcalls hreach
  obtain ⟨css, hG, _, _⟩ := h.inner
  simp only [LState.anyPanic, Bool.or_eq_false_iff, hG.allChainOK.anyPanic, true_and, List.any_eq_false]
  intro lt hlt
  obtain ⟨i, hi, rfl⟩ := List.getElem_of_mem hlt
  obtain ⟨_, _, ht⟩ := h.thr i _ (List.getElem?_eq_getElem hi)
  have := ht.nopanic
  generalize s.lthreads[i].lctl = c at this ⊢
  cases c <;> first | exact Bool.false_ne_true | exact absurd rfl this

/-- **Every caller gets the value a lone caller would get.** What a thread has answered so far answers a
    prefix of its items: an ordinary call and a `load` of cell `c` answered `canon (ans …)` of the call / of
    the initialiser of `c` (by C12, `lone_caller_value`, the answer on a freshly opened uncached document
    used by nobody else), a read of a cell saw nothing or that value; a finished thread answered all items. -/
theorem lazy_answers_lone_caller (wf : WF d filt rank) (hN : ∀ r, rank r < N) (hD : N ≤ maxNestedGets) {lc : LCfg}
    (hg : lc.cfg.sharedGuard = false) (hr : lc.racy = false) (hinit : ∀ c, FineCall filt (init c))
    (slots : List (Nat × Slot V E)) (stm : List (Nat × Res V E)) (items : List (List (Item V E)))
    (hsh : SInv d filt (ans d rank) ⟨slots, stm, [], false⟩)
    (hcalls : ∀ its ∈ items, ∀ p, Item.call p ∈ its → FineCall filt p)
    {s : LState V E} (hreach : LReachable d init lc (LState.init slots stm items) s)
    (i : Nat) (lt : LThread V E) (its : List (Item V E)) (hlt : s.lthreads[i]? = some lt) (hits : items[i]? = some its) :
    (∃ rest, its = lt.past ++ rest) ∧ Answers (Expected (ans d rank) d init) lt.past lt.out ∧
      (lt.lctl = .finished → lt.past = its) := by
  have h := lazy_invariant wf hN hD hg hr hinit slots stm items hsh hcalls hreach
  obtain ⟨its0, h0, ht⟩ := h.thr i lt hlt
  rw [hits] at h0
  simp only [Option.some.injEq] at h0
  subst h0
  refine ⟨⟨curItems lt.lctl ++ lt.items, by rw [← ht.orig]; simp⟩, ht.answers, ?_⟩
  intro hf
  have := ht.orig
  rw [ht.fin hf, hf] at this
  simpa [curItems] using this

/-- the value of the two theorems above, in terms of C12's run: what the program returns when it is the only
    call on a freshly opened document without caches -/
theorem lone_caller_value (wf : WF d filt rank) (hN : ∀ r, rank r < N) (hD : N ≤ maxNestedGets) (p : Prog V E)
    (hp : FineCall filt p) (fuel : Nat) (hf : N ≤ fuel) :
    Cache.outputs d Cache.Cfg.none fuel [p] = [canon (ans d rank) d p] := by
  rw [outputs_spec_partial wf hN hD Cache.Cfg.none rfl fuel hf [p] (by intro q hq; simp at hq; subst hq; exact hp)]
  rfl

/-- **At most one initialisation visible**, part 1: whatever a cell holds is the lone caller's value … -/
theorem lazy_cell_value (wf : WF d filt rank) (hN : ∀ r, rank r < N) (hD : N ≤ maxNestedGets) {lc : LCfg}
    (hg : lc.cfg.sharedGuard = false) (hr : lc.racy = false) (hinit : ∀ c, FineCall filt (init c))
    (slots : List (Nat × Slot V E)) (stm : List (Nat × Res V E)) (items : List (List (Item V E)))
    (hsh : SInv d filt (ans d rank) ⟨slots, stm, [], false⟩)
    (hcalls : ∀ its ∈ items, ∀ p, Item.call p ∈ its → FineCall filt p)
    {s : LState V E} (hreach : LReachable d init lc (LState.init slots stm items) s)
    (c : Nat) (v : V) (hc : cellOf s.cells c = .full v) : Res.ok v = canon (ans d rank) d (init c) :=
  (lazy_invariant wf hN hD hg hr hinit slots stm items hsh hcalls hreach).cells c v hc

/-- … part 2: a cell that holds a value keeps that very value for ever (any document, no hypotheses) … -/
theorem lazy_cell_set_once {lc : LCfg} (hr : lc.racy = false) {s0 s s' : LState V E}
    (_ : LReachable d init lc s0 s) {i : Nat} (hs : lstep d init lc s i = some s') (c : Nat) (v : V)
    (hc : cellOf s.cells c = .full v) : cellOf s'.cells c = .full v :=
  lstep_full_stable hr hs c v hc

/-- … part 3: a cell under initialisation is claimed by exactly one thread: two different threads are never
    both between the claim and the store of the same cell. -/
theorem lazy_one_initialiser (wf : WF d filt rank) (hN : ∀ r, rank r < N) (hD : N ≤ maxNestedGets) {lc : LCfg}
    (hg : lc.cfg.sharedGuard = false) (hr : lc.racy = false) (hinit : ∀ c, FineCall filt (init c))
    (slots : List (Nat × Slot V E)) (stm : List (Nat × Res V E)) (items : List (List (Item V E)))
    (hsh : SInv d filt (ans d rank) ⟨slots, stm, [], false⟩)
    (hcalls : ∀ its ∈ items, ∀ p, Item.call p ∈ its → FineCall filt p)
    {s : LState V E} (hreach : LReachable d init lc (LState.init slots stm items) s)
    (i j : Nat) (lti ltj : LThread V E) (hi : s.lthreads[i]? = some lti) (hj : s.lthreads[j]? = some ltj)
    (c : Nat) (hci : Claims lti.lctl c) (hcj : Claims ltj.lctl c) : i = j := by
  have h := lazy_invariant wf hN hD hg hr hinit slots stm items hsh hcalls hreach
  have h1 := h.own i lti hi c hci
  have h2 := h.own j ltj hj c hcj
  rw [h1] at h2
  cases h2
  rfl

/-- **No deadlock.** A state in which some thread is not finished has an enabled thread: a thread kept out of a
    cell waits for the thread that initialises it, which is running; a running thread only ever waits for an
    in-process cache slot whose owner is running and waits for a reference of smaller rank. (Object cache
    initially without in-process markers.) -/
theorem lazy_deadlock_free (wf : WF d filt rank) (hN : ∀ r, rank r < N) (hD : N ≤ maxNestedGets) {lc : LCfg}
    (hg : lc.cfg.sharedGuard = false) (hr : lc.racy = false) (hinit : ∀ c, FineCall filt (init c))
    (stm : List (Nat × Res V E)) (items : List (List (Item V E)))
    (hsh : SInv d filt (ans d rank) ⟨[], stm, [], false⟩)
    (hcalls : ∀ its ∈ items, ∀ p, Item.call p ∈ its → FineCall filt p)
    {s : LState V E} (hreach : LReachable d init lc (LState.init [] stm items) s) :
    s.deadlocked d init lc = false := by
  have h := reachable_LInv_LLive wf hD hg hr (fun c => (hinit c).mono fun r _ => hN r)
    (init_LInv [] stm items hsh fun its hi p hp => (hcalls its hi p hp).mono fun r _ => hN r) (init_LLive stm items) hreach
  exact h.1.not_deadlocked hr h.2

end Lazy

/-! ### The generated documents of the lazy streams lie in the domain of these theorems -/

/-- threads running calls, loads and reads of shared `Lazy` cells (annotation arrays given directly, by
    reference, or absent) on a generated document that passes `CacheDoc.okRanks`: no panic, no deadlock, every
    completed item answered as for a lone caller, for every schedule -/
theorem generated_lazy (d : CacheDoc.Desc) (h : CacheDoc.okRanks d = true)
    (hD : d.objs.length + 2 ≤ maxNestedGets) {lc : LCfg} (hg : lc.cfg.sharedGuard = false) (hr : lc.racy = false)
    (forms : Nat → CacheDoc.CellForm) (items : List (List (Item CacheDoc.Val String)))
    (hcalls : ∀ its ∈ items, ∀ p, Item.call p ∈ its → FineCall (CacheDoc.filtersOf d) p)
    {s : LState CacheDoc.Val String}
    (hreach : LReachable (CacheDoc.toDoc d) (fun c => CacheDoc.lazyInit (forms c)) lc (LState.init [] [] items) s) :
    s.anyPanic = false ∧ s.deadlocked (CacheDoc.toDoc d) (fun c => CacheDoc.lazyInit (forms c)) lc = false ∧
    ∀ (i : Nat) (lt : LThread CacheDoc.Val String) (its : List (Item CacheDoc.Val String)), s.lthreads[i]? = some lt →
      items[i]? = some its →
      Answers (Expected (ans (CacheDoc.toDoc d) (CacheDoc.rk d)) (CacheDoc.toDoc d) fun c => CacheDoc.lazyInit (forms c)) lt.past lt.out ∧
        (lt.lctl = .finished → lt.past = its) := by
  have wf := CacheDoc.wf_of_okRanks h
  have hN := CacheDoc.rk_lt d
  have hsh := SInv_empty (CacheDoc.toDoc d) (CacheDoc.filtersOf d) (ans (CacheDoc.toDoc d) (CacheDoc.rk d)) [] false
  have hinit : ∀ c, FineCall (CacheDoc.filtersOf d) (CacheDoc.lazyInit (forms c)) := fun c => CacheDoc.lazyInit_fine d _
  refine ⟨lazy_no_panic wf hN hD hg hr hinit [] [] items hsh hcalls hreach,
    lazy_deadlock_free wf hN hD hg hr hinit [] items hsh hcalls hreach, ?_⟩
  intro i lt its hlt hits
  exact (lazy_answers_lone_caller wf hN hD hg hr hinit [] [] items hsh hcalls hreach i lt its hlt hits).2

/-! ### Counter-example: check / initialise outside / `set(..).expect(..)`

`racy = true` is `Lazy::load` written as `if let Some(v) = cache.get() { return v }; let v = init()?;
cache.set(v).expect(..)`. Two threads load cell 0 of one shared object (initialiser: `get::<_>(6)`, a leaf of
`wDoc`); both find it empty, both initialise, the second `set` panics. Under `get_or_try_init` the second thread
is not enabled at that point of the same schedule, and every complete schedule ends without panic, both threads
holding the one value. -/

def wInit (_ : Nat) : Prog Nat Nat := getCall 0 6

def twoLazy : LState Nat Nat := LState.init [] [] [[.lazy 0], [.lazy 0]]

theorem lazy_racy_panics :
    (lrunSched wDoc wInit ⟨newGuard, true⟩ twoLazy [0, 0, 0, 0, 0, 1, 1, 1, 1, 1, 0, 1]).map LState.anyPanic = some true := by
  decide +kernel

/-- the same schedule under `get_or_try_init`: thread 1 is blocked at its second step (cell claimed by thread 0) -/
example : (lrunSched wDoc wInit ⟨newGuard, false⟩ twoLazy [0, 0, 0, 0, 0, 1, 1]).isNone = true := by decide +kernel

example : (lrunSched wDoc wInit ⟨newGuard, false⟩ twoLazy [0, 0, 0, 0, 0, 1]).map
    (fun s => (s.enabled wDoc wInit ⟨newGuard, false⟩ 1, s.enabled wDoc wInit ⟨newGuard, false⟩ 0)) = some (false, true) := by
  decide +kernel

/-- … and goes on after the store: both get the one value, nobody panics -/
example : (lrunSched wDoc wInit ⟨newGuard, false⟩ twoLazy [0, 0, 0, 0, 0, 1, 0, 1, 1, 0]).map
    (fun s => (s.anyPanic, s.allDone, s.lthreads.map fun lt => lt.out.map fun o => match o with | .res (.ok v) => v | _ => 0))
      = some (false, true, [[106], [106]]) := by
  decide +kernel

/-- load + read: the reader sees nothing, then the value -/
example : (lrunSched wDoc wInit ⟨cached, false⟩ (LState.init [] [] [[.lazy 0], [.peek 0, .peek 0]]) [0, 0, 1, 0, 0, 0, 0, 0, 0, 1, 1]).map
    (fun s => s.lthreads.map fun lt => lt.out.map fun o => match o with | .res (.ok v) => v | _ => 0)
      = some [[106], [0, 106]] := by
  decide +kernel

/-- the statement of "no panic" without the hypothesis `racy = false` is false -/
theorem lazy_no_panic_needs_once_cell : ¬ ∀ (lc : LCfg), lc.cfg.sharedGuard = false → ∀ s, LReachable wDoc wInit lc twoLazy s → s.anyPanic = false := by
  intro h
  obtain ⟨s, hs, hp⟩ := Option.map_eq_some_iff.mp lazy_racy_panics
  have hreach : ∀ (sched : List Nat) (s1 s2 : LState Nat Nat), LReachable wDoc wInit ⟨newGuard, true⟩ twoLazy s1 →
      lrunSched wDoc wInit ⟨newGuard, true⟩ s1 sched = some s2 → LReachable wDoc wInit ⟨newGuard, true⟩ twoLazy s2 := by
    intro sched
    induction sched with
    | nil => intro s1 s2 hr h; cases h; exact hr
    | cons i is ih =>
      intro s1 s2 hr h
      simp only [lrunSched] at h
      split at h
      · cases h
      · next s3 hst => exact ih s3 s2 (.step i hr hst) h
  have := h ⟨newGuard, true⟩ rfl s (hreach _ _ _ .init hs)
  rw [hp] at this
  cases this

end Conc

/-! ## Callbacks into user code and the mutexes of `get` (`Model/ConcurrentLocks.lean`)

`Cfg.cb = true` makes the callbacks into the user's `Log` steps of their own in the system above (`Ctl.logging`:
inside `log_get`; `Ctl.loading`: inside the first `load_object` of a compute / reload run): every theorem above is
about every schedule, so also about schedules that leave a thread inside a callback for as long as they like.
The explicit-lock system splits each critical section into `lock` and `body; unlock`, and lets the user's code
return when it pleases (`gate`). Proved for the code under test (`logUnderLock = false`), any document, any gate: -/

namespace Conc
open Cache
variable {V E : Type}

section Locks
variable {d : Doc V E}

/-- **At every callback into user code the calling thread holds none of the resolver's mutexes** — and, more
    generally, a thread holds a mutex only at a control point whose step takes exactly that mutex. -/
theorem callback_holds_no_mutex {wc : WCfg} (hw : wc.logUnderLock = false) {gate : Nat → State V E → Bool} (s0 : State V E)
    {s : WState V E} (hr : WReachable d wc gate (WState.init s0) s)
    (i : Nat) (t : Thread V E) (ht : s.inner.threads[i]? = some t) (hcb : isCallback t.ctl = true) :
    s.held[i]? = some none := by
  have h := reachable_WInv hw (init_WInv d wc s0) hr
  have hi : i < s.held.length := by rw [h.len]; exact (List.getElem?_eq_some_iff.mp ht).1
  cases hh : s.held[i] with
  | none => rw [List.getElem?_eq_getElem hi, hh]
  | some L =>
    have := (h.holds i t L ht (by rw [List.getElem?_eq_getElem hi, hh])).1
    rw [lockOf_not_callback this] at hcb
    cases hcb

theorem mutex_holder_at_its_section {wc : WCfg} (hw : wc.logUnderLock = false) {gate : Nat → State V E → Bool} (s0 : State V E)
    {s : WState V E} (hr : WReachable d wc gate (WState.init s0) s)
    (i : Nat) (t : Thread V E) (L : Lock) (ht : s.inner.threads[i]? = some t) (hh : s.held[i]? = some (some L)) :
    lockOf wc.cfg t.ctl = some L :=
  ((reachable_WInv hw (init_WInv d wc s0) hr).holds i t L ht hh).1

theorem mutex_exclusive {wc : WCfg} (hw : wc.logUnderLock = false) {gate : Nat → State V E → Bool} (s0 : State V E)
    {s : WState V E} (hr : WReachable d wc gate (WState.init s0) s)
    (i j : Nat) (L : Lock) (hi : s.held[i]? = some (some L)) (hj : s.held[j]? = some (some L)) : i = j :=
  (reachable_WInv hw (init_WInv d wc s0) hr).excl i j L hi hj

/-- **Nobody waits while holding a mutex**: the holder of a mutex can always take its step (body and unlock),
    whatever the user's code and the other threads do. Hence a thread that finds a mutex taken waits for one step
    of a thread that can move (`mutex_wait_is_short`). -/
theorem mutex_holder_can_move {wc : WCfg} (hw : wc.logUnderLock = false) {gate : Nat → State V E → Bool} (s0 : State V E)
    {s : WState V E} (hr : WReachable d wc gate (WState.init s0) s)
    (i : Nat) (L : Lock) (hh : s.held[i]? = some (some L)) : s.enabled d wc gate i = true := by
  have h := reachable_WInv hw (init_WInv d wc s0) hr
  have hi : i < s.inner.threads.length := by rw [← h.len]; exact (List.getElem?_eq_some_iff.mp hh).1
  have ht : s.inner.threads[i]? = some s.inner.threads[i] := List.getElem?_eq_getElem hi
  obtain ⟨h1, h2⟩ := h.holds i _ L ht hh
  unfold WState.enabled wstep
  simp only [ht, hh, Option.isSome_map]
  unfold userStep
  simp [lockOf_not_callback h1, h2]

theorem mutex_wait_is_short {wc : WCfg} (hw : wc.logUnderLock = false) {gate : Nat → State V E → Bool} (s0 : State V E)
    {s : WState V E} (hr : WReachable d wc gate (WState.init s0) s) (L : Lock) (hb : lockFree s.held L = false) :
    ∃ j, s.held[j]? = some (some L) ∧ s.enabled d wc gate j = true := by
  simp only [lockFree, List.all_eq_false] at hb
  obtain ⟨x, hx, hne⟩ := hb
  have hx' : x = some L := by simpa using hne
  subst hx'
  obtain ⟨j, hj, e⟩ := List.getElem_of_mem hx
  have hh : s.held[j]? = some (some L) := by rw [List.getElem?_eq_getElem hj, e]
  exact ⟨j, hh, mutex_holder_can_move hw s0 hr j L hh⟩

/-- the explicit-lock system refines the system above: what is reachable here is reachable there, so all the
    theorems of this file apply to its states (`reachable_inner`) -/
theorem locks_refine {wc : WCfg} {gate : Nat → State V E → Bool} (s0 : State V E) {s : WState V E}
    (hr : WReachable d wc gate (WState.init s0) s) : Reachable d wc.cfg s0 s.inner :=
  reachable_inner hr

end Locks

section LocksAcyclic
variable {d : Doc V E} {filt : Nat → List Nat} {rank : Nat → Nat} {N : Nat}

/-- **The library adds no wait of its own.** On a document with well-founded typed loads, when no thread can
    move although somebody is not finished, then some thread sits inside user code that has not returned
    (a `Log` callback whose gate is closed): the only deadlocks are the user's. -/
theorem deadlock_only_in_user_code (wf : WF d filt rank) (hN : ∀ r, rank r < N) (hD : N ≤ maxNestedGets) {wc : WCfg}
    (hg : wc.cfg.sharedGuard = false) (hw : wc.logUnderLock = false) {gate : Nat → State V E → Bool}
    (stm : List (Nat × Res V E)) (css : List (List (Prog V E)))
    (hsh : SInv d filt (ans d rank) ⟨[], stm, [], false⟩)
    (hcalls : ∀ cs ∈ css, ∀ p ∈ cs, FineCall filt p)
    {s : WState V E} (hr : WReachable d wc gate (WState.init (State.init [] stm css)) s)
    (hdl : s.deadlocked d wc gate = true) :
    ∃ i t, s.inner.threads[i]? = some t ∧ isCallback t.ctl = true ∧ gate i s.inner = false := by
  have hin := deadlock_free_of_acyclic wf hN hD hg stm css hsh hcalls (locks_refine _ hr)
  have h := reachable_WInv hw (init_WInv d wc _) hr
  simp only [WState.deadlocked, Bool.and_eq_true, Bool.not_eq_true', List.all_eq_true, List.mem_range] at hdl
  obtain ⟨hnd, hnone⟩ := hdl
  -- some inner thread can take its inner step
  simp only [State.deadlocked, hnd, Bool.not_false, Bool.true_and, List.all_eq_false, List.mem_range] at hin
  obtain ⟨j, hj, hen⟩ := hin
  have hen : (step d wc.cfg s.inner j).isSome = true := by
    cases hst : step d wc.cfg s.inner j with
    | none => simp [State.enabled, hst] at hen
    | some x => rfl
  have htj : s.inner.threads[j]? = some s.inner.threads[j] := List.getElem?_eq_getElem hj
  have hjh : j < s.held.length := by rw [h.len]; exact hj
  have hblocked := hnone j hj
  cases hh : s.held[j] with
  | some L =>
    have := mutex_holder_can_move hw _ hr j L (by rw [List.getElem?_eq_getElem hjh, hh])
    rw [hblocked] at this; cases this
  | none =>
    have hhj : s.held[j]? = some none := by rw [List.getElem?_eq_getElem hjh, hh]
    cases hlo : lockOf wc.cfg s.inner.threads[j].ctl with
    | none =>
      -- no mutex needed: only the user's gate can hold the thread
      simp only [WState.enabled, wstep, htj, hhj, wlockOf_eq hw, hlo, Option.isSome_map, userStep] at hblocked
      by_cases hc : (isCallback s.inner.threads[j].ctl && !gate j s.inner) = true
      · simp only [Bool.and_eq_true, Bool.not_eq_true'] at hc
        exact ⟨j, _, htj, hc.1, hc.2⟩
      · simp only [hc, Bool.false_eq_true, if_false] at hblocked
        rw [hen] at hblocked; cases hblocked
    | some L =>
      simp only [WState.enabled, wstep, htj, hhj, wlockOf_eq hw, hlo, hen, Bool.and_true] at hblocked
      cases hf : lockFree s.held L with
      | true => simp [hf] at hblocked
      | false =>
        obtain ⟨k, hk, hke⟩ := mutex_wait_is_short hw _ hr L hf
        have hkl : k < s.inner.threads.length := by rw [← h.len]; exact (List.getElem?_eq_some_iff.mp hk).1
        rw [hnone k hkl] at hke; cases hke

end LocksAcyclic

/-! ### Counter-example: `log_get` inside the block that holds the chain mutex

Two threads share a resolver; the user's `log_get` of thread 0 waits until thread 1 has answered its call (for
instance: a progress display that wants the first result before it logs anything more). With `log_get` under the
chain mutex thread 1 can never enter its `get`: nobody can move. With the code under test thread 1 runs its whole
`get` while thread 0 is parked in its callback, then the gate opens and thread 0 finishes too. -/

def cbGuard : Cfg := ⟨false, false, false, true⟩

/-- thread 0's callbacks return once thread 1 has an answer; the others' at once -/
def waitForOther (i : Nat) (s : State Nat Nat) : Bool :=
  i != 0 || (match s.threads[1]? with | some t => !t.out.isEmpty | none => true)

def twoGets : WState Nat Nat := WState.init (State.init [] [] [[getCall 0 6], [getCall 0 7]])

theorem log_under_lock_deadlocks :
    (wrunSched wDoc ⟨cbGuard, true⟩ waitForOther twoGets [0, 0, 1]).map
      (fun s => (s.deadlocked wDoc ⟨cbGuard, true⟩ waitForOther, s.lockAcrossCallback)) = some (true, true) := by
  decide +kernel

/-- the code under test, same beginning: thread 1 is enabled, runs to the end, then thread 0 does -/
example :
    (wrunSched wDoc ⟨cbGuard, false⟩ waitForOther twoGets [0, 1]).map
      (fun s => (s.enabled wDoc ⟨cbGuard, false⟩ waitForOther 0, s.enabled wDoc ⟨cbGuard, false⟩ waitForOther 1, s.lockAcrossCallback))
      = some (false, true, false) := by
  decide +kernel

example :
    (wrunSched wDoc ⟨cbGuard, false⟩ waitForOther twoGets
        [0, 1, 1, 1, 1, 1, 1, 1, 1, 1, 0, 0, 0, 0, 0, 0, 0, 0]).map
      (fun s => (s.inner.allDone, s.inner.anyPanic, s.inner.threads.map (·.out))) = some (true, false, [[.ok 106], [.ok 107]]) := by
  decide +kernel

end Conc
