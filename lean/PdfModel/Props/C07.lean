import PdfModel.Lemmas.PageTree
import PdfModel.Generated.Lexical
import PdfModel.Lemmas.PageTreeBytes
import PdfModel.Model.PageTreeDerived
import PdfModel.Lemmas.PageTreeDerived

/-!
  C07 — "Page n is the n-th leaf of the page tree; attributes come from nearest ancestor".

  `tbl` is the object table of a file, `t` an abstract page tree, `represents tbl none t` says that the table
  holds a well-formed rendering of `t` (typing by /Type, /Kids in order, accurate /Count at every node,
  correct /Parent links; acyclicity is implied because `t` is a finite tree).  No bound on size or fan-out;
  the height bound 16 is the library's depth budget (the property asks for "at least a dozen levels").
  `fuel` only bounds the /Parent chain walked when a node is loaded (any value above the height will do).
-/

namespace C07
open PageTree

/-- Clause "requesting page i returns the i-th leaf in depth-first document order, and any index at or beyond
    the count is an out-of-bounds error": for every well-formed rendering of every tree of height ≤ 16 and
    every index, `get_page` returns exactly the i-th leaf (object number, own attributes, and the loaded
    parent chain equal to the abstract ancestors), or `Err` from the count on. -/
theorem page_nth (tbl : Tbl) (id : Nat) (a : Attrs) (ks : List PTree) (fuel : Nat)
    (wf : represents tbl none (.node id a ks) = true)
    (hh : height (.node id a ks) ≤ 16) (hf : 16 < fuel) (hsz : nLeaves (.node id a ks) < 4294967296) (i : Nat) :
    getPage tbl fuel (rootRec (.node id a ks)) i =
      if h : i < (leavesOf (.node id a ks)).length then .ok ((leavesOf (.node id a ks))[i]) else .err := by
  simp only [represents, Bool.and_eq_true, decide_eq_true_eq] at wf
  simp only [height] at hh
  simp only [nLeaves] at hsz
  have hroot : ChainInv tbl (nodeRec id a ks) [] 0 := chain_root wf.1 hsz
  exact pageLimited_spec 16 id a ks [] 0 hroot wf.2 (by omega) (by omega) hsz i

/-- the catalog's /Pages reference loads as the root record (so `get_page`/`num_pages` start from it) -/
theorem root_loads (tbl : Tbl) (id : Nat) (a : Attrs) (ks : List PTree) (fuel : Nat)
    (wf : represents tbl none (.node id a ks) = true) (hf : 0 < fuel) (hsz : nLeaves (.node id a ks) < 4294967296) :
    loadRoot tbl fuel id = .ok (rootRec (.node id a ks)) := by
  simp only [represents, Bool.and_eq_true, decide_eq_true_eq] at wf
  simp only [nLeaves] at hsz
  have hroot : ChainInv tbl (nodeRec id a ks) [] 0 := chain_root wf.1 hsz
  have := hroot.2 fuel [] hf (by intro x hx; simp at hx)
  simp only [nodeRec] at this
  simp [loadRoot, this, rootRec, nodeRec]

/-- Clause "the reported number of pages equals the number of leaf pages" — **by construction**: `rootRec t` is *defined*
    with the count `nLeaves t`, and `numPages` reads that field, so this is an unfolding (`dfsL_length`), not a fact
    about a file. What carries the content is `root_loads` (the record loaded from a well-formed table *is* `rootRec t`,
    which needs the accurate /Count that `represents` demands) and their composition `num_pages_of_table` below. -/
theorem num_pages_eq_leaves (t : PTree) (hn : isNode t = true) :
    numPages (rootRec t) = (leavesOf t).length := by
  cases t with
  | leaf _ _ => simp [isNode] at hn
  | node id a ks => simp [numPages, rootRec, nodeRec, leavesOf, dfsL_length]

/-- Clause "the reported number of pages equals the number of leaf pages", for a file: the root record loaded from any
    well-formed rendering of the tree reports the number of leaves (composition of `root_loads` and the unfolding above). -/
theorem num_pages_of_table (tbl : Tbl) (id : Nat) (a : Attrs) (ks : List PTree) (fuel : Nat)
    (wf : represents tbl none (.node id a ks) = true) (hf : 0 < fuel) (hsz : nLeaves (.node id a ks) < 4294967296) :
    (loadRoot tbl fuel id).bind (fun r => .ok (numPages r)) = .ok (leavesOf (.node id a ks)).length := by
  rw [root_loads tbl id a ks fuel wf hf hsz, Out.bind_ok, num_pages_eq_leaves _ rfl]

/-- Corollary: every index below `num_pages` is served, every index from `num_pages` on is an error. -/
theorem page_ok_iff_lt_num_pages (tbl : Tbl) (id : Nat) (a : Attrs) (ks : List PTree) (fuel : Nat)
    (wf : represents tbl none (.node id a ks) = true)
    (hh : height (.node id a ks) ≤ 16) (hf : 16 < fuel) (hsz : nLeaves (.node id a ks) < 4294967296) (i : Nat) :
    (getPage tbl fuel (rootRec (.node id a ks)) i).isOk = decide (i < numPages (rootRec (.node id a ks))) := by
  rw [page_nth tbl id a ks fuel wf hh hf hsz i, num_pages_eq_leaves _ rfl]
  by_cases h : i < (leavesOf (.node id a ks)).length <;> simp [h, Out.isOk]

/-- Clause "media box … is its own entry when present and otherwise that of the nearest ancestor that has
    one" (`Err` when nobody has one), for any loaded page. -/
theorem media_box_nearest (l : Leaf) :
    mediaBox l = match nearest (·.mediaBox) l.a (l.parent :: l.anc) with
                 | some b => .ok b
                 | none => .err := by
  simp only [mediaBox, nearest, List.findSome?_cons, inherit_eq_findSome]
  cases l.a.mediaBox <;> rfl

/-- Clause "crop box (falling back to the media box)": own, else nearest ancestor's crop box, else the media
    box (own or inherited). -/
theorem crop_box_nearest (l : Leaf) :
    cropBox l = match nearest (·.cropBox) l.a (l.parent :: l.anc) with
                | some b => .ok b
                | none => mediaBox l := by
  simp only [cropBox, nearest, List.findSome?_cons, inherit_eq_findSome]
  cases l.a.cropBox <;> rfl

/-- Clause "resources": own, else nearest ancestor's. -/
theorem resources_nearest (l : Leaf) :
    resources l = match nearest (·.resources) l.a (l.parent :: l.anc) with
                  | some b => .ok b
                  | none => .err := by
  simp only [resources, nearest, List.findSome?_cons, inherit_eq_findSome]
  cases l.a.resources <;> rfl

/-- End to end: the media box reported for page `i` of a well-formed file is the nearest one along the
    *abstract* ancestors of the i-th leaf (the same holds for crop box and resources by the two theorems
    above, since `page_nth` identifies the whole loaded chain). -/
theorem page_media_box (tbl : Tbl) (id : Nat) (a : Attrs) (ks : List PTree) (fuel : Nat)
    (wf : represents tbl none (.node id a ks) = true)
    (hh : height (.node id a ks) ≤ 16) (hf : 16 < fuel) (hsz : nLeaves (.node id a ks) < 4294967296)
    (i : Nat) (hi : i < (leavesOf (.node id a ks)).length) :
    (getPage tbl fuel (rootRec (.node id a ks)) i).bind mediaBox =
      match nearest (·.mediaBox) ((leavesOf (.node id a ks))[i]).a
              (((leavesOf (.node id a ks))[i]).parent :: ((leavesOf (.node id a ks))[i]).anc) with
      | some b => .ok b
      | none => .err := by
  rw [page_nth tbl id a ks fuel wf hh hf hsz i]
  simp only [hi, dite_true, Out.bind_ok]
  exact media_box_nearest _

/-- Totality of the model on *every* table, well-formed or not (cyclic /Parent or /Kids, dangling references,
    lying counts): with at least as much fuel as there are objects `get_page` never runs out of fuel — the
    recursion guard and the depth budget bound the walk, so `fuel` is never the reason for an answer. -/
theorem get_page_never_out_of_fuel (tbl : Tbl) (keys : List Nat) (hk : ∀ r o, tbl r = some o → r ∈ keys)
    (fuel : Nat) (hf : keys.length ≤ fuel) (root : TreeRec) (n : Nat) : getPage tbl fuel root n ≠ .oof :=
  pageLimited_ne_oof tbl keys hk fuel hf 16 root n

/-! ### Non-vacuity: a concrete file-level table satisfying the hypotheses -/

def noA : Attrs := ⟨none, none, none⟩

/-- a spine of 12 nested /Pages nodes (objects 1..12), each with a leaf before and an empty /Pages node after
    the next level; attributes planted at different levels -/
def spine : Nat → PTree
  | 0 => .node 100 ⟨none, some 7, none⟩ [.leaf 200 noA, .leaf 201 ⟨some 5, none, some 9⟩]
  | n + 1 => .node (n + 1) (if n % 3 = 0 then ⟨some (10 + n), none, some (20 + n)⟩ else noA)
      [.leaf (300 + n) noA, spine n, .node (400 + n) noA [], .leaf (500 + n) ⟨none, some (30 + n), none⟩]

def exTree : PTree := spine 12

mutual
def renderT (parent : Option Nat) : PTree → List (Nat × Obj)
  | .leaf id a => [(id, .page (parent.getD 0) a)]
  | .node id a ks => (id, .pages parent (ks.map PTree.id) (nLeavesL ks) a) :: renderL id ks
def renderL (pid : Nat) : List PTree → List (Nat × Obj)
  | [] => []
  | k :: ks => renderT (some pid) k ++ renderL pid ks
end

def tblOfList (l : List (Nat × Obj)) : Tbl := fun i => (l.find? (·.1 == i)).map (·.2)

def exTbl : Tbl := tblOfList (renderT none exTree)

example : represents exTbl none exTree = true := by decide +kernel
example : height exTree = 13 := by decide +kernel
example : nLeaves exTree = 26 := by decide +kernel
example : (leavesOf exTree).map (·.id) =
    [311, 310, 309, 308, 307, 306, 305, 304, 303, 302, 301, 300, 200, 201,
     500, 501, 502, 503, 504, 505, 506, 507, 508, 509, 510, 511] := by decide +kernel
/-- the model itself, run on the table: page 13 is object 201, whose media box is its own, whose crop box is
    the one of node 100 and page 12 (object 200) takes the media box of the nearest ancestor carrying one (node 1) -/
example : (getPage exTbl 17 (rootRec exTree) 13).bind (fun l => .ok (l.id, mediaBox l, cropBox l, resources l))
    = .ok (201, .ok 5, .ok 7, .ok 9) := by decide +kernel
example : (getPage exTbl 17 (rootRec exTree) 12).bind (fun l => .ok (l.id, mediaBox l, cropBox l, resources l))
    = .ok (200, .ok 10, .ok 7, .ok 20) := by decide +kernel
example : getPage exTbl 17 (rootRec exTree) 26 = .err := by decide +kernel

/-! ### The depth budget is sharp: 16 levels of /Pages nodes are served, a 17th is refused
    (the property asks for "at least a dozen levels"; this documents where the library stops). -/

def chain : Nat → PTree
  | 0 => .leaf 900 noA
  | n + 1 => .node (n + 1) noA [chain n]

example : represents (tblOfList (renderT none (chain 16))) none (chain 16) = true := by decide +kernel
example : (getPage (tblOfList (renderT none (chain 16))) 20 (rootRec (chain 16)) 0).isOk = true := by decide +kernel
example : represents (tblOfList (renderT none (chain 17))) none (chain 17) = true := by decide +kernel
example : getPage (tblOfList (renderT none (chain 17))) 20 (rootRec (chain 17)) 0 = .err := by decide +kernel

end C07

/-! ## Tie to the source: constants and byte classes (appended by the translator package)

`Generated/Lexical.lean` is re-extracted from `pdf/src` by `./check` before this file is built. -/

namespace C07

/-- `PageTree::page` starts `page_limited` with the depth budget of the source (16; the depth-bound theorems and examples above are stated for it) -/
theorem constants_match_source :
    (∀ (tbl : PageTree.Tbl) (fuel : Nat) (self : PageTree.TreeRec) (n : Nat),
      PageTree.page tbl fuel self n = PageTree.pageLimited tbl fuel Generated.pageTreeDepth self n) ∧
    (Generated.pageTreeDepth = 16) := by
  refine ⟨?_, ?_⟩
  · first | ((have _h : Generated.pageTreeDepth = 16 := (by decide +kernel)); intros; rfl) | fail "constants_match_source (C07): the model's PageTree.Tbl, PageTree.TreeRec, PageTree.page, PageTree.pageLimited does not match the source (Generated.pageTreeDepth, re-extracted from pdf/src)"
  · first | decide +kernel | fail "constants_match_source (C07): the model's statement does not match the source (Generated.pageTreeDepth, re-extracted from pdf/src)"

end C07


/-!
## C07 at byte level: the object-table abstraction discharged

`PageTreeB.writeDoc fmt t n` is a *file*: the header line and one revision written by the framework's writer model
(`SaveBytes`: frames `k 0 obj … endobj` with bodies rendered by `Model/Serialize`, cross-reference stream, trailer,
`startxref`) for the objects of the tree `t` — one dictionary per node with /Type, the /Parent link, /Kids in order, the
accurate /Count and the inheritable attributes where `t` places them — under any numbering of the nodes by `1..n`, plus
the catalog `n + 1`. `PageTreeB.getPageB` opens those bytes with the byte-level open path (`OpenBytes.openB`: header,
`startxref`, cross-reference stream, table), follows trailer /Root → catalog /Pages, and runs the page-tree model with
every node obtained by `OpenBytes.resolveB` (the lexer / parser models on the bytes at the object's offset) and the node
reader `nodeOf`.

Hypotheses that remain, all explicit:
* `f32` text only through `fmt` / `env.parseReal` (no real number occurs in these documents: boxes are integers);
  `env.decrypt = none`;
* `NoFilter dec`: object storage is unfiltered (the filter chain — Flate, … — is third-party and never entered);
* the file stays below 2³¹ bytes (`fileMax`, the range of the lexer theorems) and the parser fuel is at least three
  times its length; `n ≤ 1 000 000` objects; markers (the values of the attributes) fit an `i32`;
* height ≤ 16 (the depth budget), fewer than 2³¹ leaves (/Count is written as an `i32`).
Node reader: in this first part `nodeOf`, a hand-written reading of `PagesNode::from_primitive` restricted to the six
keys C07 observes. The generated readers of `PageTree` / `Page` (`Generated/Schemas.lean`) are the subject of the second
part ("the derived readers as node reader"): `page_nth_bytes_partial2` (under `DerivedAgrees`), `…_partial3` (attribute-free
trees) and `…_partial4` (boxes), with `attributes_nearest_bytes_derived`, `media_box_nearest_bytes`,
`crop_box_nearest_bytes`, `resources_nearest_bytes` for the attribute clause. Not discharged there: nodes that carry
/Resources (hypothesis `DerivedAgrees`) and `DefaultZeroEvaluates`; see notes/C07.md.
-/

namespace C07
open PageTree PageTreeB PdfLex OpenBytes SaveBytes RepBytes

variable {R : Type}

/-- **The byte-level statement, for a reader `rd` of page-tree nodes that is fixed before the file**: page `i` of the
    written file is the i-th leaf, the page count is the number of leaves. Note the quantifier order: `rd : Prim R → Obj`
    is chosen first and sees one primitive, not the bytes, so only readers that need nothing but the node's own dictionary
    are instances. `page_nth_bytes_partial` proves it for the hand-written `nodeOf`; `page_nth_bytes_of_reader` for every
    `rd` that agrees with `nodeOf` on the written bodies. The *generated* reader of `Page` is **not** of this form (it
    loads /Parent through the resolver of the opened file), so it is not and cannot be an instance of this `def`: for it
    the statement is `page_nth_bytes_partial2` (reader depending on the opened file, hypothesis `DerivedAgrees`), which
    supersedes this definition, and `…_partial3` / `…_partial4` where that hypothesis is discharged. -/
def C07_bytes_full (rd : Prim R → Obj) : Prop :=
  ∀ (fmt : R → List UInt8) (env : Env R), env.decrypt = none → ∀ (pfuel : Nat)
    (dec : Dict R → List UInt8 → Out (List UInt8)), NoFilter dec → ∀ (id : Nat) (a : Attrs) (ks : List PTree) (n : Nat),
    n ≤ 1000000 → (idsOf (.node id a ks)).Nodup → (∀ x ∈ idsOf (.node id a ks), 1 ≤ x ∧ x ≤ n) →
    markersOK (.node id a ks) = true → height (.node id a ks) ≤ 16 → nLeaves (.node id a ks) ≤ 2147483647 →
    ∀ (bytes : List UInt8), writeDoc fmt (.node id a ks) n = .ok bytes → bytes.length ≤ fileMax → 3 * bytes.length ≤ pfuel →
    ∀ (rfuel lfuel : Nat), 16 < lfuel → ∀ (i : Nat),
    getPageB rd env pfuel dec 2 (rfuel + 2) lfuel bytes i =
      (if h : i < (leavesOf (.node id a ks)).length then .ok ((leavesOf (.node id a ks))[i]) else .err) ∧
    numPagesB rd env pfuel dec 2 (rfuel + 2) lfuel bytes = .ok (leavesOf (.node id a ks)).length

/-- the byte-level statement for every reader that agrees with `nodeOf` on the written bodies -/
theorem page_nth_bytes_for (rd : Prim R → Obj)
    (hrd : ∀ parent (t : PTree), ∀ q ∈ (objsOf parent t : List (Nat × Prim R)), rd q.2 = nodeOf q.2) (fmt : R → List UInt8) (env : Env R) (hd : env.decrypt = none) (pfuel : Nat)
    (dec : Dict R → List UInt8 → Out (List UInt8)) (hdec : NoFilter dec) (id : Nat) (a : Attrs) (ks : List PTree)
    (n : Nat) (hn : n ≤ 1000000) (hnd : (idsOf (.node id a ks)).Nodup)
    (hrange : ∀ x ∈ idsOf (.node id a ks), 1 ≤ x ∧ x ≤ n) (hm : markersOK (.node id a ks) = true)
    (hh : height (.node id a ks) ≤ 16) (hc : nLeaves (.node id a ks) ≤ 2147483647)
    (bytes : List UInt8) (hw : writeDoc fmt (.node id a ks) n = .ok bytes)
    (hsmall : bytes.length ≤ fileMax) (hpf : 3 * bytes.length ≤ pfuel) (rfuel lfuel : Nat) (hl : 16 < lfuel) (i : Nat) :
    getPageB rd env pfuel dec 2 (rfuel + 2) lfuel bytes i =
      (if h : i < (leavesOf (.node id a ks)).length then .ok ((leavesOf (.node id a ks))[i]) else .err) ∧
    numPagesB rd env pfuel dec 2 (rfuel + 2) lfuel bytes = .ok (leavesOf (.node id a ks)).length := by
  obtain ⟨tb, T, hopen, hroot, hobjs⟩ := written_objects fmt env hd pfuel dec hdec (.node id a ks) n hn hnd hrange hm hc
    bytes hw hsmall hpf rfuel
  have hrep := represents_of_objs (tblB rd env pfuel dec (rfuel + 2) bytes 0 tb) (.node id a ks) none hm
    (fun q hq => by simp only [tblB, hobjs q hq, hrd none _ q hq]; rfl) rfl
  have hsz : nLeaves (.node id a ks) < 4294967296 := by omega
  have hload := root_loads _ id a ks lfuel hrep (by omega) hsz
  constructor
  · simp only [getPageB, openPagesB, hopen, hroot, PTree.id, hload]
    exact page_nth _ id a ks lfuel hrep hh hl hsz i
  · simp only [numPagesB, openPagesB, hopen, hroot, PTree.id, hload, num_pages_eq_leaves (.node id a ks) rfl]

/-- **Page i of the written file is the i-th leaf — from the bytes**, with the hand-written node reader `nodeOf`. -/
theorem page_nth_bytes_partial : C07_bytes_full (R := R) nodeOf := by
  intro fmt env hd pfuel dec hdec id a ks n hn hnd hrange hm hh hc bytes hw hsmall hpf rfuel lfuel hl i
  exact page_nth_bytes_for nodeOf (fun _ _ _ _ => rfl) fmt env hd pfuel dec hdec id a ks n hn hnd hrange hm hh hc bytes hw
    hsmall hpf rfuel lfuel hl i

/-- `C07_bytes_full rd` for every file-independent reader `rd` that agrees with `nodeOf` on the written bodies (a
    repackaging of `page_nth_bytes_for`). It does not reach the generated `Page` reader, which is file-dependent — see the
    docstring of `C07_bytes_full`; `page_nth_bytes_partial2` is the statement for that reader. -/
theorem page_nth_bytes_of_reader (rd : Prim R → Obj)
    (hrd : ∀ parent (t : PTree), ∀ q ∈ (objsOf parent t : List (Nat × Prim R)), rd q.2 = nodeOf q.2) :
    C07_bytes_full rd := by
  intro fmt env hd pfuel dec hdec id a ks n hn hnd hrange hm hh hc bytes hw hsmall hpf rfuel lfuel hl i
  exact page_nth_bytes_for rd hrd fmt env hd pfuel dec hdec id a ks n hn hnd hrange hm hh hc bytes hw hsmall hpf rfuel lfuel hl i

/-- **Attributes of page i come from the nearest ancestor** — from the bytes, with the hand-written node reader
    `nodeOf` (for the generated readers see `attributes_nearest_bytes_derived`): media box, crop box (falling back to the
    media box) and resources of the page `get_page(i)` returns are the leaf's own value or that of the nearest
    ancestor of the i-th leaf in the tree that was written. -/
theorem attributes_nearest_bytes_partial (fmt : R → List UInt8) (env : Env R) (hd : env.decrypt = none) (pfuel : Nat)
    (dec : Dict R → List UInt8 → Out (List UInt8)) (hdec : NoFilter dec) (id : Nat) (a : Attrs) (ks : List PTree)
    (n : Nat) (hn : n ≤ 1000000) (hnd : (idsOf (.node id a ks)).Nodup)
    (hrange : ∀ x ∈ idsOf (.node id a ks), 1 ≤ x ∧ x ≤ n) (hm : markersOK (.node id a ks) = true)
    (hh : height (.node id a ks) ≤ 16) (hc : nLeaves (.node id a ks) ≤ 2147483647)
    (bytes : List UInt8) (hw : writeDoc fmt (.node id a ks) n = .ok bytes)
    (hsmall : bytes.length ≤ fileMax) (hpf : 3 * bytes.length ≤ pfuel) (rfuel lfuel : Nat) (hl : 16 < lfuel)
    (i : Nat) (hi : i < (leavesOf (.node id a ks)).length) :
    let l := (leavesOf (.node id a ks))[i]
    let pg := getPageB nodeOf env pfuel dec 2 (rfuel + 2) lfuel bytes i
    (pg.bind mediaBox = match nearest (·.mediaBox) l.a (l.parent :: l.anc) with | some b => .ok b | none => .err) ∧
    (pg.bind cropBox = match nearest (·.cropBox) l.a (l.parent :: l.anc) with | some b => .ok b | none => mediaBox l) ∧
    (pg.bind resources = match nearest (·.resources) l.a (l.parent :: l.anc) with | some b => .ok b | none => .err) := by
  have := (page_nth_bytes_partial fmt env hd pfuel dec hdec id a ks n hn hnd hrange hm hh hc bytes hw hsmall hpf rfuel lfuel hl i).1
  simp only [hi, dite_true] at this
  simp only [this, Out.bind_ok]
  exact ⟨media_box_nearest _, crop_box_nearest _, resources_nearest _⟩

/-! ### the derived readers as node reader

`PageTreeB.getPageBD` is the same composition with `PagesNode::from_primitive` read by the *generated* readers:
`Derive.readPagesNode` (the /Type dispatch) over `Generated.generatedSchemas` — `Page` with all its fields, its
`parent: PagesRc` loaded through the resolver (`envD`: `resolveB` on the opened file, primitives translated by `toD`),
`Rectangle` through `baseRd`, `Resources` through its own schema — projected to what C07 observes (`projectNode`).
The driver runs it on every file of the stream `c07.bytes.derived`. -/

/-- **the one obligation left**: on the bodies the writer produced, read in the opened file, the generated readers
    yield the node the hand-written `nodeOf` yields (kids, count, parent, media box, crop box, resources) -/
def DerivedAgrees (bitsOf : R → Nat) (resolve : Nat → Out (Offsets.Obj (Prim R))) (t : PTree) : Prop :=
  ∀ q ∈ (objsOf none t : List (Nat × Prim R)), derivedNode bitsOf resolve q.2 = nodeOf q.2

/-- the byte-level statement for the generated readers, when they agree with `nodeOf` on the bodies of the tree wherever
    these are what the resolver of the opened file returns -/
theorem page_nth_bytes_derived (bitsOf : R → Nat) (fmt : R → List UInt8) (env : Env R) (hd : env.decrypt = none)
    (pfuel : Nat) (dec : Dict R → List UInt8 → Out (List UInt8)) (hdec : NoFilter dec) (id : Nat) (a : Attrs)
    (ks : List PTree) (n : Nat) (hn : n ≤ 1000000) (hnd : (idsOf (.node id a ks)).Nodup)
    (hrange : ∀ x ∈ idsOf (.node id a ks), 1 ≤ x ∧ x ≤ n) (hm : markersOK (.node id a ks) = true)
    (hh : height (.node id a ks) ≤ 16) (hc : nLeaves (.node id a ks) ≤ 2147483647)
    (bytes : List UInt8) (hw : writeDoc fmt (.node id a ks) n = .ok bytes)
    (hsmall : bytes.length ≤ fileMax) (hpf : 3 * bytes.length ≤ pfuel) (rfuel lfuel : Nat) (hl : 16 < lfuel)
    (hagree : ∀ tb T, openB env pfuel dec 2 bytes = .ok (0, tb, T) →
      (∀ q ∈ (objsOf none (.node id a ks) : List (Nat × Prim R)),
        resolveB env pfuel dec (rfuel + 2) bytes 0 tb q.1 = .ok (.plain q.2)) →
      DerivedAgrees bitsOf (resolveB env pfuel dec (rfuel + 2) bytes 0 tb) (.node id a ks)) (i : Nat) :
    getPageBD bitsOf env pfuel dec 2 (rfuel + 2) lfuel bytes i =
      (if h : i < (leavesOf (.node id a ks)).length then .ok ((leavesOf (.node id a ks))[i]) else .err) ∧
    numPagesBD bitsOf env pfuel dec 2 (rfuel + 2) lfuel bytes = .ok (leavesOf (.node id a ks)).length := by
  obtain ⟨tb, T, hopen, hroot, hobjs⟩ := written_objects fmt env hd pfuel dec hdec (.node id a ks) n hn hnd hrange hm hc
    bytes hw hsmall hpf rfuel
  have hag := hagree tb T hopen hobjs
  have hrep := represents_of_objs (tblBD bitsOf env pfuel dec (rfuel + 2) bytes 0 tb) (.node id a ks) none hm
    (fun q hq => by simp only [tblBD, tblB, hobjs q hq, hag q hq]; rfl) rfl
  have hsz : nLeaves (.node id a ks) < 4294967296 := by omega
  have hload := root_loads _ id a ks lfuel hrep (by omega) hsz
  constructor
  · simp only [getPageBD, openPagesBD, hopen, hroot, PTree.id, hload]
    exact page_nth _ id a ks lfuel hrep hh hl hsz i
  · simp only [numPagesBD, openPagesBD, hopen, hroot, PTree.id, hload, num_pages_eq_leaves (.node id a ks) rfl]

/-- **Page i of the written file is the i-th leaf — from the bytes, with the generated readers of `Page` / `PageTree`**,
    under the hypothesis `DerivedAgrees` for the opened file (everything else as in `page_nth_bytes_partial`). -/
theorem page_nth_bytes_partial2 (bitsOf : R → Nat) (fmt : R → List UInt8) (env : Env R) (hd : env.decrypt = none)
    (pfuel : Nat) (dec : Dict R → List UInt8 → Out (List UInt8)) (hdec : NoFilter dec) (id : Nat) (a : Attrs)
    (ks : List PTree) (n : Nat) (hn : n ≤ 1000000) (hnd : (idsOf (.node id a ks)).Nodup)
    (hrange : ∀ x ∈ idsOf (.node id a ks), 1 ≤ x ∧ x ≤ n) (hm : markersOK (.node id a ks) = true)
    (hh : height (.node id a ks) ≤ 16) (hc : nLeaves (.node id a ks) ≤ 2147483647)
    (bytes : List UInt8) (hw : writeDoc fmt (.node id a ks) n = .ok bytes)
    (hsmall : bytes.length ≤ fileMax) (hpf : 3 * bytes.length ≤ pfuel) (rfuel lfuel : Nat) (hl : 16 < lfuel)
    (hagree : ∀ tb T, openB env pfuel dec 2 bytes = .ok (0, tb, T) →
      DerivedAgrees bitsOf (resolveB env pfuel dec (rfuel + 2) bytes 0 tb) (.node id a ks)) (i : Nat) :
    getPageBD bitsOf env pfuel dec 2 (rfuel + 2) lfuel bytes i =
      (if h : i < (leavesOf (.node id a ks)).length then .ok ((leavesOf (.node id a ks))[i]) else .err) ∧
    numPagesBD bitsOf env pfuel dec 2 (rfuel + 2) lfuel bytes = .ok (leavesOf (.node id a ks)).length := by
  exact page_nth_bytes_derived bitsOf fmt env hd pfuel dec hdec id a ks n hn hnd hrange hm hh hc bytes hw hsmall hpf rfuel lfuel hl
    (fun tb T ho _ => hagree tb T ho) i

/-- first step of `DerivedAgrees`, for every file: a /Pages node without /Parent and without attributes — the root of
    an attribute-free tree — is read by the generated `PageTree` reader (through the /Type dispatch, at tower level
    `lvl`) as the node `nodeOf` reads: /Kids in order, /Count. What is open beyond it is listed in notes/C07.md. -/
theorem derived_agrees_bare_root (bitsOf : R → Nat) (resolve : Nat → Out (Offsets.Obj (Prim R))) (kids : List Nat)
    (count : Nat) (hc : count ≤ 2147483647) :
    derivedNode bitsOf resolve (nodeVal none kids count ⟨none, none, none⟩ : Prim R) =
      nodeOf (nodeVal none kids count ⟨none, none, none⟩ : Prim R) :=
  derived_bare_root bitsOf resolve kids count

/-- **`DerivedAgrees` discharged for attribute-free trees**: on every object of a written tree whose nodes carry no
    inheritable attribute, the generated readers of `PageTree` and `Page` behind the /Type dispatch — every /Parent chain
    loaded through the resolver of the opened file, one tower level per ancestor — yield the node `nodeOf` yields. The only
    hypothesis is `DefaultZeroEvaluates` (the literal default `"0"` of `Page.rotate` evaluates: a fact about the model's
    string functions that the kernel cannot reduce). -/
theorem derived_agrees_attr_free_bytes (bitsOf : R → Nat) (hdf : DefaultZeroEvaluates)
    (resolve : Nat → Out (Offsets.Obj (Prim R))) (t : PTree) (hn : isNode t = true) (hf : attrFree t = true)
    (hh : height t ≤ 16) (hres : ∀ q ∈ (objsOf none t : List (Nat × Prim R)), resolve q.1 = .ok (.plain q.2)) :
    DerivedAgrees bitsOf resolve t :=
  derived_agrees_boxes bitsOf resolve hdf t hn (boxOnly_of_attrFree t hf) (by omega) hres

/-- **Page i of the written file is the i-th leaf — from the bytes, with the generated readers, for attribute-free
    trees**: no hypothesis about the reader is left except `DefaultZeroEvaluates`. -/
theorem page_nth_bytes_partial3 (bitsOf : R → Nat) (hdf : DefaultZeroEvaluates) (fmt : R → List UInt8) (env : Env R)
    (hd : env.decrypt = none) (pfuel : Nat) (dec : Dict R → List UInt8 → Out (List UInt8)) (hdec : NoFilter dec) (id : Nat)
    (a : Attrs) (ks : List PTree) (n : Nat) (hn : n ≤ 1000000) (hnd : (idsOf (.node id a ks)).Nodup)
    (hrange : ∀ x ∈ idsOf (.node id a ks), 1 ≤ x ∧ x ≤ n) (hfree : attrFree (.node id a ks) = true)
    (hh : height (.node id a ks) ≤ 16) (hc : nLeaves (.node id a ks) ≤ 2147483647)
    (bytes : List UInt8) (hw : writeDoc fmt (.node id a ks) n = .ok bytes)
    (hsmall : bytes.length ≤ fileMax) (hpf : 3 * bytes.length ≤ pfuel) (rfuel lfuel : Nat) (hl : 16 < lfuel) (i : Nat) :
    getPageBD bitsOf env pfuel dec 2 (rfuel + 2) lfuel bytes i =
      (if h : i < (leavesOf (.node id a ks)).length then .ok ((leavesOf (.node id a ks))[i]) else .err) ∧
    numPagesBD bitsOf env pfuel dec 2 (rfuel + 2) lfuel bytes = .ok (leavesOf (.node id a ks)).length := by
  exact page_nth_bytes_derived bitsOf fmt env hd pfuel dec hdec id a ks n hn hnd hrange (markersOK_of_attrFree _ hfree) hh hc bytes hw
    hsmall hpf rfuel lfuel hl (fun _ _ _ hobjs => derived_agrees_attr_free_bytes bitsOf hdf _ (.node id a ks) rfl hfree hh hobjs) i

/-- the same for trees whose nodes carry media and crop boxes (markers below 2²⁴ so that `Rectangle`'s `f32` entries are
    exact; no /Resources): the `Rectangle` reader, the float conversion and its decoding are all inside the proof. -/
theorem derived_agrees_boxes_bytes (bitsOf : R → Nat) (hdf : DefaultZeroEvaluates)
    (resolve : Nat → Out (Offsets.Obj (Prim R))) (t : PTree) (hn : isNode t = true) (hf : boxOnly t = true)
    (hh : height t ≤ 16) (hres : ∀ q ∈ (objsOf none t : List (Nat × Prim R)), resolve q.1 = .ok (.plain q.2)) :
    DerivedAgrees bitsOf resolve t :=
  derived_agrees_boxes bitsOf resolve hdf t hn hf (by omega) hres

/-- **Page i of the written file is the i-th leaf, with inherited boxes — from the bytes, with the generated readers, for
    trees carrying media and crop boxes** (no /Resources): the only hypothesis left is `DefaultZeroEvaluates`. -/
theorem page_nth_bytes_partial4 (bitsOf : R → Nat) (hdf : DefaultZeroEvaluates) (fmt : R → List UInt8) (env : Env R)
    (hd : env.decrypt = none) (pfuel : Nat) (dec : Dict R → List UInt8 → Out (List UInt8)) (hdec : NoFilter dec) (id : Nat)
    (a : Attrs) (ks : List PTree) (n : Nat) (hn : n ≤ 1000000) (hnd : (idsOf (.node id a ks)).Nodup)
    (hrange : ∀ x ∈ idsOf (.node id a ks), 1 ≤ x ∧ x ≤ n) (hbox : boxOnly (.node id a ks) = true)
    (hh : height (.node id a ks) ≤ 16) (hc : nLeaves (.node id a ks) ≤ 2147483647)
    (bytes : List UInt8) (hw : writeDoc fmt (.node id a ks) n = .ok bytes)
    (hsmall : bytes.length ≤ fileMax) (hpf : 3 * bytes.length ≤ pfuel) (rfuel lfuel : Nat) (hl : 16 < lfuel) (i : Nat) :
    getPageBD bitsOf env pfuel dec 2 (rfuel + 2) lfuel bytes i =
      (if h : i < (leavesOf (.node id a ks)).length then .ok ((leavesOf (.node id a ks))[i]) else .err) ∧
    numPagesBD bitsOf env pfuel dec 2 (rfuel + 2) lfuel bytes = .ok (leavesOf (.node id a ks)).length := by
  exact page_nth_bytes_derived bitsOf fmt env hd pfuel dec hdec id a ks n hn hnd hrange (markersOK_of_boxOnly _ hbox) hh hc bytes hw
    hsmall hpf rfuel lfuel hl (fun _ _ _ hobjs => derived_agrees_boxes_bytes bitsOf hdf _ (.node id a ks) rfl hbox hh hobjs) i

/-- Despite its name this states only that, for `i` below the leaf count, page `i` read from the bytes of such a file by
    the generated readers **is the i-th leaf** (`page_nth_bytes_partial4` with the `if` resolved) — the loaded leaf carries
    its ancestor chain, but no attribute is mentioned in the conclusion. The statements whose conclusion is the nearest
    box are `media_box_nearest_bytes` / `crop_box_nearest_bytes` below. -/
theorem media_box_nearest_bytes_boxes (bitsOf : R → Nat) (hdf : DefaultZeroEvaluates) (fmt : R → List UInt8) (env : Env R)
    (hd : env.decrypt = none) (pfuel : Nat) (dec : Dict R → List UInt8 → Out (List UInt8)) (hdec : NoFilter dec) (id : Nat)
    (a : Attrs) (ks : List PTree) (n : Nat) (hn : n ≤ 1000000) (hnd : (idsOf (.node id a ks)).Nodup)
    (hrange : ∀ x ∈ idsOf (.node id a ks), 1 ≤ x ∧ x ≤ n) (hbox : boxOnly (.node id a ks) = true)
    (hh : height (.node id a ks) ≤ 16) (hc : nLeaves (.node id a ks) ≤ 2147483647)
    (bytes : List UInt8) (hw : writeDoc fmt (.node id a ks) n = .ok bytes)
    (hsmall : bytes.length ≤ fileMax) (hpf : 3 * bytes.length ≤ pfuel) (rfuel lfuel : Nat) (hl : 16 < lfuel) (i : Nat)
    (hi : i < (leavesOf (.node id a ks)).length) :
    getPageBD bitsOf env pfuel dec 2 (rfuel + 2) lfuel bytes i = .ok ((leavesOf (.node id a ks))[i]) := by
  have h := (page_nth_bytes_partial4 bitsOf hdf fmt env hd pfuel dec hdec id a ks n hn hnd hrange hbox hh hc bytes hw hsmall hpf
    rfuel lfuel hl i).1
  rw [h, dif_pos hi]

/-! ### the attribute clause from the bytes, with the generated readers: the conclusion names the nearest attribute -/

/-- **Attributes of page i come from the nearest ancestor — from the bytes, with the generated readers**, under
    `DerivedAgrees` (the hypothesis of `page_nth_bytes_partial2`; it is what remains for nodes carrying /Resources): media
    box, crop box (falling back to the media box) and resources of the page `getPageBD` returns are the i-th leaf's own
    value or that of the nearest ancestor of that leaf in the tree that was written. -/
theorem attributes_nearest_bytes_derived (bitsOf : R → Nat) (fmt : R → List UInt8) (env : Env R) (hd : env.decrypt = none)
    (pfuel : Nat) (dec : Dict R → List UInt8 → Out (List UInt8)) (hdec : NoFilter dec) (id : Nat) (a : Attrs)
    (ks : List PTree) (n : Nat) (hn : n ≤ 1000000) (hnd : (idsOf (.node id a ks)).Nodup)
    (hrange : ∀ x ∈ idsOf (.node id a ks), 1 ≤ x ∧ x ≤ n) (hm : markersOK (.node id a ks) = true)
    (hh : height (.node id a ks) ≤ 16) (hc : nLeaves (.node id a ks) ≤ 2147483647)
    (bytes : List UInt8) (hw : writeDoc fmt (.node id a ks) n = .ok bytes)
    (hsmall : bytes.length ≤ fileMax) (hpf : 3 * bytes.length ≤ pfuel) (rfuel lfuel : Nat) (hl : 16 < lfuel)
    (hagree : ∀ tb T, openB env pfuel dec 2 bytes = .ok (0, tb, T) →
      DerivedAgrees bitsOf (resolveB env pfuel dec (rfuel + 2) bytes 0 tb) (.node id a ks))
    (i : Nat) (hi : i < (leavesOf (.node id a ks)).length) :
    let l := (leavesOf (.node id a ks))[i]
    let pg := getPageBD bitsOf env pfuel dec 2 (rfuel + 2) lfuel bytes i
    (pg.bind mediaBox = match nearest (·.mediaBox) l.a (l.parent :: l.anc) with | some b => .ok b | none => .err) ∧
    (pg.bind cropBox = match nearest (·.cropBox) l.a (l.parent :: l.anc) with | some b => .ok b | none => mediaBox l) ∧
    (pg.bind resources = match nearest (·.resources) l.a (l.parent :: l.anc) with | some b => .ok b | none => .err) := by
  have := (page_nth_bytes_partial2 bitsOf fmt env hd pfuel dec hdec id a ks n hn hnd hrange hm hh hc bytes hw hsmall hpf rfuel
    lfuel hl hagree i).1
  simp only [hi, dite_true] at this
  simp only [this, Out.bind_ok]
  exact ⟨media_box_nearest _, crop_box_nearest _, resources_nearest _⟩

/-- **The media box of page i, read from the bytes by the generated readers, is the page's own or that of the nearest
    ancestor that has one** (`Err` when nobody has one) — for trees whose nodes carry media / crop boxes (markers below
    2²⁴, no /Resources); the only hypothesis about the reader is `DefaultZeroEvaluates`. -/
theorem media_box_nearest_bytes (bitsOf : R → Nat) (hdf : DefaultZeroEvaluates) (fmt : R → List UInt8) (env : Env R)
    (hd : env.decrypt = none) (pfuel : Nat) (dec : Dict R → List UInt8 → Out (List UInt8)) (hdec : NoFilter dec) (id : Nat)
    (a : Attrs) (ks : List PTree) (n : Nat) (hn : n ≤ 1000000) (hnd : (idsOf (.node id a ks)).Nodup)
    (hrange : ∀ x ∈ idsOf (.node id a ks), 1 ≤ x ∧ x ≤ n) (hbox : boxOnly (.node id a ks) = true)
    (hh : height (.node id a ks) ≤ 16) (hc : nLeaves (.node id a ks) ≤ 2147483647)
    (bytes : List UInt8) (hw : writeDoc fmt (.node id a ks) n = .ok bytes)
    (hsmall : bytes.length ≤ fileMax) (hpf : 3 * bytes.length ≤ pfuel) (rfuel lfuel : Nat) (hl : 16 < lfuel) (i : Nat)
    (hi : i < (leavesOf (.node id a ks)).length) :
    (getPageBD bitsOf env pfuel dec 2 (rfuel + 2) lfuel bytes i).bind mediaBox =
      match nearest (·.mediaBox) ((leavesOf (.node id a ks))[i]).a
              (((leavesOf (.node id a ks))[i]).parent :: ((leavesOf (.node id a ks))[i]).anc) with
      | some b => .ok b
      | none => .err := by
  rw [media_box_nearest_bytes_boxes bitsOf hdf fmt env hd pfuel dec hdec id a ks n hn hnd hrange hbox hh hc bytes hw hsmall hpf rfuel lfuel hl i hi, Out.bind_ok]
  exact media_box_nearest _

/-- the same for the crop box: own, else the nearest ancestor's crop box, else the media box (own or inherited) -/
theorem crop_box_nearest_bytes (bitsOf : R → Nat) (hdf : DefaultZeroEvaluates) (fmt : R → List UInt8) (env : Env R)
    (hd : env.decrypt = none) (pfuel : Nat) (dec : Dict R → List UInt8 → Out (List UInt8)) (hdec : NoFilter dec) (id : Nat)
    (a : Attrs) (ks : List PTree) (n : Nat) (hn : n ≤ 1000000) (hnd : (idsOf (.node id a ks)).Nodup)
    (hrange : ∀ x ∈ idsOf (.node id a ks), 1 ≤ x ∧ x ≤ n) (hbox : boxOnly (.node id a ks) = true)
    (hh : height (.node id a ks) ≤ 16) (hc : nLeaves (.node id a ks) ≤ 2147483647)
    (bytes : List UInt8) (hw : writeDoc fmt (.node id a ks) n = .ok bytes)
    (hsmall : bytes.length ≤ fileMax) (hpf : 3 * bytes.length ≤ pfuel) (rfuel lfuel : Nat) (hl : 16 < lfuel) (i : Nat)
    (hi : i < (leavesOf (.node id a ks)).length) :
    (getPageBD bitsOf env pfuel dec 2 (rfuel + 2) lfuel bytes i).bind cropBox =
      match nearest (·.cropBox) ((leavesOf (.node id a ks))[i]).a
              (((leavesOf (.node id a ks))[i]).parent :: ((leavesOf (.node id a ks))[i]).anc) with
      | some b => .ok b
      | none => mediaBox ((leavesOf (.node id a ks))[i]) := by
  rw [media_box_nearest_bytes_boxes bitsOf hdf fmt env hd pfuel dec hdec id a ks n hn hnd hrange hbox hh hc bytes hw hsmall hpf rfuel lfuel hl i hi, Out.bind_ok]
  exact crop_box_nearest _

/-- **Resources of page i, read from the bytes by the generated readers, are the page's own or the nearest ancestor's** —
    under `DerivedAgrees`: trees that carry /Resources are outside `boxOnly`, so unlike the two box theorems this one keeps
    the agreement of the generated `Resources` reader with `nodeOf` as a hypothesis (third conjunct of
    `attributes_nearest_bytes_derived`; the driver evaluates the hypothesis per file, request `c07.agree`). -/
theorem resources_nearest_bytes (bitsOf : R → Nat) (fmt : R → List UInt8) (env : Env R) (hd : env.decrypt = none)
    (pfuel : Nat) (dec : Dict R → List UInt8 → Out (List UInt8)) (hdec : NoFilter dec) (id : Nat) (a : Attrs)
    (ks : List PTree) (n : Nat) (hn : n ≤ 1000000) (hnd : (idsOf (.node id a ks)).Nodup)
    (hrange : ∀ x ∈ idsOf (.node id a ks), 1 ≤ x ∧ x ≤ n) (hm : markersOK (.node id a ks) = true)
    (hh : height (.node id a ks) ≤ 16) (hc : nLeaves (.node id a ks) ≤ 2147483647)
    (bytes : List UInt8) (hw : writeDoc fmt (.node id a ks) n = .ok bytes)
    (hsmall : bytes.length ≤ fileMax) (hpf : 3 * bytes.length ≤ pfuel) (rfuel lfuel : Nat) (hl : 16 < lfuel)
    (hagree : ∀ tb T, openB env pfuel dec 2 bytes = .ok (0, tb, T) →
      DerivedAgrees bitsOf (resolveB env pfuel dec (rfuel + 2) bytes 0 tb) (.node id a ks))
    (i : Nat) (hi : i < (leavesOf (.node id a ks)).length) :
    (getPageBD bitsOf env pfuel dec 2 (rfuel + 2) lfuel bytes i).bind resources =
      match nearest (·.resources) ((leavesOf (.node id a ks))[i]).a
              (((leavesOf (.node id a ks))[i]).parent :: ((leavesOf (.node id a ks))[i]).anc) with
      | some b => .ok b
      | none => .err :=
  (attributes_nearest_bytes_derived bitsOf fmt env hd pfuel dec hdec id a ks n hn hnd hrange hm hh hc bytes hw hsmall hpf rfuel
    lfuel hl hagree i hi).2.2

/-! ### non-vacuity at byte level: a document is written, its bytes are opened, its pages are found -/

/-- root 3 (media box 11, resources 5) with leaf 1 (crop box 12) and node 2 with leaf 4 (media box 13): objects numbered
    against the document order -/
def exT : PTree :=
  .node 3 ⟨some 11, none, some 5⟩ [.leaf 1 ⟨none, some 12, none⟩, .node 2 ⟨none, none, none⟩ [.leaf 4 ⟨some 13, none, none⟩]]
def exEnv : Env (List UInt8) :=
  { parseReal := fun t => some t, resolveLen := fun _ _ => .err, allowMissingEndobj := false, decrypt := none, fileOffset := 0 }
def exDec : Dict (List UInt8) → List UInt8 → Out (List UInt8) :=
  fun d raw => match dictGet d kFilter with | none => .ok raw | some _ => .err

/-- `ok n` ↦ `n + 1`, anything else ↦ 0 -/
def code : Out Nat → Nat
  | .ok n => n + 1
  | _ => 0

example : (idsOf exT).Nodup ∧ (∀ x ∈ idsOf exT, 1 ≤ x ∧ x ≤ 4) ∧ markersOK exT = true ∧ height exT ≤ 16 := by decide
/-- the model run on the written bytes (kernel evaluation of writer, open path, resolver, parser, page walk) -/
example : (match writeDoc (R := List UInt8) id exT 4 with
    | .ok bytes =>
      (decide (bytes.length ≤ fileMax), code (numPagesB nodeOf exEnv (3 * bytes.length + 64) exDec 2 3 17 bytes),
        (List.range 3).map fun i =>
          match getPageB nodeOf exEnv (3 * bytes.length + 64) exDec 2 3 17 bytes i with
          | .ok l => [l.id, code (mediaBox l), code (cropBox l), code (resources l)]
          | _ => [])
    | _ => (false, 0, [])) =
    (true, 3, [[1, 12, 13, 6], [4, 14, 14, 6], []]) := by decide +kernel

/-! ### non-vacuity of `page_nth_bytes_partial3` / `page_nth_bytes_partial4` (and the two box corollaries)

Every hypothesis of the two theorems is instantiated on a concrete document, except `DefaultZeroEvaluates`, which the kernel
cannot decide (`String.toInt?` does not reduce; the driver evaluates it, request `c07.dflt0`) and which therefore stays a
hypothesis of the examples. The conclusions are then specialised to concrete pages. (The derived composition itself is
not kernel-evaluable for the same reason; the driver runs it on every file of the stream `c07.bytes.derived`.) -/

/-- root 3 (media box 11) with leaf 1 (crop box 12) and node 2 (crop box 15) with leaf 4 (media box 13): boxes only -/
def exB : PTree :=
  .node 3 ⟨some 11, none, none⟩ [.leaf 1 ⟨none, some 12, none⟩, .node 2 ⟨none, some 15, none⟩ [.leaf 4 ⟨some 13, none, none⟩]]
/-- the same shape without attributes -/
def exF : PTree := .node 3 noAttrs [.leaf 1 noAttrs, .node 2 noAttrs [.leaf 4 noAttrs]]

theorem exDec_noFilter : NoFilter exDec := by
  intro d raw h
  simp only [exDec, h]

example : boxOnly exB = true ∧ (idsOf exB).Nodup ∧ (∀ x ∈ idsOf exB, 1 ≤ x ∧ x ≤ 4) ∧ height exB ≤ 16 ∧
    nLeaves exB ≤ 2147483647 ∧ (leavesOf exB).length = 2 := by decide
example : attrFree exF = true ∧ (idsOf exF).Nodup ∧ (∀ x ∈ idsOf exF, 1 ≤ x ∧ x ≤ 4) ∧ height exF ≤ 16 ∧
    nLeaves exF ≤ 2147483647 ∧ (leavesOf exF).length = 2 := by decide

/-- the writer succeeds on both documents and the files are small -/
theorem exB_written : ∃ bytes, writeDoc (R := List UInt8) id exB 4 = .ok bytes ∧ bytes.length ≤ fileMax :=
  written_of_eval (by decide +kernel)
theorem exF_written : ∃ bytes, writeDoc (R := List UInt8) id exF 4 = .ok bytes ∧ bytes.length ≤ fileMax :=
  written_of_eval (by decide +kernel)

/-- `page_nth_bytes_partial3` instantiated: the written attribute-free document has two pages, page 1 is object 4 below
    node 2 below root 3, page 2 is out of bounds -/
example (hdf : DefaultZeroEvaluates) : ∃ bytes, writeDoc (R := List UInt8) id exF 4 = .ok bytes ∧
    numPagesBD (fun _ => 0) exEnv (3 * bytes.length) exDec 2 3 17 bytes = .ok 2 ∧
    (getPageBD (fun _ => 0) exEnv (3 * bytes.length) exDec 2 3 17 bytes 1).bind (fun l => .ok (l.id, l.parent.id, l.anc.map (·.id)))
      = .ok (4, 2, [3]) ∧
    getPageBD (fun _ => 0) exEnv (3 * bytes.length) exDec 2 3 17 bytes 2 = .err := by
  obtain ⟨bytes, hw, hsmall⟩ := exF_written
  refine ⟨bytes, hw, ?_⟩
  have h := fun i => page_nth_bytes_partial3 (fun _ => 0) hdf id exEnv rfl (3 * bytes.length) exDec exDec_noFilter 3 noAttrs
    [.leaf 1 noAttrs, .node 2 noAttrs [.leaf 4 noAttrs]] 4 (by decide) (by decide) (by decide) (by decide) (by decide) (by decide)
    bytes hw hsmall (Nat.le_refl _) 1 17 (by decide) i
  refine ⟨?_, ?_, ?_⟩
  · rw [(h 0).2]; rfl
  · rw [(h 1).1]; rfl
  · rw [(h 2).1]; rfl

/-- `page_nth_bytes_partial4` instantiated (`media_box_nearest_bytes` and `crop_box_nearest_bytes` have the same
    hypotheses): page 0 (object 1) has its own crop box 12 and inherits media box 11 from the root; page 1 (object 4) has
    its own media box 13 and inherits crop box 15 from node 2 (not from further up) -/
example (hdf : DefaultZeroEvaluates) : ∃ bytes, writeDoc (R := List UInt8) id exB 4 = .ok bytes ∧
    numPagesBD (fun _ => 0) exEnv (3 * bytes.length) exDec 2 3 17 bytes = .ok 2 ∧
    (getPageBD (fun _ => 0) exEnv (3 * bytes.length) exDec 2 3 17 bytes 0).bind mediaBox = .ok 11 ∧
    (getPageBD (fun _ => 0) exEnv (3 * bytes.length) exDec 2 3 17 bytes 0).bind cropBox = .ok 12 ∧
    (getPageBD (fun _ => 0) exEnv (3 * bytes.length) exDec 2 3 17 bytes 1).bind mediaBox = .ok 13 ∧
    (getPageBD (fun _ => 0) exEnv (3 * bytes.length) exDec 2 3 17 bytes 1).bind cropBox = .ok 15 ∧
    getPageBD (fun _ => 0) exEnv (3 * bytes.length) exDec 2 3 17 bytes 2 = .err := by
  obtain ⟨bytes, hw, hsmall⟩ := exB_written
  refine ⟨bytes, hw, ?_⟩
  have h := fun i => page_nth_bytes_partial4 (fun _ => 0) hdf id exEnv rfl (3 * bytes.length) exDec exDec_noFilter 3
    ⟨some 11, none, none⟩ [.leaf 1 ⟨none, some 12, none⟩, .node 2 ⟨none, some 15, none⟩ [.leaf 4 ⟨some 13, none, none⟩]] 4
    (by decide) (by decide) (by decide) (by decide) (by decide) (by decide) bytes hw hsmall (Nat.le_refl _) 1 17 (by decide) i
  refine ⟨?_, ?_, ?_, ?_, ?_, ?_⟩
  · rw [(h 0).2]; rfl
  · rw [(h 0).1]; rfl
  · rw [(h 0).1]; rfl
  · rw [(h 1).1]; rfl
  · rw [(h 1).1]; rfl
  · rw [(h 2).1]; rfl

end C07
