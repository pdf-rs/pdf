import PdfModel.Lemmas.Xref
import PdfModel.Lemmas.XrefStream
import PdfModel.Lemmas.XrefTable
import PdfModel.Lemmas.XrefTableWriter
import PdfModel.Lemmas.XrefWalk
import PdfModel.Lemmas.XrefFile
import PdfModel.Lemmas.XrefTableTotal
import PdfModel.Lemmas.XrefFiltered
import PdfModel.Lemmas.XrefFilteredSection

/-!
# C02 — the newest cross-reference entry for an object always wins

A *history* is the list of sections of a file, oldest first; every section is a list of subsections
(`Sub`), each a first object number and a run of entries (`free | raw | stream`, i.e. free / direct /
compressed). `Backend::read_xref_table_and_trailer` merges the sections newest first
(`mergeAll (newTable size) h.reverse`).

The theorems below are about the model in `Model/Xref.lean`; the correspondence check for C02 ties
`addSub`/`mergeAll`/`lookup` to `XRefTable::add_entries_from`, `read_xref_table_and_trailer` and
`Storage::resolve_ref` of the current source tree.

What the theorems cover and what they do not.  Proved here: which *entry* (location: offset / object stream and
index / free / invalid) the merged table holds for an object number (`merge_newest_wins`, `resolve_latest`,
`free_or_missing_never_stale`), for histories and — through both byte-level section readers and the `/Prev` walk —
for the bytes of a file (`file_walk_newest_wins`, `file_walk_newest_wins_filtered`), and that the trailer returned is
the newest one (`trailer_is_newest`).  `WF h id` is a hypothesis throughout: generation numbers of an object
number never decrease towards the newest mention (what "well-formed file" means for the merge rule).
The `*_history_newest_wins*` theorems are conjunctions (every section is read back by its reader; the merge of
those sections is newest-wins), not one function from bytes to table.
Not a theorem, oracle / correspondence only: that resolving the object number then yields the *value* written by
that update (object bodies are not modelled here; the oracle `c02.latest` compares planted markers on generated
multi-revision files, and C11 / C17 own the models of `resolve_ref`); where `startxref` points
(`locateXref buf = .ok off` is a hypothesis of the walk theorems; modelled under C17).
-/

namespace Xref

/-- all mentions of `id` in the history, newest first -/
def mentionsOf (h : List (List Sub)) (id : Nat) : List XRef := mentions (allPairs h.reverse) id

/-- the entry written by the most recent section that mentions `id` -/
def latest (h : List (List Sub)) (id : Nat) : Option XRef := (mentionsOf h id).head?

/-- Well-formedness of a history w.r.t. one object number: the readers only produce proper entries, and
    the newest mention is either compressed or carries a generation number that no older mention
    exceeds ("generation numbers never decrease over time"). -/
def WF (h : List (List Sub)) (id : Nat) : Prop :=
  pairsOK (allPairs h.reverse) ∧
  match mentionsOf h id with
  | [] => True
  | e :: older => keeps e older

/-- what resolving `id` must do according to the newest mention (the theorems use it for `id < size` only) -/
def expected (size : Nat) (h : List (List Sub)) (id : Nat) : Lookup :=
  match latest h id with
  | some (.raw pos _) => .direct pos
  | some (.stream s i) => .compressed s i
  | some (.free _ _) => .freeObject
  | some _ => .unimplemented   -- excluded by WF
  | none => if id < size then .nullRef else if id = size then .freeObject else .unspecified

/-- `WF` as a computation, for concrete histories -/
def wfB (h : List (List Sub)) (id : Nat) : Bool :=
  (allPairs h.reverse).all (fun p => isEntry p.2) &&
  match mentionsOf h id with
  | [] => true
  | e :: older => (match e with | .stream _ _ => true | _ => false) || older.all (fun m => gen m ≤ gen e)

theorem WF_of_wfB {h : List (List Sub)} {id : Nat} (hb : wfB h id = true) : WF h id := by
  unfold WF
  simp only [wfB, Bool.and_eq_true] at hb
  refine ⟨fun p hp => List.all_eq_true.1 hb.1 p hp, ?_⟩
  have h2 := hb.2
  revert h2
  cases mentionsOf h id with
  | nil => intro; trivial
  | cons e older =>
    intro h2
    simp only [Bool.or_eq_true, List.all_eq_true, decide_eq_true_eq] at h2
    rcases h2 with h2 | h2
    · cases e <;> first | exact Or.inl ⟨_, _, rfl⟩ | cases h2
    · exact Or.inr h2

/-- The merge never fails and never panics on what the section readers produce. -/
theorem merge_total (size : Nat) (h : List (List Sub)) (hp : pairsOK (allPairs h.reverse)) :
    ∃ t, mergeAll (newTable size) h.reverse = .ok t ∧ t.length = size + 1 :=
  ⟨_, mergeAll_newTable size _ hp, by rw [pureAdd_length]; simp [newTable]⟩

/-- **C02, table level.** For every history, every `/Size`, every object number below `/Size` whose
    mentions are well-formed: the merged table holds exactly the newest mention, or `Invalid` when no
    section mentions the number. Any number of sections, any subsection splitting, any mix of kinds. -/
theorem merge_newest_wins (size : Nat) (h : List (List Sub)) (id : Nat) (hid : id < size) (wf : WF h id) :
    ∃ t, mergeAll (newTable size) h.reverse = .ok t ∧
      t[id]? = some ((latest h id).getD .invalid) := by
  refine ⟨_, mergeAll_newTable size _ wf.1, ?_⟩
  have h1 : (newTable size)[id]? = some .invalid := by
    simp [newTable, List.getElem?_append_left, hid]
  rw [pureAdd_get, h1, Option.map_some, mergeList_mentions wf.1 id wf.2]
  rfl

/-- Numbers that no section mentions keep their initial slot: `Invalid` below `/Size`, the trailing free
    entry at `/Size`, nothing beyond (⇒ `UnspecifiedXRefEntry`). -/
theorem unmentioned_untouched (size : Nat) (h : List (List Sub)) (id : Nat)
    (hp : pairsOK (allPairs h.reverse)) (hm : mentionsOf h id = []) :
    ∃ t, mergeAll (newTable size) h.reverse = .ok t ∧ t[id]? = (newTable size)[id]? := by
  refine ⟨_, mergeAll_newTable size _ hp, ?_⟩
  rw [pureAdd_get, show mentions (allPairs h.reverse) id = [] from hm]
  cases (newTable size)[id]? <;> rfl

/-- **C02, resolve level.** What `resolve_ref` does with object number `id < /Size` is decided by the
    newest mention alone: direct → parse at that position, compressed → that object stream and index,
    freed → `FreeObject`, never mentioned → `NullRef`; in particular never an older value. -/
theorem resolve_latest (size : Nat) (h : List (List Sub)) (id : Nat) (hid : id < size) (wf : WF h id) :
    ∃ t, mergeAll (newTable size) h.reverse = .ok t ∧ lookup t id = expected size h id := by
  obtain ⟨t, ht, hg⟩ := merge_newest_wins size h id hid wf
  refine ⟨t, ht, ?_⟩
  unfold lookup expected
  rw [hg]
  cases hl : latest h id with
  | none => simp [hid]
  | some e =>
    have he : isEntry e = true := mentions_isEntry wf.1 (List.mem_of_head? hl)
    cases e <;> first | rfl | cases he

/-- A number whose newest mention frees it is reported as free; a number nobody defines as missing. -/
theorem free_or_missing_never_stale (size : Nat) (h : List (List Sub)) (id : Nat) (hid : id < size)
    (wf : WF h id) :
    ∃ t, mergeAll (newTable size) h.reverse = .ok t ∧
      ((∃ n g, latest h id = some (.free n g)) → lookup t id = .freeObject) ∧
      (latest h id = none → lookup t id = .nullRef) := by
  obtain ⟨t, ht, hl⟩ := resolve_latest size h id hid wf
  refine ⟨t, ht, ?_, ?_⟩
  · rintro ⟨n, g, hf⟩; rw [hl]; simp [expected, hf]
  · intro hn; rw [hl]; simp [expected, hn, hid]

/-- a run starting at `first`, cut into consecutive subsections with the given pieces -/
def cutRun (first : Nat) : List (List XRef) → List Sub
  | [] => []
  | p :: ps => ⟨first, p⟩ :: cutRun (first + p.length) ps

/-- **Subsection splitting is irrelevant (any partition).** A run of entries written as one subsection merges
    exactly as the same run cut at any number of points into consecutive subsections (pieces of any length,
    empty ones included): same table, same error / panic outcome.  By induction on the list of pieces. -/
theorem split_irrelevant_general (first : Nat) (parts : List (List XRef)) :
    ∀ t : Table, addSubs t [⟨first, parts.flatten⟩] = addSubs t (cutRun first parts) := by
  induction parts generalizing first with
  | nil => intro t; rfl
  | cons p ps ih =>
    intro t
    rw [cutRun, addSubs_cons, addSubs_cons, List.flatten_cons, addFrom_append]
    cases addFrom t first p with
    | ok t' => simpa only [Out.bind_ok, addSubs_cons] using ih (first + p.length) t'
    | err => rfl
    | panic => rfl
    | oof => rfl

/-- Subsection splitting, **one cut**: a run of entries written as one subsection merges exactly as the same run
    cut at any one point into two consecutive subsections. (The general statement — any number of cuts — is
    `split_irrelevant_general` above; subsections in a different *order* are not covered by either.) -/
theorem split_irrelevant (t : Table) (first : Nat) (a b : List XRef) :
    addSubs t [⟨first, a ++ b⟩] = addSubs t [⟨first, a⟩, ⟨first + a.length, b⟩] := by
  simpa [cutRun] using split_irrelevant_general first [a, b] t

/-- three pieces, one of them empty -/
example : cutRun 4 [[.raw 1 0], [], [.free 0 1, .stream 9 0]]
    = [⟨4, [.raw 1 0]⟩, ⟨5, []⟩, ⟨5, [.free 0 1, .stream 9 0]⟩] := by decide

/-! ## Cross-reference streams: the byte-level section reader returns what a conforming writer wrote -/

/-- **C02, "each section in either xref format" (stream format, one subsection).** Rows written
    big-endian in any widths `≤ 8`, not all zero, that fit the fields (type field omitted only when every
    entry is of type 1) are read back exactly, in strict and in tolerant mode, and the cursor ends after the rows. -/
theorem stream_section_reads_back (first : Nat) (es : List XRef) (w0 w1 w2 : Nat) (rest : List UInt8)
    (allowErr : Bool) (h0 : w0 ≤ 8) (h1 : w1 ≤ 8) (h2 : w2 ≤ 8)
    (hf : ∀ e ∈ es, Fits w0 w1 w2 e) (hpos : 0 < w0 + w1 + w2) :
    parseSection first es.length [w0, w1, w2] (encodeRows w0 w1 w2 es ++ rest) allowErr
      = .ok (⟨first, es⟩, rest) := by
  unfold parseSection
  have hrow : ¬ (w0 + w1 + w2 ≥ U64) := by unfold U64; omega
  have hz : ¬ (w0 + w1 + w2 = 0) := by omega
  have hlen : ¬ (es.length > (encodeRows w0 w1 w2 es ++ rest).length / (w0 + w1 + w2)) := by
    rw [List.length_append, encodeRows_length _ _ _ _ hf]
    have : es.length ≤ (es.length * (w0 + w1 + w2) + rest.length) / (w0 + w1 + w2) := by
      rw [Nat.le_div_iff_mul_le hpos]; omega
    omega
  simp only [hrow, hz, hlen, if_false]
  rw [readEntries_encode w0 w1 w2 es rest [] h0 h1 h2 hf]
  simp

/-- **C02, any subsection splitting (stream format).** The `/Index` loop reads every subsection of a
    section back, in order: `parseSections` inverts the concatenation of the encoded subsections. -/
theorem stream_sections_read_back (subs : List Sub) (w0 w1 w2 : Nat) (allowErr : Bool)
    (h0 : w0 ≤ 8) (h1 : w1 ≤ 8) (h2 : w2 ≤ 8)
    (hf : ∀ s ∈ subs, ∀ e ∈ s.entries, Fits w0 w1 w2 e)
    (hpos : 0 < w0 + w1 + w2) (acc : List Sub) :
    parseSections [w0, w1, w2] allowErr (subs.map fun s => (s.first, s.entries.length))
        (subs.flatMap fun s => encodeRows w0 w1 w2 s.entries) acc
      = .ok (acc.reverse ++ subs) := by
  induction subs generalizing acc with
  | nil => simp [parseSections]
  | cons s ss ih =>
    simp only [List.map_cons, List.flatMap_cons, parseSections]
    rw [stream_section_reads_back s.first s.entries w0 w1 w2 _ allowErr h0 h1 h2
          (hf s (by simp)) hpos]
    simp only
    rw [ih (fun x hx => hf x (by simp [hx]))]
    simp

/-- a concrete section with all three entry kinds satisfies the hypotheses (non-vacuity) -/
example : ∀ e ∈ [XRef.free 0 65535, .raw 1234 0, .stream 7 3], Fits 1 2 2 e := by decide

example : parseSection 0 3 [1, 2, 2] (encodeRows 1 2 2 [.free 0 65535, .raw 1234 0, .stream 7 3]) false
    = .ok (⟨0, [.free 0 65535, .raw 1234 0, .stream 7 3]⟩, []) := by decide

/-- **C02, stream format, sections and merge side by side.** For a history whose sections are all written as
    (unfiltered) cross-reference streams — `widths` gives the `/W` triple chosen for each section, any
    subsection splitting — the statement is a *conjunction* of two facts about the same sections: (a) for every
    section the row reader `parseSections`, applied to the big-endian rows of that section, returns the
    section; (b) `merge_newest_wins` for the history.  It is not a statement about one function from the bytes
    of a file to the table; that composition (through the `/Prev` walk and the section head) is
    `file_walk_newest_wins_filtered`. -/
theorem stream_history_newest_wins (size : Nat) (h : List (List Sub)) (id : Nat) (hid : id < size)
    (wf : WF h id) (allowErr : Bool)
    (widths : List Sub → Nat × Nat × Nat)
    (hw : ∀ sec ∈ h, (widths sec).1 ≤ 8 ∧ (widths sec).2.1 ≤ 8 ∧ (widths sec).2.2 ≤ 8)
    (hf : ∀ sec ∈ h, ∀ s ∈ sec, ∀ e ∈ s.entries, Fits (widths sec).1 (widths sec).2.1 (widths sec).2.2 e)
    (hpos : ∀ sec ∈ h, 0 < (widths sec).1 + (widths sec).2.1 + (widths sec).2.2) :
    (∀ sec ∈ h,
      parseSections [(widths sec).1, (widths sec).2.1, (widths sec).2.2] allowErr
        (sec.map fun s => (s.first, s.entries.length))
        (sec.flatMap fun s => encodeRows (widths sec).1 (widths sec).2.1 (widths sec).2.2 s.entries) []
        = .ok sec) ∧
    ∃ t, mergeAll (newTable size) h.reverse = .ok t ∧ t[id]? = some ((latest h id).getD .invalid) := by
  refine ⟨?_, merge_newest_wins size h id hid wf⟩
  intro sec hsec
  obtain ⟨a, b, c⟩ := hw sec hsec
  have := stream_sections_read_back sec _ _ _ allowErr a b c (hf sec hsec) (hpos sec hsec) []
  simpa using this


/-! ## Classic tables: the byte-level section reader returns what a conforming writer wrote

`Model/XrefTable` mirrors `parse_xref_table_and_trailer` / `read_xref_and_trailer_at` on the lexer model;
`Spec/XrefTable` says, independently of the reader, which texts a conforming writer may emit
(`TableText`, `SectionText`: every token followed by a non-empty run of white-space / comments, which
covers the 20-byte entries with their three line ends, any white-space / end-of-line around the header
numbers, any splitting into subsections) and contains an executable writer driven by a tape of layout
choices. -/

section ClassicTable
open PdfLex XrefTable XrefTableSpec
open PdfSyntax (Gap Bnd Spells)

/-- **C02, "each section in either xref format" (classic format), reader ∘ writer = sections.**
    For every list of subsections and every text `tbl` the relation permits for it (any legal layout),
    placed anywhere in a buffer behind any gap `g` (the separator after `xref`) and followed by `trailer`:
    the subsection loop returns exactly the subsections — first numbers, entry kinds, offsets, generations,
    splitting — and the lexer rests right behind the keyword `trailer`.  No error, no panic, fuel suffices. -/
theorem table_section_reads_back {buf : Buf} (subs : List Sub) (g tbl rest : List UInt8) (hg : Gap g)
    (htt : TableText subs tbl) (hb : Bnd rest) (p : Nat)
    (h : Suffix buf p (g ++ tbl ++ XrefTable.kwTrailer ++ rest)) :
    parseTable buf (XrefTable.defaultFuel buf) p = .ok (subs, p + (g ++ tbl ++ XrefTable.kwTrailer).length) := by
  apply parseTable_spec subs g tbl rest hg htt hb _ p _ h
  have h1 := tableText_length subs tbl htt
  have h2 := h.size_eq
  simp only [XrefTable.defaultFuel]
  simp at h2; omega

/-- **The fixed 20-byte entry format is covered**: `nnnnnnnnnn ggggg n` / `… f` followed by SP CR, SP LF or
    CR LF is a text the relation permits for that entry (and it is 20 bytes long). -/
theorem strict_entries_covered (e : XRef) (t : List UInt8) (h : StrictEntry e t) : EntryText e t ∧ t.length = 20 :=
  strict_entry_conformant e t h

/-- **The executable writer is conforming** (so everything the harness generates from it lies in the domain
    of the theorems): whatever the layout tape, for subsections that a classic table can hold. -/
theorem table_writer_conformant (subs : List Sub) (h : ∀ s ∈ subs, SubOK s) (tape : List Nat) :
    TableText subs (writeTable subs tape).1 :=
  writeTable_conformant subs h tape

/-- reader ∘ executable writer = sections, for every layout tape -/
theorem table_writer_reads_back (subs : List Sub) (h : ∀ s ∈ subs, SubOK s) (tape : List Nat) (g rest : List UInt8)
    (hg : Gap g) (hb : Bnd rest) :
    parseTable (g ++ (writeTable subs tape).1 ++ XrefTable.kwTrailer ++ rest).toArray
        ((g ++ (writeTable subs tape).1 ++ XrefTable.kwTrailer ++ rest).length + 1) 0
      = .ok (subs, (g ++ (writeTable subs tape).1 ++ XrefTable.kwTrailer).length) := by
  have := table_section_reads_back (buf := (g ++ (writeTable subs tape).1 ++ XrefTable.kwTrailer ++ rest).toArray)
    subs g _ rest hg (writeTable_conformant subs h tape) hb 0 (suffix_zero _)
  simpa [XrefTable.defaultFuel] using this

/-- **The subsection loop ends on every input** (the Rust `while` loop carries no bound; the model's does):
    whatever the bytes, from any lexer position, `buf.size + 1` rounds suffice — every round consumes at
    least the two header numbers, and every lexeme is at least one byte of progress
    (`PdfLex.nextWord_spec`; the comment loop inside `next_word` never exhausts its own fuel either). -/
theorem table_reader_total (buf : Buf) (pos : Nat) (hp : pos ≤ buf.size) :
    parseTable buf (XrefTable.defaultFuel buf) pos ≠ .oof :=
  parseTable_ne_oof buf pos hp

variable {R : Type}

/-- **C02, whole classic section through `read_xref_and_trailer_at`.** A section `txt` (optional gap,
    `xref`, separator, table, `trailer`, optional gap, a conformant spelling of the trailer dictionary
    `d`) anywhere in a buffer: whatever the cross-reference-stream branch `stm` would do, the reader
    returns the subsections and the trailer dictionary.  Hypotheses as in C03 for the dictionary (distinct
    UTF-8 keys, nesting within `MAX_DEPTH`, what follows does not continue the dictionary: `Ahead`). -/
theorem table_section_with_trailer_reads_back (env : Env R) (hd : env.decrypt = none)
    (stm : Buf → Nat → Out (List Sub × Dict R)) (subs : List Sub) (d : Dict R) (dtxt txt rest : List UInt8)
    (hst : SectionText subs dtxt txt) (hsp : Spells env.parseReal (.dict d) dtxt)
    (hwf : PdfSyntax.WF (Prim.dict d)) (hdepth : PdfSyntax.vdepth (Prim.dict d) ≤ maxDepth)
    (hsz : (txt ++ rest).length ≤ 2147483647) (hah : Ahead (txt ++ rest).toArray txt.length) :
    xrefAt env stm (txt ++ rest) = .ok (subs, d) :=
  xrefAt_table env hd stm subs d dtxt txt rest hst hsp hwf hdepth hsz hah

/-- **C02, classic format, sections and merge side by side.** For a history whose sections are all written as
    classic tables (`secs`: every section with its text, oldest first, each in any legal layout) the statement is
    a *conjunction*: (a) wherever the text of a section stands in a buffer, `parseTable` returns that section
    (`table_section_reads_back` for each); (b) `merge_newest_wins` for the history.  The composition from the
    bytes of one file through the `/Prev` walk to the table is `table_file_newest_wins` / `file_walk_newest_wins`. -/
theorem table_history_newest_wins (size : Nat) (secs : List (List Sub × List UInt8)) (id : Nat) (hid : id < size)
    (wf : WF (secs.map (·.1)) id) (hw : ∀ s ∈ secs, TableText s.1 s.2) :
    (∀ s ∈ secs, ∀ {buf : Buf} (g rest : List UInt8) (p : Nat), Gap g → Bnd rest →
        Suffix buf p (g ++ s.2 ++ XrefTable.kwTrailer ++ rest) →
        parseTable buf (XrefTable.defaultFuel buf) p = .ok (s.1, p + (g ++ s.2 ++ XrefTable.kwTrailer).length)) ∧
    ∃ t, mergeAll (newTable size) (secs.map (·.1)).reverse = .ok t ∧
      t[id]? = some ((latest (secs.map (·.1)) id).getD .invalid) := by
  refine ⟨?_, merge_newest_wins size _ id hid wf⟩
  intro s hs buf g rest p hg hb hsuf
  exact table_section_reads_back _ g _ rest hg (hw s hs) hb p hsuf

/-- how one section of a history is stored in the file -/
inductive Stored where
  /-- classic table with this text between `xref` and `trailer` -/
  | table (tbl : List UInt8)
  /-- cross-reference stream with these field widths -/
  | stream (w0 w1 w2 : Nat)

/-- the section is stored by a conforming writer of that format -/
def StoredOK (sec : List Sub) : Stored → Prop
  | .table tbl => TableText sec tbl
  | .stream w0 w1 w2 => w0 ≤ 8 ∧ w1 ≤ 8 ∧ w2 ≤ 8 ∧ (∀ s ∈ sec, ∀ e ∈ s.entries, Fits w0 w1 w2 e) ∧
      0 < w0 + w1 + w2

/-- the byte-level reader of that format returns the section -/
def ReadsBack (allowErr : Bool) (sec : List Sub) : Stored → Prop
  | .table tbl => ∀ {buf : Buf} (g rest : List UInt8) (p : Nat), Gap g → Bnd rest →
      Suffix buf p (g ++ tbl ++ XrefTable.kwTrailer ++ rest) →
      parseTable buf (XrefTable.defaultFuel buf) p = .ok (sec, p + (g ++ tbl ++ XrefTable.kwTrailer).length)
  | .stream w0 w1 w2 =>
      parseSections [w0, w1, w2] allowErr (sec.map fun s => (s.first, s.entries.length))
        (sec.flatMap fun s => encodeRows w0 w1 w2 s.entries) [] = .ok sec

theorem readsBack_of_storedOK (allowErr : Bool) (sec : List Sub) :
    ∀ f : Stored, StoredOK sec f → ReadsBack allowErr sec f
  | .table _, hok => fun g rest p hg hb hsuf => table_section_reads_back _ g _ rest hg hok hb p hsuf
  | .stream w0 w1 w2, ⟨a, b, c, hf, hpos⟩ => by
    simpa [ReadsBack] using stream_sections_read_back sec w0 w1 w2 allowErr a b c hf hpos []

/-- **C02, mixed formats: "each update may use a classic table or a cross-reference stream".** Every section
    of the history (`secs`: section and how it is stored, oldest first) independently in either format (any
    layout / any widths, any subsection splitting).  A *conjunction*: (a) each section is read back by the
    reader of its format (`ReadsBack`: `parseTable` on its text, or `parseSections` on its rows); (b) the merge
    of the sections holds the newest mention of every well-formed object number (`merge_newest_wins`).  The
    two halves share the sections, not a function: the end-to-end statement over the bytes of a file is
    `file_walk_newest_wins` (and `…_filtered`). -/
theorem file_history_newest_wins (size : Nat) (secs : List (List Sub × Stored)) (id : Nat) (hid : id < size)
    (wf : WF (secs.map (·.1)) id) (allowErr : Bool) (hw : ∀ s ∈ secs, StoredOK s.1 s.2) :
    (∀ s ∈ secs, ReadsBack allowErr s.1 s.2) ∧
    ∃ t, mergeAll (newTable size) (secs.map (·.1)).reverse = .ok t ∧
      t[id]? = some ((latest (secs.map (·.1)) id).getD .invalid) :=
  ⟨fun s hs => readsBack_of_storedOK allowErr s.1 s.2 (hw s hs), merge_newest_wins size _ id hid wf⟩

end ClassicTable

/-! ## The `/Prev` walk

`Backend::read_xref_table_and_trailer` is `Offsets.loadTable` (Model/Offsets) over an abstract "section at
offset" function.  A well-formed file is a chain `newest :: older` of sections (`Offsets.Rev`: offset,
subsections, trailer) such that the reader returns each section at its offset (`ReadsAt`), every trailer's
`/Prev` is the offset of the next older section and the oldest has none (`Linked`), and the older offsets
are pairwise distinct. -/

section Walk
open Offsets OffLex

variable {V T : Type}

/-- **The walk visits exactly the chain, newest → oldest.** The result is the merge, into a fresh table of
    `/Size + 1` slots (`/Size` of the *newest* trailer), of the newest section and then every older one in
    chain order — no section skipped, none merged twice, nothing else read — paired with the newest trailer;
    errors of the merge are passed on unchanged. `fuel` need only cover the number of older sections. -/
theorem walk_visits_chain (P : Parsers V T) (buf : Bytes) (start fuel : Nat) (newest : Rev T) (older : List (Rev T))
    (size : Nat) (hx : locateXref buf = .ok newest.off) (hin : start + newest.off < buf.length)
    (hfit : start + newest.off ≤ usizeMax)
    (hnew : P.xrefAt (buf.drop (start + newest.off)) = .ok (newest.subs, newest.trailer))
    (hsize : P.sizeOf newest.trailer = .ok size) (hmax : size ≤ maxId)
    (hread : ∀ r ∈ older, ReadsAt P buf start r) (hlink : Linked P (newest :: older))
    (hnd : (older.map (·.off)).Nodup) (hfuel : older.length ≤ fuel) :
    loadTable P fuel buf start
      = withTrailer newest.trailer (mergeAll (newTable size) ((newest :: older).map (·.subs))) :=
  loadTable_chain P buf start fuel newest older size hx hin hfit hnew hsize hmax hread hlink hnd hfuel

/-- **C02, "the document trailer is that of the newest section"**, and `/Size` of the newest trailer sizes
    the table: whenever the walk over a well-formed chain succeeds, the trailer it returns is the newest
    one and the table has `/Size + 1` slots. -/
theorem trailer_is_newest (P : Parsers V T) (buf : Bytes) (start fuel : Nat) (newest : Rev T) (older : List (Rev T))
    (size : Nat) (hx : locateXref buf = .ok newest.off) (hin : start + newest.off < buf.length)
    (hfit : start + newest.off ≤ usizeMax)
    (hnew : P.xrefAt (buf.drop (start + newest.off)) = .ok (newest.subs, newest.trailer))
    (hsize : P.sizeOf newest.trailer = .ok size) (hmax : size ≤ maxId)
    (hread : ∀ r ∈ older, ReadsAt P buf start r) (hlink : Linked P (newest :: older))
    (hnd : (older.map (·.off)).Nodup) (hfuel : older.length ≤ fuel)
    (t : Table) (tr : T) (hok : loadTable P fuel buf start = .ok (t, tr)) :
    tr = newest.trailer ∧ t.length = size + 1 ∧
      mergeAll (newTable size) ((newest :: older).map (·.subs)) = .ok t := by
  rw [walk_visits_chain P buf start fuel newest older size hx hin hfit hnew hsize hmax hread hlink hnd hfuel] at hok
  cases hm : mergeAll (newTable size) ((newest :: older).map (·.subs)) with
  | ok t' =>
    rw [hm] at hok
    obtain ⟨rfl, rfl⟩ : t' = t ∧ newest.trailer = tr := by simpa [withTrailer] using hok
    exact ⟨rfl, by rw [mergeAll_length _ hm, newTable_length], rfl⟩
  | _ => rw [hm] at hok; cases hok

/-- the history (oldest first) that a chain (newest first) stands for -/
def historyOf (chain : List (Rev T)) : List (List Sub) := (chain.map (·.subs)).reverse

/-- a walk that returns the merge of a chain returns the newest mention of every well-formed number -/
theorem newest_wins_of_walk {x : Out (Table × T)} {tr : T} {size : Nat} {chain : List (Rev T)}
    (hx : x = withTrailer tr (mergeAll (newTable size) (chain.map (·.subs))))
    (id : Nat) (hid : id < size) (wf : WF (historyOf chain) id) :
    ∃ t, x = .ok (t, tr) ∧ t.length = size + 1 ∧ t[id]? = some ((latest (historyOf chain) id).getD .invalid) := by
  obtain ⟨t, hm, hg⟩ := merge_newest_wins size (historyOf chain) id hid wf
  rw [historyOf, List.reverse_reverse] at hm
  exact ⟨t, by rw [hx, hm]; rfl, by rw [mergeAll_length _ hm, newTable_length], hg⟩

/-- **C02 through the walk.** On a well-formed chain the walk succeeds, returns the newest trailer, and the
    table holds for every well-formed object number below the newest `/Size` exactly its newest mention
    (or `Invalid` when no section mentions it). -/
theorem walk_newest_wins (P : Parsers V T) (buf : Bytes) (start fuel : Nat) (newest : Rev T) (older : List (Rev T))
    (size : Nat) (hx : locateXref buf = .ok newest.off) (hin : start + newest.off < buf.length)
    (hfit : start + newest.off ≤ usizeMax)
    (hnew : P.xrefAt (buf.drop (start + newest.off)) = .ok (newest.subs, newest.trailer))
    (hsize : P.sizeOf newest.trailer = .ok size) (hmax : size ≤ maxId)
    (hread : ∀ r ∈ older, ReadsAt P buf start r) (hlink : Linked P (newest :: older))
    (hnd : (older.map (·.off)).Nodup) (hfuel : older.length ≤ fuel)
    (id : Nat) (hid : id < size) (wf : WF (historyOf (newest :: older)) id) :
    ∃ t, loadTable P fuel buf start = .ok (t, newest.trailer) ∧ t.length = size + 1 ∧
      t[id]? = some ((latest (historyOf (newest :: older)) id).getD .invalid) :=
  newest_wins_of_walk
    (walk_visits_chain P buf start fuel newest older size hx hin hfit hnew hsize hmax hread hlink hnd hfuel) id hid wf

end Walk

/-! ## From the bytes of a file to the merged table

The walk with the section reader made concrete (`XrefTable.readXrefTableAndTrailer`, Model/XrefFile):
classic sections are read from their bytes by the table reader; for a section stored as a cross-reference
stream the contract `ReadsAt` of the (abstract) stream reader `stm` is assumed — its row reader is
covered by `stream_sections_read_back`. -/

section File
open PdfLex XrefTable XrefTableSpec Offsets

variable {R V : Type}

/-- **C02 for a file, each section independently in table or stream format.** `buf` is the file, the header
    sits at `start`, `startxref` names the newest section; every section of the chain `newest :: older`
    is either a classic section written in any conforming layout at its offset (`ClassicAt`: the bytes
    there are a `SectionText` of its subsections followed by a conformant spelling of its trailer
    dictionary) or is returned by the stream reader (`ReadsAt`); the trailer dictionaries link the chain
    through `/Prev`, the newest one carries `/Size`.  Then `read_xref_table_and_trailer` returns the newest
    trailer dictionary and a table of `/Size + 1` slots that holds, for every well-formed object number
    below `/Size`, exactly its newest mention. -/
theorem file_walk_newest_wins (env : Env R) (hd : env.decrypt = none) (stm : Buf → Nat → Out (List Sub × Dict R))
    (base : Parsers V (Dict R)) (buf : List UInt8) (start fuel : Nat) (hsz : buf.length ≤ 2147483647)
    (newest : Rev (Dict R)) (older : List (Rev (Dict R))) (size : Nat)
    (hx : locateXref buf = .ok newest.off) (hin : start + newest.off < buf.length)
    (hsec : ∀ r ∈ newest :: older, ClassicAt env buf start r ∨ ReadsAt (fileParsers env stm base) buf start r)
    (hsize : dictGet newest.trailer keySize = some (.int (size : Int))) (hmax : size ≤ maxId)
    (hlink : PrevLinked (newest :: older)) (hnd : (older.map (·.off)).Nodup) (hfuel : older.length ≤ fuel)
    (id : Nat) (hid : id < size) (wf : WF (historyOf (newest :: older)) id) :
    ∃ t, readXrefTableAndTrailer env stm base fuel buf start = .ok (t, newest.trailer) ∧ t.length = size + 1 ∧
      t[id]? = some ((latest (historyOf (newest :: older)) id).getD .invalid) :=
  newest_wins_of_walk
    (file_walk_chain env hd stm base buf start fuel hsz newest older size hx hin hsec hsize hmax hlink hnd hfuel) id hid wf

/-- the all-classic special case: every section of the file is a classic table in some conforming layout -/
theorem table_file_newest_wins (env : Env R) (hd : env.decrypt = none) (stm : Buf → Nat → Out (List Sub × Dict R))
    (base : Parsers V (Dict R)) (buf : List UInt8) (start fuel : Nat) (hsz : buf.length ≤ 2147483647)
    (newest : Rev (Dict R)) (older : List (Rev (Dict R))) (size : Nat)
    (hx : locateXref buf = .ok newest.off) (hin : start + newest.off < buf.length)
    (hsec : ∀ r ∈ newest :: older, ClassicAt env buf start r)
    (hsize : dictGet newest.trailer keySize = some (.int (size : Int))) (hmax : size ≤ maxId)
    (hlink : PrevLinked (newest :: older)) (hnd : (older.map (·.off)).Nodup) (hfuel : older.length ≤ fuel)
    (id : Nat) (hid : id < size) (wf : WF (historyOf (newest :: older)) id) :
    ∃ t, readXrefTableAndTrailer env stm base fuel buf start = .ok (t, newest.trailer) ∧ t.length = size + 1 ∧
      t[id]? = some ((latest (historyOf (newest :: older)) id).getD .invalid) :=
  file_walk_newest_wins env hd stm base buf start fuel hsz newest older size hx hin
    (fun r hr => Or.inl (hsec r hr)) hsize hmax hlink hnd hfuel id hid wf

end File


/-! ### Non-vacuity (classic tables)

`00%A<LF> 02 0000000000 65535 f<CR><LF>0000000017 00000 n <CR>5 1<CR><LF>0000000100 00001 n <LF> 09<CR>0 `:
three subsections (one of them empty), leading zeros, a comment and a line end between the header
numbers, all three entry line ends. It is what the executable writer emits for the tape below, the relation
permits it, and the model reads it back. -/

def sampleTable : List Sub := [⟨0, [.free 0 65535, .raw 17 0]⟩, ⟨5, [.raw 100 1]⟩, ⟨9, []⟩]

def sampleTape : List Nat := [1, 2, 7, 1, 65, 0, 0, 1, 1, 0, 2, 0, 0, 0, 1, 0, 0, 2, 2, 1, 1, 1, 0, 1, 1, 2]

def sampleTableText : List UInt8 :=
  [48, 48, 37, 65, 10, 32, 48, 50, 32, 48, 48, 48, 48, 48, 48, 48, 48, 48, 48, 32, 54, 53, 53, 51, 53, 32, 102, 13, 10,
   48, 48, 48, 48, 48, 48, 48, 48, 49, 55, 32, 48, 48, 48, 48, 48, 32, 110, 32, 13, 53, 32, 49, 13, 10, 48, 48, 48, 48,
   48, 48, 48, 49, 48, 48, 32, 48, 48, 48, 48, 49, 32, 110, 32, 10, 32, 48, 57, 13, 48, 32]

theorem sampleTable_written : (XrefTableSpec.writeTable sampleTable sampleTape).1 = sampleTableText := by
  decide +kernel

theorem sampleTable_ok : ∀ s ∈ sampleTable, XrefTableSpec.SubOK s := by decide

/-- the hypothesis `TableText` of the reader theorems holds for it -/
theorem sampleTable_conformant : XrefTableSpec.TableText sampleTable sampleTableText := by
  rw [← sampleTable_written]
  exact table_writer_conformant sampleTable sampleTable_ok sampleTape

/-- `table_section_reads_back` applies: behind `xref<LF>`, followed by `trailer<<` -/
example : XrefTable.parseTable ([10] ++ sampleTableText ++ XrefTable.kwTrailer ++ [60, 60]).toArray
    (XrefTable.defaultFuel ([10] ++ sampleTableText ++ XrefTable.kwTrailer ++ [60, 60]).toArray) 0
      = .ok (sampleTable, 0 + ([10] ++ sampleTableText ++ XrefTable.kwTrailer).length) :=
  table_section_reads_back sampleTable [10] sampleTableText [60, 60]
    (PdfSyntax.Gap.ws 10 [] (by decide) PdfSyntax.Gap.nil) sampleTable_conformant (by simp [PdfSyntax.Bnd]; decide) 0
    (PdfLex.suffix_zero _)

/-- the same with the position spelt out and another fuel (any above the number of subsections will do) -/
example : XrefTable.parseTable ([10] ++ sampleTableText ++ XrefTable.kwTrailer ++ [60, 60]).toArray 100 0
    = .ok (sampleTable, 88) :=
  XrefTable.parseTable_spec sampleTable [10] sampleTableText [60, 60]
    (PdfSyntax.Gap.ws 10 [] (by decide) PdfSyntax.Gap.nil) sampleTable_conformant (by simp [PdfSyntax.Bnd]; decide) 100 0
    (by decide) (PdfLex.suffix_zero _)

/-- every entry of the sample is in the fixed 20-byte format -/
example : XrefTableSpec.StrictEntry (.raw 100 1) (XrefTableSpec.entryBytes (.raw 100 1) 1) :=
  XrefTableSpec.entryBytes_strict (.raw 100 1) 1 (by decide)

/-- a damaged table is refused, not misread: entry kind letter `x`, a count larger than the entries present,
    a missing `trailer` -/
example : XrefTable.parseTable "0 1 0000000000 65535 x \ntrailer".toUTF8.toList.toArray 100 0 = .err := by decide +kernel
example : XrefTable.parseTable "0 2 0000000000 65535 f \ntrailer".toUTF8.toList.toArray 100 0 = .err := by decide +kernel
example : XrefTable.parseTable "0 1 0000000000 65535 f \n".toUTF8.toList.toArray 100 0 = .err := by decide +kernel


/-! ## Filtered cross-reference streams

Real files store the rows of a cross-reference stream compressed: `/Filter /FlateDecode /DecodeParms
<< /Predictor 12 /Columns w >>`, sometimes inside an ASCII filter.  The filter model is `Model/Enc`
(C05 package: `decodeChain`, `unpredict` with its row loop; zlib is third-party code, what it returns for
the compressed bytes is the explicit hypothesis carried by the encoder relation `Enc.EncodesStep` of
`Props/C05`); the writer side is `Lemmas/XrefFiltered` (`rowData`, `predicted`, `PngFlate`,
`FilteredData`). -/

section Filtered
open Enc XrefFiltered

/-- **C02, stream format with filters, reader ∘ writer = sections.** For every list of subsections, every
    widths triple `≤ 8` (not all zero) that fits the fields, and every filter chain `fs` under which `y` is a
    conforming encoding of the rows (`FilteredData` = the chain relation of C05: any of the dispatch's
    filters, any length): undoing the filters with the C05 model and reading the rows returns the sections, in
    strict and tolerant mode. -/
theorem filtered_stream_section_reads_back (X : Ext) (fs : List Filter) (subs : List Sub) (w0 w1 w2 : Nat)
    (allowErr : Bool) (h0 : w0 ≤ 8) (h1 : w1 ≤ 8) (h2 : w2 ≤ 8)
    (hf : ∀ s ∈ subs, ∀ e ∈ s.entries, Fits w0 w1 w2 e) (hpos : 0 < w0 + w1 + w2)
    (y : List UInt8) (h : FilteredData X fs w0 w1 w2 subs y) :
    ∃ data, decodeChain X y fs = .ok data ∧
      parseSections [w0, w1, w2] allowErr (subs.map fun s => (s.first, s.entries.length)) data [] = .ok subs := by
  refine ⟨rowData w0 w1 w2 subs, decodeChain_of_encodes h, ?_⟩
  have := stream_sections_read_back subs w0 w1 w2 allowErr h0 h1 h2 hf hpos []
  simpa [rowData] using this

/-- **The usual shape: Flate over PNG-predicted rows.** Parameters of *any* geometry whose row size is the row
    width `w0+w1+w2` (in particular `/Columns w0+w1+w2`, see `png_columns_geometry`), any predictor value
    10–15, *any* PNG filter type chosen per row (`types`), zlib framing (hypothesis: the third-party inflate
    returns the predicted bytes for `z`), bare or wrapped in ASCIIHex / ASCII85 (any conforming encoding of
    `z`): decoding and reading the rows returns the sections. -/
theorem png_flate_stream_section_reads_back (X : Ext) (subs : List Sub) (w0 w1 w2 : Nat) (allowErr : Bool)
    (h0 : w0 ≤ 8) (h1 : w1 ≤ 8) (h2 : w2 ≤ 8)
    (hf : ∀ s ∈ subs, ∀ e ∈ s.entries, Fits w0 w1 w2 e) (hpos : 0 < w0 + w1 + w2)
    (fs : List Filter) (y : List UInt8) (h : PngFlate X w0 w1 w2 subs fs y) :
    ∃ data, decodeChain X y fs = .ok data ∧
      parseSections [w0, w1, w2] allowErr (subs.map fun s => (s.first, s.entries.length)) data [] = .ok subs :=
  filtered_stream_section_reads_back X fs subs w0 w1 w2 allowErr h0 h1 h2 hf hpos y
    (pngFlate_filtered X w0 w1 w2 subs hf h)

/-- `/Predictor k /Columns S` with the defaults `/Colors 1 /BitsPerComponent 8`: the row size is `S`.
    (`S ≤ 24`: a row is three fields of at most 8 bytes; `XrefFiltered.columns_geometry` needs only `S < 2^61`.) -/
theorem png_columns_geometry (k : Int) (S : Nat) (hS : 1 ≤ S) (hb : S ≤ 24) (early : Int) :
    predictorGeometry { predictor := k, colors := 1, bpc := 8, columns := (S : Int), earlyChange := early } = .ok (1, S) :=
  columns_geometry k S hS (by omega) early

/-- how one section of a history is stored in the file, filters included -/
inductive StoredF where
  | table (tbl : List UInt8)
  | stream (w0 w1 w2 : Nat)
  /-- cross-reference stream with these widths whose data `y` is encoded for the filter list `fs` -/
  | filtered (w0 w1 w2 : Nat) (fs : List Filter) (y : List UInt8)

def StoredFOK (X : Ext) (sec : List Sub) : StoredF → Prop
  | .table tbl => XrefTableSpec.TableText sec tbl
  | .stream w0 w1 w2 => w0 ≤ 8 ∧ w1 ≤ 8 ∧ w2 ≤ 8 ∧ (∀ s ∈ sec, ∀ e ∈ s.entries, Fits w0 w1 w2 e) ∧ 0 < w0 + w1 + w2
  | .filtered w0 w1 w2 fs y => w0 ≤ 8 ∧ w1 ≤ 8 ∧ w2 ≤ 8 ∧ (∀ s ∈ sec, ∀ e ∈ s.entries, Fits w0 w1 w2 e) ∧
      0 < w0 + w1 + w2 ∧ FilteredData X fs w0 w1 w2 sec y

def ReadsBackF (X : Ext) (allowErr : Bool) (sec : List Sub) : StoredF → Prop
  | .table tbl => ReadsBack allowErr sec (.table tbl)
  | .stream w0 w1 w2 => ReadsBack allowErr sec (.stream w0 w1 w2)
  | .filtered w0 w1 w2 fs y => ∃ data, decodeChain X y fs = .ok data ∧
      parseSections [w0, w1, w2] allowErr (sec.map fun s => (s.first, s.entries.length)) data [] = .ok sec

/-- **C02, mixed formats with filters.** Every section of the history independently a classic table (any
    layout), an unfiltered cross-reference stream, or a filtered one (any conforming filter chain, e.g. Flate
    with a PNG predictor and any row filter types).  A *conjunction*, as `file_history_newest_wins`: (a) each
    section is read back by the reader of its format — for the filtered ones the C05 filter model followed by
    the row reader; (b) the merge of the sections holds the newest mention of every well-formed object number.
    End to end over the bytes of a file: `file_walk_newest_wins_filtered`. -/
theorem file_history_newest_wins_filtered (X : Ext) (size : Nat) (secs : List (List Sub × StoredF)) (id : Nat)
    (hid : id < size) (wf : WF (secs.map (·.1)) id) (allowErr : Bool) (hw : ∀ s ∈ secs, StoredFOK X s.1 s.2) :
    (∀ s ∈ secs, ReadsBackF X allowErr s.1 s.2) ∧
    ∃ t, mergeAll (newTable size) (secs.map (·.1)).reverse = .ok t ∧
      t[id]? = some ((latest (secs.map (·.1)) id).getD .invalid) := by
  refine ⟨?_, merge_newest_wins size _ id hid wf⟩
  rintro ⟨sec, f⟩ hs
  have hok := hw _ hs
  cases f with
  | table tbl => exact fun {_} => readsBack_of_storedOK allowErr sec (.table tbl) hok
  | stream w0 w1 w2 => exact readsBack_of_storedOK allowErr sec (.stream w0 w1 w2) hok
  | filtered w0 w1 w2 fs y =>
    obtain ⟨a, b, c, hf, hpos, hfd⟩ := hok
    exact filtered_stream_section_reads_back X fs sec w0 w1 w2 allowErr a b c hf hpos y hfd

end Filtered


section FilteredFile
open PdfLex XrefTable XrefFiltered Offsets
open PdfSyntax (Gap Bnd WFE keysOf vdepthE needE)

variable {R V : Type}

/-- **C02, a (filtered) cross-reference stream section in a file.** The contract `ReadsAt` of the `/Prev` walk holds
    for every section `StreamAt` describes — an indirect stream object at the section's offset, any gaps, whose
    dictionary names the filter list under which its data is a conforming encoding of the rows — with the
    section-head model of the C17 package (`XrefSec.stmC`: `parse_indirect_stream`, `XRefInfo::from_dict`, `/Index`
    parity) and the filter model of the C05 package (`XrefFilters.decOf` over `Enc.decodeChain`) plugged in. -/
theorem filtered_stream_section_at_reads_back (env : Env R) (hd : env.decrypt = none) (X : Enc.Ext) (tolerant allowErr : Bool)
    (base : Offsets.Parsers V (Dict R)) (buf : List UInt8) (start : Nat) (r : Offsets.Rev (Dict R))
    (hsz : buf.length ≤ 2147483647) (h : StreamAt env X tolerant buf start r) :
    Offsets.ReadsAt (fileParsers { env with fileOffset := 0 }
      (XrefSec.stmC env (XrefFilters.decOf X tolerant) allowErr) base) buf start r := by
  obtain ⟨y, txt, rest, w0, w1, w2, size, fs, hdrop, hle, hst, hbr, hwf, hnd, hlen, hdepth, hxi, hfs, h0, h1, h2, hf, hpos,
    hfd⟩ := h
  refine ⟨by unfold OffLex.usizeMax; omega, hle, ?_⟩
  show xrefAt _ _ (buf.drop (start + r.off)) = _
  rw [hdrop]
  have hlen2 : (txt ++ rest).toArray.size ≤ 2147483647 := by
    rw [List.size_toArray, ← hdrop, List.length_drop]; omega
  have hneed := streamSectionText_need env.parseReal r.trailer y txt hst
  have hsuf : Suffix (txt ++ rest).toArray 0 (txt ++ rest) := suffix_zero _
  -- the section head, with the rows decoded and read back
  have hhead := parseXrefStreamAndTrailer_spec env hd (XrefFilters.decOf X tolerant) allowErr r.trailer y txt rest hst hwf hnd
    hlen hdepth hlen2 (PdfLex.defaultFuel (txt ++ rest).toArray) 0
    (by simp only [PdfLex.defaultFuel, List.size_toArray, List.length_append]; omega) hsuf hbr _ hxi _
    (by simp [XrefFilters.decOf, hfs, Enc.decodeChain_of_encodes hfd] :
      XrefFilters.decOf X tolerant r.trailer y = .ok (rowData w0 w1 w2 r.subs))
    _ (pairsOf_flat r.subs) r.subs (stream_sections_read_back r.subs w0 w1 w2 allowErr h0 h1 h2 hf hpos [])
  -- the dispatch: the section begins with the object number
  obtain ⟨a, g1, b, g2, g3, stxt, g4, g5, tailw, id, gen, rfl, ha, _, hid, _, hg1, hg1ne, _⟩ := hst
  rw [xrefAt, RepBytes.readXrefAndTrailerAt_number _ _ a _ id ha hid
    (by simpa using gap_bnd hg1 hg1ne (b ++ g2 ++ kwObj ++ g3 ++ stxt ++ g4 ++ kwEndobj ++ g5 ++ tailw ++ rest))
    (by simpa using hsuf)]
  exact hhead

/-- **C02 for a file whose sections are classic tables or (filtered) cross-reference streams.**
    `XrefSec.loadTableC` is `Backend::read_xref_table_and_trailer` with both section readers concrete (C17) and the
    stream data decoded by the filter model (C05).  Every section of the chain is a classic section in any
    conforming layout (`ClassicAt`) or a cross-reference stream object whose rows are stored under any
    conforming filter chain (`StreamAt`: e.g. `/FlateDecode` with `/Predictor 12 /Columns w`, any PNG filter type
    per row, see `png_flate_stream_section_reads_back`); the dictionaries link the chain through `/Prev`, the newest
    carries `/Size`.  Then the walk returns the newest trailer dictionary and a table of `/Size + 1` slots that holds
    the newest mention of every well-formed object number.  The only hypothesis on third-party code is the one
    inside `FilteredData` (what zlib returns for the compressed bytes). -/
theorem file_walk_newest_wins_filtered (env : Env R) (hd : env.decrypt = none) (X : Enc.Ext) (tolerant allowErr : Bool)
    (base : Parsers V (Dict R)) (buf : List UInt8) (start fuel : Nat) (hsz : buf.length ≤ 2147483647)
    (newest : Rev (Dict R)) (older : List (Rev (Dict R))) (size : Nat)
    (hx : locateXref buf = .ok newest.off) (hin : start + newest.off < buf.length)
    (hsec : ∀ r ∈ newest :: older, ClassicAt { env with fileOffset := 0 } buf start r ∨ StreamAt env X tolerant buf start r)
    (hsize : dictGet newest.trailer keySize = some (.int (size : Int))) (hmax : size ≤ maxId)
    (hlink : PrevLinked (newest :: older)) (hnd : (older.map (·.off)).Nodup) (hfuel : older.length ≤ fuel)
    (id : Nat) (hid : id < size) (wf : WF (historyOf (newest :: older)) id) :
    ∃ t, XrefSec.loadTableC env (XrefFilters.decOf X tolerant) allowErr base fuel buf start = .ok (t, newest.trailer) ∧
      t.length = size + 1 ∧ t[id]? = some ((latest (historyOf (newest :: older)) id).getD .invalid) :=
  file_walk_newest_wins { env with fileOffset := 0 } hd (XrefSec.stmC env (XrefFilters.decOf X tolerant) allowErr)
    base buf start fuel hsz newest older size hx hin
    (fun r hr => (hsec r hr).imp_right
      (filtered_stream_section_at_reads_back env hd X tolerant allowErr base buf start r hsz))
    hsize hmax hlink hnd hfuel id hid wf

end FilteredFile

/-! ### Non-vacuity (file level)

`exFile`: `%PDF-1.4`, a first section at offset 9 (objects 0–2) and an update at offset 98 that moves
object 1 and frees object 2, both written by the executable writer (table) and the C03 printer (trailer
dictionary), `/Prev 9` in the newer trailer, `startxref 98`.  Every hypothesis of `table_file_newest_wins`
holds for it (`exFile_walk`, `exWF`), and the table the reader returns for its bytes is written out. -/

section FileExample
open XrefTableSpec XrefTable PdfLex Offsets

def exEnv : Env Unit :=
  { parseReal := fun _ => some (), resolveLen := fun _ _ => .err, allowMissingEndobj := false, decrypt := none, fileOffset := 0 }

def exBase : Parsers Unit (Dict Unit) where
  xrefAt := fun _ => .err
  sizeOf := fun _ => .err
  prevOf := fun _ => none
  objAt := fun _ _ => .err
  streamEnd := fun _ => .err
  asLen := fun _ => .err
  stmHead := fun _ => .err
  decode := fun _ _ => .err
  parseMember := fun _ _ => .err
  scanItems := fun _ => []

def exRev0 : Rev (Dict Unit) := ⟨9, [⟨0, [.free 0 65535, .raw 9 0, .raw 20 0]⟩], [(keySize, .int 3)]⟩
def exRev1 : Rev (Dict Unit) := ⟨98, [⟨1, [.raw 50 0]⟩, ⟨2, [.free 0 1]⟩], [(keySize, .int 3), (keyPrev, .int 9)]⟩

def exTable (r : Rev (Dict Unit)) : List UInt8 := (writeTable r.subs []).1
def exDictText (r : Rev (Dict Unit)) : List UInt8 := (PdfSpec.render (fun _ => [48, 46]) (Prim.dict r.trailer) []).1
def exSection (r : Rev (Dict Unit)) : List UInt8 :=
  [] ++ XrefTableSpec.kwXref ++ [10] ++ exTable r ++ XrefTableSpec.kwTrailer ++ [10] ++ exDictText r

def exTail : List UInt8 := "\nstartxref\n98\n%%EOF".toUTF8.toList
def exFile : List UInt8 := "%PDF-1.4\n".toUTF8.toList ++ exSection exRev0 ++ [10] ++ exSection exRev1 ++ exTail

theorem exSubOK (r : Rev (Dict Unit)) (h : r = exRev0 ∨ r = exRev1) : ∀ s ∈ r.subs, SubOK s := by
  rcases h with rfl | rfl <;> decide

theorem exSectionText (r : Rev (Dict Unit)) (h : r = exRev0 ∨ r = exRev1) :
    SectionText r.subs (exDictText r) (exSection r) :=
  ⟨[], [10], exTable r, [10], rfl, PdfSyntax.Gap.nil,
    ⟨PdfSyntax.Gap.ws 10 [] (by decide) PdfSyntax.Gap.nil, by simp⟩,
    writeTable_conformant r.subs (exSubOK r h) [], PdfSyntax.Gap.ws 10 [] (by decide) PdfSyntax.Gap.nil⟩

theorem exSpells (r : Rev (Dict Unit)) (h : r = exRev0 ∨ r = exRev1) :
    PdfSyntax.Spells exEnv.parseReal (Prim.dict r.trailer) (exDictText r) := by
  apply PdfSpec.render_spells
  rcases h with rfl | rfl <;> simp [exRev0, exRev1, PdfSpec.Renderable, PdfSpec.RenderableE]

/-- a section of `exFile` in any file `pre ++ exSection r ++ rest`: what is left to check is the offset and
    that `rest` does not continue the trailer dictionary -/
theorem exClassicAt (r : Rev (Dict Unit)) (h : r = exRev0 ∨ r = exRev1) {buf : List UInt8} (pre rest : List UInt8)
    (hbuf : buf = pre ++ (exSection r ++ rest)) (hpre : pre.length = 0 + r.off)
    (hah : Ahead (exSection r ++ rest).toArray (exSection r).length) : ClassicAt exEnv buf 0 r :=
  have hd := drop_of_append hbuf hpre
  ⟨exDictText r, exSection r, rest, hd.1, hd.2, exSectionText r h, exSpells r h,
    by rcases h with rfl | rfl <;> simp [exRev0, exRev1, PdfSyntax.WF, PdfSyntax.WFE, PdfSyntax.keysOf, keySize, keyPrev] <;>
          decide,
    by rcases h with rfl | rfl <;> decide, hah⟩

theorem exSection0_length : (exSection exRev0).length = 88 := by decide +kernel

theorem exClassic0 : ClassicAt exEnv exFile 0 exRev0 :=
  exClassicAt exRev0 (.inl rfl) "%PDF-1.4\n".toUTF8.toList ([10] ++ exSection exRev1 ++ exTail)
    (by simp only [exFile, List.append_assoc]) (by decide +kernel) (ahead_of_word (89, 93) (by decide +kernel))

theorem exClassic1 : ClassicAt exEnv exFile 0 exRev1 :=
  exClassicAt exRev1 (.inr rfl) ("%PDF-1.4\n".toUTF8.toList ++ exSection exRev0 ++ [10]) exTail
    (by simp only [exFile, List.append_assoc])
    (by rw [List.length_append, List.length_append, exSection0_length]; decide +kernel)
    (ahead_of_word (80, 89) (by decide +kernel))

theorem exWF : ∀ id, id < 3 → WF (historyOf [exRev1, exRev0]) id :=
  fun id hid => WF_of_wfB ((by decide : ∀ id, id < 3 → wfB (historyOf [exRev1, exRev0]) id = true) id hid)

/-- `exFile` (`%PDF-1.4`, a first section with objects 0–2, an update that moves object 1 and frees object 2)
    satisfies every hypothesis of `table_file_newest_wins` but `WF`, which is `exWF`: the reader returns the merge of
    the two sections -/
theorem exFile_walk : readXrefTableAndTrailer exEnv (fun _ _ => .err) exBase 5 exFile 0
    = withTrailer exRev1.trailer (mergeAll (newTable 3) ([exRev1, exRev0].map (·.subs))) := by
  have h : exFile.length ≤ 2147483647 ∧ locateXref exFile = .ok exRev1.off ∧ 0 + exRev1.off < exFile.length := by
    decide +kernel
  exact file_walk_chain exEnv rfl _ exBase exFile 0 5 h.1 exRev1 [exRev0] 3 h.2.1 h.2.2
    (List.forall_mem_cons.2 ⟨.inl exClassic1, List.forall_mem_cons.2 ⟨.inl exClassic0, nofun⟩⟩)
    rfl (by decide) ⟨rfl, rfl⟩ (by simp) (by simp)

/-- what `table_file_newest_wins` states of `exFile`.  It is derived from `exFile_walk` (the hypotheses of that theorem
    other than `WF`, checked on the bytes) and `exWF`, not by applying the theorem a second time. -/
theorem exFile_newest_wins (id : Nat) (hid : id < 3) :
    ∃ t, readXrefTableAndTrailer exEnv (fun _ _ => .err) exBase 5 exFile 0 = .ok (t, exRev1.trailer) ∧
      t.length = 3 + 1 ∧ t[id]? = some ((latest (historyOf [exRev1, exRev0]) id).getD .invalid) :=
  newest_wins_of_walk exFile_walk id hid (exWF id hid)

/-- and the table itself: object 1 moved, object 2 freed, trailer of the update -/
example : (match readXrefTableAndTrailer exEnv (fun _ _ => .err) exBase 5 exFile 0 with
    | .ok (t, _) => t == [.free 0 65535, .raw 50 0, .free 0 1, .free 0 65535]
    | _ => false) = true := by rw [exFile_walk]; decide

end FileExample

/-! ### Non-vacuity (filtered cross-reference streams)

`fxFile`: `%PDF-1.5`, then object `1 0` = a cross-reference stream `<</Type/XRef/Size 6/W[1 2 2]/Index[0 2 5 1]
/Filter/FlateDecode/DecodeParms<</Predictor 12/Columns 5>>/Length 3>>` (printed by the C03 printer) whose three
rows (free, in use, compressed) are PNG-predicted with the filter types Sub, Paeth, Average.  The writer relation
holds (`fx_pngFlate`), the data-level theorem applies and the model computes the same; the section satisfies
`StreamAt`, every hypothesis of `file_walk_newest_wins_filtered` is proved (`fxFile_walk`, `fx_WF`), and the table the
reader returns for its bytes is written out. -/

section FilteredExample
open Enc XrefFiltered PdfLex XrefTable Offsets

def fxSubs : List Sub := [⟨0, [.free 0 65535, .raw 17 0]⟩, ⟨5, [.stream 9 2]⟩]
def fxParams : Params := { predictor := 12, colors := 1, bpc := 8, columns := 5 }
def fxTypes : List PredictorType := [.sub, .paeth, .avg]
/-- what the writer hands to zlib: three rows of 1 + 5 bytes (tag, then the filtered row) -/
def fxPredicted : List UInt8 := predicted 1 fxTypes 1 2 2 fxSubs
/-- stands for the compressed bytes -/
def fxZ : List UInt8 := [120, 94, 55]
def fxExt : Ext :=
  { inflateZlib := fun z => if z = fxZ then some fxPredicted else none, inflateRaw := fun _ => none,
    dct := fun _ => none, zlibEncode := fun _ => [], lzwEncode := fun _ => none }


theorem fx_fits : ∀ s ∈ fxSubs, ∀ e ∈ s.entries, Fits 1 2 2 e := by decide

theorem fx_pngFlate : PngFlate fxExt 1 2 2 fxSubs [.flate fxParams] fxZ :=
  PngFlate.bare fxParams 1 fxTypes fxZ (by decide) (png_columns_geometry 12 5 (by omega) (by omega) 1)
    (by simp [fxExt, fxPredicted])

example : ∃ data, decodeChain fxExt fxZ [.flate fxParams] = .ok data ∧
    parseSections [1, 2, 2] false (fxSubs.map fun s => (s.first, s.entries.length)) data [] = .ok fxSubs :=
  png_flate_stream_section_reads_back fxExt fxSubs 1 2 2 false (by omega) (by omega) (by omega) fx_fits (by omega) _ _ fx_pngFlate

example : (match decodeChain fxExt fxZ [.flate fxParams] with
    | .ok data => parseSections [1, 2, 2] false [(0, 2), (5, 1)] data [] == .ok fxSubs
    | _ => false) = true := by decide +kernel

def fxInfo : Dict Unit :=
  [([84, 121, 112, 101], .name [88, 82, 101, 102]), ([83, 105, 122, 101], .int 6), ([87], .arr [.int 1, .int 2, .int 2]),
   ([73, 110, 100, 101, 120], .arr [.int 0, .int 2, .int 5, .int 1]), ([70, 105, 108, 116, 101, 114], .name [70, 108, 97, 116, 101, 68, 101, 99, 111, 100, 101]),
   ([68, 101, 99, 111, 100, 101, 80, 97, 114, 109, 115], .dict [([80, 114, 101, 100, 105, 99, 116, 111, 114], .int 12), ([67, 111, 108, 117, 109, 110, 115], .int 5)]), ([76, 101, 110, 103, 116, 104], .int 3)]
def fxStreamText : List UInt8 := (PdfSpec.render (fun _ => [48, 46]) (Prim.stream fxInfo (.pending fxZ)) []).1
def fxSection : List UInt8 := [49, 32, 48, 32, 111, 98, 106, 10] ++ fxStreamText ++ [10, 101, 110, 100, 111, 98, 106, 10, 115, 116, 97, 114, 116, 120, 114, 101, 102]
def fxFile : List UInt8 := [37, 80, 68, 70, 45, 49, 46, 53, 10] ++ fxSection ++ [10, 57, 10, 37, 37, 69, 79, 70]

def fxRev : Rev (Dict Unit) := ⟨9, fxSubs, fxInfo⟩

/-- `1 0 obj`, the stream object with data `fxZ` as the C03 printer writes it, `endobj`, `startxref`: for any stream
    dictionary the printer can write (`fxInfo`, `mxInfo`) -/
theorem fxZ_streamSectionText (info : Dict Unit) (h : PdfSpec.RenderableE (fun _ => [48, 46]) exEnv.parseReal info) :
    StreamSectionText exEnv.parseReal info fxZ
      ([49, 32, 48, 32, 111, 98, 106, 10] ++ (PdfSpec.render (fun _ => [48, 46]) (Prim.stream info (.pending fxZ)) []).1
        ++ [10, 101, 110, 100, 111, 98, 106, 10, 115, 116, 97, 114, 116, 120, 114, 101, 102]) :=
  have sp : PdfSyntax.Gap [32] := .ws 32 [] (by decide) .nil
  have lf : PdfSyntax.Gap [10] := .ws 10 [] (by decide) .nil
  have dig : ∀ d : UInt8, PdfSyntax.isDig d = true → PdfSyntax.NatTok [d] (d.toNat - 48) := fun d hd =>
    ⟨by simp, by simpa [PdfSyntax.Digits] using hd, by simp [PdfSyntax.digitsVal]⟩
  ⟨[49], [32], [48], [32], [10], _, [10], [10], [115, 116, 97, 114, 116, 120, 114, 101, 102], 1, 0, by simp [kwObj, kwEndobj],
    dig 49 (by decide), dig 48 (by decide), by decide, by decide, sp, by simp, sp, by simp, lf,
    PdfSpec.render_stream_spells _ _ info fxZ h [], lf, by simp, lf, by simp, by decide,
    List.all_eq_true.mp (by decide +kernel), by decide⟩

theorem fx_streamSectionText : StreamSectionText exEnv.parseReal fxInfo fxZ fxSection :=
  fxZ_streamSectionText fxInfo (by simp [fxInfo, PdfSpec.RenderableE, PdfSpec.Renderable, PdfSpec.RenderableL])

theorem fx_streamAt : StreamAt exEnv fxExt false fxFile 0 fxRev :=
  have hd := drop_of_append (buf := fxFile) (pre := [37, 80, 68, 70, 45, 49, 46, 53, 10])
    (s := fxSection ++ [10, 57, 10, 37, 37, 69, 79, 70]) (by simp only [fxFile, List.append_assoc]) rfl
  ⟨fxZ, fxSection, _, 1, 2, 2, 6, [.flate fxParams], hd.1, hd.2, fx_streamSectionText, by simp [PdfSyntax.Bnd]; decide,
    by simp only [fxRev, fxInfo, PdfSyntax.WFE, PdfSyntax.WF, PdfSyntax.WFL, PdfSyntax.keysOf]; decide,
    by decide +kernel, rfl, by decide, by decide +kernel, by decide +kernel, by omega, by omega, by omega, fx_fits, by omega,
    pngFlate_filtered fxExt 1 2 2 fxSubs fx_fits fx_pngFlate⟩

theorem fx_WF : ∀ id, id < 6 → WF (historyOf [fxRev]) id :=
  fun id hid => WF_of_wfB ((by decide : ∀ id, id < 6 → wfB (historyOf [fxRev]) id = true) id hid)

/-- `fxFile` — one revision stored as a cross-reference stream `/Filter /FlateDecode /DecodeParms << /Predictor 12
    /Columns 5 >>` with row filter types Sub, Paeth, Average (the three bytes `x^7` stand for the compressed data; what
    zlib returns for them is `fxExt`) — satisfies every hypothesis of `file_walk_newest_wins_filtered` but `WF`, which
    is `fx_WF`: the reader returns the merge of its section -/
theorem fxFile_walk : XrefSec.loadTableC exEnv (XrefFilters.decOf fxExt false) false exBase 5 fxFile 0
    = withTrailer fxInfo (mergeAll (newTable 6) ([fxRev].map (·.subs))) := by
  have h : fxFile.length ≤ 2147483647 ∧ locateXref fxFile = .ok fxRev.off ∧ 0 + fxRev.off < fxFile.length := by
    decide +kernel
  exact file_walk_chain { exEnv with fileOffset := 0 } rfl _ exBase fxFile 0 5 h.1 fxRev [] 6 h.2.1 h.2.2
    (List.forall_mem_cons.2
      ⟨.inr (filtered_stream_section_at_reads_back exEnv rfl fxExt false false exBase fxFile 0 fxRev h.1 fx_streamAt), nofun⟩)
    rfl (by decide) rfl (by simp) (by simp)

/-- what `file_walk_newest_wins_filtered` states of `fxFile`, derived from `fxFile_walk` and `fx_WF` -/
theorem fxFile_newest_wins (id : Nat) (hid : id < 6) :
    ∃ t, XrefSec.loadTableC exEnv (XrefFilters.decOf fxExt false) false exBase 5 fxFile 0 = .ok (t, fxInfo) ∧
      t.length = 6 + 1 ∧ t[id]? = some ((latest (historyOf [fxRev]) id).getD .invalid) :=
  newest_wins_of_walk fxFile_walk id hid (fx_WF id hid)

/-- and the table itself -/
example : (match XrefSec.loadTableC exEnv (XrefFilters.decOf fxExt false) false exBase 5 fxFile 0 with
    | .ok (t, _) => t == [.free 0 65535, .raw 17 0, .invalid, .invalid, .invalid, .stream 9 2, .free 0 65535]
    | _ => false) = true := by rw [fxFile_walk]; decide

end FilteredExample

/-! ### Non-vacuity (a mixed chain: older classic section, newer filtered stream section)

`mxFile`: `%PDF-1.5`, the classic section of `exRev0` at offset 9 with its `startxref 9 %%EOF`, then at offset 116
the update: object `1 0`, a cross-reference stream with `/Prev 9`, `/Filter /FlateDecode`, `/DecodeParms
<< /Predictor 12 /Columns 5 >>` (rows as in `fxFile`).  `older = [exRev0] ≠ []`: the `/Prev` link, `ClassicAt` for the
older and `StreamAt` for the newer section, and `WF` across both revisions are all proved. -/

section MixedExample
open Enc XrefFiltered PdfLex XrefTable Offsets

/-- the stream dictionary of the update: `fxInfo` with `/Prev 9` -/
def mxInfo : Dict Unit :=
  [([84, 121, 112, 101], .name [88, 82, 101, 102]), ([83, 105, 122, 101], .int 6), ([87], .arr [.int 1, .int 2, .int 2]),
   ([73, 110, 100, 101, 120], .arr [.int 0, .int 2, .int 5, .int 1]), ([80, 114, 101, 118], .int 9),
   ([70, 105, 108, 116, 101, 114], .name [70, 108, 97, 116, 101, 68, 101, 99, 111, 100, 101]),
   ([68, 101, 99, 111, 100, 101, 80, 97, 114, 109, 115], .dict [([80, 114, 101, 100, 105, 99, 116, 111, 114], .int 12), ([67, 111, 108, 117, 109, 110, 115], .int 5)]),
   ([76, 101, 110, 103, 116, 104], .int 3)]
def mxStreamText : List UInt8 := (PdfSpec.render (fun _ => [48, 46]) (Prim.stream mxInfo (.pending fxZ)) []).1
def mxSection : List UInt8 := [49, 32, 48, 32, 111, 98, 106, 10] ++ mxStreamText ++ [10, 101, 110, 100, 111, 98, 106, 10, 115, 116, 97, 114, 116, 120, 114, 101, 102]
/-- `\nstartxref\n9\n%%EOF\n` behind the first revision -/
def mxMid : List UInt8 := [10, 115, 116, 97, 114, 116, 120, 114, 101, 102, 10, 57, 10, 37, 37, 69, 79, 70, 10]
def mxTail : List UInt8 := [10, 49, 49, 54, 10, 37, 37, 69, 79, 70]
def mxFile : List UInt8 := [37, 80, 68, 70, 45, 49, 46, 53, 10] ++ exSection exRev0 ++ mxMid ++ mxSection ++ mxTail
def mxRev : Rev (Dict Unit) := ⟨116, fxSubs, mxInfo⟩

theorem mx_classic : ClassicAt { exEnv with fileOffset := 0 } mxFile 0 exRev0 :=
  exClassicAt exRev0 (.inl rfl) [37, 80, 68, 70, 45, 49, 46, 53, 10] (mxMid ++ mxSection ++ mxTail)
    (by simp only [mxFile, List.append_assoc]) rfl (ahead_of_word (89, 98) (by decide +kernel))

theorem mx_streamSectionText : StreamSectionText exEnv.parseReal mxInfo fxZ mxSection :=
  fxZ_streamSectionText mxInfo (by simp [mxInfo, PdfSpec.RenderableE, PdfSpec.Renderable, PdfSpec.RenderableL])

theorem mx_streamAt : StreamAt exEnv fxExt false mxFile 0 mxRev :=
  have hd := drop_of_append (buf := mxFile) (pre := [37, 80, 68, 70, 45, 49, 46, 53, 10] ++ exSection exRev0 ++ mxMid)
    (s := mxSection ++ mxTail) (n := 0 + mxRev.off) (by simp only [mxFile, List.append_assoc])
    (by rw [List.length_append, List.length_append, exSection0_length]; rfl)
  ⟨fxZ, mxSection, _, 1, 2, 2, 6, [.flate fxParams], hd.1, hd.2, mx_streamSectionText, by simp [PdfSyntax.Bnd, mxTail]; decide,
    by simp only [mxRev, mxInfo, PdfSyntax.WFE, PdfSyntax.WF, PdfSyntax.WFL, PdfSyntax.keysOf]; decide,
    by decide +kernel, rfl, by decide, by decide +kernel, by decide +kernel, by omega, by omega, by omega, fx_fits, by omega,
    pngFlate_filtered fxExt 1 2 2 fxSubs fx_fits fx_pngFlate⟩

theorem mx_WF : ∀ id, id < 6 → WF (historyOf [mxRev, exRev0]) id :=
  fun id hid => WF_of_wfB ((by decide : ∀ id, id < 6 → wfB (historyOf [mxRev, exRev0]) id = true) id hid)

/-- **a mixed chain** (`older ≠ []`): `mxFile`, whose first revision is a classic table (objects 0–2) and whose update
    is a `/Predictor 12` Flate cross-reference stream with `/Prev 9` (object 1 moved, object 5 added in an object
    stream), satisfies every hypothesis of `file_walk_newest_wins_filtered` but `WF`, which is `mx_WF`: the reader
    returns the merge of the two sections -/
theorem mxFile_walk : XrefSec.loadTableC exEnv (XrefFilters.decOf fxExt false) false exBase 5 mxFile 0
    = withTrailer mxInfo (mergeAll (newTable 6) ([mxRev, exRev0].map (·.subs))) := by
  have h : mxFile.length ≤ 2147483647 ∧ locateXref mxFile = .ok mxRev.off ∧ 0 + mxRev.off < mxFile.length := by
    decide +kernel
  exact file_walk_chain { exEnv with fileOffset := 0 } rfl _ exBase mxFile 0 5 h.1 mxRev [exRev0] 6 h.2.1 h.2.2
    (List.forall_mem_cons.2
      ⟨.inr (filtered_stream_section_at_reads_back exEnv rfl fxExt false false exBase mxFile 0 mxRev h.1 mx_streamAt),
        List.forall_mem_cons.2 ⟨.inl mx_classic, nofun⟩⟩)
    rfl (by decide) ⟨rfl, rfl⟩ (by simp) (by simp)

/-- what `file_walk_newest_wins_filtered` states of `mxFile`, derived from `mxFile_walk` and `mx_WF` -/
theorem mxFile_newest_wins (id : Nat) (hid : id < 6) :
    ∃ t, XrefSec.loadTableC exEnv (XrefFilters.decOf fxExt false) false exBase 5 mxFile 0 = .ok (t, mxInfo) ∧
      t.length = 6 + 1 ∧ t[id]? = some ((latest (historyOf [mxRev, exRev0]) id).getD .invalid) :=
  newest_wins_of_walk mxFile_walk id hid (mx_WF id hid)

/-- and the merged table itself: object 1 from the update, object 2 from the original table, object 5 compressed -/
example : (match XrefSec.loadTableC exEnv (XrefFilters.decOf fxExt false) false exBase 5 mxFile 0 with
    | .ok (t, _) => t == [.free 0 65535, .raw 17 0, .raw 20 0, .invalid, .invalid, .stream 9 2, .free 0 65535]
    | _ => false) = true := by rw [mxFile_walk]; decide
end MixedExample

/-! ## The rule before the repair (D11) did not satisfy the property

`XRef::Stream { .. } | XRef::Invalid => true` let *any* older section overwrite a compressed entry.
The two-section history below (old: object 1 direct at 100; new: object 1 moved into object stream 5)
resolves to the stale direct object under that rule and to the compressed one under the current rule. -/

def shouldUpdateOld (dst inc : XRef) : Bool :=
  match dst with
  | .raw _ g | .free _ g => decide (gen inc > g)
  | .stream _ _ => true
  | .invalid => true
  | .promised => false

def witnessHistory : List (List Sub) := [[⟨1, [.raw 100 0]⟩], [⟨1, [.stream 5 0]⟩]]

example : mergeAll (newTable 6) witnessHistory.reverse
    = .ok [.invalid, .stream 5 0, .invalid, .invalid, .invalid, .invalid, .free 0 65535] := by decide
example : shouldUpdateOld (.stream 5 0) (.raw 100 0) = true := by decide
example : shouldUpdate (.stream 5 0) (.raw 100 0) = .ok false := by decide

/-! ## Non-vacuity: a three-revision history with reuse, freeing and compression satisfies `WF` -/

def sampleHistory : List (List Sub) :=
  [ [⟨0, [.free 0 65535, .raw 10 0, .raw 20 0, .raw 30 0]⟩],      -- original body
    [⟨2, [.free 0 1]⟩, ⟨4, [.raw 40 0]⟩],                          -- update 1: frees 2, adds 4
    [⟨1, [.stream 4 0]⟩, ⟨2, [.raw 50 1]⟩] ]                       -- update 2: compresses 1, reuses 2

example : ∀ id, id < 5 → WF sampleHistory id :=
  fun id hid => WF_of_wfB ((by decide : ∀ id, id < 5 → wfB sampleHistory id = true) id hid)

example : (mergeAll (newTable 5) sampleHistory.reverse)
    = .ok [.free 0 65535, .stream 4 0, .raw 50 1, .raw 30 0, .raw 40 0, .free 0 65535] := by decide

end Xref
